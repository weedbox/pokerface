import Pokerface.Model.Cards
import Pokerface.Model.Eval
import Pokerface.Model.Combos
import Pokerface.Model.Pots
import Pokerface.Model.Settlement
import Pokerface.Model.Game
import Pokerface.Model.View
import Pokerface.Model.SeatManager
import Pokerface.Model.Regulator
import Pokerface.Model.Table
import Pokerface.Generated.Tables
import Pokerface.Generated.Facts
import Pokerface.Proofs.ListLemmas
import Pokerface.Proofs.EngineActCases
import Pokerface.Proofs.Available
import Pokerface.Proofs.EngineChips
import Pokerface.Proofs.EnginePay
import Pokerface.Proofs.EngineCtl
import Pokerface.Proofs.EngineInv
import Pokerface.Proofs.EngineRun
import Pokerface.Proofs.EngineReach
import Pokerface.Properties.C01
import Pokerface.Properties.C02
import Pokerface.Proofs.EvalGroups
import Pokerface.Properties.C03
import Pokerface.Properties.C04
import Pokerface.Properties.C07
import Pokerface.Properties.C08
import Pokerface.Properties.C08Table
import Pokerface.Properties.C10
import Pokerface.Properties.C11
import Pokerface.Properties.C12
import Pokerface.Properties.C13
import Pokerface.Properties.C14
import Pokerface.Properties.C15
import Pokerface.Properties.C16
import Pokerface.Properties.C17
import Pokerface.Properties.C18
import Pokerface.Properties.C05
import Pokerface.Properties.C06
import Pokerface.Properties.C09
import Pokerface.Properties.C09Reentry
import Pokerface.Properties.C19
import Pokerface.Properties.C19Async
import Pokerface.Properties.C19Reentry
import Pokerface.Properties.C20
import Pokerface.Properties.Links
import Pokerface.Generated.Logic
import Pokerface.Proofs.GeneratedLogic
import Pokerface.Generated.LogicFlow
import Pokerface.Generated.LogicSM
import Pokerface.Proofs.GeneratedLogicBase
import Pokerface.Proofs.GeneratedLogicFlow
import Pokerface.Proofs.GeneratedLogicLoops
import Pokerface.Proofs.GeneratedLogicSM
import Pokerface.Proofs.HopFields
import Pokerface.Generated.LogicGlue
import Pokerface.Proofs.GeneratedLogicGlue
import Pokerface.Generated.LogicReg
import Pokerface.Proofs.GeneratedLogicReg
import Pokerface.Properties.LinksTable
import Pokerface.Properties.C20Async
import Pokerface.Properties.C20Reentry
import Pokerface.Generated.LogicTb
import Pokerface.Proofs.GeneratedLogicTb
import Pokerface.Generated.LogicPots
import Pokerface.Proofs.GeneratedLogicPots
import Pokerface.Properties.C05Opens
import Pokerface.Properties.LinksTableOpens
import Pokerface.Generated.LogicSM2
import Pokerface.Proofs.GeneratedLogicSM2
import Pokerface.Generated.LogicHop
import Pokerface.Proofs.GeneratedLogicHop
import Pokerface.Model.TableDriver
import Pokerface.Generated.LogicDrv
import Pokerface.Proofs.GeneratedLogicDrv
import Pokerface.Properties.C06Driver
import Pokerface.Properties.C16Nested
import Pokerface.Properties.C14AnyDeck
import Pokerface.Properties.C10Published
import Pokerface.Properties.C04Openings
import Pokerface.Properties.C12PotLimit
import Pokerface.Properties.C08Arrival
import Pokerface.Properties.C09One
import Pokerface.Properties.SmallNamed
import Pokerface.Properties.C02Play
import Pokerface.Properties.LinksDriver
import Pokerface.Properties.C10AnyBoard
import Pokerface.Properties.Int64Exact
import Pokerface.Properties.Int64Full
import Pokerface.Properties.C08DealtIn
