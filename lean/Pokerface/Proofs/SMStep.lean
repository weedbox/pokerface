/-
  Step-level facts: the invariant `Inv` and the reachable states `Reachable`; what a step can do — `step_local`: every
  operation but `next` is refused without effect or rewrites one seat by `SMOp.onSeat` (`step_join_shape` under it,
  `step_eq_modSeat` its weak form); `step_next_cases`: `next` is refused with only `nextDealer` having acted, or accepted
  as the structure `NextOk` describes; absence of panics; runs.
-/
import Pokerface.Proofs.SMNext

namespace Pokerface
namespace SM

structure Inv (sm : SM) : Prop where
  wf : sm.WF
  dealer_lt : ∀ d, sm.dealer = some d → d < sm.max

theorem inv_new (max : Nat) : Inv (SM.new max) :=
  ⟨by simp [WF, SM.new], by intro d h; simp [SM.new] at h⟩

theorem Inv.modSeat {sm : SM} (h : Inv sm) (i f) : Inv (sm.modSeat i f) :=
  ⟨by have := h.wf; simp [WF] at *; exact this, h.dealer_lt⟩

/-- `join(seatID, p)` of the Go code (the unexported one). -/
def joinAt (sm : SM) (pid i : Nat) : SM × Option SMErr × Option Nat :=
  match sm.seats[i]? with
  | none => (sm, some .panic, none)
  | some s =>
    if s.player.isSome then (sm, some .notAvailable, none)
    else (sm.modSeat i fun s => { s with reserved := true, player := some pid }, none, some i)

/-- The seats `Join(-1, …)` draws from: active free seats when there are any, otherwise inactive free seats. -/
def joinPool (sm : SM) : List Nat :=
  if !sm.availableSeats.1.isEmpty then sm.availableSeats.1 else sm.availableSeats.2

theorem step_join_eq (sm : SM) (seat : Int) (pid : Nat) (chose : Option Nat) :
    sm.step (.join seat pid chose) =
      if seat ≥ (sm.max : Int) ∨ seat < -1 then (sm, some .invalidSeat, none)
      else if seat > -1 then sm.joinAt pid seat.toNat
      else if sm.availableSeats.1.isEmpty && sm.availableSeats.2.isEmpty then (sm, some .noAvailableSeat, none)
      else match chose with
        | none => (sm, some .badChoice, none)
        | some c => if sm.joinPool.contains c then sm.joinAt pid c else (sm, some .badChoice, none) := by
  rfl

theorem joinAt_no_panic {sm : SM} (h : Inv sm) (pid : Nat) {i : Nat} (hi : i < sm.max) :
    (sm.joinAt pid i).2.1 ≠ some .panic := by
  unfold joinAt
  have : i < sm.seats.length := by
    rw [h.wf]
    exact hi
  rw [List.getElem?_eq_getElem this]
  simp only
  split <;> simp

theorem mem_joinPool_lt {sm : SM} {c : Nat} (h : c ∈ sm.joinPool) : c < sm.max := by
  unfold joinPool availableSeats at h
  split at h
  · simp at h
    omega
  · simp at h
    omega

theorem step_join_shape (sm : SM) (seat : Int) (pid : Nat) (chose : Option Nat) :
    (∃ e, e ≠ .panic ∧ sm.step (.join seat pid chose) = (sm, some e, none)) ∨
    ∃ i : Nat, i < sm.max ∧ (seat = -1 ∧ i ∈ sm.joinPool ∨ seat = (i : Int)) ∧
      sm.step (.join seat pid chose) = sm.joinAt pid i := by
  rw [step_join_eq]
  by_cases h1 : seat ≥ (sm.max : Int) ∨ seat < -1
  · rw [if_pos h1]
    exact Or.inl ⟨.invalidSeat, nofun, rfl⟩
  rw [if_neg h1]
  by_cases h2 : seat > -1
  · rw [if_pos h2]
    exact Or.inr ⟨seat.toNat, by omega, Or.inr (by omega), rfl⟩
  rw [if_neg h2]
  by_cases h3 : (sm.availableSeats.1.isEmpty && sm.availableSeats.2.isEmpty) = true
  · rw [if_pos h3]
    exact Or.inl ⟨.noAvailableSeat, nofun, rfl⟩
  rw [if_neg h3]
  cases chose with
  | none => exact Or.inl ⟨.badChoice, nofun, rfl⟩
  | some c =>
    by_cases hc : sm.joinPool.contains c = true
    · have hm : c ∈ sm.joinPool := by simpa using hc
      exact Or.inr ⟨c, mem_joinPool_lt hm, Or.inl ⟨by omega, hm⟩, by simp only [hc, if_true]⟩
    · exact Or.inl ⟨.badChoice, nofun, by simp only [hc, Bool.false_eq_true, if_false]⟩

theorem step_join_nat (sm : SM) {i : Nat} (hi : i < sm.max) (pid : Nat) (c : Option Nat) :
    sm.step (.join (i : Int) pid c) = sm.joinAt pid i := by
  rw [step_join_eq, if_neg (by omega), if_pos (by omega)]
  rfl

def isJoin : SMOp → Bool
  | .join _ _ _ => true
  | _ => false

def isLeave : SMOp → Bool
  | .leave _ => true
  | _ => false

/-- what an accepted operation other than `next` writes on its seat -/
def _root_.Pokerface.SMOp.onSeat : SMOp → Seat → Seat
  | .join _ pid _, s => { s with reserved := true, player := some pid }
  | .seat _, s => { s with reserved := false }
  | .reserve _, s => { s with reserved := true }
  | .leave _, s => { s with player := none, reserved := false }
  | .next, s => s

/-- the seat id an operation names (`-1` in a `join`: the seat manager chooses) -/
def _root_.Pokerface.SMOp.arg : SMOp → Int
  | .join seat _ _ => seat
  | .seat id => id
  | .reserve id => id
  | .leave id => id
  | .next => -1

theorem onSeat_active (op : SMOp) (s : Seat) : (op.onSeat s).active = s.active := by
  cases op <;> rfl

theorem onSeat_player (op : SMOp) (s : Seat) :
    (op.onSeat s).player = match op with
      | .join _ pid _ => some pid
      | .leave _ => none
      | _ => s.player := by
  cases op <;> rfl

theorem step_local (sm : SM) {op : SMOp} (h : op ≠ .next) :
    (∃ e, sm.step op = (sm, some e, none)) ∨
    ∃ i, i < sm.max ∧ (op.arg = (i : Int) ∨ (op.arg = -1 ∧ isJoin op = true ∧ i ∈ sm.joinPool)) ∧
      sm.step op = (sm.modSeat i op.onSeat, none, if isJoin op = true then some i else none) ∧
      (isJoin op = true → ∃ s, sm.seats[i]? = some s ∧ s.player = none) ∧
      (isLeave op = true → ∃ s, sm.seats[i]? = some s ∧ s.player.isSome = true) := by
  have harg : ∀ id : Int, ¬ (id < 0 ∨ id ≥ (sm.max : Int)) → id.toNat < sm.max ∧ id = (id.toNat : Int) := by
    intro id hr
    omega
  cases op with
  | join seat pid chose =>
    rcases step_join_shape sm seat pid chose with ⟨e, _, he⟩ | ⟨i, hi, hsi, he⟩
    · exact Or.inl ⟨e, he⟩
    · rw [he]
      unfold joinAt
      cases hs : sm.seats[i]? with
      | none => exact Or.inl ⟨_, rfl⟩
      | some s =>
        cases hp : s.player with
        | some p =>
          left
          simp only [hp, Option.isSome_some, if_true]
          exact ⟨_, rfl⟩
        | none =>
          right
          refine ⟨i, hi, hsi.symm.imp id (fun e => ⟨e.1, rfl, e.2⟩), ?_, fun _ => ⟨s, hs, hp⟩, nofun⟩
          simp only [hp, Option.isSome_none, Bool.false_eq_true, if_false]
          rfl
  | seat id =>
    by_cases hr : id < 0 ∨ id ≥ (sm.max : Int)
    · exact Or.inl ⟨_, if_pos hr⟩
    · exact Or.inr ⟨id.toNat, (harg id hr).1, Or.inl (harg id hr).2, if_neg hr, nofun, nofun⟩
  | reserve id =>
    by_cases hr : id < 0 ∨ id ≥ (sm.max : Int)
    · exact Or.inl ⟨_, if_pos hr⟩
    · exact Or.inr ⟨id.toNat, (harg id hr).1, Or.inl (harg id hr).2, if_neg hr, nofun, nofun⟩
  | leave id =>
    by_cases hr : id < 0 ∨ id ≥ (sm.max : Int)
    · exact Or.inl ⟨_, if_pos hr⟩
    · have e : sm.step (.leave id) = _ := if_neg hr
      rw [e]
      cases hs : sm.seats[id.toNat]? with
      | none => exact Or.inl ⟨_, rfl⟩
      | some s =>
        cases hp : s.player with
        | none =>
          left
          simp only [hp, Option.isNone_none, if_true]
          exact ⟨_, rfl⟩
        | some p =>
          right
          refine ⟨id.toNat, (harg id hr).1, Or.inl (harg id hr).2, ?_, nofun, fun _ => ⟨s, hs, Option.isSome_iff_exists.mpr ⟨p, hp⟩⟩⟩
          simp only [hp, Option.isNone_some, Bool.false_eq_true, if_false]
          rfl
  | next => exact absurd rfl h

theorem step_eq_modSeat (sm : SM) {op : SMOp} (h : op ≠ .next) :
    ∃ i f, (∀ s : Seat, (f s).active = s.active) ∧ (sm.step op).1 = sm.modSeat i f := by
  rcases step_local sm h with ⟨e, he⟩ | ⟨i, _, _, he, _⟩
  · rw [he]
    exact ⟨0, id, fun _ => rfl, by simp [modSeat]⟩
  · rw [he]
    exact ⟨i, _, onSeat_active op, rfl⟩

theorem step_dealer_max (sm : SM) {op : SMOp} (h : op ≠ .next) :
    (sm.step op).1.dealer = sm.dealer ∧ (sm.step op).1.max = sm.max := by
  obtain ⟨i, f, _, he⟩ := step_eq_modSeat sm h
  rw [he]
  exact ⟨rfl, rfl⟩

theorem step_next_eq (sm : SM) : sm.step .next =
    if sm.nextDealer.2 = false then (sm.nextDealer.1, some .insufficientPlayers, none)
    else if sm.nextDealer.1.playableCount < 2 then (sm.nextDealer.1, some .insufficientPlayers, none)
    else match sm.nextDealer.1.renewSeatStatus with
      | none => (sm.nextDealer.1, some .panic, none)
      | some sm' => (sm', none, none) := by
  unfold step
  cases h : sm.nextDealer with
  | mk s b =>
    cases b
    · simp
    · simp
      rfl

theorem nextDealer_inv {sm : SM} (h : Inv sm) : Inv sm.nextDealer.1 := by
  have hw := (nextDealer_actUp sm).wf h.wf
  refine ⟨hw, ?_⟩
  by_cases hf : sm.nextDealer.2 = true
  · obtain ⟨d, hd, hp⟩ := nextDealer_found sm hf
    intro d' hd'
    rw [hd] at hd'
    cases hd'
    exact playable_lt hw hp
  · rcases nextDealer_notfound sm (by simpa using hf) with h' | h'
    · rw [h']
      exact h.dealer_lt
    · intro d hd
      rw [h'] at hd
      cases hd

/-- Everything a successful `next` does, relative to the intermediate state `sm.nextDealer.1`:
dealer `d`, small blind at offset `ks`, big blind at offset `kb`. -/
structure NextOk (sm sm' : SM) (d ks kb : Nat) : Prop where
  mid_dealer : sm.nextDealer.1.dealer = some d
  found : sm.nextDealer.2 = true
  d_lt : d < sm.max
  mid_playable_d : sm.nextDealer.1.playable d = true
  mid_count : 2 ≤ sm.nextDealer.1.playableCount
  ks_lt : ks < kb
  kb_lt : kb < sm.max
  branch : (sm.nextDealer.1.playableCount = 2 ∧ ks = 0) ∨
    (sm.nextDealer.1.playableCount ≠ 2 ∧ 0 < ks ∧ sm.nextDealer.1.playable ((d + ks) % sm.max) = true ∧
      ∀ j, 0 < j → j < ks → sm.nextDealer.1.playable ((d + j) % sm.max) = false)
  bb_playable : sm.nextDealer.1.playable ((d + kb) % sm.max) = true
  between : ∀ j, ks < j → j < kb → sm.nextDealer.1.playable ((d + j) % sm.max) = false
  max_eq : sm'.max = sm.max
  dealer : sm'.dealer = some d
  sb : sm'.sb = some ((d + ks) % sm.max)
  bb : sm'.bb = some ((d + kb) % sm.max)
  len : sm'.seats.length = sm.seats.length
  seats : ∀ j, j < sm.max →
    sm'.seats[(d + j) % sm.max]? = (sm.nextDealer.1.seats[(d + j) % sm.max]?).map (renewF kb j)

theorem NextOk.inv {sm sm' : SM} {d ks kb : Nat} (h : Inv sm) (hn : NextOk sm sm' d ks kb) : Inv sm' := by
  refine ⟨hn.len.trans (h.wf.trans hn.max_eq.symm), fun d' hd' => ?_⟩
  rw [hn.dealer] at hd'
  cases hd'
  rw [hn.max_eq]
  exact hn.d_lt

theorem step_next_cases {sm : SM} (h : Inv sm) :
    (sm.step .next = (sm.nextDealer.1, some .insufficientPlayers, none) ∧
      (sm.nextDealer.2 = false ∨ sm.nextDealer.1.playableCount < 2)) ∨
    ((sm.step .next).2.1 = none ∧ ∃ d ks kb, NextOk sm (sm.step .next).1 d ks kb) := by
  rw [step_next_eq]
  by_cases hf : sm.nextDealer.2 = false
  · left
    rw [if_pos hf]
    exact ⟨rfl, Or.inl hf⟩
  · rw [if_neg hf]
    by_cases hc : sm.nextDealer.1.playableCount < 2
    · left
      rw [if_pos hc]
      exact ⟨rfl, Or.inr hc⟩
    · right
      rw [if_neg hc]
      have hf' : sm.nextDealer.2 = true := by simpa using hf
      obtain ⟨d, hd, hp⟩ := nextDealer_found sm hf'
      have hinv := nextDealer_inv h
      have hmax := (nextDealer_actUp sm).max
      obtain ⟨ks, kb, sm', hr, e⟩ := renew_spec sm.nextDealer.1 d hd (hinv.dealer_lt d hd) (by omega)
      rw [hr]
      -- `RenewOk` of the state after `nextDealer`, read for the table size of `sm`
      exact ⟨rfl, d, ks, kb, hd, hf', hmax ▸ hinv.dealer_lt d hd, hp, by omega, e.ks_lt, hmax ▸ e.kb_lt, hmax ▸ e.branch,
        hmax ▸ e.bb_playable, hmax ▸ e.between, e.max_eq.trans hmax, e.dealer, hmax ▸ e.sb, hmax ▸ e.bb,
        e.len.trans (nextDealer_actUp sm).len, hmax ▸ e.seats⟩

theorem next_ok {sm : SM} (h : Inv sm) (he : (sm.step .next).2.1 = none) :
    ∃ d ks kb, NextOk sm (sm.step .next).1 d ks kb := by
  rcases step_next_cases h with ⟨he', _⟩ | ⟨_, hn⟩
  · rw [he'] at he
    cases he
  · exact hn

theorem step_inv {sm : SM} (h : Inv sm) (op : SMOp) : Inv (sm.step op).1 := by
  by_cases hop : op = .next
  · subst hop
    rcases step_next_cases h with ⟨he, _⟩ | ⟨_, d, ks, kb, hn⟩
    · rw [he]
      exact nextDealer_inv h
    · exact hn.inv h
  · obtain ⟨i, f, _, he⟩ := step_eq_modSeat sm hop
    rw [he]
    exact h.modSeat i f

theorem run_cons (sm : SM) (op : SMOp) (ops : List SMOp) : sm.run (op :: ops) = (sm.step op).1.run ops := rfl

theorem run_two (sm : SM) (a b : SMOp) : sm.run [a, b] = ((sm.step a).1.step b).1 := rfl

theorem run_append (sm : SM) (a b : List SMOp) : sm.run (a ++ b) = (sm.run a).run b := by
  simp [run, List.foldl_append]

theorem run_inv {sm : SM} (h : Inv sm) (ops : List SMOp) : Inv (sm.run ops) := by
  induction ops generalizing sm with
  | nil => exact h
  | cons op ops ih => exact ih (step_inv h op)

/-- States reachable from a fresh seat manager by any operation sequence
(join-any ops carry an arbitrary recorded choice). -/
def Reachable (sm : SM) : Prop := ∃ (max : Nat) (ops : List SMOp), sm = (SM.new max).run ops

theorem Reachable.inv {sm : SM} (h : Reachable sm) : Inv sm := by
  obtain ⟨max, ops, rfl⟩ := h
  exact run_inv (inv_new max) ops

theorem Reachable.step {sm : SM} (h : Reachable sm) (op : SMOp) : Reachable (sm.step op).1 := by
  obtain ⟨max, ops, rfl⟩ := h
  exact ⟨max, ops ++ [op], by simp [run, List.foldl_append]⟩

theorem step_no_panic {sm : SM} (h : Inv sm) (op : SMOp) : (sm.step op).2.1 ≠ some .panic := by
  cases op with
  | join seat pid chose =>
    rcases step_join_shape sm seat pid chose with ⟨e, hne, he⟩ | ⟨i, hi, _, he⟩
    · rw [he]
      simpa using hne
    · rw [he]
      exact joinAt_no_panic h pid hi
  | seat id =>
    unfold step
    simp only
    split <;> simp
  | reserve id =>
    unfold step
    simp only
    split <;> simp
  | leave id =>
    unfold step
    simp only
    split
    · simp
    · split
      · simp
      · split <;> simp
  | next =>
    rcases step_next_cases h with ⟨he, _⟩ | ⟨hok, _⟩
    · rw [he]
      simp
    · rw [hok]
      simp

end SM
end Pokerface
