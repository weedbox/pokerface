import Pokerface.Proofs.PotsLevels
/-
  Analysis of `GetPots`: the merge loop (runs of levels with the same non-folded contributors) and the
  "put folded players back" loop (writes `contributors` only, pot `k` depending on the levels before it).
-/
namespace Pokerface

theorem assocAdd_cons_self (k : Nat) (a b : Int) (m : List (Nat × Int)) :
    assocAdd ((k, a) :: m) k b = (k, a + b) :: m := by
  simp [assocAdd, assocGet?, assocSet]

theorem assocAdd_cons_lt {k' k : Nat} (h : k' < k) (v' b : Int) (m : List (Nat × Int)) :
    assocAdd ((k', v') :: m) k b = (k', v') :: assocAdd m k b := by
  have h1 : ¬ k < k' := by omega
  have h2 : ¬ k = k' := by omega
  have h3 : (k' == k) = false := by simpa using Nat.ne_of_lt h
  simp [assocAdd, assocGet?, assocSet, h1, h2, h3]

theorem foldl_assocAdd_cons (kv : Nat × Int) (m us : List (Nat × Int)) (h : ∀ u ∈ us, kv.1 < u.1) :
    us.foldl (fun m u => assocAdd m u.1 u.2) (kv :: m) = kv :: us.foldl (fun m u => assocAdd m u.1 u.2) m := by
  induction us generalizing m with
  | nil => rfl
  | cons u us ih =>
    rw [List.foldl_cons, List.foldl_cons, assocAdd_cons_lt (h u (List.mem_cons_self ..)),
      ih _ fun x hx => h x (List.mem_cons_of_mem _ hx)]

/-- merging the contributions of the next level (`b` each) into those of the open pot (`a` each), over the same
    ascending keys: the first addition meets its key at the head, the others lie above it -/
theorem foldl_assocAdd_same (ks : List Nat) (hk : ks.Pairwise (· < ·)) (a b : Int) :
    (ks.map (fun k => (k, b))).foldl (fun m kv => assocAdd m kv.1 kv.2) (ks.map (fun k => (k, a)))
      = ks.map (fun k => (k, a + b)) := by
  induction ks with
  | nil => rfl
  | cons k ks ih =>
    rw [List.pairwise_cons] at hk
    rw [List.map_cons, List.map_cons, List.foldl_cons, assocAdd_cons_self, foldl_assocAdd_cons, ih hk.2, List.map_cons]
    intro u hu
    obtain ⟨j, hj, rfl⟩ := List.mem_map.1 hu
    exact hk.1 j hj

/-- `mergePots` with an open pot and no finished ones, non tail-recursively. -/
def merge1 : Pot → List Pot → List Pot
  | prev, [] => [prev]
  | prev, p :: ps =>
    if prev.contributors.length ≠ p.contributors.length then prev :: merge1 p ps
    else merge1 (mergeInto prev p) ps

theorem mergePots_acc (o : Option Pot) (acc ps : List Pot) :
    mergePots o acc ps = acc.reverse ++ mergePots o [] ps := by
  induction ps generalizing o acc with
  | nil => cases o <;> simp [mergePots]
  | cons p ps ih =>
    cases o with
    | none =>
      simp only [mergePots]
      exact ih _ _
    | some prev =>
      simp only [mergePots]
      split
      · rw [ih _ (prev :: acc), ih _ [prev]]
        simp
      · exact ih _ _

theorem mergePots_some (prev : Pot) (ps : List Pot) : mergePots (some prev) [] ps = merge1 prev ps := by
  induction ps generalizing prev with
  | nil => simp [mergePots, merge1]
  | cons p ps ih =>
    simp only [mergePots, merge1]
    split
    · rw [mergePots_acc, ih]
      simp
    · exact ih _

theorem mergePots_none_cons (p : Pot) (ps : List Pot) : mergePots none [] (p :: ps) = merge1 p ps := by
  simp [mergePots, mergePots_some]

/-- Non-folded contributors of a level. -/
def nf (F : List Nat) (l : Level) : List Nat := l.contributors.filter (fun i => !F.contains i)

/-- A pot as the merge loop builds it: a run of levels ending in `l0`, all with the non-folded contributors of `l0`,
    each of them listed with the wager of the whole run. -/
structure GoodPot (F : List Nat) (q : Pot) (l0 : Level) : Prop where
  last : q.levels.getLast? = some l0
  level : q.level = l0.level
  contributors : q.contributors = (nf F l0).map (fun i => (i, q.wager))
  same : ∀ l ∈ q.levels, nf F l = nf F l0
  wager : q.wager = (q.levels.map (·.wager)).sum
  total : q.total = (q.levels.map (·.total)).sum

theorem goodPot_origPot (F : List Nat) (l : Level) : GoodPot F (origPot F l) l :=
  ⟨rfl, rfl, rfl, by simp [origPot], by simp [origPot], by simp [origPot]⟩

theorem GoodPot.length_contributors {F : List Nat} {q : Pot} {l0 : Level} (hg : GoodPot F q l0) :
    q.contributors.length = (nf F l0).length := by
  rw [hg.contributors, List.length_map]

theorem GoodPot.merge {F : List Nat} {prev : Pot} {l0 l : Level} (hg : GoodPot F prev l0)
    (hnf : nf F l = nf F l0) (hs : (nf F l0).Pairwise (· < ·)) : GoodPot F (mergeInto prev (origPot F l)) l where
  last := by simp [mergeInto, origPot]
  level := rfl
  contributors := by
    show List.foldl _ prev.contributors ((nf F l).map (fun i => (i, l.wager))) = _
    rw [hg.contributors, hnf, foldl_assocAdd_same _ hs]
    rfl
  same x hx := by
    rcases List.mem_append.1 hx with hx | hx
    · rw [hg.same x hx, hnf]
    · rw [List.mem_singleton.1 hx]
  wager := by simp [mergeInto, origPot, hg.wager]
  total := by simp [mergeInto, origPot, hg.total]

theorem merge1_flatMap_levels (prev : Pot) (ps : List Pot) :
    (merge1 prev ps).flatMap (·.levels) = prev.levels ++ ps.flatMap (·.levels) := by
  induction ps generalizing prev with
  | nil => simp [merge1]
  | cons p ps ih =>
    simp only [merge1]
    split
    · simp [ih]
    · simp [ih, mergeInto]

/-- Nested lists of the same length are equal, so the merge loop's test on the lengths is a test on the lists of
    non-folded contributors.  The third conjunct is there for the induction. -/
theorem merge1_spec (F : List Nat) (rest : List Level) (prev : Pot) (l0 : Level) (hg : GoodPot F prev l0)
    (hch : (l0 :: rest).Pairwise (fun a b => (nf F b).Sublist (nf F a)))
    (hs : (nf F l0).Pairwise (· < ·)) :
    (∀ q ∈ merge1 prev (rest.map (origPot F)), ∃ l, GoodPot F q l) ∧
    (merge1 prev (rest.map (origPot F))).Pairwise (fun a b => b.contributors.length < a.contributors.length) ∧
    (∀ q ∈ merge1 prev (rest.map (origPot F)), q.contributors.length ≤ (nf F l0).length) := by
  induction rest generalizing prev l0 with
  | nil =>
    simp only [List.map_nil, merge1, List.mem_singleton, forall_eq, List.pairwise_singleton, true_and]
    exact ⟨⟨l0, hg⟩, Nat.le_of_eq hg.length_contributors⟩
  | cons l rest ih =>
    rw [List.pairwise_cons] at hch
    have hsub : (nf F l).Sublist (nf F l0) := hch.1 l (List.mem_cons_self ..)
    have hlen := hsub.length_le
    simp only [List.map_cons, merge1, hg.length_contributors, (goodPot_origPot F l).length_contributors]
    split
    · -- fewer non-folded contributors: close `prev`, open `origPot F l`
      obtain ⟨h1, h3, h4⟩ := ih (origPot F l) l (goodPot_origPot F l) hch.2 (hs.sublist hsub)
      refine ⟨?_, List.pairwise_cons.2 ⟨fun q hq => ?_, h3⟩, ?_⟩
      · intro q hq
        rcases List.mem_cons.1 hq with rfl | hq
        · exact ⟨l0, hg⟩
        · exact h1 q hq
      · have := h4 q hq
        rw [hg.length_contributors]
        omega
      · intro q hq
        rcases List.mem_cons.1 hq with rfl | hq
        · exact Nat.le_of_eq hg.length_contributors
        · have := h4 q hq
          omega
    · -- as many: the same ones; merge
      have hnf : nf F l = nf F l0 := hsub.eq_of_length (by omega)
      have := ih _ l (hg.merge hnf hs) hch.2 (hs.sublist hsub)
      rwa [hnf] at this

theorem putFolded_map {α : Type} (f : Pot → α) (hf : ∀ (q : Pot) m, f { q with contributors := m } = f q)
    (i : Nat) (w : Int) (ps : List Pot) : (putFolded i w ps).map f = ps.map f := by
  induction ps with
  | nil => rfl
  | cons p ps ih =>
    simp only [putFolded]
    split
    · simp [hf]
    · simp [hf, ih]

theorem putFolded_length (i : Nat) (w : Int) (ps : List Pot) : (putFolded i w ps).length = ps.length := by
  simpa using congrArg List.length (putFolded_map (fun _ => ()) (fun _ _ => rfl) i w ps)

theorem putFolded_getElem? (i : Nat) (w : Int) (ps : List Pot) (k : Nat) :
    (putFolded i w ps)[k]? = (ps[k]?).map (fun q =>
      if ∀ L ∈ (ps.take k).map (fun p : Pot => p.level), L ≤ w then
        { q with contributors := assocSet q.contributors i w } else q) := by
  induction ps generalizing k with
  | nil => simp [putFolded]
  | cons p ps ih =>
    simp only [putFolded]
    cases k with
    | zero => split <;> simp
    | succ k =>
      split
      · rename_i hlt
        simp only [List.getElem?_cons_succ, List.take_succ_cons, List.map_cons, List.mem_cons, forall_eq_or_imp]
        have : ¬ (p.level ≤ w ∧ ∀ a ∈ (ps.take k).map (·.level), a ≤ w) := by omega
        simp only [this, if_false]
        cases ps[k]? <;> simp
      · rename_i hlt
        simp only [List.getElem?_cons_succ, List.take_succ_cons, List.map_cons, List.mem_cons, forall_eq_or_imp]
        rw [ih]
        have hle : p.level ≤ w := by omega
        simp only [hle, true_and]

/-- The "put folded players back" loop of `GetPots`, over `(idx, stake)` pairs. -/
def putAll (fs : List (Nat × Int)) (ps : List Pot) : List Pot :=
  fs.foldl (fun ps f => if f.2 = 0 then ps else putFolded f.1 f.2 ps) ps

theorem putAll_map {α : Type} (f : Pot → α) (hf : ∀ (q : Pot) m, f { q with contributors := m } = f q)
    (fs : List (Nat × Int)) (ps : List Pot) : (putAll fs ps).map f = ps.map f := by
  induction fs generalizing ps with
  | nil => rfl
  | cons g fs ih =>
    simp only [putAll, List.foldl_cons]
    split
    · exact ih ps
    · exact (ih _).trans (putFolded_map f hf _ _ _)

theorem putAll_length (fs : List (Nat × Int)) (ps : List Pot) : (putAll fs ps).length = ps.length := by
  simpa using congrArg List.length (putAll_map (fun _ => ()) (fun _ _ => rfl) fs ps)

/-- What the loop leaves of the contributors `m` of a pot standing after pots with the levels `Ls`. -/
def putContribs (fs : List (Nat × Int)) (Ls : List Int) (m : List (Nat × Int)) : List (Nat × Int) :=
  fs.foldl (fun m f => if f.2 ≠ 0 ∧ ∀ L ∈ Ls, L ≤ f.2 then assocSet m f.1 f.2 else m) m

theorem putAll_cons (f : Nat × Int) (fs : List (Nat × Int)) (ps : List Pot) :
    putAll (f :: fs) ps = putAll fs (if f.2 = 0 then ps else putFolded f.1 f.2 ps) := rfl

theorem putContribs_cons (f : Nat × Int) (fs : List (Nat × Int)) (Ls : List Int) (m : List (Nat × Int)) :
    putContribs (f :: fs) Ls m
      = putContribs fs Ls (if f.2 ≠ 0 ∧ ∀ L ∈ Ls, L ≤ f.2 then assocSet m f.1 f.2 else m) := rfl

theorem putAll_getElem? (fs : List (Nat × Int)) (ps : List Pot) (k : Nat) :
    (putAll fs ps)[k]? = (ps[k]?).map (fun q =>
      { q with contributors := putContribs fs ((ps.take k).map (·.level)) q.contributors }) := by
  induction fs generalizing ps with
  | nil => simp [putAll, putContribs]
  | cons f fs ih =>
    simp only [putAll_cons, putContribs_cons]
    by_cases h0 : f.2 = 0
    · simp only [h0, if_true, ne_eq, not_true_eq_false, false_and, if_false]
      exact ih ps
    · have hlv : ((putFolded f.1 f.2 ps).take k).map (·.level) = (ps.take k).map (·.level) := by
        rw [List.map_take, List.map_take, putFolded_map (·.level) (fun _ _ => rfl)]
      rw [if_neg h0, ih, putFolded_getElem?, hlv]
      cases ps[k]? with
      | none => rfl
      | some q =>
        simp only [Option.map_some, ne_eq, h0, not_false_eq_true, true_and]
        split <;> rfl

theorem putContribs_sorted (fs : List (Nat × Int)) (Ls : List Int) (m : List (Nat × Int)) (h : KeysSorted m) :
    KeysSorted (putContribs fs Ls m) := by
  induction fs generalizing m with
  | nil => exact h
  | cons f fs ih =>
    rw [putContribs_cons]
    split
    · exact ih _ (assocSet_sorted h _ _)
    · exact ih _ h

theorem putContribs_filter (P : Nat → Bool) (fs : List (Nat × Int)) (Ls : List Int) (m : List (Nat × Int))
    (hP : ∀ f ∈ fs, P f.1 = false) :
    (putContribs fs Ls m).filter (fun x => P x.1) = m.filter (fun x => P x.1) := by
  induction fs generalizing m with
  | nil => rfl
  | cons f fs ih =>
    rw [putContribs_cons]
    have ih' := fun m => ih m (fun g hg => hP g (by simp [hg]))
    split
    · rw [ih', assocSet_filter P _ _ _ (hP f (by simp))]
    · rw [ih']

theorem putContribs_mem (fs : List (Nat × Int)) (Ls : List Int) (m : List (Nat × Int)) (h : KeysSorted m)
    (hn : (fs.map (·.1)).Nodup) (hd : ∀ f ∈ fs, ∀ y ∈ m, y.1 ≠ f.1) (x : Nat × Int) :
    x ∈ putContribs fs Ls m ↔ (x ∈ fs ∧ x.2 ≠ 0 ∧ ∀ L ∈ Ls, L ≤ x.2) ∨ x ∈ m := by
  induction fs generalizing m with
  | nil => simp [putContribs]
  | cons f fs ih =>
    rw [List.map_cons, List.nodup_cons] at hn
    have hfresh : ∀ g ∈ fs, f.1 ≠ g.1 := fun g hg he => hn.1 (he ▸ List.mem_map_of_mem hg)
    rw [putContribs_cons, List.mem_cons]
    split
    · rename_i hc
      rw [ih _ (assocSet_sorted h _ _) hn.2, assocSet_mem h]
      · constructor
        · rintro (⟨h1, h2⟩ | rfl | ⟨_, h1⟩)
          · exact Or.inl ⟨Or.inr h1, h2⟩
          · exact Or.inl ⟨Or.inl rfl, hc⟩
          · exact Or.inr h1
        · rintro (⟨rfl | h1, h2⟩ | h1)
          · exact Or.inr (Or.inl rfl)
          · exact Or.inl ⟨h1, h2⟩
          · exact Or.inr (Or.inr ⟨hd f (List.mem_cons_self ..) x h1, h1⟩)
      · intro g hg y hy
        rcases (assocSet_mem h _ _ y).1 hy with rfl | ⟨_, hy⟩
        · exact hfresh g hg
        · exact hd g (List.mem_cons_of_mem _ hg) y hy
    · rename_i hc
      rw [ih _ h hn.2 (fun g hg => hd g (List.mem_cons_of_mem _ hg))]
      constructor
      · rintro (⟨h1, h2⟩ | h1)
        · exact Or.inl ⟨Or.inr h1, h2⟩
        · exact Or.inr h1
      · rintro (⟨rfl | h1, h2⟩ | h1)
        · exact absurd h2 hc
        · exact Or.inl ⟨h1, h2⟩
        · exact Or.inr h1

end Pokerface
