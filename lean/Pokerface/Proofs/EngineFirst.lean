import Pokerface.Proofs.EngineReach
import Pokerface.Proofs.Clockwise
/-
  Which seat the chain asks, and who is first to act when a betting round opens (C04): `seekBB` leaves the turn
  where the pure walk `bbStop` over the big-blind flags stops (`seekBB_cur_eq`); `ready_first` is the one statement
  about the first seat asked.  The walk from the dealer meets a first big blind or none (`bb_walk_cases`).
-/
namespace Pokerface
open Game

theorem nextIdx_eq (g : Game) : g.nextIdx = cwNext g.n g.cur := rfl

theorem setCurrentPlayer_cur (g : Game) (i : Nat) : (g.setCurrentPlayer i).cur = i := rfl

/-- where the search for the big blind stops: at most `k` seats clockwise from `s`, on the first one `bb` marks
    (game.go `StartRound`: the loop over `NextPlayer()` with `break` on the big blind) -/
def bbStop (bb : Nat → Bool) (n : Nat) : Nat → Nat → Nat
  | 0, s => s
  | k + 1, s => if bb (cwNext n s) then cwNext n s else bbStop bb n k (cwNext n s)

theorem bbStop_first (bb : Nat → Bool) (n : Nat) : ∀ (k s j : Nat), j < k → bb (cwIter n (j + 1) s) = true →
    (∀ j' < j, bb (cwIter n (j' + 1) s) = false) → bbStop bb n k s = cwIter n (j + 1) s
  | 0, _, _, hj, _, _ => by omega
  | k + 1, s, 0, _, hb, _ => by
    unfold bbStop
    exact if_pos hb
  | k + 1, s, j + 1, hj, hb, hno => by
    unfold bbStop
    rw [if_neg (by rw [show cwNext n s = cwIter n (0 + 1) s from rfl, hno 0 (by omega)]; exact nofun)]
    exact bbStop_first bb n k (cwNext n s) j (by omega) hb fun j' hj' => hno (j' + 1) (by omega)

theorem bbStop_none (bb : Nat → Bool) (n : Nat) : ∀ (k s : Nat), (∀ j < k, bb (cwIter n (j + 1) s) = false) →
    bbStop bb n k s = cwIter n k s
  | 0, _, _ => rfl
  | k + 1, s, hno => by
    unfold bbStop
    rw [if_neg (by rw [show cwNext n s = cwIter n (0 + 1) s from rfl, hno 0 (by omega)]; exact nofun)]
    exact bbStop_none bb n k (cwNext n s) fun j hj => hno (j + 1) (by omega)

/-- seat `j` holds the big-blind position -/
def Game.bbAt (g : Game) (j : Nat) : Bool := ((g.players[j]?).map (·.posBB)).getD false

theorem bbAt_of_map {g : Game} {j : Nat} {b : Bool} (h : (g.players[j]?).map (·.posBB) = some b) : g.bbAt j = b := by
  unfold Game.bbAt
  rw [h]
  rfl

theorem bbAt_map {g : Game} {j : Nat} (h : j < g.n) : (g.players[j]?).map (·.posBB) = some (g.bbAt j) := by
  unfold Game.bbAt
  rw [List.getElem?_eq_getElem h]
  rfl

theorem first_true (f : Nat → Bool) : ∀ m : Nat,
    (∃ j < m, f j = true ∧ ∀ j' < j, f j' = false) ∨ (∀ j < m, f j = false)
  | 0 => Or.inr (fun _ h => by omega)
  | m + 1 => by
    rcases first_true f m with ⟨j, hj, h1, h2⟩ | hnone
    · exact Or.inl ⟨j, by omega, h1, h2⟩
    · cases hm : f m with
      | true => exact Or.inl ⟨m, by omega, hm, hnone⟩
      | false =>
        refine Or.inr (fun j hj => ?_)
        by_cases e : j = m
        · subst e
          exact hm
        · exact hnone j (by omega)

theorem bb_walk_cases (g : Game) {d : Nat} (hd : d < g.n) :
    (∃ j < g.n, (g.players[cwIter g.n (j + 1) d]?).map (·.posBB) = some true ∧
       ∀ j' < j, (g.players[cwIter g.n (j' + 1) d]?).map (·.posBB) = some false) ∨
    (∀ j < g.n, (g.players[cwIter g.n (j + 1) d]?).map (·.posBB) = some false) := by
  simp only [fun j => bbAt_map (g := g) (cwIter_lt (j + 1) hd), Option.some.injEq]
  exact first_true (fun j => g.bbAt (cwIter g.n (j + 1) d)) g.n

theorem walk_no_bb (g : Game) {d : Nat} (hd : d < g.n) (h : ∀ p ∈ g.players, p.posBB = false) (j : Nat) :
    (g.players[cwIter g.n (j + 1) d]?).map (·.posBB) = some false := by
  have hlt : cwIter g.n (j + 1) d < g.players.length := cwIter_lt (j + 1) hd
  rw [List.getElem?_eq_getElem hlt, Option.map_some, h _ (List.getElem_mem hlt)]

theorem Wr.bbAt {W : Fp} {g g' : Game} (h : Wr W g g') : g'.bbAt = g.bbAt := by
  funext j
  unfold Game.bbAt
  rw [← List.getElem?_map, ← List.getElem?_map, h.map (·.posBB) fun _ => rfl]

theorem dealerIdx?_congr_static {g g' : Game} (h : g'.players.map Player.static = g.players.map Player.static) :
    g'.dealerIdx? = g.dealerIdx? := by
  have key : ∀ l : List Player, (l.reverse.find? (·.posDealer)).map (·.idx) =
      ((l.map Player.static).reverse.find? (fun f => f.2.1)).map (fun f => f.1) := by
    intro l
    rw [← List.map_reverse, List.find?_map]
    simp [Function.comp_def, Player.static, Option.map_map]
  unfold Game.dealerIdx?
  rw [key, key, h]

theorem Static.dealerIdx {g g' : Game} (h : Static g g') : g'.dealerIdx = g.dealerIdx := by
  unfold Game.dealerIdx
  rw [dealerIdx?_congr_static h.ids]

theorem Wr.dealerIdx {W : Fp} {g g' : Game} (h : Wr W g g') : g'.dealerIdx = g.dealerIdx := h.static.dealerIdx

theorem seekBB_cur_eq : ∀ (k : Nat) (g : Game), g.cur < g.n → (seekBB k g).cur = bbStop g.bbAt g.n k g.cur
  | 0, _, _ => rfl
  | k + 1, g, hc => by
    have hlt : g.nextIdx < g.players.length := cwIter_lt 1 hc
    have hp : g.players[g.nextIdx]? = some g.players[g.nextIdx] := List.getElem?_eq_getElem hlt
    have hb : g.bbAt (cwNext g.n g.cur) = g.players[g.nextIdx].posBB := bbAt_of_map (by rw [← nextIdx_eq, hp]; rfl)
    unfold Game.seekBB bbStop
    rw [hp, hb]
    dsimp only
    by_cases h : g.players[g.nextIdx].posBB = true
    · rw [if_pos h, if_pos h]
      rfl
    · rw [if_neg h, if_neg h, seekBB_cur_eq k (g.setCurrentPlayer g.nextIdx)
        (by rw [setCurrentPlayer_cur, (wr_askNext g).n]; exact hlt),
        (wr_askNext g).bbAt, (wr_askNext g).n]
      rfl

theorem requestPlayerAction_cur (g : Game) (hs : Struct g) (hopen : g.requestPlayerAction.event = .roundStarted) :
    g.requestPlayerAction.cur = g.nextIdx := by
  rcases g.requestPlayerAction_cases hs with ⟨e, _⟩ | ⟨e, _⟩
  · rw [e] at hopen
    cases hopen
  · rw [e]
    rfl

theorem resume_cur (g1 : Game) (h : MidAct g1) (hopen : g1.resume.event = .roundStarted) :
    g1.resume.cur = g1.nextIdx := by
  rw [resume_started h.ev] at hopen ⊢
  exact requestPlayerAction_cur g1 h.struct hopen

theorem openRound_cur (g : Game) (hs : Struct g) (hopen : g.openRound.event = .roundStarted) :
    g.openRound.cur = cwNext g.n g.cur :=
  requestPlayerAction_cur (g.setEvent .roundStarted) ((wr_setEvent g .roundStarted).struct hs) hopen

/-- `ReadyForAll` resets the offers and the marks, and `StartRound` does it again -/
theorem resetAllAllowed_idem (g : Game) : g.resetAllAllowed.resetAllAllowed = g.resetAllAllowed := by
  simp [Game.resetAllAllowed, Game.mapP, Function.comp_def]

theorem ready_opens (g : Game) (he : g.event = .readyRequested) (hr : g.round ≠ .none) :
    (g.step .ready).1 = g.resetAllAllowed.startRound' := by
  rw [step_ready_street he hr]
  exact congrArg Game.startRound' (resetAllAllowed_idem g)

/-- **Who is asked first.**  When `ReadyForAll` opens the betting round of a dealt street, the seat asked is the one
    left of the seat where `StartRound` has left the turn: before the flop where the search for the big blind from
    the dealer stops, on later streets the dealer.  (`g2` is `g` with the offers and the marks reset: same seats, same
    positions, same dealer; asking a seat changes none of these either.) -/
theorem ready_first {g : Game} (hs : Struct g) (he : g.event = .readyRequested) (hr : g.round ≠ .none)
    (hopen : (g.step .ready).1.event = .roundStarted) :
    (g.step .ready).1.cur =
      cwNext g.n (if g.round = .preflop then bbStop g.bbAt g.n g.n g.dealerIdx else g.dealerIdx) := by
  rw [ready_opens g he hr] at hopen ⊢
  have w := wr_resetAllAllowed g
  have hr2 : g.resetAllAllowed.round = g.round := rfl
  have hb := w.bbAt
  have hd := w.dealerIdx
  have hn := w.n
  have s2 := w.struct hs
  clear w
  generalize g.resetAllAllowed = g2 at hopen hr2 hb hd hn s2 ⊢
  have wd := wr_askDealer g2
  revert hopen
  refine g2.startRound'_cases (motive := fun x => x.event = .roundStarted → x.cur = _) (fun _ _ h => nomatch h)
    (fun hp _ hopen => ?_) (fun hp hopen => ?_)
  · have ws := wr_seekBB g2.n (g2.setCurrentPlayer g2.dealerIdx)
    rw [if_pos (hr2.symm.trans hp), openRound_cur _ (ws.struct (wd.struct s2)) hopen, ws.n, wd.n, hn,
      seekBB_cur_eq _ _ (by rw [setCurrentPlayer_cur, wd.n]; exact dealerIdx_lt s2), wd.n, hn,
      wd.bbAt, hb, setCurrentPlayer_cur, hd]
  · rw [if_neg (hr2 ▸ hp), openRound_cur _ (wd.struct s2) hopen, setCurrentPlayer_cur, wd.n, hn, hd]

end Pokerface
