/-
  C19 on the ASYNCHRONOUS system, forward-only domain (`ASys.okFwd`, `AReachableFwd`): the
  invariant `AInvF` = the C09 invariant `AInv` + the capacity tower `FInv` of the regulator +
  "tables only once `min` players registered" + "nobody is on the way while pending", its
  preservation by every operation valid forward-only with re-entries (`okReFwd`), hence by every
  valid operation (`okFwd`), the facts about the callbacks of one step that `AStepFacts` does not
  carry (`AStepFactsF`: how the membership sheet evolves), the clauses of C19 about one operation,
  and the embedding of the synchronous forward-only domains.
-/
import Pokerface.Proofs.RegAsyncProps

namespace Pokerface
open Reg

namespace ASys

theorem registered_mono (s : ASys) (op : AOp) :
    s.env.registered.length ≤ (s.step op).env.registered.length := by
  cases op with
  | add ps ch =>
    simp only [step]
    generalize s.r.addPlayers ps ch = p
    obtain ⟨r', e⟩ := p
    cases e
    · simp
    · exact Nat.le_refl _
  | status st ch => exact Nat.le_refl _
  | sync t elim stay rel keep =>
    simp only [step]
    split <;> exact Nat.le_refl _
  | report t ps rest ch => exact Nat.le_refl _

theorem AInv.members_nil_iff {s : ASys} (h : AInv s) : s.env.members = [] ↔ s.r.tables = [] := by
  have := congrArg List.length h.sim
  simp only [tview, mview, List.length_map] at this
  constructor
  · intro hm
    rw [hm] at this
    exact List.length_eq_zero_iff.1 this
  · intro ht
    rw [ht] at this
    exact List.length_eq_zero_iff.1 this.symm

theorem AInv.mem_table {s : ASys} (h : AInv s) {e : Nat × List Nat} (he : e ∈ s.env.members) :
    ∃ tb ∈ s.r.tables, tb.id = e.1 ∧ tb.count = e.2.length := by
  have : (e.1, (e.2.length : Int)) ∈ mview s.env.members := List.mem_map.2 ⟨e, he, rfl⟩
  rw [← h.sim] at this
  obtain ⟨tb, htb, heq⟩ := List.mem_map.1 this
  simp only [Prod.mk.injEq] at heq
  exact ⟨tb, htb, heq.1, heq.2⟩

/-- invariant of the asynchronous system between operations, forward-only domain -/
structure AInvF (s : ASys) : Prop where
  a : AInv s
  f : FInv s.r
  regmin : s.r.tables ≠ [] → s.r.min ≤ s.env.registered.length
  pendfly : s.r.status = .pending → s.inflight = []

theorem AInvF.capacity {s : ASys} (h : AInvF s) {e : Nat × List Nat} (he : e ∈ s.env.members) :
    e.2.length ≤ s.r.max := by
  obtain ⟨tb, htb, _, hc⟩ := h.a.mem_table he
  have := h.f.wf.bnd tb htb
  omega

theorem AInvF.init (max min : Nat) (h1 : 1 ≤ max) : AInvF (ASys.init max min) :=
  ⟨AInv.init max min, FInv.init max min h1, fun h => absurd rfl h, fun _ => rfl⟩

theorem AInvF.no_table_before_start {s : ASys} (h : AInvF s) (hp : s.r.status = .pending) :
    s.r.tables = [] ∧ s.r.tableCount = 0 ∧ s.env.members = [] ∧ s.inflight = [] := by
  have ht := h.f.pend hp
  refine ⟨ht, ?_, h.a.members_nil_iff.2 ht, h.pendfly hp⟩
  rw [h.f.wf.tc, ht]
  rfl

theorem AInvF.no_table_before_min {s : ASys} (h : AInvF s) (hne : s.env.members ≠ []) :
    s.r.min ≤ s.env.registered.length :=
  h.regmin (fun ht => hne (h.a.members_nil_iff.2 ht))

/-- what happened to the membership sheet inside one step -/
structure AStepFactsF (s : ASys) (op : AOp) : Prop where
  members : (s.step op).env.members = Env.applyCalls (s.baseMembers op) (s.step op).r.calls
  valid : validCalls (mview (s.baseMembers op)) (s.step op).r.calls

theorem AStepFactsF.scratch {s : ASys} {op : AOp} {ch : List Nat}
    (hstep : s.step op = { r := s.r.beginOp ch, env := s.env, inflight := s.inflight })
    (hb : s.baseMembers op = s.env.members) : AStepFactsF s op := by
  constructor
  · rw [hstep, hb]
    rfl
  · rw [hstep]
    trivial

theorem AInv.step_members_enter {s : ASys} (h : AInv s) {op : AOp} {r' : Reg} {e' : Env}
    {fl' : List (Nat × List Nat)} {inc : List Nat}
    (hstep : s.step op = { r := r', env := e', inflight := fl' })
    (hb : s.baseMembers op = s.env.members)
    (hm : e'.members = Env.applyCalls s.env.members r'.calls) (hx : OpExt s.r r' inc) :
    AStepFactsF s op := by
  constructor
  · rw [hstep, hb]
    exact hm
  · rw [hstep, hb, ← h.sim]
    exact hx.valid

/-- how the membership sheet evolves in one step: needs the wide invariant only -/
theorem AInv.step_members {s : ASys} (h : AInv s) (op : AOp) (hok : s.okRe op) : AStepFactsF s op := by
  cases op with
  | add ps ch =>
    by_cases hs : s.r.status = .afterRegDeadline
    · exact AStepFactsF.scratch (step_add_refused s ps ch hs) rfl
    · obtain ⟨_, _, hx, _, _⟩ := addPlayers_spec0 s.r ps ch h.wf hs hok.2.2
      exact h.step_members_enter (step_add_accepted s ps ch hs) rfl rfl hx
  | status st ch =>
    obtain ⟨_, hx, _, _⟩ := setStatus_spec0 s.r st ch h.wf hok
    exact h.step_members_enter rfl rfl rfl hx
  | report t ps rest ch =>
    obtain ⟨_, hx, _, _⟩ := releasePlayers_spec0 s.r ps ch h.wf hok.2
    exact h.step_members_enter rfl rfl rfl hx
  | sync t elim stay rel keep =>
    have hc := (sync_quiet s t elim stay rel keep).1
    cases hm : s.env.membersOf t with
    | none => exact AStepFactsF.scratch (h.step_sync_unknown hm elim stay rel keep) (by simp only [baseMembers, hm])
    | some ms =>
      refine ⟨?_, by rw [hc]; trivial⟩
      rw [hc]
      simp only [step, hm, baseMembers]
      rfl

/-- "tables only once `min` players have registered" after an operation that opens no table from
    none while fewer than `min` players are in the competition -/
theorem AInvF.regmin_step {s s' : ASys} (h : AInvF s) (hA' : AInv s') (hmin : s'.r.min = s.r.min)
    (hreg : s.env.registered.length ≤ s'.env.registered.length)
    (hnone : s.r.tableCount = 0 → s'.r.playerCount < s.r.min → s'.r.tables = []) :
    s'.r.tables ≠ [] → s'.r.min ≤ s'.env.registered.length := by
  intro hne
  rw [hmin]
  by_cases ht : s.r.tables = []
  · have h0 : s.r.tableCount = 0 := by
      rw [h.f.wf.tc, ht]
      rfl
    have hge : ¬ s'.r.playerCount < s.r.min := fun hlt => hne (hnone h0 hlt)
    have h1 := hA'.pc
    have h2 := hA'.lenle
    omega
  · have := h.regmin ht
    omega

theorem AInvF.step_add {s : ASys} (h : AInvF s) (ps ch : List Nat) (hnd : ps.Nodup)
    (hdisj : ∀ p ∈ ps, p ∉ s.env.alive) (hbad : (s.r.addPlayers ps ch).1.badChoice = false) :
    AInvF (s.step (.add ps ch)) := by
  obtain ⟨hA', hF'⟩ := h.a.step_add ps ch hnd hdisj hbad
  refine ⟨hA', ?_, h.regmin_step hA' hF'.min_eq (registered_mono s _) ?_, ?_⟩
  · rw [step_add_r]
    exact addPlayers_specF s.r ps ch h.f hbad
  · intro h0 hlt
    rw [step_add_r] at hlt ⊢
    by_cases hs : s.r.status = .afterRegDeadline
    · rw [addPlayers_refused s.r ps ch hs]
      exact tables_nil_of_tc (r := s.r) h.f.wf h0
    · rw [(addPlayers_spec0 s.r ps ch h.a.wf hs hbad).2.2.2.2] at hlt
      exact (addPlayers_before_min s.r ps ch h.a.wf h0 hlt).1
  · intro hp
    rw [hF'.status_eq] at hp
    rw [step_add_inflight]
    exact h.pendfly hp

theorem AInvF.step_status {s : ASys} (h : AInvF s) (st : RStatus) (ch : List Nat)
    (hok : s.okFwd (.status st ch)) :
    AInvF (s.step (.status st ch)) := by
  obtain ⟨hdom, hbad⟩ := hok
  obtain ⟨hA', hF'⟩ := h.a.step_status st ch hbad
  have hpc := (setStatus_spec0 s.r st ch h.a.wf hbad).2.2.2
  refine ⟨hA', setStatus_specF s.r st ch h.f hdom hbad, h.regmin_step hA' hF'.min_eq (Nat.le_refl _) ?_, ?_⟩
  · intro h0 hlt
    exact (setStatus_before_min s.r st ch h.a.wf h0 (hpc ▸ hlt)).1
  · intro hp
    have hp' : st = .pending := hF'.status_eq.symm.trans hp
    rcases hdom with h1 | h1
    · exact absurd hp' h1
    · exact h.pendfly h1

theorem flyingOf_nil_of_inflight_nil {s : ASys} (h : s.inflight = []) (t : Nat) : s.flyingOf t = [] := by
  simp [flyingOf, h]

theorem AInvF.step_report {s : ASys} (h : AInvF s) (t : Nat) (ps rest ch : List Nat)
    (hok : s.okFwd (.report t ps rest ch)) :
    AInvF (s.step (.report t ps rest ch)) := by
  obtain ⟨hA', hF'⟩ := h.a.step_report t ps rest ch hok
  obtain ⟨hperm, hbad⟩ := hok
  have hpc := (releasePlayers_spec0 s.r ps ch h.a.wf hbad).2.2.2
  refine ⟨hA', releasePlayers_specF s.r ps ch h.f hbad,
      h.regmin_step hA' hF'.min_eq (Nat.le_refl _) ?_, ?_⟩
  · intro h0 hlt
    exact (releasePlayers_before_min s.r ps ch h.a.wf h0 (hpc ▸ hlt)).1
  · intro hp
    -- nobody is on the way while pending, so the report is the report of nobody
    have hfl := h.pendfly (hF'.status_eq.symm.trans hp)
    have hnil : ps ++ rest = [] := by
      have := hperm.length_eq
      rw [flyingOf_nil_of_inflight_nil hfl] at this
      exact List.length_eq_zero_iff.1 this.symm
    have hrest : rest = [] := (List.append_eq_nil_iff.1 hnil).2
    show s.inflight.filter (fun e => e.1 != t) ++ (if rest.isEmpty then [] else [(t, rest)]) = []
    rw [hfl, hrest]
    rfl

theorem AInvF.step_sync {s : ASys} (h : AInvF s) (t : Nat) (elim stay rel keep : List Nat)
    (hok : s.okFwd (.sync t elim stay rel keep)) :
    AInvF (s.step (.sync t elim stay rel keep)) := by
  have hok' : s.ok (.sync t elim stay rel keep) := hok
  obtain ⟨hA', hF'⟩ := h.a.step_sync t elim stay rel keep hok'
  cases hm : s.env.membersOf t with
  | none =>
    rw [h.a.step_sync_unknown hm elim stay rel keep] at hA' ⊢
    exact ⟨hA', h.f.beginOp [], h.regmin, h.pendfly⟩
  | some ms =>
    obtain ⟨hp1, _⟩ := (ok_sync_known hm elim stay rel keep).1 hok'
    obtain ⟨r1, relc, nw, t0, ⟨hft, hc0, hans, post, _, _⟩⟩ := h.a.sync_known t elim stay ms hm hp1
    have hlen := hp1.length_eq
    rw [List.length_append] at hlen
    have hr : (s.step (.sync t elim stay rel keep)).r = r1 := by
      rw [step_sync_r, hans]
    -- the player total after the eliminations is that of the successor state, which satisfies `AInv`
    have hpc : 0 ≤ s.r.playerCount - (elim.length : Int) := by
      have := hA'.pc_nonneg
      rwa [hr, post.pc_eq] at this
    obtain ⟨hwf1, hq1, hst1⟩ := syncState_specF s.r t elim.length t0 h.f.wf h.f.q hpc hft (by omega) (by omega)
    have hr1 : (s.r.syncState t elim.length).1 = r1 := congrArg Prod.fst hans
    rw [hr1] at hwf1 hq1 hst1
    obtain ⟨ht0, _⟩ := findTable_some hft
    have hne : s.r.tables ≠ [] := fun h0 => by
      rw [h0] at ht0
      cases ht0
    have hnp : s.r.status ≠ .pending := fun hp => hne (h.f.pend hp)
    have hstep := step_sync_known hm elim stay rel keep
    refine ⟨hA', ?_, ?_, ?_⟩
    · rw [hr]
      exact ⟨hwf1, hq1, fun hp => absurd (hst1 ▸ hp) hnp⟩
    · intro _
      rw [hF'.min_eq, hstep]
      exact h.regmin hne
    · intro hp
      rw [hr, hst1] at hp
      exact absurd hp hnp

/-- every operation valid forward-only with re-entries keeps the invariant: the widest forward-only
    domain -/
theorem AInvF.step_full_re {s : ASys} (h : AInvF s) (op : AOp) (hok : s.okReFwd op) :
    AInvF (s.step op) ∧ AStepFactsF s op := by
  refine ⟨?_, h.a.step_members op (okRe_of_okReFwd hok)⟩
  cases op with
  | add ps ch =>
    have hok' : s.okRe (.add ps ch) := hok
    exact h.step_add ps ch hok'.1 hok'.2.1 hok'.2.2
  | status st ch => exact h.step_status st ch hok
  | sync t elim stay rel keep => exact h.step_sync t elim stay rel keep hok
  | report t ps rest ch => exact h.step_report t ps rest ch hok

theorem AInvF.okReFwd_of_okFwd {s : ASys} (h : AInvF s) {op : AOp} (hok : s.okFwd op) : s.okReFwd op := by
  cases op with
  | status st ch => exact hok
  | sync t elim stay rel keep => exact hok
  | report t ps rest ch => exact hok
  | add ps ch =>
    obtain ⟨hnd, hfresh, hbad⟩ := hok
    exact ⟨hnd, fun p hp ha => hfresh p hp (h.a.sub p ha), hbad⟩

theorem AInvF.step_full {s : ASys} (h : AInvF s) (op : AOp) (hok : s.okFwd op) :
    AInvF (s.step op) ∧ AStepFactsF s op :=
  h.step_full_re op (h.okReFwd_of_okFwd hok)

theorem AInvF.of_reachableReFwd {s : ASys} (h : AReachableReFwd s) : AInvF s := by
  induction h with
  | init max min h1 => exact AInvF.init max min h1
  | step op _ hok ih => exact (ih.step_full_re op hok).1

theorem AInvF.of_reachable {s : ASys} (h : AReachableFwd s) : AInvF s := by
  induction h with
  | init max min h1 => exact AInvF.init max min h1
  | step op _ hok ih => exact (ih.step_full op hok).1

theorem AInvF.run_re {s : ASys} (h : AInvF s) {ops : List AOp} (hok : s.allOkReFwd ops) : AInvF (s.run ops) := by
  induction ops generalizing s with
  | nil => exact h
  | cons op ops ih => exact ih (h.step_full_re op hok.1).1 hok.2

theorem allOkReFwd_of_allOkFwd : ∀ (ops : List AOp) (s : ASys), AInvF s → s.allOkFwd ops → s.allOkReFwd ops := by
  intro ops
  induction ops with
  | nil =>
    intro _ _ _
    trivial
  | cons op ops ih =>
    intro s hS hok
    exact ⟨hS.okReFwd_of_okFwd hok.1, ih _ (hS.step_full op hok.1).1 hok.2⟩

theorem AInvF.run {s : ASys} (h : AInvF s) {ops : List AOp} (hok : s.allOkFwd ops) : AInvF (s.run ops) :=
  h.run_re (allOkReFwd_of_allOkFwd ops s h hok)

theorem AReachableFwd.reFwd {s : ASys} (h : AReachableFwd s) : AReachableReFwd s := by
  induction h with
  | init max min h1 => exact .init max min h1
  | step op hr hok ih => exact .step op ih ((AInvF.of_reachable hr).okReFwd_of_okFwd hok)

/-! ### the clauses of C19 about one operation, on `okReFwd`, the widest forward-only domain -/

/-- the callbacks only add players, and the sheet after all of them satisfies the invariant -/
theorem AInvF.capacity_during {s : ASys} (h : AInvF s) (op : AOp) (hok : s.okReFwd op)
    (cs₁ cs₂ : List RCall) (hcs : (s.step op).r.calls = cs₁ ++ cs₂) :
    ∀ e ∈ Env.applyCalls (s.baseMembers op) cs₁, e.2.length ≤ s.r.max := by
  obtain ⟨hS, hF⟩ := h.step_full_re op hok
  have hmax := (h.a.step_full_re op (okRe_of_okReFwd hok)).2.max_eq
  exact applyCalls_prefix_le (hcs ▸ hF.members) fun e he => hmax ▸ hS.capacity he

theorem AInvF.members_ne_nil_of_call {s : ASys} (h : AInvF s) (op : AOp) (hok : s.okReFwd op)
    (hc : (s.step op).r.calls ≠ []) : (s.step op).env.members ≠ [] := by
  have hF := (h.step_full_re op hok).2
  rw [hF.members]
  exact applyCalls_ne_nil hF.valid hc

theorem AInvF.no_callback_before_start {s : ASys} (h : AInvF s) (op : AOp) (hok : s.okReFwd op)
    (hp : (s.step op).r.status = .pending) : (s.step op).r.calls = [] := by
  have hS := (h.step_full_re op hok).1
  cases hc : (s.step op).r.calls with
  | nil => rfl
  | cons c cs =>
    have hne : (s.step op).r.calls ≠ [] := by
      rw [hc]
      exact List.cons_ne_nil _ _
    exact absurd (hS.no_table_before_start hp).2.2.1 (h.members_ne_nil_of_call op hok hne)

theorem AInvF.pending_is_initial {s : ASys} (h : AInvF s) (op : AOp) (hok : s.okReFwd op)
    (hp : (s.step op).r.status = .pending) : s.r.status = .pending := by
  have hst := (h.a.step_full_re op (okRe_of_okReFwd hok)).2.status_eq
  cases op with
  | add ps ch => exact hst.symm.trans hp
  | sync t elim stay rel keep => exact hst.symm.trans hp
  | report t ps rest ch => exact hst.symm.trans hp
  | status st ch =>
    rcases hok.1 with h1 | h1
    · exact absurd (hst.symm.trans hp) h1
    · exact h1

theorem AInvF.no_request_before_min {s : ASys} (h : AInvF s) (op : AOp) (hok : s.okReFwd op)
    (id : Nat) (ps : List Nat) (hc : RCall.requestTable id ps ∈ (s.step op).r.calls) :
    s.r.min ≤ (s.step op).env.registered.length := by
  have hS := (h.step_full_re op hok).1
  have hmin := (h.a.step_full_re op (okRe_of_okReFwd hok)).2.min_eq
  rw [← hmin]
  exact hS.no_table_before_min (h.members_ne_nil_of_call op hok (List.ne_nil_of_mem hc))

/-! ### the synchronous forward-only domains embed -/

def isStatus : AOp → Bool
  | .status _ _ => true
  | _ => false

theorem allOkFwd_of_allOk : ∀ (ops : List AOp) (s : ASys), s.allOk ops →
    (∀ op ∈ ops, isStatus op = false) → s.allOkFwd ops := by
  intro ops
  induction ops with
  | nil =>
    intro _ _ _
    trivial
  | cons op ops ih =>
    intro s hok hns
    refine ⟨?_, ih _ hok.2 (fun o ho => hns o (List.mem_cons_of_mem _ ho))⟩
    have h1 := hns op (List.mem_cons_self ..)
    cases op with
    | status st ch => cases h1
    | add ps ch => exact hok.1
    | sync t elim stay rel keep => exact hok.1
    | report t ps rest ch => exact hok.1

theorem allOkFwd_expand (s : RSys) (op : EOp) (hok : s.ok op) : (ofRSys s).allOkFwd (expand s op) := by
  have hany := allOk_expand s op (RSys.okAny_of_ok hok)
  cases op with
  | status st ch => exact ⟨⟨hok.1, hok.2⟩, trivial⟩
  | add ps ch =>
    apply allOkFwd_of_allOk _ _ hany
    intro o ho
    simp only [expand, List.mem_singleton] at ho
    subst ho
    rfl
  | sync t elim stay rel keep ch =>
    apply allOkFwd_of_allOk _ _ hany
    intro o ho
    simp only [expand] at ho
    split at ho
    · simp only [List.mem_singleton] at ho
      subst ho
      rfl
    · split at ho
      · simp only [List.mem_singleton] at ho
        subst ho
        rfl
      · simp only [List.mem_cons, List.not_mem_nil, or_false] at ho
        rcases ho with rfl | rfl <;> rfl

theorem AReachableFwd.ofRSys {s : RSys} (h : RSys.Reachable s) : AReachableFwd (ASys.ofRSys s) := by
  induction h with
  | init max min h1 => exact AReachableFwd.init max min h1
  | step op _ hok ih =>
    rw [← run_expand]
    exact ih.run _ (allOkFwd_expand _ op hok)

theorem allOkReFwd_expand (s : RSys) (op : EOp) (hok : s.okReFwd op) :
    (ofRSys s).allOkReFwd (expand s op) := by
  cases op with
  | add ps ch => exact ⟨hok, trivial⟩
  | status st ch =>
    refine (allOkReFwd_iff_allOkFwd _ _ (expand_no_add s ?_)).2 (allOkFwd_expand s _ hok)
    exact fun _ _ h => nomatch h
  | sync t elim stay rel keep ch =>
    refine (allOkReFwd_iff_allOkFwd _ _ (expand_no_add s ?_)).2 (allOkFwd_expand s _ hok)
    exact fun _ _ h => nomatch h

theorem AReachableReFwd.ofRSys {s : RSys} (h : RSys.ReachableReFwd s) : AReachableReFwd (ASys.ofRSys s) := by
  induction h with
  | init max min h1 => exact .init max min h1
  | @step s op _ hok ih =>
    rw [← run_expand s op]
    exact ih.run _ (allOkReFwd_expand s op hok)

end ASys
end Pokerface
