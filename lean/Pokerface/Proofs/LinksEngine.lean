import Pokerface.Properties.C01
import Pokerface.Properties.C03
import Pokerface.Properties.C05
import Pokerface.Properties.C10
import Pokerface.Properties.C14
import Pokerface.Proofs.LinksScore
/-
  Glue for Properties/Links.lean.  The end-to-end statements there are compositions of finished properties, so this is the
  one proof module that imports property modules (C01, C03, C05, C10, C14).  Where a property theorem gives the fact it is
  used as it is stated for its readers (`C14.no_card_in_two_places`, `C14.dealt_is_prefix`, `C14.counts`,
  `C10.reported_from_preflop`, `C05.full_board_at_showdown`, `C03.valid_of_distinct`, `C03.category_correct` …; C01 brings
  `Game.seats` and the settlement's `C02.Seat`, `C02.Valid`, and is what Properties/Links.lean takes `closed_result_is_settle`
  from).  Where none does, the invariants behind the properties are used directly: `cinv_reachable` (the street cards are
  cards of the deck; the deck is long enough for `full_board_at_showdown`), `inv_reachable` (seat indices, chips ≥ 0, for
  `seats_valid_of_pos`), `flow_reachable` (a closed hand has been dealt).  The engine-side facts the links need:

  * the cards a player can select from (own hole cards + board) are pairwise distinct cards of
    the deck of the configuration (C14), hence every admissible selection is; with five cards it
    is a `C03.Valid` hand;
  * every published strength is positive (`score_pos`, Proofs/LinksScore.lean), so the seats of a hand are in
    the domain of C02.
-/
namespace Pokerface
open Game Generated

/-- A configuration of a real poker variant, as far as the links need it:
    accepted by `Start()` with non-negative forced bets (`wf`, `started`: the domain of C01),
    a duplicate-free deck long enough for all hole cards + 8 (`cards`: the domain of C14),
    whose cards have one of the four suits of deck.go and a rank 2..14 (the domain of C03),
    the shipped category sizes, ranking table `T`, and the domain of C10 for the selection rule
    (`RequiredHoleCardsCount < 5`, `HoleCardsCount ≤ 4`). -/
structure PokerConfig (T : List Cat) (c : Config) : Prop where
  wf : WFConfig c
  cards : WFCards c
  started : (start c).2 = none
  suits : ∀ x ∈ c.opts.deck, x.suit ∈ suitCodes
  ranks : ∀ x ∈ c.opts.deck, 2 ≤ x.rank ∧ x.rank ≤ 14
  lvl : c.opts.lvl = combinationLevel
  table : c.opts.table = T
  req : c.opts.required < 5
  hole : c.opts.holeCount ≤ 4

namespace PokerConfig
variable {T : List Cat} {c : Config}

theorem reachC (h : PokerConfig T c) (ops : List Op) : ReachableC ((start c).1.run ops) :=
  ⟨c, ops, h.wf, h.cards, h.started, rfl⟩

theorem reach (h : PokerConfig T c) (ops : List Op) : Reachable ((start c).1.run ops) :=
  (h.reachC ops).reachable

theorem hole_length (h : PokerConfig T c) (ops : List Op) {p : Player} (hp : p ∈ ((start c).1.run ops).players)
    (hr : ((start c).1.run ops).round ≠ .none) : p.hole.length = c.opts.holeCount := by
  have := (C14.counts (h.reachC ops)).1 p hp
  rw [if_neg hr, Game.opts_run c ops] at this
  exact this

end PokerConfig

/-- C14 for one seat: in every reachable state a player's hole cards followed by the board are
    pairwise distinct cards of the deck of the hand. -/
theorem own_cards_of_reachable {g : Game} (h : ReachableC g) {p : Player} (hp : p ∈ g.players) :
    (p.hole ++ g.board).Nodup ∧ ∀ x ∈ p.hole ++ g.board, x ∈ g.opts.deck := by
  obtain ⟨_, hpl, hbn, _, _⟩ := C14.no_card_in_two_places h
  obtain ⟨hhn, hdis⟩ := hpl p hp
  constructor
  · rw [List.nodup_append]
    exact ⟨hhn, hbn, fun a ha b hb hab => (hdis a ha).1 (hab ▸ hb)⟩
  · intro x hx
    have hpre := C14.dealt_is_prefix h
    have hc := (cinv_reachable h).core.toL
    have hd : x ∈ g.players.flatMap (·.hole) ++ streetCards g.burned g.board := by
      rcases List.mem_append.mp hx with hx | hx
      · exact List.mem_append_left _ (List.mem_flatMap.mpr ⟨p, hp, hx⟩)
      · exact List.mem_append_right _ ((mem_streetCards hc.burned_le hc.board_le x).mpr (Or.inl hx))
    rw [hpre] at hd
    exact List.mem_of_mem_take hd

/-- C14 for the selections of one seat of a `PokerConfig`: an admissible selection consists of pairwise distinct cards of
    the deck of the configuration, so of cards with one of the four suits and a rank 2..14. -/
theorem PokerConfig.selection {T : List Cat} {cfg : Config} (hc : PokerConfig T cfg) (ops : List Op) {p : Player}
    (hp : p ∈ ((start cfg).1.run ops).players) {req : Nat} {s : List Card}
    (hs : Admissible ((start cfg).1.run ops).board p.hole req s) :
    s.Nodup ∧ (∀ x ∈ s, x.suit ∈ suitCodes) ∧ ∀ x ∈ s, 2 ≤ x.rank ∧ x.rank ≤ 14 := by
  obtain ⟨hn, hm⟩ := own_cards_of_reachable (hc.reachC ops) hp
  have hdeck : ∀ x ∈ s, x ∈ cfg.opts.deck := fun x hx => Game.opts_run cfg ops ▸ hm x (hs.sublist.subset hx)
  exact ⟨hn.sublist hs.sublist, fun x hx => hc.suits x (hdeck x hx), fun x hx => hc.ranks x (hdeck x hx)⟩

theorem reported_power_eq {lvl : Cat → Nat} {pr : List Cat} {c : Comb} {sel : List Card} (hperm : c.cards.Perm sel)
    (hpow : c.power = (calculatePower lvl pr c.cards).score) :
    c.power = (calculatePower lvl pr sel).score := by
  rw [hpow, (calculatePower_of_perm lvl pr hperm).2]

/-! ### five-card selections are `C03.Valid`; the reported hand under the poker order -/

/-- C14 + C03: in every state of a hand of a `PokerConfig`, every admissible five-card selection
    of every player is a `C03.Valid` hand (five distinct cards of a four-suit deck, ranks 2..14). -/
theorem selection_valid {T : List Cat} {cfg : Config} (hc : PokerConfig T cfg) (ops : List Op)
    {p : Player} (hp : p ∈ ((start cfg).1.run ops).players) {req : Nat} {s : List Card}
    (hs : Admissible ((start cfg).1.run ops).board p.hole req s) (h5 : s.length = 5) : C03.Valid s := by
  obtain ⟨hn, hsuit, hrank⟩ := hc.selection ops hp hs
  exact C03.valid_of_distinct s h5 hn hsuit hrank

/-- The core of LINK 1, for any ranking table `T` for which score order and poker order agree on
    the valid hands satisfying `ok` (C03 proves this for the standard table with `ok` = all hands,
    and for the short-deck table with `ok` = "not A-9-8-7-6").  In every state from the deal on and
    for every seat: a combination is published; its cards are an admissible selection (up to
    order); and whenever selections have five cards, the published cards are a valid hand, the
    published category is the category of those cards by the rules, and no admissible selection
    has a greater poker key. -/
theorem reported_poker_best_of {T : List Cat} {cfg : Config} (hc : PokerConfig T cfg) (ops : List Op)
    (ok : List Card → Prop)
    (hlt : ∀ h₁ h₂, C03.Valid h₁ → C03.Valid h₂ → ok h₁ → ok h₂ →
      ((calculatePower combinationLevel T h₁).score < (calculatePower combinationLevel T h₂).score
        ↔ C03.pokerKey T h₁ < C03.pokerKey T h₂)) :
    let g := (start cfg).1.run ops
    (g.board ≠ [] ∨ g.round ≠ .none) →
    ∀ p ∈ g.players, ∃ c, p.comb = some c ∧
      (∃ sel, Admissible g.board p.hole cfg.opts.required sel ∧ c.cards.Perm sel) ∧
      ∀ s, Admissible g.board p.hole cfg.opts.required s → s.length = 5 →
        C03.Valid c.cards ∧ C03.Valid s ∧
        c.cat = some (C03.specCat (C03.ranks c.cards) (C03.sameSuit c.cards)) ∧
        (ok c.cards → ok s → ¬ C03.pokerKey T c.cards < C03.pokerKey T s) := by
  intro g hne p hp
  obtain ⟨c, hcomb, sel, hadm, _, hperm, hcat, hpow, _, hmax⟩ :=
    C10.reported_from_preflop cfg ops hc.req hc.hole hne p hp
  refine ⟨c, hcomb, ⟨sel, hadm, hperm⟩, ?_⟩
  intro s hs h5
  have hvs : C03.Valid s := selection_valid hc ops hp hs h5
  have hvsel : C03.Valid sel := selection_valid hc ops hp hadm (by simpa only [hadm.length_eq hs] using h5)
  have hvc : C03.Valid c.cards := C03.valid_perm hperm.symm hvsel
  refine ⟨hvc, hvs, ?_, ?_⟩
  · rw [hcat, C03.category_correct _ _ _ hvc]
  · intro hok1 hok2 hkey
    have h1 := (hlt c.cards s hvc hvs hok1 hok2).mpr hkey
    have h2 := hmax s s hs (List.Perm.refl s)
    rw [hpow, hc.lvl, hc.table] at h2
    omega

/-- From the flop on every admissible selection has five cards when the rule is "any five" with
    at least two hole cards, or "exactly `k`" with `2 ≤ k ≤ HoleCardsCount` (hold'em: 0 of 2;
    Omaha-like: 2 of 4). -/
def FiveCardRule (m : Meta) : Prop :=
  (m.required = 0 ∧ 2 ≤ m.holeCount) ∨ (2 ≤ m.required ∧ m.required ≤ m.holeCount)

theorem holeCount_of_rule {m : Meta} (h5 : FiveCardRule m) : 1 ≤ m.holeCount := by
  rcases h5 with ⟨_, h⟩ | ⟨h, h'⟩
  · omega
  · omega

theorem five_cards_from_flop {T : List Cat} {cfg : Config} (hc : PokerConfig T cfg) (h5 : FiveCardRule cfg.opts)
    (ops : List Op) {p : Player} (hp : p ∈ ((start cfg).1.run ops).players)
    (hb : 3 ≤ ((start cfg).1.run ops).board.length) {s : List Card}
    (hs : Admissible ((start cfg).1.run ops).board p.hole cfg.opts.required s) : s.length = 5 := by
  have hr : ((start cfg).1.run ops).round ≠ .none := by
    intro h0
    have hb0 : ((start cfg).1.run ops).board.length = 0 := by
      have := (C14.counts (hc.reachC ops)).2.1
      rw [h0] at this
      exact this
    omega
  have hhole := hc.hole_length ops hp hr
  have hreq := hc.req
  rcases h5 with ⟨h0, h2⟩ | ⟨h2, hle⟩
  · rw [Admissible, if_pos h0] at hs
    rw [hs.2]
    omega
  · exact hs.length_eq_five (by omega) (by omega) (by omega)

theorem exists_above_deuce {s : List Card} (hn : s.Nodup) (hs : ∀ x ∈ s, x.suit ∈ suitCodes)
    (hr : ∀ x ∈ s, 2 ≤ x.rank) (h5 : 5 ≤ s.length) : ∃ x ∈ s, 2 < x.rank := by
  apply Classical.byContradiction
  intro hno
  have hall : ∀ x ∈ s, x.rank = 2 := by
    intro x hx
    have := hr x hx
    have : ¬ 2 < x.rank := fun h => hno ⟨x, hx, h⟩
    omega
  have hc := C03.count_rank_le suitCodes s hn hs 2
  have hcnt : (C03.ranks s).count 2 = (C03.ranks s).length := by
    apply List.count_eq_length.mpr
    intro r hr'
    obtain ⟨x, hx, rfl⟩ := List.mem_map.mp hr'
    exact (hall x hx).symm
  have hlen : (C03.ranks s).length = s.length := by simp [C03.ranks]
  rw [hcnt, hlen] at hc
  have : suitCodes.length = 4 := rfl
  omega

/-- every non-empty list of distinct cards of a four-suit deck gets a positive strength -/
theorem score_pos_of_distinct {T : List Cat} (hT : ShippedTable T) (cards : List Card)
    (hne : cards ≠ []) (hn : cards.Nodup) (hs : ∀ c ∈ cards, c.suit ∈ suitCodes) (hr : ∀ c ∈ cards, 2 ≤ c.rank) :
    0 < (calculatePower combinationLevel T cards).score := by
  apply score_pos hT cards hne hr
  by_cases h4 : cards.length ≤ 4
  · exact Or.inl h4
  · exact Or.inr (exists_above_deuce hn hs hr (by omega))

theorem comb_power_pos {T : List Cat} (hT : ShippedTable T) {cfg : Config} (hc : PokerConfig T cfg)
    (h1 : 1 ≤ cfg.opts.holeCount) (ops : List Op) :
    let g := (start cfg).1.run ops
    g.round ≠ .none → ∀ p ∈ g.players, ∃ c, p.comb = some c ∧ 0 < c.power := by
  intro g hr p hp
  obtain ⟨c, hcomb, sel, hadm, _, hperm, _, hpow, _, _⟩ :=
    C10.reported_from_preflop cfg ops hc.req hc.hole (Or.inr hr) p hp
  refine ⟨c, hcomb, ?_⟩
  obtain ⟨hn, hsuit, hrank⟩ := hc.selection ops hp hadm
  have hhole := hc.hole_length ops hp hr
  have hne : sel ≠ [] := hadm.ne_nil (by omega)
  rw [reported_power_eq hperm hpow, hc.lvl, hc.table]
  exact score_pos_of_distinct hT sel hne hn hsuit fun x hx => (hrank x hx).1

/-- the `C02.Seat` record of a player (what `Game.seats` maps over the players) -/
def seatOf (p : Player) : C02.Seat :=
  ⟨p.idx, p.bankroll, p.pot + p.wager, p.fold, ((p.comb.map (·.power)).getD 0 : Nat)⟩

theorem seats_eq (g : Game) : g.seats = g.players.map seatOf := rfl

theorem map_seats {α : Type} (g : Game) (f : C02.Seat → α) : g.seats.map f = g.players.map fun p => f (seatOf p) := by
  rw [seats_eq, List.map_map]
  rfl

theorem mem_seats {g : Game} {p : Player} (hp : p ∈ g.players) : seatOf p ∈ g.seats :=
  List.mem_map_of_mem hp

theorem forall_mem_seats {g : Game} {P : C02.Seat → Prop} : (∀ t ∈ g.seats, P t) ↔ ∀ p ∈ g.players, P (seatOf p) :=
  List.forall_mem_map

theorem exists_mem_seats {g : Game} {P : C02.Seat → Prop} : (∃ t ∈ g.seats, P t) ↔ ∃ p ∈ g.players, P (seatOf p) := by
  constructor
  · rintro ⟨t, ht, h⟩
    obtain ⟨p, hp, rfl⟩ := List.mem_map.mp ht
    exact ⟨p, hp, h⟩
  · rintro ⟨p, hp, h⟩
    exact ⟨seatOf p, mem_seats hp, h⟩

theorem seats_valid_of_pos {g : Game} (h : Reachable g)
    (hpos : ∀ p ∈ g.players, p.fold = false → ∃ c, p.comb = some c ∧ 0 < c.power) : C02.Valid g.seats := by
  have hi := inv_reachable h
  constructor
  · have : g.seats.map (·.idx) = g.players.map (·.idx) := by
      simp [seats_eq, seatOf, List.map_map, Function.comp_def]
    rw [this, map_idx_range hi.struct]
    exact List.nodup_range
  · refine forall_mem_seats.mpr fun p hp => ?_
    have hpi := hi.chips0.pinv p hp
    refine ⟨?_, ?_⟩
    · show 0 ≤ p.pot + p.wager
      have hpot := hpi.pot0
      have hwager := hpi.wager0
      omega
    · intro hf
      obtain ⟨c, hc, hpw⟩ := hpos p hp hf
      show (0 : Int) < ((p.comb.map (·.power)).getD 0 : Nat)
      rw [hc]
      simp only [Option.map_some, Option.getD_some]
      exact Int.natCast_pos.mpr hpw

theorem round_ne_none_of_closed {g : Game} (h : Reachable g) (he : g.event = .gameClosed) : g.round ≠ .none := by
  refine (flow_reachable h).round_ne ?_ ?_
  · rw [he]
    exact nofun
  · rw [he]
    exact nofun

/-! ### the showdown between live hands compares five-card poker hands -/

/-- At a showdown (closed hand, at least two players not folded) of a `PokerConfig` with a
    five-card rule: the board is full (C05), every seat has a published combination whose cards
    are a `C03.Valid` five-card hand, an admissible selection up to order, and whose strength is
    the evaluator's score of exactly those cards. -/
theorem showdown_hand {T : List Cat} {cfg : Config} (hc : PokerConfig T cfg) (h5 : FiveCardRule cfg.opts)
    (ops : List Op) :
    let g := (start cfg).1.run ops
    g.event = .gameClosed → 2 ≤ g.aliveCount →
    g.board.length = 5 ∧
    ∀ p ∈ g.players, ∃ c, p.comb = some c ∧ C03.Valid c.cards ∧
      (∃ sel, Admissible g.board p.hole cfg.opts.required sel ∧ c.cards.Perm sel) ∧
      c.power = (calculatePower combinationLevel T c.cards).score := by
  intro g he h2
  have hR := hc.reachC ops
  have hb : g.board.length = 5 :=
    C05.full_board_at_showdown hR.reachable (cinv_reachable hR).core.long he h2
  refine ⟨hb, ?_⟩
  intro p hp
  have hne : g.board ≠ [] := List.ne_nil_of_length_pos (by omega)
  obtain ⟨c, hcomb, sel, hadm, _, hperm, _, hpow, _, _⟩ :=
    C10.reported_from_preflop cfg ops hc.req hc.hole (Or.inl hne) p hp
  have hlen : sel.length = 5 := five_cards_from_flop hc h5 ops hp (by rw [show ((start cfg).1.run ops).board.length = 5 from hb]; decide) hadm
  have hvc : C03.Valid c.cards := C03.valid_perm hperm.symm (selection_valid hc ops hp hadm hlen)
  rw [hc.lvl, hc.table] at hpow
  exact ⟨c, hcomb, hvc, ⟨sel, hadm, hperm⟩, hpow⟩

/-- the result a closed hand carries is the settlement of its seats (`C01.closed_result_is_settle`, read for a given `r`) -/
theorem result_eq_settle {g : Game} (h : Reachable g) (he : g.event = .gameClosed) {r : Result} (hr : g.result = some r) :
    r = C02.settle g.seats := by
  rw [C01.closed_result_is_settle h he] at hr
  exact (Option.some.inj hr).symm

theorem seatOf_score {p : Player} {c : Comb} (h : p.comb = some c) : (seatOf p).score = (c.power : Int) := by
  simp [seatOf, h]

end Pokerface
