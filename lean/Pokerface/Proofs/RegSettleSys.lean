/-
  C20 at the level of regulator × environment.  A valid elimination-free sync, as the regulator
  sees it (`quiet_sync`); it lowers the lexicographic measure (`quiet_step`) and the potential `phi`
  (`quiet_step_phi`) when it asks for something and raises neither otherwise, hence the two bounds on
  the number of asking syncs of a script (`askCount_le`, `askCount_le_phi`); a sync that asks for
  nothing leaves every answer as it was (`noask_frame`, `noask_script_answers`).

  Unlike C09 and C19, whose synchronous theorems are the asynchronous ones at `ofRSys s` (a sync
  followed at once by its report, Proofs/RegEnv.lean), the bounds of C20 are proved here directly
  on `SInv`, beside their asynchronous counterparts (Proofs/RegAsyncSettle.lean,
  RegAsyncSettlePhi.lean), and cannot be had from them: `phi` is not monotone across the two halves
  of a synchronous step.  After a break the report of the table's players may raise it
  (`C20.potential_rises_at_report`: a sync and its report at once, late cost 6); `quiet_step_phi`
  pays for that with what the break itself freed and never looks at the state in between.  What the
  two developments share is at regulator level (`syncState_phiF`, `releasePlayers_cost`,
  `frame_of_quiet`).
  The no-ask half (`asks_false_iff`, `noask_frame`, `noask_script_answers`, the append laws) also
  stands on both systems, for a plainer reason: each lemma unfolds the `step`, `asks`, `askCount` of
  its own system, which are separate definitions, and is a few lines over what both share
  (`Reg.asked_false_iff`, `Reg.frame_of_quiet`, `frame_answer`, `exists_zero_block`); carrying the
  synchronous one over from `ofRSys s` costs the same unfolding plus the embedding.
-/
import Pokerface.Proofs.RegProps
import Pokerface.Proofs.RegMeasureOps
import Pokerface.Proofs.RegMeasureBound
import Pokerface.Proofs.RegSweepSync
import Pokerface.Proofs.RegFrame

namespace Pokerface
open Reg

/-- a valid script cut into blocks that counts less than it has blocks has a block that counts
    nothing, and that block is a valid script from the state in which it starts; `run`, `cnt`, `ok`:
    any triple with the three append laws (`run`, `askCount` and `allOk…` of either system) -/
theorem exists_zero_block {σ ο : Type} {run : σ → List ο → σ} {cnt : σ → List ο → Nat}
    {ok : σ → List ο → Prop}
    (hrun : ∀ s a b, run s (a ++ b) = run (run s a) b) (hnil : ∀ s, run s [] = s)
    (hcnt : ∀ s a b, cnt s (a ++ b) = cnt s a + cnt (run s a) b)
    (hok : ∀ s a b, ok s (a ++ b) ↔ ok s a ∧ ok (run s a) b) (hoknil : ∀ s, ok s []) :
    ∀ (blocks : List (List ο)) (s : σ), ok s blocks.flatten → cnt s blocks.flatten < blocks.length →
      ∃ pre sw post, blocks = pre ++ sw :: post ∧ cnt (run s pre.flatten) sw = 0 ∧
        ok s pre.flatten ∧ ok (run s pre.flatten) sw := by
  intro blocks
  induction blocks with
  | nil =>
    intro s _ h
    exact absurd h (Nat.not_lt_zero _)
  | cons sw rest ih =>
    intro s hv h
    rw [List.flatten_cons] at hv h
    obtain ⟨hv1, hv2⟩ := (hok s sw rest.flatten).1 hv
    by_cases h0 : cnt s sw = 0
    · refine ⟨[], sw, rest, rfl, ?_, hoknil s, ?_⟩
      · rw [List.flatten_nil, hnil]
        exact h0
      · rw [List.flatten_nil, hnil]
        exact hv1
    · rw [hcnt, List.length_cons] at h
      obtain ⟨pre, x, post, he, hx, hp1, hp2⟩ := ih (run s sw) hv2 (by omega)
      refine ⟨sw :: pre, x, post, by rw [he]; rfl, ?_, ?_, ?_⟩
      · rw [List.flatten_cons, hrun]
        exact hx
      · rw [List.flatten_cons]
        exact (hok s sw pre.flatten).2 ⟨hv1, hp1⟩
      · rw [List.flatten_cons, hrun]
        exact hp2

theorem ASys.AInv.known_table {s : ASys} (h : AInv s) {t : Nat} {ms : List Nat}
    (hm : s.env.membersOf t = some ms) : (∃ t0, s.r.findTable t = some t0) ∧ t < s.r.nextId := by
  cases hf : s.r.findTable t with
  | none =>
    rw [(h.unknown_iff t).2 hf] at hm
    cases hm
  | some t0 =>
    have := h.wf.idlt t0 (findTable_some hf).1
    rw [(findTable_some hf).2] at this
    exact ⟨⟨t0, rfl⟩, this⟩

namespace RSys

theorem quietOp_sync {op : EOp} (h : quietOp op = true) : ∃ t stay rel keep ch, op = .sync t [] stay rel keep ch := by
  cases op with
  | add ps ch => cases h
  | status st ch => cases h
  | sync t elim stay rel keep ch => exact ⟨t, stay, rel, keep, ch, by rw [List.isEmpty_iff.1 h]⟩

theorem asks_false_iff (s : RSys) (t : Nat) (stay rel keep ch : List Nat) :
    s.asks (.sync t [] stay rel keep ch) = false ↔
      ((s.env.membersOf t).isSome = true → answer0 s.r t = (0, [], false)) :=
  asked_false_iff _ s.r t

/-- a valid elimination-free sync from a state satisfying the invariant, as the regulator sees it:
    the case analysis from which the step lemmas of both potentials start.  The model decides by
    `rel.isEmpty ∧ ¬ broken` whether a `ReleasePlayers` follows; here that is read in the
    regulator's own terms, `relc = 0` and the table kept.  Nothing about the environment is needed
    beyond "the table exists". -/
theorem quiet_sync {s : RSys} (h : SInv s) (t : Nat) (stay rel keep ch : List Nat)
    (hok : s.ok (.sync t [] stay rel keep ch)) :
    ((s.step (.sync t [] stay rel keep ch)).r = s.r.beginOp [] ∧
      s.asks (.sync t [] stay rel keep ch) = false) ∨
    ∃ r1 relc nw t0, s.r.findTable t = some t0 ∧ s.r.syncState t 0 = (r1, none, relc, nw) ∧ WF r1 ∧
      (rel.length : Int) = relc ∧
      (s.asks (.sync t [] stay rel keep ch) = true → relc ≠ 0 ∨ nw ≠ [] ∨ r1.findTable t = none) ∧
      ((relc = 0 ∧ r1.findTable t ≠ none ∧ (s.step (.sync t [] stay rel keep ch)).r = r1) ∨
       ((relc ≠ 0 ∨ r1.findTable t = none) ∧
        (s.step (.sync t [] stay rel keep ch)).r = r1.releasePlayers rel ch ∧
        (r1.releasePlayers rel ch).badChoice = false)) := by
  cases hm : s.env.membersOf t with
  | none =>
    left
    rw [h.toSInv0.step_sync_unknown t [] stay rel keep ch hm]
    exact ⟨rfl, (asks_false_iff s t stay rel keep ch).2 fun hs => by rw [hm] at hs; cases hs⟩
  | some ms =>
    right
    obtain ⟨_, _, hrl, _, hrelbad⟩ := (ok_sync_known hm [] stay rel keep ch).1 hok
    obtain ⟨⟨t0, hft⟩, _⟩ := h.toSInv0.async.known_table hm
    obtain ⟨r1, relc, nw, hss, _⟩ := syncState_zero_cases s.r t t0 hft
    have hans : s.syncAnswer t [] = (r1, none, relc, nw) := hss
    have hwf1 : WF r1 := by
      have := (syncState_specF s.r t 0 t0 h.rinv.wf h.rinv.q (by simpa using h.rinv.pc_nonneg) hft (Int.le_refl 0)
        (h.rinv.wf.bnd t0 (findTable_some hft).1).1).1
      rwa [hss] at this
    rw [hans] at hrl hrelbad
    simp only at hrl hrelbad
    have hbrk : s.broken t [] = (r1.findTable t).isNone := by simp only [broken, hans]
    refine ⟨r1, relc, nw, t0, hft, hss, hwf1, hrl, fun ha => asked_cases hss fun hq => ?_, ?_⟩
    · rw [(asks_false_iff s t stay rel keep ch).2 fun _ => hq] at ha
      cases ha
    · by_cases hc : rel.isEmpty = true ∧ s.broken t [] = false
      · left
        have hrel : rel = [] := by simpa using hc.1
        refine ⟨by rw [← hrl, hrel]; rfl, ?_, by rw [step_sync_known hm, if_pos hc, hans]⟩
        intro hn
        have := hc.2
        rw [hbrk, hn] at this
        cases this
      · right
        refine ⟨?_, ?_, (hrelbad.resolve_left hc)⟩
        · by_cases h0 : relc = 0
          · right
            cases hfd : r1.findTable t with
            | none => rfl
            | some x =>
              exfalso
              apply hc
              rw [hbrk, hfd]
              have : rel.length = 0 := by omega
              exact ⟨by simp [List.length_eq_zero_iff.1 this], rfl⟩
          · exact Or.inl h0
        · rw [step_sync_known hm, if_neg hc, hans]

theorem quiet_step {s : RSys} (h : SInv s) (t : Nat) (stay rel keep ch : List Nat)
    (hok : s.ok (.sync t [] stay rel keep ch)) :
    MLe (s.step (.sync t [] stay rel keep ch)).r s.r ∧
    (s.asks (.sync t [] stay rel keep ch) = true → MLt (s.step (.sync t [] stay rel keep ch)).r s.r) ∧
    SameNeeds s.r (s.step (.sync t [] stay rel keep ch)).r ∧
    ((s.step (.sync t [] stay rel keep ch)).r.tableCount ≤ s.r.tableCount ∨
      (s.step (.sync t [] stay rel keep ch)).r.tableCount ≤ s.r.requiredTables) := by
  rcases quiet_sync h t stay rel keep ch hok with ⟨hstep, hna⟩ | ⟨r1, relc, nw, t0, hft, hss, hwf1, _, hask, hend⟩
  · rw [hstep, hna]
    exact ⟨MLe_of_congr rfl rfl ⟨rfl, rfl⟩, fun ha => Bool.noConfusion ha, ⟨rfl, rfl⟩, Or.inl (Int.le_refl _)⟩
  · obtain ⟨m1, m2⟩ := syncState_zero_meas s.r t t0 h.rinv.wf h.rinv.cnt hft
    obtain ⟨n1, n2⟩ := syncState_zero_tc s.r t
    rw [hss] at m1 m2 n1 n2
    simp only at m1 m2 n1 n2
    have hle : r1.tableCount ≤ s.r.tableCount := by
      rcases n2 with n2 | ⟨n2, _⟩
      · omega
      · omega
    rcases hend with ⟨_, _, hstep⟩ | ⟨_, hstep, hbad⟩
    · rw [hstep]
      exact ⟨m1, fun ha => m2 (hask ha), n1, Or.inl hle⟩
    · rw [hstep]
      have m3 := releasePlayers_meas r1 rel ch hwf1 hbad
      obtain ⟨k1, k2, k3⟩ := releasePlayers_tc r1 rel ch (by rw [n1.max]; exact h.rinv.wf.maxpos)
      refine ⟨MLe_trans m3 m1, fun ha => MLt_of_le_lt m3 (m2 (hask ha)), n1.trans k1, ?_⟩
      rcases k3 with k3 | k3
      · exact Or.inl (by omega)
      · exact Or.inr (by rw [n1.req] at k3; exact k3)

theorem askCount_le (mx Tmax : Nat) : ∀ (ops : List EOp) (s : RSys), SInv s → s.r.max = mx →
    s.r.tableCount ≤ Tmax → s.r.requiredTables ≤ Tmax →
    (∀ op ∈ ops, quietOp op = true) → s.allOk ops →
    s.askCount ops ≤ pot (Tmax * mx + Tmax + 1) s.r := by
  intro ops
  induction ops with
  | nil =>
    intro s _ _ _ _ _ _
    exact Nat.zero_le _
  | cons op ops ih =>
    intro s h hmx hT hR hq hok
    obtain ⟨t, stay, rel, keep, ch, rfl⟩ := quietOp_sync (hq op (List.mem_cons_self ..))
    obtain ⟨q1, q2, q3, q4⟩ := quiet_step h t stay rel keep ch hok.1
    have hS' := (h.step_full _ hok.1).1
    have hmx' : (s.step (.sync t [] stay rel keep ch)).r.max = mx := by rw [q3.max, hmx]
    have hR' : (s.step (.sync t [] stay rel keep ch)).r.requiredTables ≤ Tmax := by
      rw [q3.req]
      exact hR
    have hT' : (s.step (.sync t [] stay rel keep ch)).r.tableCount ≤ Tmax := by
      rcases q4 with q4 | q4 <;> omega
    have hrec := ih (s.step (.sync t [] stay rel keep ch)) hS' hmx' hT' hR'
      (fun op hop => hq op (List.mem_cons_of_mem _ hop)) hok.2
    have hlen : (s.step (.sync t [] stay rel keep ch)).r.tables.length ≤ Tmax := by
      have := hS'.rinv.wf.tc
      omega
    have hbel := muv_below _ hS'.rinv.wf hS'.rinv.pc_nonneg Tmax hlen
    rw [hmx'] at hbel
    simp only [askCount]
    by_cases ha : s.asks (.sync t [] stay rel keep ch) = true
    · have := pot_lt hbel (q2 ha)
      rw [if_pos ha]
      omega
    · have := pot_le hbel q1
      rw [if_neg ha]
      omega

theorem quiet_step_phi {s : RSys} (h : SInv s)
    (t : Nat) (stay rel keep ch : List Nat) (hok : s.ok (.sync t [] stay rel keep ch)) :
    phi (s.step (.sync t [] stay rel keep ch)).r ≤ phi s.r ∧
    (s.asks (.sync t [] stay rel keep ch) = true → phi (s.step (.sync t [] stay rel keep ch)).r + 1 ≤ phi s.r) := by
  rcases quiet_sync h t stay rel keep ch hok with ⟨hstep, hna⟩ | ⟨r1, relc, nw, t0, hft, hss, hwf1, hrl, hask, hend⟩
  · rw [hstep, hna, (beginOp_sheet s.r []).phi rfl]
    exact ⟨Nat.le_refl _, fun ha => Bool.noConfusion ha⟩
  · have hphi := syncState_phiF s.r t t0 0 h.rinv.wf h.rinv.q (by simpa using h.rinv.cnt) hft
    obtain ⟨n1, _⟩ := syncState_zero_tc s.r t
    rw [hss] at hphi n1
    simp only at hphi n1
    have hpc1 : 0 ≤ r1.playerCount := n1.pc ▸ h.rinv.pc_nonneg
    rcases hend with ⟨hrel0, hfind, hstep⟩ | ⟨hmoves, hstep, hbad⟩
    · rw [hstep]
      rcases hphi with ⟨_, _, a3, a4⟩ | ⟨b1, _⟩ | ⟨_, c2, _⟩
      · refine ⟨a3, fun ha => ?_⟩
        rcases hask ha with h1 | h1 | h1
        · exact absurd hrel0 h1
        · exact a4 h1
        · exact absurd h1 hfind
      · exact absurd b1 hfind
      · omega
    · rw [hstep]
      rcases hphi with ⟨a1, a2, _, _⟩ | ⟨_, _, b3, b4⟩ | ⟨_, c2, _, c4, c5, c6, c7, c8⟩
      · -- nobody released and no break: no `ReleasePlayers` follows
        rcases hmoves with h1 | h1
        · exact absurd a1 h1
        · exact absurd h1 a2
      · -- break: the two units of `psi` it freed beyond the calm-bonus pay for whatever the
        -- `ReleasePlayers` of its players does
        have hrel := releasePlayers_pot r1 rel ch hwf1 hpc1 hbad
        have : phi (r1.releasePlayers rel ch) + 1 ≤ phi s.r := phi_add_le (c := 1) (by omega)
        exact ⟨by omega, fun _ => this⟩
      · have hrn : relc.toNat = rel.length := by omega
        -- `G` has fallen by the number released; their `ReleasePlayers` costs nothing: in a calm
        -- state they fit into the outstanding `Required`s
        have hrel := releasePlayers_cost r1 rel ch hwf1 hpc1 hbad
        rw [if_neg fun hov => by have := c8 (c7.1 hov.1); omega] at hrel
        have : phi (r1.releasePlayers rel ch) + 1 ≤ phi s.r := phi_add_le (c := 1) (by omega)
        exact ⟨by omega, fun _ => this⟩

theorem askCount_le_phi : ∀ (ops : List EOp) (s : RSys), SInv s →
    (∀ op ∈ ops, quietOp op = true) → s.allOk ops → s.askCount ops ≤ phi s.r := by
  intro ops
  induction ops with
  | nil =>
    intro s _ _ _
    exact Nat.zero_le _
  | cons op ops ih =>
    intro s h hq hok
    obtain ⟨t, stay, rel, keep, ch, rfl⟩ := quietOp_sync (hq op (List.mem_cons_self ..))
    obtain ⟨q1, q2⟩ := quiet_step_phi h t stay rel keep ch hok.1
    have hrec := ih (s.step (.sync t [] stay rel keep ch)) (h.step_full _ hok.1).1
      (fun op hop => hq op (List.mem_cons_of_mem _ hop)) hok.2
    simp only [askCount]
    by_cases ha : s.asks (.sync t [] stay rel keep ch) = true
    · have := q2 ha
      rw [if_pos ha]
      omega
    · rw [if_neg ha]
      omega

theorem noask_frame {s : RSys} (h : SInv s) (t : Nat) (stay rel keep ch : List Nat)
    (hok : s.ok (.sync t [] stay rel keep ch)) (hna : s.asks (.sync t [] stay rel keep ch) = false) :
    Frame s.r (s.step (.sync t [] stay rel keep ch)).r ∧
    (s.step (.sync t [] stay rel keep ch)).env.members.map (·.1) = s.env.members.map (·.1) := by
  cases hm : s.env.membersOf t with
  | none =>
    rw [h.toSInv0.step_sync_unknown t [] stay rel keep ch hm]
    exact ⟨⟨rfl, rfl, rfl, rfl, rfl, rfl⟩, rfl⟩
  | some ms =>
    have hq := (asks_false_iff s t stay rel keep ch).1 hna (by rw [hm]; rfl)
    have hb : s.broken t [] = false := congrArg (·.2.2) hq
    have hrl := ((ok_sync_known hm [] stay rel keep ch).1 hok).2.2.1
    have hrel : rel = [] := by
      have h0 : (s.syncAnswer t []).2.2.1 = 0 := congrArg (·.1) hq
      exact List.length_eq_zero_iff.1 (by omega)
    rw [step_sync_known hm, if_pos ⟨by rw [hrel]; rfl, hb⟩, hb]
    exact ⟨frame_of_quiet s.r t hq, setMembers_fst t keep s.env.members⟩

theorem noask_script_answers : ∀ (ops : List EOp) (s : RSys), SInv s →
    (∀ op ∈ ops, quietOp op = true) → s.allOk ops → s.askCount ops = 0 →
    ∀ t, (∃ stay rel keep ch, EOp.sync t [] stay rel keep ch ∈ ops) → (s.env.membersOf t).isSome = true →
    answer0 s.r t = (0, [], false) := by
  intro ops
  induction ops with
  | nil =>
    intro s _ _ _ _ t ⟨_, _, _, _, hm⟩ _
    cases hm
  | cons op ops ih =>
    intro s h hq hok h0 t ⟨stay, rel, keep, ch, hmem⟩ hs
    obtain ⟨t', stay', rel', keep', ch', rfl⟩ := quietOp_sync (hq op (List.mem_cons_self ..))
    simp only [askCount] at h0
    have hna : s.asks (.sync t' [] stay' rel' keep' ch') = false := by
      cases ha : s.asks (.sync t' [] stay' rel' keep' ch') with
      | false => rfl
      | true =>
        rw [ha] at h0
        simp at h0
    have hrest : (s.step (.sync t' [] stay' rel' keep' ch')).askCount ops = 0 := by
      rw [hna] at h0
      simpa using h0
    obtain ⟨hfr, hids⟩ := noask_frame h t' stay' rel' keep' ch' hok.1 hna
    rcases List.mem_cons.1 hmem with heq | hin
    · injection heq with e1 e2 e3 e4 e5 e6
      subst e1
      exact (asks_false_iff s t stay' rel' keep' ch').1 hna hs
    · have hS' := (h.step_full _ hok.1).1
      have hs' : ((s.step (.sync t' [] stay' rel' keep' ch')).env.membersOf t).isSome = true := by
        rw [Env.membersOf_isSome_iff, hids, ← Env.membersOf_isSome_iff]
        exact hs
      have := ih _ hS' (fun op hop => hq op (List.mem_cons_of_mem _ hop)) hok.2 hrest t
        ⟨stay, rel, keep, ch, hin⟩ hs'
      rw [← frame_answer hfr t]
      exact this

theorem run_append (s : RSys) (a b : List EOp) : s.run (a ++ b) = (s.run a).run b := by
  simp [RSys.run, List.foldl_append]

theorem askCount_append (s : RSys) (a b : List EOp) :
    s.askCount (a ++ b) = s.askCount a + (s.run a).askCount b := by
  induction a generalizing s with
  | nil => simp [askCount, run]
  | cons op a ih =>
    simp only [List.cons_append, askCount, run, List.foldl_cons]
    rw [ih (s.step op)]
    simp only [run]
    omega

theorem allOk_append (s : RSys) (a b : List EOp) : s.allOk (a ++ b) ↔ s.allOk a ∧ (s.run a).allOk b := by
  induction a generalizing s with
  | nil => simp [allOk, run]
  | cons op a ih =>
    simp only [List.cons_append, allOk, run, List.foldl_cons]
    rw [ih (s.step op)]
    simp only [run, and_assoc]

end RSys
end Pokerface
