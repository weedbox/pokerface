import Pokerface.Proofs.SMNext
import Pokerface.Proofs.SMButton
import Pokerface.Generated.LogicSM2
import Pokerface.Proofs.GeneratedLogicLoops
import Pokerface.Proofs.Clockwise
/-
  K1, translated logic (seat manager, the core): seat_manager/seat_manager.go `nextDealer`, `renewSeatStatus`,
  `findActivePlayer`, `getNormalizeSeats`, `getPlayableSeat`, the counters, `getAvailableSeats`, `getSeat`, `resetSeat` / `Reset`,
  `ApplyStates`, the position getters and the locked wrappers of the queries (Generated/LogicSM2.lean), against
  Model/SeatManager.lean.

  Reading (harness/cmd/genlogic/sm2.go): a seat pointer is a seat id (`S := Nat`), a nil pointer `none`, the seat map the model
  state (`ST := SM`); a loop of the Go code is the fold (`loopAll`, `loopBreak`, `findLoop`, `normLoop` below) of its translated
  iteration over the seats it ranges over; the three flags an iteration reads of seat `i` are `sActive`, `sReserved`,
  `sHasPlayer` (a seat id outside the seat list — never the case in the Go code, where the seats are the values of the map — reads
  as an inactive free seat, as the model's `playable` does).  A panic of a slice expression is `none`.
  Conventions: header of Proofs/GeneratedLogicBase.lean.
-/
namespace Pokerface.GeneratedLogic
open Pokerface Generated.Logic

/-- `s.IsActive` of seat `i` -/
def sActive (st : SM) (i : Nat) : Bool := (st.seats[i]?.map (·.active)).getD false
/-- `s.IsReserved` of seat `i` -/
def sReserved (st : SM) (i : Nat) : Bool := (st.seats[i]?.map (·.reserved)).getD false
/-- `s.Player != nil` of seat `i` -/
def sHasPlayer (st : SM) (i : Nat) : Bool := (st.seats[i]?.bind (·.player)).isSome

theorem playable_flags (st : SM) (i : Nat) :
    st.playable i = (sActive st i && !sReserved st i && sHasPlayer st i) := by
  unfold SM.playable sActive sReserved sHasPlayer
  cases st.seats[i]? with
  | none => rfl
  | some s => simp

/-- a loop `for _, s := range ids { s.IsActive = step(s) }` that runs to the end -/
def loopAll (step : Bool → Bool → Bool → Bool) (st : SM) (ids : List Nat) : SM :=
  st.modAll ids fun s => { s with active := step s.active s.reserved s.player.isSome }

/-- a loop `for _, s := range ids { … }` whose iteration says whether the loop goes on (`break`): the flag `IsActive` the
    iteration leaves is written in either case -/
def loopBreak (step : Nat → Bool → Bool → Bool → Bool × Bool) : List Nat → SM → SM
  | [], st => st
  | i :: is, st =>
    let st' := st.modSeat i fun s => { s with active := (step i s.active s.reserved s.player.isSome).2 }
    if (step i (sActive st i) (sReserved st i) (sHasPlayer st i)).1 then loopBreak step is st' else st'

theorem modSeat_self (st : SM) (i : Nat) : st.modSeat i (fun s => s) = st := by
  cases st with
  | mk max seats dealer sb bb =>
    simp only [SM.modSeat]
    congr 1
    apply List.ext_getElem?
    intro j
    rw [List.getElem?_modify]
    split <;> simp

theorem loopBreak_takeWhile (step : Nat → Bool → Bool → Bool → Bool × Bool) (p : Nat → Bool) (f : Seat → Seat)
    (hgo : ∀ i a r h, (step i a r h).1 = p i)
    (hon : ∀ i (s : Seat), p i = true → { s with active := (step i s.active s.reserved s.player.isSome).2 } = f s)
    (hoff : ∀ i a r h, p i = false → (step i a r h).2 = a)
    (ids : List Nat) (st : SM) :
    loopBreak step ids st = st.modAll (ids.takeWhile p) f := by
  induction ids generalizing st with
  | nil => rfl
  | cons i is ih =>
    unfold loopBreak
    simp only [hgo]
    by_cases hp : p i = true
    · have hf : (fun s : Seat => { s with active := (step i s.active s.reserved s.player.isSome).2 }) = f := by
        funext s
        exact hon i s hp
      simp only [hp, if_true, List.takeWhile_cons_of_pos, SM.modAll_cons, hf, ih]
    · have hp' : p i = false := by simpa using hp
      have hf : (fun s : Seat => { s with active := (step i s.active s.reserved s.player.isSome).2 }) = fun s => s := by
        funext s
        rw [hoff i _ _ _ hp']
      simp [hp', hf, modSeat_self]

theorem sliceFrom_one {α : Type} (l : List α) : sm2SliceFrom l 1 = if l.isEmpty then none else some (l.drop 1) := by
  unfold sm2SliceFrom
  cases l with
  | nil => simp
  | cons a l =>
    simp
    omega

theorem sliceFrom_nat {α : Type} (l : List α) (k : Nat) (h : k ≤ l.length) : sm2SliceFrom l (k : Int) = some (l.drop k) := by
  unfold sm2SliceFrom
  have : ¬ ((k : Int) < 0 ∨ (k : Int) > (l.length : Int)) := by omega
  rw [if_neg this]
  simp

theorem sliceFrom_neg {α : Type} (l : List α) : sm2SliceFrom l (-1) = none := by
  unfold sm2SliceFrom
  simp

@[simp] theorem orPanic_none {α β : Type} (p : β) (k : α → β) : sm2OrPanic none p k = p := rfl
@[simp] theorem orPanic_some {α β : Type} (x : α) (p : β) (k : α → β) : sm2OrPanic (some x) p k = k x := rfl

/-- seat_manager.go `getSeat`: the seat of the map, nil when there is none -/
theorem sm2SeatLookup_eq (sm : SM) (i : Nat) :
    sm2SeatLookup (sm.seats[i]?).isSome i = if i < sm.seats.length then some i else none := by
  unfold sm2SeatLookup
  by_cases h : i < sm.seats.length
  · simp [h]
  · simp [h]

/-- seat_manager.go `Dealer`, `SmallBlind`, `BigBlind`: each returns its own pointer -/
theorem sm2Getters_eq (sm : SM) :
    sm2Dealer sm.dealer sm.sb sm.bb = sm.dealer ∧ sm2SmallBlind sm.dealer sm.sb sm.bb = sm.sb ∧
      sm2BigBlind sm.dealer sm.sb sm.bb = sm.bb := ⟨rfl, rfl, rfl⟩

/-- seat_manager.go, the queries under the read lock: each is answered by the internal function of the same name -/
theorem sm2Queries_eq :
    sm2QGetSeat = ["sm.getSeat(id)"] ∧ sm2QGetNormalizeSeats = ["sm.getNormalizeSeats(startID)"] ∧
    sm2QGetAvailableSeats = ["sm.getAvailableSeats()"] ∧ sm2QGetAvailableSeatCount = ["sm.getAvailableSeatCount()"] ∧
    sm2QGetPlayableSeats = ["sm.getPlayableSeats()"] ∧ sm2QGetPlayableSeatCount = ["sm.getPlayableSeatCount()"] ∧
    sm2QGetPlayerCount = ["sm.getPlayerCount()"] :=
  ⟨rfl, rfl, rfl, rfl, rfl, rfl, rfl⟩

/-- seat_manager.go `getPlayableSeatCount`: the translated iteration over the seats 0 … max-1 -/
theorem sm2PlayableCount_eq (sm : SM) :
    (sm.playableCount : Int) =
      (List.range sm.max).foldl (fun c i => sm2PlayableCountStep (sActive sm i) (sReserved sm i) (sHasPlayer sm i) c) 0 := by
  simp only [sm2PlayableCountStep, ← playable_flags, foldl_count, SM.playableCount]
  simp

/-- seat_manager.go `getNonEmptySeatCount`: the translated iteration over the seats -/
theorem sm2NonEmptyCount_eq (sm : SM) :
    (sm.nonEmptyCount : Int) =
      sm.seats.foldl (fun c s => sm2NonEmptyCountStep s.active s.reserved s.player.isSome c) 0 := by
  simp only [sm2NonEmptyCountStep, foldl_count, SM.nonEmptyCount]
  simp

/-- seat_manager.go `getPlayerCount`: the translated iteration over the seats -/
theorem sm2PlayerCount_eq (sm : SM) :
    (sm.playerCount : Int) =
      sm.seats.foldl (fun c s => sm2PlayerCountStep s.active s.reserved s.player.isSome c) 0 := by
  simp only [sm2PlayerCountStep, foldl_count, SM.playerCount]
  simp

/-- the Go loops run over the indices 0 … max-1; on a well-formed state that is the iteration over the seat list -/
theorem range_fold_eq_seats_fold {β : Type} (sm : SM) (hw : sm.WF) (f : Bool → Bool → Bool → β → β) (c : β) :
    (List.range sm.max).foldl (fun c i => f (sActive sm i) (sReserved sm i) (sHasPlayer sm i) c) c =
      sm.seats.foldl (fun c s => f s.active s.reserved s.player.isSome c) c := by
  have h1 : (List.range sm.max).foldl (fun c i => f (sActive sm i) (sReserved sm i) (sHasPlayer sm i) c) c =
      ((List.range sm.max).map (fun i => sm.seats[i]?)).foldl (fun c o =>
        f ((o.map (·.active)).getD false) ((o.map (·.reserved)).getD false) ((o.bind (·.player)).isSome) c) c := by
    rw [List.foldl_map]
    rfl
  rw [h1, ← hw, range_map_getElem?, List.foldl_map]
  rfl

/-- seat_manager.go `getPlayableSeat`: the first seat at which the translated iteration returns -/
theorem sm2PlayableSeat_eq (sm : SM) :
    sm.firstPlayable =
      (List.range sm.max).findSome? (fun i => sm2PlayableSeatStep i (sActive sm i) (sReserved sm i) (sHasPlayer sm i)) := by
  simp only [sm2PlayableSeatStep, ← playable_flags, SM.firstPlayable, List.find?_eq_findSome?_guard]
  rfl

/-- `free` of the model's `availableSeats` -/
def sFree (sm : SM) (i : Nat) : Bool :=
  match sm.seats[i]? with
  | some s => !s.reserved && s.player.isNone
  | none => false

theorem foldl_available (sm : SM) (l : List Nat) (a b : List Nat) :
    l.foldl (fun acc i => match sm.seats[i]? with
        | some s => sm2AvailableSeatsStep i s.active s.reserved s.player.isSome acc.1 acc.2
        | none => acc) (a, b) =
      (a ++ (l.filter (sFree sm)).filter (fun i => sActive sm i), b ++ (l.filter (sFree sm)).filter (fun i => !sActive sm i)) := by
  induction l generalizing a b with
  | nil => simp
  | cons i l ih =>
    rw [List.foldl_cons]
    have hstep : (match sm.seats[i]? with
        | some s => sm2AvailableSeatsStep i s.active s.reserved s.player.isSome a b
        | none => (a, b)) =
        if sFree sm i then (if sActive sm i then (a ++ [i], b) else (a, b ++ [i])) else (a, b) := by
      unfold sm2AvailableSeatsStep sFree sActive
      cases sm.seats[i]? with
      | none => simp
      | some s =>
        rcases s with ⟨pl, ac, re⟩
        cases pl <;> cases ac <;> cases re <;> simp
    simp only [hstep]
    cases hf : sFree sm i <;> cases ha : sActive sm i <;> simp [hf, ha, ih]

/-- seat_manager.go `getAvailableSeats`: the translated iteration over the seats of the map (the Go code ranges over the map:
    the model lists the seats in ascending order, DESIGN §4) -/
theorem sm2AvailableSeats_eq (sm : SM) :
    sm.availableSeats =
      (List.range sm.max).foldl (fun acc i => match sm.seats[i]? with
        | some s => sm2AvailableSeatsStep i s.active s.reserved s.player.isSome acc.1 acc.2
        | none => acc) ([], []) := by
  rw [foldl_available]
  unfold SM.availableSeats
  simp only [List.nil_append]
  rfl

/-- seat_manager.go `getAvailableSeatCount`: the number of active free seats -/
theorem sm2AvailableCount_eq (sm : SM) :
    (sm.availableSeats.1.length : Int) =
      (List.range sm.max).foldl (fun c i => sm2AvailableCountStep (sActive sm i) (sReserved sm i) (sHasPlayer sm i) c) 0 := by
  have h : ∀ (c : Int) (i : Nat), sm2AvailableCountStep (sActive sm i) (sReserved sm i) (sHasPlayer sm i) c =
      if (sFree sm i && sActive sm i) then c + 1 else c := by
    intro c i
    unfold sm2AvailableCountStep sFree sActive sReserved sHasPlayer
    cases sm.seats[i]? with
    | none => simp
    | some s =>
      rcases s with ⟨pl, ac, re⟩
      cases pl <;> cases ac <;> cases re <;> simp
  simp only [h, foldl_count]
  unfold SM.availableSeats
  simp only [List.filter_filter]
  simp only [sFree, sActive, Bool.and_comm, Int.zero_add]
  congr 2

/-- the loop of `findActivePlayer`: the first iteration that returns -/
def findLoop (st : SM) : List Nat → Nat → Option (Option Nat × Int)
  | [], _ => none
  | i :: is, k =>
    match sm2FindActiveStep i (k : Int) (sActive st i) (sReserved st i) (sHasPlayer st i) with
    | some r => some r
    | none => findLoop st is (k + 1)

/-- `findActivePlayer` as translated: the function around the loop, applied to the loop -/
def findActiveT (st : SM) (ids : List Nat) : Option Nat × Int := sm2FindActive (findLoop st ids 0)

theorem findStep_closed (st : SM) (i : Nat) (k : Int) :
    sm2FindActiveStep i k (sActive st i) (sReserved st i) (sHasPlayer st i) =
      if st.playable i then some (some i, k) else none := by
  rw [playable_flags]
  unfold sm2FindActiveStep
  cases sActive st i <;> cases sReserved st i <;> cases sHasPlayer st i <;> rfl

theorem findLoop_eq (st : SM) (ids : List Nat) (k : Nat) :
    findLoop st ids k = (SM.findActive.go st ids k).map (fun p => (some p.1, (p.2 : Int))) := by
  induction ids generalizing k with
  | nil => rfl
  | cons i is ih =>
    unfold findLoop SM.findActive.go
    rw [findStep_closed]
    by_cases h : st.playable i = true <;> simp [h, ih]

/-- seat_manager.go `findActivePlayer`: the first playable seat of the list and its position; `(nil, -1)` when there is none -/
theorem sm2FindActive_eq (st : SM) (ids : List Nat) :
    findActiveT st ids = match st.findActive ids with
      | some (d, k) => (some d, (k : Int))
      | none => (none, -1) := by
  unfold findActiveT sm2FindActive SM.findActive
  rw [findLoop_eq]
  cases SM.findActive.go st ids 0 with
  | none => rfl
  | some p => rfl

/-- the loop of `getNormalizeSeats`, `n` iterations from the seat id `cur` (the map has the keys 0 … len-1) -/
def normLoop (st : SM) : Nat → Int → List Nat → List Nat
  | 0, _, seats => seats
  | n + 1, cur, seats =>
    let r := sm2NormalizeStep (fun c => decide (0 ≤ c ∧ c.toNat < st.seats.length)) Int.toNat (st.max : Int) cur seats
    normLoop st n r.2 r.1

/-- `getNormalizeSeats` as translated -/
def normalizeT (st : SM) (start : Int) : List Nat := sm2Normalize (normLoop st st.max) start

theorem normLoop_eq (st : SM) (hw : st.WF) (n cur : Nat) (hc : cur < st.max) (seats : List Nat) :
    normLoop st n (cur : Int) seats = seats ++ (List.range n).map (fun k => (cur + k) % st.max) := by
  induction n generalizing cur seats with
  | zero => simp [normLoop]
  | succ n ih =>
    have hlt : cur < st.seats.length := by
      rw [hw]
      exact hc
    -- one iteration: the seat is appended and `cur` moves one seat clockwise
    have hstep : sm2NormalizeStep (fun c => decide (0 ≤ c ∧ c.toNat < st.seats.length)) Int.toNat (st.max : Int) (cur : Int) seats =
        (seats ++ [cur], ((cwNext st.max cur : Nat) : Int)) := by
      unfold sm2NormalizeStep
      simp [hlt, cwNext_cast, apply_ite (Prod.mk (seats ++ [cur]))]
    rw [normLoop, hstep, ih _ (cwNext_lt (by omega) hc), List.range_succ_eq_map, List.map_cons, List.map_map, List.append_assoc]
    simp only [List.singleton_append, Nat.add_zero, Nat.mod_eq_of_lt hc]
    congr 2
    apply List.map_congr_left
    intro k _
    exact cwNext_add_mod hc k

/-- seat_manager.go `getNormalizeSeats` on a well-formed state, from a seat of the table: the seat ids in table order -/
theorem sm2Normalize_eq (st : SM) (hw : st.WF) (start : Nat) (h : start < st.max) :
    normalizeT st (start : Int) = st.normalize start := by
  unfold normalizeT sm2Normalize
  simp only [normLoop_eq st hw _ _ h, List.nil_append]
  rfl

/-- seat_manager.go `nextDealer` as translated: the state-reading calls are the model's functions (each tied to its own
    translation above), the three loops the folds of their translated iterations; result: (seats, `sm.dealer`, returned pointer) -/
def nextDealerT (sm : SM) : Option (SM × Option Nat × Option Nat) :=
  sm2NextDealer (fun st => (st.playableCount : Int)) (fun st => (st.nonEmptyCount : Int)) (fun st => (st.playerCount : Int))
    (fun st => (st.availableSeats.1.length : Int)) SM.firstPlayable
    (fun st k => st.normalize k.toNat) (fun o => ((o.getD 0 : Nat) : Int)) findActiveT
    (loopAll sm2NextDealerOccStep)
    (fun st ids dealer smDealer => loopBreak (fun i => sm2NextDealerPassStep i dealer smDealer) ids st)
    (loopAll sm2NextDealerAllStep) sm sm.dealer

theorem loopOcc_eq (st : SM) (ids : List Nat) : loopAll sm2NextDealerOccStep st ids = st.modAll ids SM.actvOcc := by
  unfold loopAll
  congr 1
  funext s
  rcases s with ⟨pl, ac, re⟩
  cases pl <;> cases ac <;> cases re <;> rfl

theorem loopAllAct_eq (st : SM) (ids : List Nat) : loopAll sm2NextDealerAllStep st ids = st.modAll ids SM.actv := rfl

theorem loopPass_eq (st : SM) (ids : List Nat) (d : Nat) (smDealer : Option Nat) :
    loopBreak (fun i => sm2NextDealerPassStep i (some d) smDealer) ids st = st.modAll (ids.takeWhile (· != d)) SM.actv := by
  apply loopBreak_takeWhile
  · intro i a r h
    unfold sm2NextDealerPassStep
    by_cases hid : i = d <;> simp [hid]
  · intro i s hp
    unfold sm2NextDealerPassStep
    have : ¬ i = d := by simpa using hp
    simp [this, SM.actv]
  · intro i a r h hp
    unfold sm2NextDealerPassStep
    have : i = d := by simpa using hp
    simp [this]

theorem takeWhile_of_findActive {sm : SM} {ids : List Nat} {d k : Nat} (h : sm.findActive ids = some (d, k)) :
    ids.takeWhile (· != d) = ids.take k := by
  obtain ⟨hget, hp, hall⟩ := (SM.findActive_some sm ids d k).mp h
  clear h
  induction ids generalizing k with
  | nil => simp
  | cons a l ih =>
    cases k with
    | zero =>
      simp at hget
      subst hget
      simp
    | succ k =>
      have hne : a ≠ d := by
        intro had
        subst had
        have := hall 0 (by omega) a (by simp)
        simp [hp] at this
      simp only [List.takeWhile_cons, List.take_succ_cons]
      have : (a != d) = true := by simpa using hne
      simp only [this, if_true]
      congr 1
      apply ih (by simpa using hget)
      intro j hj x hx
      exact hall (j + 1) (by omega) x (by simpa using hx)

theorem setDealer_back (X : SM) (d d0 : Option Nat) (h : X.dealer = d0) :
    ({ ({ X with dealer := d } : SM) with dealer := d0 } : SM) = X := by
  cases X
  simp at h
  subst h
  rfl

theorem firstPlayable_of_count_one (sm : SM) (h : sm.playableCount = 1) : ∃ d, sm.firstPlayable = some d := by
  unfold SM.playableCount at h
  unfold SM.firstPlayable
  cases hf : (List.range sm.max).find? sm.playable with
  | some d => exact ⟨d, rfl⟩
  | none =>
    rw [List.find?_eq_none] at hf
    have : (List.range sm.max).filter sm.playable = [] := by
      rw [List.filter_eq_nil_iff]
      exact hf
    rw [this] at h
    simp at h

theorem normalize_isEmpty (sm : SM) (d : Nat) : (sm.normalize d).isEmpty = decide (sm.max = 0) := by
  rw [← SM.normalize_length sm d]
  cases sm.normalize d <;> simp

/-- what the scan of `nextDealer` over `ids` leaves: the seats before the first playable one are activated and it gets the
    button; with none, every seat of `ids` is activated and the search is made again -/
def scanResult (sm : SM) (ids : List Nat) : SM × Option Nat × Option Nat :=
  match sm.findActive ids with
  | some (d, k) => (sm.modAll (ids.take k) SM.actv, some d, some d)
  | none =>
    match (sm.modAll ids SM.actv).findActive ids with
    | some (d, _) => (sm.modAll ids SM.actv, some d, some d)
    | none => (sm.modAll ids SM.actv, none, none)

/-- the part of `nextDealer` after the scan list is chosen -/
theorem nextDealer_scan (sm : SM) (ids : List Nat) (smDealer : Option Nat) :
    (if (findActiveT sm ids).1.isSome then
        some (loopBreak (fun i => sm2NextDealerPassStep i (findActiveT sm ids).1 smDealer) ids sm, (findActiveT sm ids).1, (findActiveT sm ids).1)
      else
        some (loopAll sm2NextDealerAllStep sm ids, (findActiveT (loopAll sm2NextDealerAllStep sm ids) ids).1,
          (findActiveT (loopAll sm2NextDealerAllStep sm ids) ids).1)) =
      some (scanResult sm ids) := by
  rw [sm2FindActive_eq, scanResult]
  cases hf : sm.findActive ids with
  | some p =>
    obtain ⟨d, k⟩ := p
    simp only [Option.isSome_some, if_true, loopPass_eq, takeWhile_of_findActive hf]
  | none =>
    simp only [Option.isSome_none, Bool.false_eq_true, if_false, loopAllAct_eq, sm2FindActive_eq]
    cases (sm.modAll ids SM.actv).findActive ids with
    | some p => rfl
    | none => rfl

/-- what the Go function leaves, read off the model's result: the seats (the field `dealer` of the state is not the seats'
    business: it keeps the value `d0` it had), `sm.dealer`, the returned pointer (`found` = it is not nil) -/
def ndResult (r : SM × Bool) (d0 : Option Nat) : SM × Option Nat × Option Nat :=
  ({ r.1 with dealer := d0 }, r.1.dealer, if r.2 then r.1.dealer else none)

theorem ndResult_set (X : SM) (d d0 : Option Nat) (b : Bool) (h : X.dealer = d0) :
    ndResult ({ X with dealer := d }, b) d0 = (X, d, if b then d else none) := by
  unfold ndResult
  rw [setDealer_back X d d0 h]

theorem nextDealer_model_scan (sm : SM) (h1 : ¬ sm.playableCount = 1) :
    ndResult sm.nextDealer sm.dealer = scanResult sm sm.scanIds := by
  rw [SM.nextDealer_eq, scanResult]
  simp only [h1, if_false]
  cases sm.findActive sm.scanIds with
  | some p =>
    obtain ⟨d, k⟩ := p
    exact ndResult_set _ _ _ _ (by simp)
  | none =>
    simp only
    cases (sm.modAll sm.scanIds SM.actv).findActive sm.scanIds with
    | some p =>
      obtain ⟨d, k⟩ := p
      exact ndResult_set _ _ _ _ (by simp)
    | none => exact ndResult_set _ _ _ _ (by simp)

/-- seat_manager.go `nextDealer`: the seats, `sm.dealer` and the returned pointer are those of the model (`found` = the pointer
    is not nil); with no seats at all and a button set, `seats[1:]` panics (not a state of the model's domain) -/
theorem sm2NextDealer_eq (sm : SM) :
    nextDealerT sm =
      if sm.max = 0 ∧ sm.dealer.isSome then none else some (ndResult sm.nextDealer sm.dealer) := by
  unfold nextDealerT sm2NextDealer
  simp only [beq_iff_eq, decide_eq_true_eq, natCast_eq_one, natCast_le_one]
  by_cases h1 : sm.playableCount = 1
  · -- one playable seat: nothing to do if nobody else sits; else it gets the button and the occupied rest is activated
    have hmax : ¬ sm.max = 0 := by
      have := SM.playableCount_le_max sm
      omega
    simp only [if_pos h1, hmax, false_and, if_false]
    by_cases h2 : sm.nonEmptyCount ≤ 1
    · have hm : sm.nextDealer = (sm, false) := by
        rw [SM.nextDealer_eq]
        simp [h1, h2]
      simp only [if_pos h2, hm]
      cases sm
      rfl
    · obtain ⟨d, hd⟩ := firstPlayable_of_count_one sm h1
      have hne : (sm.normalize d).isEmpty = false := by
        rw [normalize_isEmpty, decide_eq_false hmax]
      have hm : sm.nextDealer = ({ sm.modAll ((sm.normalize d).drop 1) SM.actvOcc with dealer := some d }, true) := by
        rw [SM.nextDealer_eq]
        simp only [h1, h2, if_true, if_false, hd, SM.modAll_setDealer]
      simp only [if_neg h2, hd, Option.getD_some, Int.toNat_natCast, sliceFrom_one, hne, if_false, Bool.false_eq_true, loopOcc_eq, hm, orPanic_some]
      rw [ndResult_set _ _ _ _ (by simp)]
      rfl
  · -- otherwise the scan, from seat 0 without a button, else behind the button (`nextDealer_scan` on both lists);
    -- `seats[1:]` panics on a table without seats
    simp only [if_neg h1]
    rw [nextDealer_model_scan sm h1]
    unfold SM.scanIds
    cases hd : sm.dealer with
    | none =>
      simp only [Option.isSome_none, Bool.not_false, if_true, and_false, if_false, Bool.false_eq_true, Int.toNat_zero]
      exact nextDealer_scan sm (sm.normalize 0) none
    | some d0 =>
      simp only [Option.isSome_some, Bool.not_true, Bool.false_eq_true, if_false, and_true, Option.getD_some, Int.toNat_natCast,
        sliceFrom_one, normalize_isEmpty]
      by_cases hmax : sm.max = 0
      · simp [hmax]
      · simp only [hmax, decide_false, if_false, Bool.false_eq_true, orPanic_some]
        exact nextDealer_scan sm ((sm.normalize d0).drop 1) (some d0)

/-- seat_manager.go `renewSeatStatus` as translated; result: (seats, `sm.sb`, `sm.bb`), `none` = panic -/
def renewT (sm : SM) : Option (SM × Option Nat × Option Nat) :=
  sm2Renew (fun st => (st.playableCount : Int)) (fun st => (st.nonEmptyCount : Int)) (fun st => (st.playerCount : Int))
    (fun st => (st.availableSeats.1.length : Int)) SM.firstPlayable
    (fun st k => st.normalize k.toNat) (fun o => ((o.getD 0 : Nat) : Int)) findActiveT
    (fun st ids dealer sb bb => loopBreak (fun i => sm2RenewDeactStep i dealer sb bb) ids st)
    (loopAll sm2RenewActStep) sm sm.dealer sm.sb sm.bb

theorem loopDeact_eq (st : SM) (ids : List Nat) (b : Nat) (dl sb : Option Nat) :
    loopBreak (fun i => sm2RenewDeactStep i dl sb (some b)) ids st = st.modAll (ids.takeWhile (· != b)) SM.deact := by
  apply loopBreak_takeWhile
  · intro i a r h
    unfold sm2RenewDeactStep
    by_cases hid : i = b <;> cases h <;> simp [hid]
  · intro i s hp
    unfold sm2RenewDeactStep
    have : ¬ i = b := by simpa using hp
    rcases s with ⟨pl, ac, re⟩
    cases pl <;> simp [this, SM.deact]
  · intro i a r h hp
    unfold sm2RenewDeactStep
    have : i = b := by simpa using hp
    simp [this]

theorem loopAct_eq (st : SM) (ids : List Nat) : loopAll sm2RenewActStep st ids = st.modAll ids SM.actv := rfl

/-- `f` applied to the seats `ids` of a seat list, in order: `SM.modAll` on the seat list alone (`modAll_seats_eq`) -/
def seatsAll (seats : List Seat) (ids : List Nat) (f : Seat → Seat) : List Seat := ids.foldl (fun l i => l.modify i f) seats

theorem modAll_seats_eq (sm : SM) (ids : List Nat) (f : Seat → Seat) : (sm.modAll ids f).seats = seatsAll sm.seats ids f := by
  induction ids generalizing sm with
  | nil => rfl
  | cons i is ih =>
    rw [SM.modAll_cons, ih]
    rfl

theorem findActive_lt {sm : SM} {ids : List Nat} {d k : Nat} (h : sm.findActive ids = some (d, k)) : k < ids.length :=
  (List.getElem?_eq_some_iff.mp ((SM.findActive_some sm ids d k).mp h).1).1

theorem findActive_seats {X sm : SM} (h : X.seats = sm.seats) (ids : List Nat) : X.findActive ids = sm.findActive ids :=
  SM.findActive_congr ids (fun x _ => SM.playable_congr (by rw [h]))

/-- what the Go function writes, read off a state -/
def rnResult (r : SM) : List Seat × Option Nat × Option Nat := (r.seats, r.sb, r.bb)

/-- the same of the translated function's result -/
def rnGo (r : SM × Option Nat × Option Nat) : List Seat × Option Nat × Option Nat := (r.1.seats, r.2.1, r.2.2)

/-- the second half of `renewSeatStatus` (big blind, deactivation, activation) against the model's `renewTail` -/
theorem renew_tail (sm X : SM) (hX : X.seats = sm.seats) (orig seats : List Nat) (dl sbv : Option Nat) (hsb : X.sb = sbv) :
    (sm2OrPanic (sm2SliceFrom seats 1) none fun v_seats =>
        sm2OrPanic (sm2SliceFrom v_seats (findActiveT sm v_seats).snd) none fun v_seats_1 =>
          sm2OrPanic (sm2SliceFrom v_seats_1 1) none fun v_seats_2 =>
            some (loopAll sm2RenewActStep
                (loopBreak (fun i => sm2RenewDeactStep i dl sbv (findActiveT sm v_seats).fst) orig sm) v_seats_2,
              sbv, (findActiveT sm v_seats).fst)).map rnGo =
      (X.renewTail orig seats).map rnResult := by
  rw [sliceFrom_one]
  unfold SM.renewTail
  by_cases he : seats.isEmpty = true
  · simp [he]
  · simp only [he, if_false, Bool.false_eq_true, sm2FindActive_eq, findActive_seats hX, orPanic_some]
    cases hf : sm.findActive (seats.drop 1) with
    | none => simp [sliceFrom_neg]
    | some p =>
      obtain ⟨b, k⟩ := p
      have hk : k < (seats.drop 1).length := findActive_lt hf
      have hne : ((seats.drop 1).drop k).isEmpty = false := by
        cases hn : (seats.drop 1).drop k with
        | nil =>
          have hl : ((seats.drop 1).drop k).length = (seats.drop 1).length - k := List.length_drop
          rw [hn] at hl
          simp only [List.length_nil] at hl
          omega
        | cons a l => rfl
      simp only [sliceFrom_nat _ k (Nat.le_of_lt hk), sliceFrom_one, hne, if_false, Bool.false_eq_true, loopDeact_eq, loopAct_eq,
        Option.map_some, rnResult, rnGo, orPanic_some]
      congr 1
      simp only [modAll_seats_eq, hX, SM.modAll_sb, SM.modAll_bb, hsb]

/-- seat_manager.go `renewSeatStatus` with a button set: it panics where the model says so, and the seats, `sm.sb`, `sm.bb` it
    leaves are the model's (`sm.max` and `sm.dealer` are not written) -/
theorem sm2Renew_eq (sm : SM) (d : Nat) (hd : sm.dealer = some d) :
    (renewT sm).map rnGo = sm.renewSeatStatus.map rnResult := by
  unfold renewT sm2Renew
  rw [SM.renewSeatStatus_eq]
  simp only [hd, Option.getD_some, Int.toNat_natCast, beq_iff_eq, natCast_eq_two]
  by_cases h2 : sm.playableCount = 2
  · simp only [if_pos h2]
    exact renew_tail sm ({ sm with dealer := some d, sb := some d } : SM) rfl (sm.normalize d) (sm.normalize d) (some d) (some d) rfl
  · simp only [if_neg h2]
    rw [sliceFrom_one (sm.normalize d)]
    by_cases he : (sm.normalize d).isEmpty = true
    · have : sm.normalize d = [] := by simpa using he
      simp [this, SM.findActive, SM.findActive.go]
    · simp only [he, if_false, Bool.false_eq_true, orPanic_some]
      rw [sm2FindActive_eq sm ((sm.normalize d).drop 1)]
      cases hf : sm.findActive ((sm.normalize d).drop 1) with
      | none => simp [sliceFrom_neg]
      | some p =>
        obtain ⟨s, k⟩ := p
        have hk : k < ((sm.normalize d).drop 1).length := findActive_lt hf
        simp only [sliceFrom_nat _ k (Nat.le_of_lt hk), orPanic_some]
        exact renew_tail sm ({ sm with dealer := some d, sb := some s } : SM) rfl (sm.normalize d) (((sm.normalize d).drop 1).drop k) (some d) (some s) rfl

/-- seat_manager.go `renewSeatStatus` without a button: `sm.dealer.ID` dereferences nil (outside the translation); the model
    reports the panic -/
theorem sm2Renew_noDealer (sm : SM) (hd : sm.dealer = none) : sm.renewSeatStatus = none := by
  unfold SM.renewSeatStatus
  rw [hd]

/-- seat_manager.go `resetSeat`: the seat written under the key `seatID` has that id, no player, is active and not reserved -/
theorem sm2ResetSeat_eq {I P : Type} (seatID id0 : I) (noPlayer player0 : P) :
    sm2ResetSeat seatID id0 noPlayer player0 = (seatID, noPlayer, true, false) := rfl

/-- seat_manager.go `Reset` (called by `NewSeatManager`): `resetSeat(i)` for every i < max — the model's `SM.new` -/
theorem sm2Reset_eq (max : Nat) :
    (∀ i : Int, sm2ResetStep i = [("resetSeat", i)]) ∧
    SM.new max = { max := max, seats := (List.range max).map fun i =>
      let r := sm2ResetSeat i 0 (none : Option Nat) (some 0)
      { player := r.2.1, active := r.2.2.1, reserved := r.2.2.2 } } := by
  refine ⟨fun i => rfl, ?_⟩
  unfold SM.new
  congr 1
  apply List.ext_getElem
  · simp
  · intro i h1 h2
    simp [sm2ResetSeat_eq]

/-- a position of the snapshot (`SeatManagerState.Dealer` …): the seat id, -1 for nil -/
def posInt (o : Option Nat) : Int :=
  match o with
  | some d => (d : Int)
  | none => -1

/-- `sm.seats[k]`: the seat with that key, nil when there is none -/
def seatAtT (st : SM) (k : Int) : Option Nat := if 0 ≤ k ∧ k.toNat < st.seats.length then some k.toNat else none

/-- the restore loop of `ApplyStates` over the seats 0 … max-1: the fold of the translated iteration (`snap`: `state.Seats`) -/
def restoreT (snap : List Seat) (st : SM) (max : Int) : SM :=
  (List.range max.toNat).foldl (fun st i => st.modSeat i fun s =>
    let n := snap[i]?.getD default
    let r := sm2ApplyStep s.player s.active s.reserved n.player n.active n.reserved
    { player := r.1, active := r.2.1, reserved := r.2.2 }) st

/-- seat_manager.go `ApplyStates` as translated, applied to the snapshot of the model state `snap` -/
def applyStatesT (target snap : SM) : SM :=
  let r := sm2ApplyStates seatAtT (restoreT snap.seats) (snap.max : Int) (posInt snap.dealer) (posInt snap.sb) (posInt snap.bb)
    target (target.max : Int) target.dealer target.sb target.bb
  { max := r.2.1.toNat, seats := r.1.seats, dealer := r.2.2.1, sb := r.2.2.2.1, bb := r.2.2.2.2 }

theorem foldl_modSeat_seats (g : Nat → Seat → Seat) (st : SM) (n j : Nat) :
    ((List.range n).foldl (fun st i => st.modSeat i (g i)) st).seats[j]? =
      if j < n then (st.seats[j]?).map (g j) else st.seats[j]? := by
  induction n with
  | zero => simp
  | succ n ih =>
    rw [List.range_succ, List.foldl_append, List.foldl_cons, List.foldl_nil, SM.modSeat_seats, ih]
    by_cases h1 : n = j
    · subst h1
      simp
    · by_cases h2 : j < n
      · have : j < n + 1 := by omega
        simp [h1, h2, this]
      · have : ¬ j < n + 1 := by omega
        simp [h1, h2, this]

theorem restoreT_seats (snap : List Seat) (st : SM) (n : Nat) (hs : n ≤ snap.length) (ht : st.seats.length = n) :
    (restoreT snap st (n : Int)).seats = snap.take n := by
  apply List.ext_getElem?
  intro j
  unfold restoreT
  simp only [Int.toNat_natCast]
  -- the translated iteration overwrites all three fields: the seat it leaves does not depend on the seat it finds
  show ((List.range n).foldl (fun st i => st.modSeat i ((fun i (_ : Seat) => snap[i]?.getD default) i)) st).seats[j]? = _
  rw [foldl_modSeat_seats (fun i _ => snap[i]?.getD default)]
  by_cases h : j < n
  · have h1 : j < st.seats.length := by omega
    have h2 : j < snap.length := by omega
    simp [h, h1, h2]
  · have h1 : st.seats.length ≤ j := by omega
    simp [h, List.getElem?_take, List.getElem?_eq_none h1]

theorem seatAtT_pos (st : SM) (o : Option Nat) (h : ∀ d, o = some d → d < st.seats.length) :
    (if posInt o ≥ 0 then seatAtT st (posInt o) else none) = o := by
  cases o with
  | none => simp [posInt]
  | some d =>
    have := h d rfl
    simp [posInt, seatAtT, this]

/-- closed form of the translated `ApplyStates`: `max` is taken over, the seats are restored, each position is looked up
    among the restored seats when the snapshot holds one (≥ 0) and is nil otherwise; what the manager held is not read -/
theorem sm2ApplyStates_closed {ST S : Type} (seatAt : ST → Int → Option S) (restore : ST → Int → ST)
    (stMax stDealer stSB stBB : Int) (st0 : ST) (max0 : Int) (dealer0 sb0 bb0 : Option S) :
    sm2ApplyStates seatAt restore stMax stDealer stSB stBB st0 max0 dealer0 sb0 bb0 =
      (restore st0 stMax, stMax, (if stDealer ≥ 0 then seatAt (restore st0 stMax) stDealer else none),
        (if stSB ≥ 0 then seatAt (restore st0 stMax) stSB else none),
        (if stBB ≥ 0 then seatAt (restore st0 stMax) stBB else none)) := by
  unfold sm2ApplyStates
  by_cases h1 : stDealer ≥ 0 <;> by_cases h2 : stSB ≥ 0 <;> by_cases h3 : stBB ≥ 0 <;>
    simp only [h1, h2, h3, decide_true, decide_false, if_true, if_false, Bool.false_eq_true]

/-- seat_manager.go `ApplyStates`: applying the snapshot of a well-formed state `sm` (button and blinds on seats of the table)
    to a seat manager of the same size — a fresh one or `sm` itself — gives `sm` back: max, the three fields of every seat, the
    positions (restored only when ≥ 0) -/
theorem sm2ApplyStates_eq (sm target : SM) (hw : sm.WF) (ht : target.seats.length = sm.max)
    (hd : ∀ d, sm.dealer = some d → d < sm.max) (hs : ∀ d, sm.sb = some d → d < sm.max) (hb : ∀ d, sm.bb = some d → d < sm.max) :
    applyStatesT target sm = sm := by
  have hseats : (restoreT sm.seats target (sm.max : Int)).seats = sm.seats := by
    rw [restoreT_seats _ _ _ (Nat.le_of_eq hw.symm) ht, ← hw, List.take_length]
  have hlen : (restoreT sm.seats target (sm.max : Int)).seats.length = sm.max := by rw [hseats, hw]
  unfold applyStatesT
  simp only [sm2ApplyStates_closed, hseats, Int.toNat_natCast,
    seatAtT_pos _ sm.dealer (hlen.symm ▸ hd), seatAtT_pos _ sm.sb (hlen.symm ▸ hs),
    seatAtT_pos _ sm.bb (hlen.symm ▸ hb)]

/-! ### what the translated definitions compute, on concrete inputs (non-vacuity) -/

/-- four seats: 0 plays and holds the button, 1 sat in on a deactivated seat, 2 is free, 3 plays -/
def exSM : SM :=
  { max := 4, seats := [{ player := some 1 }, { player := some 2, active := false }, {}, { player := some 3 }], dealer := some 0 }

example : exSM.WF ∧ (0 : Nat) < exSM.max := ⟨rfl, by decide⟩
example : normalizeT exSM 3 = [3, 0, 1, 2] := rfl
example : findActiveT exSM [1, 2, 3, 0] = (some 3, 2) := rfl
example : (nextDealerT exSM).map (fun r => (r.1.seats.map (·.active), r.2)) =
    some ([true, true, true, true], some 3, some 3) := rfl
-- three playing seats and an empty one between small and big blind: the empty seat is deactivated
example : (renewT { exSM with seats := [{ player := some 1 }, { player := some 2 }, {}, { player := some 3 }] }).map
    (fun r => (r.1.seats.map (·.active), r.2)) = some ([true, true, false, true], some 1, some 3) := rfl
-- exactly two players who can play, a third waiting on a deactivated seat: heads-up layout, no panic, the third keeps waiting
example : (renewT exSM).map (fun r => (r.1.seats.map (·.active), r.2)) = some ([true, false, false, true], some 0, some 3) := rfl
-- one player who can play: `seats[-1:]` panics
example : renewT { exSM with seats := [{ player := some 1 }, {}, {}, {}] } = none := rfl
example : applyStatesT (SM.new 4) exSM = exSM := rfl
example : exSM.availableSeats = ([2], []) ∧ sm2AvailableSeatsStep 2 true false false [] ([] : List Nat) = ([2], []) := ⟨rfl, rfl⟩

end Pokerface.GeneratedLogic
