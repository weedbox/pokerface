import Pokerface.Proofs.SettleAux
/-
  The settlement model as lists of `(idx, delta)` updates: `Calculate` applies the updates of its pots one
  after the other, a pot is its levels with the odd-chip offset threaded through them, and what one level
  pays to one player is read off the level's update list.  The last part is the round robin of the odd chips
  over the levels of one pot.
-/
namespace Pokerface

theorem settleLevel_players (a : Acc) (l : LevelInfo) :
    (settleLevel a l).players = bumpAll a.players (levelUpdates l a.offset) := by
  unfold settleLevel levelUpdates levelWinners levelLosers
  split
  next h => simp [h, bumpAll]
  next g losers h =>
    simp only [h, foldl_losers_players, payWinners_players, bumpAll_append, reward]

theorem settleLevel_offset (a : Acc) (l : LevelInfo) :
    (settleLevel a l).offset = nextOffset l a.offset := by
  unfold settleLevel nextOffset
  split
  next h => simp [h]
  next g losers h =>
    simp only [h, foldl_losers_offset]

theorem foldl_settleLevel_players (ls : List LevelInfo) (a : Acc) :
    (ls.foldl settleLevel a).players = bumpAll a.players (potUpdates a.offset ls) := by
  induction ls generalizing a with
  | nil => rfl
  | cons l ls ih =>
    simp only [List.foldl_cons, ih, potUpdates, bumpAll_append, settleLevel_players, settleLevel_offset]

theorem calculate_go_players (ps : List PlayerResult) (done pots : List PotResult) :
    (Result.calculate.go ps done pots).players = bumpAll ps (pots.flatMap (fun p => potUpdates 0 p.levels)) := by
  induction pots generalizing ps done with
  | nil => rfl
  | cons p pots ih =>
    simp only [Result.calculate.go, settlePot, ih, List.flatMap_cons, bumpAll_append, foldl_settleLevel_players]

theorem calculate_players (r : Result) :
    r.calculate.players = bumpAll r.players (r.pots.flatMap (fun p => potUpdates 0 p.levels)) := by
  unfold Result.calculate
  exact calculate_go_players _ _ _

theorem calculate_go_pots (ps : List PlayerResult) (done pots : List PotResult) :
    (Result.calculate.go ps done pots).pots.map (·.levels) = (done.reverse ++ pots).map (·.levels) := by
  induction pots generalizing ps done with
  | nil => simp [Result.calculate.go]
  | cons p pots ih =>
    simp only [Result.calculate.go, settlePot, ih]
    simp

theorem calculate_pots_levels (r : Result) :
    r.calculate.pots.map (·.levels) = r.pots.map (·.levels) := by
  unfold Result.calculate
  rw [calculate_go_pots]
  simp

/-- The registration loop of `CalculateGameResults`. -/
theorem rows_fold (rows : List (Nat × Int × Bool × Int)) (r : Result) :
    (rows.foldl (fun r row =>
        (r.addPlayer row.1 row.2.1).updateScore row.1 (if row.2.2.1 then 0 else row.2.2.2)) r)
    = { players := r.players ++ rows.map (fun row => (⟨row.1, row.2.1, 0⟩ : PlayerResult)),
        pots := r.pots.map fun p => { p with levels := p.levels.map fun l =>
          { l with groups := addScores l.groups (scoredRows rows l.contributors) } } } := by
  induction rows generalizing r with
  | nil =>
    -- up to eta for structures, both maps are the identity
    have h1 : ∀ ls : List LevelInfo,
        ls.map (fun l => { l with groups := addScores l.groups (scoredRows [] l.contributors) }) = ls :=
      fun ls => List.map_id' ls
    have h2 : ∀ ps : List PotResult, ps.map (fun p => { p with levels := p.levels }) = ps :=
      fun ps => List.map_id' ps
    simp only [List.foldl_nil, List.map_nil, List.append_nil, h1, h2]
  | cons row rows ih =>
    rw [List.foldl_cons, ih]
    simp only [Result.updateScore, Result.addPlayer, List.map_cons, List.append_assoc, List.singleton_append,
      List.map_map]
    congr 1
    apply List.map_congr_left
    intro p _
    simp only [Function.comp, List.map_map]
    congr 1
    apply List.map_congr_left
    intro l _
    simp only [Function.comp]
    rw [scoredRows_cons]
    split
    next h => simp [addScores_cons]
    next h => simp

theorem bumpAll_base (ps : List PlayerResult) (us : List (Nat × Int)) :
    (bumpAll ps us).map (fun p => (p.idx, p.finalStack - p.changed))
      = ps.map (fun p => (p.idx, p.finalStack - p.changed)) := by
  induction us generalizing ps with
  | nil => rfl
  | cons u us ih => rw [bumpAll_cons, ih, bumpPlayer_base]

theorem bumpAll_idx (ps : List PlayerResult) (us : List (Nat × Int)) :
    (bumpAll ps us).map (·.idx) = ps.map (·.idx) := by
  have := congrArg (List.map (·.1)) (bumpAll_base ps us)
  rwa [List.map_map, List.map_map] at this

theorem net_append (us vs : List (Nat × Int)) (i : Nat) : net (us ++ vs) i = net us i + net vs i := by
  simp [net, List.filter_append]

theorem chg_bumpAll (ps : List PlayerResult) (us : List (Nat × Int)) (i : Nat)
    (h : i ∈ ps.map (·.idx)) : chg (bumpAll ps us) i = chg ps i + net us i := by
  induction us generalizing ps with
  | nil => simp [bumpAll, net]
  | cons u us ih =>
    rw [bumpAll_cons, ih _ (by rwa [bumpPlayer_idx]), chg_bumpPlayer _ _ _ _ h, net_cons]
    omega

theorem sum_changed_bumpAll (ps : List PlayerResult) (us : List (Nat × Int))
    (h : ∀ u ∈ us, u.1 ∈ ps.map (·.idx)) :
    ((bumpAll ps us).map (·.changed)).sum = (ps.map (·.changed)).sum + (us.map (·.2)).sum := by
  induction us generalizing ps with
  | nil => simp [bumpAll]
  | cons u us ih =>
    rw [bumpAll_cons, ih, sum_changed_bumpPlayer _ _ _ (h u (by simp))]
    · simp
      omega
    · intro v hv
      rw [bumpPlayer_idx]
      exact h v (by simp [hv])

theorem net_eq_zero (us : List (Nat × Int)) (i : Nat) (h : i ∉ us.map (·.1)) : net us i = 0 := by
  induction us with
  | nil => rfl
  | cons u us ih =>
    simp only [List.map_cons, List.mem_cons, not_or] at h
    rw [net_cons, ih h.2, if_neg (fun e => h.1 e.symm)]
    rfl

theorem net_of_mem_nodup (us : List (Nat × Int)) (h : (us.map (·.1)).Nodup) {i : Nat} {d : Int}
    (hm : (i, d) ∈ us) : net us i = d := by
  simp [net, filter_key_of_mem (·.1) h hm]

theorem net_flatMap {α : Type} (xs : List α) (f : α → List (Nat × Int)) (i : Nat) :
    net (xs.flatMap f) i = (xs.map (fun x => net (f x) i)).sum := by
  induction xs with
  | nil => rfl
  | cons x xs ih => simp [List.flatMap_cons, net_append, ih]

theorem sum_net_keys (us : List (Nat × Int)) (C : List Nat) (hn : C.Nodup) (hk : ∀ u ∈ us, u.1 ∈ C) :
    (C.map (fun i => net us i)).sum = (us.map (·.2)).sum := by
  induction us with
  | nil =>
    simp only [net_nil, List.map_const', List.sum_replicate_int, List.map_nil, List.sum_nil]
    omega
  | cons u us ih =>
    simp only [net_cons]
    rw [sum_bump C hn, if_pos (hk u (by simp)), ih (fun v hv => hk v (by simp [hv]))]
    simp

theorem levelWinners_spec {xs : List (Nat × Int)} {l : LevelInfo} (h : LevelWF xs l) :
    ∃ M, (∀ x ∈ xs, x.2 ≤ M) ∧ (∃ x ∈ xs, x.2 = M) ∧
      levelWinners l = (xs.filter (fun x => x.2 = M)).map (·.1) ∧
      (levelWinners l ++ levelLosers l).Perm (xs.map (·.1)) := by
  have inv := groupsInv_addScores xs
  have hg : l.groups = addScores [] xs := h.groups
  rw [← hg] at inv
  have hperm := sortGroups_perm l.groups
  have hsorted := sortGroups_sorted l.groups
  unfold levelWinners levelLosers
  cases hs : sortGroups l.groups with
  | nil =>
    exfalso
    rw [hs] at hperm
    have hnil : l.groups = [] := List.Perm.eq_nil hperm.symm
    obtain ⟨x, xs', rfl⟩ := List.exists_cons_of_ne_nil h.ne
    have := (inv.scores x.2).2 (by simp)
    rw [hnil] at this
    simp at this
  | cons g rest =>
    rw [hs] at hperm hsorted
    have hgmem : g ∈ l.groups := hperm.mem_iff.1 (by simp)
    refine ⟨g.score, ?_, ?_, ?_, ?_⟩
    · intro x hx
      have h1 : x.2 ∈ l.groups.map (·.score) := (inv.scores x.2).2 (List.mem_map.2 ⟨x, hx, rfl⟩)
      obtain ⟨g', hg', he⟩ := List.mem_map.1 h1
      have hg'' : g' ∈ g :: rest := hperm.mem_iff.2 hg'
      rw [← he]
      rcases List.mem_cons.1 hg'' with rfl | hm
      · exact Int.le_refl _
      · exact (List.pairwise_cons.1 hsorted).1 g' hm
    · have := (inv.scores g.score).1 (List.mem_map.2 ⟨g, hgmem, rfl⟩)
      obtain ⟨x, hx, he⟩ := List.mem_map.1 this
      exact ⟨x, hx, he⟩
    · exact inv.contrib g hgmem
    · have := (List.Perm.flatMap_right (fun g : RankGroup => g.contributors) hperm).trans inv.perm
      simpa [List.flatMap_cons] using this

theorem levelUpdates_map_fst (l : LevelInfo) (o : Int) :
    (levelUpdates l o).map (·.1) = levelWinners l ++ levelLosers l := by
  unfold levelUpdates
  simp only [List.map_append, List.map_map]
  congr 1
  · exact List.zipIdx_map_fst 0 _
  · simp [Function.comp_def]

theorem levelUpdates_map_snd (l : LevelInfo) (o : Int) :
    (levelUpdates l o).map (·.2) =
      (List.range (levelWinners l).length).map
        (fun p => reward l.total (levelWinners l).length (Int.tmod o (levelWinners l).length) p - l.wager)
      ++ List.replicate (levelLosers l).length (-l.wager) := by
  unfold levelUpdates
  simp only [List.map_append, List.map_map]
  congr 1
  · rw [List.range_eq_range', ← List.zipIdx_map_snd 0 (levelWinners l), List.map_map]
    rfl
  · simp [Function.comp_def, List.map_const']

theorem levelUpdates_mem {l : LevelInfo} {o : Int} {u : Nat × Int} (hu : u ∈ levelUpdates l o) :
    (∃ p, p < (levelWinners l).length ∧ u.1 ∈ levelWinners l ∧
        u.2 = reward l.total (levelWinners l).length (Int.tmod o (levelWinners l).length) p - l.wager) ∨
    (u.1 ∈ levelLosers l ∧ u.2 = -l.wager) := by
  unfold levelUpdates at hu
  rcases List.mem_append.1 hu with hu | hu
  · left
    obtain ⟨⟨w, p⟩, hwp, rfl⟩ := List.mem_map.1 hu
    have := List.mem_zipIdx' hwp
    exact ⟨p, this.1, by simp [this.2], rfl⟩
  · right
    obtain ⟨i, hi, rfl⟩ := List.mem_map.1 hu
    exact ⟨hi, rfl⟩

/-- what the sums over one level need of it; unlike `LevelWF` it does not mention the scored rows the level was
    built from -/
structure LevelFacts (l : LevelInfo) : Prop where
  ne : levelWinners l ≠ []
  perm : (levelWinners l ++ levelLosers l).Perm l.contributors
  nodup : (levelWinners l ++ levelLosers l).Nodup
  wager : 0 ≤ l.wager
  total : l.total = (l.contributors.length : Int) * l.wager

theorem LevelWF.facts {xs : List (Nat × Int)} {l : LevelInfo} (h : LevelWF xs l) : LevelFacts l := by
  obtain ⟨M, _, ⟨x, hx, hxM⟩, hW, hperm⟩ := levelWinners_spec h
  refine ⟨?_, hperm.trans h.perm, hperm.symm.nodup h.nodup, h.wager, h.total⟩
  rw [hW]
  intro e
  have : x.1 ∈ (xs.filter (fun x => x.2 = M)).map (·.1) :=
    List.mem_map.2 ⟨x, List.mem_filter.2 ⟨hx, by simpa using hxM⟩, rfl⟩
  rw [e] at this
  simp at this

theorem LevelFacts.pos {l : LevelInfo} (h : LevelFacts l) : 0 < (levelWinners l).length :=
  List.length_pos_iff.2 h.ne

theorem LevelFacts.len {l : LevelInfo} (h : LevelFacts l) :
    (levelWinners l).length + (levelLosers l).length = l.contributors.length := by
  rw [← List.length_append]
  exact h.perm.length_eq

theorem LevelFacts.total_nonneg {l : LevelInfo} (h : LevelFacts l) : 0 ≤ l.total := by
  rw [h.total]
  exact Int.mul_nonneg (by omega) h.wager

theorem LevelFacts.contributors_nodup {l : LevelInfo} (f : LevelFacts l) : l.contributors.Nodup :=
  f.perm.nodup_iff.1 f.nodup

theorem LevelFacts.mem {l : LevelInfo} (f : LevelFacts l) {i : Nat} (hi : i ∈ l.contributors) :
    i ∈ levelWinners l ∨ i ∈ levelLosers l :=
  List.mem_append.1 (f.perm.symm.subset hi)

theorem LevelFacts.keys {l : LevelInfo} (f : LevelFacts l) (o : Int) :
    ((levelUpdates l o).map (·.1)).Perm l.contributors := by
  rw [levelUpdates_map_fst]
  exact f.perm

theorem levelUpdates_sum {l : LevelInfo} (f : LevelFacts l) (o : Int) (ho : 0 ≤ o) :
    ((levelUpdates l o).map (·.2)).sum = 0 := by
  have hn := f.pos
  rw [levelUpdates_map_snd, List.sum_append_int, List.sum_replicate_int, sum_map_sub_const,
    sum_reward _ _ _ f.total_nonneg hn (Int.tmod_nonneg _ ho) (Int.tmod_lt_of_pos _ (by omega)),
    List.length_range, f.total, ← f.len]
  simp only [Int.natCast_add, Int.add_mul, Int.mul_neg]
  omega

theorem nextOffset_nonneg {l : LevelInfo} (f : LevelFacts l) (o : Int) (ho : 0 ≤ o) : 0 ≤ nextOffset l o := by
  unfold nextOffset
  split
  · exact ho
  · exact Int.tmod_nonneg _ (Int.add_nonneg (Int.tmod_nonneg _ ho) (Int.tmod_nonneg _ f.total_nonneg))

theorem nextOffset_eq {l : LevelInfo} (f : LevelFacts l) (o : Int) :
    nextOffset l o = Int.tmod (Int.tmod o (levelWinners l).length + Int.tmod l.total (levelWinners l).length)
      (levelWinners l).length := by
  have hne := f.ne
  unfold nextOffset levelWinners at *
  split
  next h => simp [h] at hne
  next g rest h => simp

theorem LevelFacts.net_out {l : LevelInfo} (f : LevelFacts l) (o : Int) {i : Nat} (hi : i ∉ l.contributors) :
    net (levelUpdates l o) i = 0 :=
  net_eq_zero _ _ (fun h => hi ((f.keys o).subset h))

theorem LevelFacts.keys_nodup {l : LevelInfo} (f : LevelFacts l) (o : Int) :
    ((levelUpdates l o).map (·.1)).Nodup := by
  rw [levelUpdates_map_fst]
  exact f.nodup

theorem LevelFacts.net_loser {l : LevelInfo} (f : LevelFacts l) (o : Int) {i : Nat} (hi : i ∈ levelLosers l) :
    net (levelUpdates l o) i = -l.wager :=
  net_of_mem_nodup _ (f.keys_nodup o) (List.mem_append_right _ (List.mem_map.2 ⟨i, hi, rfl⟩))

theorem LevelFacts.net_winner {l : LevelInfo} (f : LevelFacts l) (o : Int) (p : Nat)
    (hp : p < (levelWinners l).length) :
    net (levelUpdates l o) (levelWinners l)[p]
      = reward l.total (levelWinners l).length (Int.tmod o (levelWinners l).length) p - l.wager :=
  net_of_mem_nodup _ (f.keys_nodup o) (List.mem_append_left _ (List.mem_map.2
    ⟨((levelWinners l)[p], p), List.mem_zipIdx_iff_getElem?.2 (List.getElem?_eq_getElem hp), rfl⟩))

theorem LevelFacts.net_nonwinner {l : LevelInfo} (f : LevelFacts l) (o : Int) {i : Nat}
    (hi : i ∈ l.contributors) (hnw : i ∉ levelWinners l) : net (levelUpdates l o) i = -l.wager := by
  rcases f.mem hi with hw | hlo
  · exact absurd hw hnw
  · exact f.net_loser o hlo

theorem LevelFacts.net_bounds {l : LevelInfo} (f : LevelFacts l) (o : Int) {i : Nat}
    (hi : i ∈ l.contributors) :
    -l.wager ≤ net (levelUpdates l o) i ∧ net (levelUpdates l o) i ≤ l.total - l.wager := by
  have hT := f.total_nonneg
  rcases f.mem hi with hw | hlo
  · obtain ⟨p, hp, rfl⟩ := List.getElem_of_mem hw
    have := reward_bounds l.total (levelWinners l).length (Int.tmod o (levelWinners l).length) p hT f.pos
      (Int.le_of_lt (Int.tmod_lt_of_pos _ (by omega)))
    rw [f.net_winner o p hp]
    omega
  · rw [f.net_loser o hlo]
    omega

theorem LevelFacts.net_winner_near {l : LevelInfo} (f : LevelFacts l) (o : Int) {i : Nat}
    (hw : i ∈ levelWinners l) :
    Int.tdiv l.total (levelWinners l).length - l.wager ≤ net (levelUpdates l o) i ∧
      net (levelUpdates l o) i ≤ Int.tdiv l.total (levelWinners l).length + 1 - l.wager := by
  obtain ⟨p, hp, rfl⟩ := List.getElem_of_mem hw
  have := reward_near l.total (levelWinners l).length (Int.tmod o (levelWinners l).length) p
  rw [f.net_winner o p hp]
  omega

theorem LevelFacts.net_all_win {l : LevelInfo} (f : LevelFacts l) (o : Int) (hall : levelLosers l = [])
    (i : Nat) : net (levelUpdates l o) i = 0 := by
  by_cases hi : i ∈ l.contributors
  · have hlen := f.len
    rw [hall, List.length_nil, Nat.add_zero] at hlen
    rcases f.mem hi with hw | hlo
    · obtain ⟨p, hp, rfl⟩ := List.getElem_of_mem hw
      have hpos := f.pos
      rw [f.net_winner o p hp, f.total, ← hlen, reward_dvd _ _ _ _ f.wager hpos
        (Int.le_of_lt (Int.tmod_lt_of_pos _ (by omega)))]
      omega
    · rw [hall] at hlo
      simp at hlo
  · exact f.net_out o hi

theorem level_net_sum_zero {l : LevelInfo} (f : LevelFacts l) (o : Int) (ho : 0 ≤ o) :
    (l.contributors.map (fun i => net (levelUpdates l o) i)).sum = 0 := by
  rw [sum_net_keys _ _ f.contributors_nodup (fun u hu => (f.keys o).subset (List.mem_map_of_mem hu)),
    levelUpdates_sum f o ho]

/-- The levels of one pot, each paired with the odd-chip offset of the pot at the moment
    `CalculatePot` reaches that level (`o` = the offset before the first level; pot.go
    `oddChipOffset`, 0 for a fresh pot). -/
def withOffsets : Int → List LevelInfo → List (LevelInfo × Int)
  | _, [] => []
  | o, l :: ls => (l, o) :: withOffsets (nextOffset l o) ls

theorem withOffsets_map_fst (o : Int) (ls : List LevelInfo) : (withOffsets o ls).map (·.1) = ls := by
  induction ls generalizing o with
  | nil => rfl
  | cons l ls ih => simp [withOffsets, ih]

theorem withOffsets_mem_fst {o : Int} {ls : List LevelInfo} {lo : LevelInfo × Int} (h : lo ∈ withOffsets o ls) :
    lo.1 ∈ ls := by
  have : lo.1 ∈ (withOffsets o ls).map (·.1) := List.mem_map_of_mem h
  rwa [withOffsets_map_fst] at this

theorem potUpdates_eq_withOffsets (o : Int) (ls : List LevelInfo) :
    potUpdates o ls = (withOffsets o ls).flatMap (fun lo => levelUpdates lo.1 lo.2) := by
  induction ls generalizing o with
  | nil => rfl
  | cons l ls ih => simp [potUpdates, withOffsets, ih]

theorem net_potUpdates_withOffsets (o : Int) (ls : List LevelInfo) (i : Nat) :
    net (potUpdates o ls) i = ((withOffsets o ls).map (fun lo => net (levelUpdates lo.1 lo.2) i)).sum := by
  rw [potUpdates_eq_withOffsets, net_flatMap]

theorem withOffsets_nonneg (ls : List LevelInfo) (hf : ∀ l ∈ ls, LevelFacts l) (o : Int) (ho : 0 ≤ o) :
    ∀ lo ∈ withOffsets o ls, 0 ≤ lo.2 := by
  induction ls generalizing o with
  | nil =>
    intro lo h
    simp [withOffsets] at h
  | cons l ls ih =>
    intro lo h
    simp only [withOffsets, List.mem_cons] at h
    rcases h with rfl | h
    · exact ho
    · exact ih (fun x hx => hf x (by simp [hx])) _ (nextOffset_nonneg (hf l (by simp)) o ho) lo h

theorem potUpdates_sum (ls : List LevelInfo) (hf : ∀ l ∈ ls, LevelFacts l) (o : Int) (ho : 0 ≤ o) :
    ((potUpdates o ls).map (·.2)).sum = 0 := by
  induction ls generalizing o with
  | nil => rfl
  | cons l ls ih =>
    have f := hf l (by simp)
    simp only [potUpdates, List.map_append, List.sum_append]
    rw [levelUpdates_sum f o ho, ih (fun x hx => hf x (by simp [hx])) _ (nextOffset_nonneg f o ho)]
    rfl

theorem potUpdates_keys (ls : List LevelInfo) (hf : ∀ l ∈ ls, LevelFacts l) (o : Int) :
    ∀ u ∈ potUpdates o ls, ∃ l ∈ ls, u.1 ∈ l.contributors := by
  intro u hu
  rw [potUpdates_eq_withOffsets] at hu
  obtain ⟨lo, hlo, hu⟩ := List.mem_flatMap.1 hu
  exact ⟨lo.1, withOffsets_mem_fst hlo,
    ((hf _ (withOffsets_mem_fst hlo)).keys lo.2).subset (List.mem_map_of_mem hu)⟩

/-- Sum over the levels (totals `Ts`) of a pot of the gross rewards at winner position `p`
    of `n`, the odd-chip offset threaded from `o` as `settleLevel` does. -/
def rrSum (n : Int) : Int → List Int → Nat → Int
  | _, [], _ => 0
  | o, T :: Ts, p =>
    reward T n (Int.tmod o n) p + rrSum n (Int.tmod (Int.tmod o n + Int.tmod T n) n) Ts p

/-- Round-robin invariant: up to the chips owed to the positions before the offset, all
    positions have received the same amount (`reward_step`, level after level). -/
theorem rrSum_inv (n : Nat) (hn : 0 < n) (Ts : List Int) (hT : ∀ T ∈ Ts, 0 ≤ T) (o : Int)
    (ho : 0 ≤ o) (hon : o < n) :
    ∃ Q oEnd : Int, 0 ≤ oEnd ∧ oEnd < n ∧ ∀ p : Nat, p < n →
      rrSum n o Ts p + (if (p : Int) < o then 1 else 0) = Q + (if (p : Int) < oEnd then 1 else 0) := by
  induction Ts generalizing o with
  | nil => exact ⟨0, o, ho, hon, fun p _ => by simp [rrSum]⟩
  | cons T Ts ih =>
    have hT0 : 0 ≤ T := hT T (by simp)
    have h1 : 0 ≤ T % (n : Int) := Int.emod_nonneg _ (by omega)
    obtain ⟨Q', oEnd, he0, he1, hQ⟩ := ih (fun T' hT' => hT T' (by simp [hT']))
      (Int.tmod (o + T % n) n) (Int.tmod_nonneg _ (by omega)) (Int.tmod_lt_of_pos _ (by omega))
    refine ⟨T / n + (if o + T % n < n then 0 else 1) + Q', oEnd, he0, he1, fun p hp => ?_⟩
    have h2 := reward_step T n o p hT0 hp ho hon
    have h3 := hQ p hp
    simp only [rrSum, Int.tmod_eq_of_lt ho hon, Int.tmod_eq_emod_of_nonneg hT0]
    omega

theorem rrSum_fair (n : Nat) (hn : 0 < n) (Ts : List Int) (hT : ∀ T ∈ Ts, 0 ≤ T)
    (p q : Nat) (hp : p < n) (hq : q < n) :
    rrSum n 0 Ts p - rrSum n 0 Ts q ≤ 1 := by
  obtain ⟨Q, oEnd, _, _, h⟩ := rrSum_inv n hn Ts hT 0 (Int.le_refl _) (by omega)
  have near : ∀ r : Nat, r < n → Q ≤ rrSum n 0 Ts r ∧ rrSum n 0 Ts r ≤ Q + 1 := by
    intro r hr
    have h1 := h r hr
    rw [if_neg (by omega)] at h1
    split at h1
    · omega
    · omega
  have := near p hp
  have := near q hq
  omega

theorem net_potUpdates_winner {W : List Nat} (ls : List LevelInfo)
    (hW : ∀ l ∈ ls, levelWinners l = W) (hf : ∀ l ∈ ls, LevelFacts l)
    (o : Int) (p : Nat) (hp : p < W.length) :
    net (potUpdates o ls) W[p]
      = rrSum W.length o (ls.map (·.total)) p - (ls.map (·.wager)).sum := by
  induction ls generalizing o with
  | nil => simp [potUpdates, net, rrSum]
  | cons l ls ih =>
    have f := hf l (by simp)
    have hWl : levelWinners l = W := hW l (by simp)
    have ih' := ih (fun l' hl' => hW l' (by simp [hl'])) (fun l' hl' => hf l' (by simp [hl']))
    have h1 := f.net_winner o p (by rwa [hWl])
    have h2 := nextOffset_eq f o
    simp only [hWl] at h1 h2
    simp only [potUpdates, net_append, List.map_cons, rrSum, List.sum_cons, h1, h2, ih']
    omega

theorem pot_tie_fair {W : List Nat} (ls : List LevelInfo)
    (hW : ∀ l ∈ ls, levelWinners l = W) (hf : ∀ l ∈ ls, LevelFacts l)
    (i j : Nat) (hi : i ∈ W) (hj : j ∈ W) :
    net (potUpdates 0 ls) i - net (potUpdates 0 ls) j ≤ 1 := by
  obtain ⟨p, hp, rfl⟩ := List.getElem_of_mem hi
  obtain ⟨q, hq, rfl⟩ := List.getElem_of_mem hj
  rw [net_potUpdates_winner ls hW hf 0 p hp, net_potUpdates_winner ls hW hf 0 q hq]
  have := rrSum_fair W.length (by omega) (ls.map (·.total)) (by
    intro T hT
    obtain ⟨l, hl, rfl⟩ := List.mem_map.1 hT
    exact (hf l hl).total_nonneg) p q hp hq
  omega

end Pokerface
