import Pokerface.Proofs.SettleSeats
/-
  `gameResults (potsOf es) rows`: `changed` is the sum, over all levels of all pots (`levelsOf`), of what the
  level pays to the player; from this, what each player ends up with.
-/
namespace Pokerface

variable {es : List (Nat × Int × Bool)} {rows : List Row}

def allUpdates (es : List (Nat × Int × Bool)) (rows : List Row) : List (Nat × Int) :=
  ((potsOf es).map (fun p => p.levels.map (toInfo rows))).flatMap (fun ls => potUpdates 0 ls)

theorem gameResults_players_eq (es : List (Nat × Int × Bool)) (rows : List Row) :
    (gameResults (potsOf es) rows).players
      = bumpAll (rows.map (fun row => (⟨row.1, row.2.1, 0⟩ : PlayerResult))) (allUpdates es rows) := by
  rw [gameResults_players, allUpdates, List.flatMap_map]

theorem potsOf_infos_flat (es : List (Nat × Int × Bool)) (rows : List Row) :
    ((potsOf es).map (fun p => p.levels.map (toInfo rows))).flatMap id = (llOf es).levels.map (toInfo rows) := by
  have := getPots_flatMap_levels (llOf_inv es)
  rw [List.flatMap_map]
  simp only [id]
  rw [← this]
  show List.flatMap (fun p => p.levels.map (toInfo rows)) (llOf es).getPots = _
  generalize (llOf es).getPots = ps
  induction ps with
  | nil => rfl
  | cons p ps ih => simp [List.flatMap_cons, ih]

theorem mem_potsOf_infos {ls : List LevelInfo} {li : LevelInfo}
    (hls : ls ∈ (potsOf es).map (fun p => p.levels.map (toInfo rows))) (hli : li ∈ ls) :
    ∃ l ∈ (llOf es).levels, li = toInfo rows l := by
  have : li ∈ ((potsOf es).map (fun p => p.levels.map (toInfo rows))).flatMap id :=
    List.mem_flatMap.2 ⟨ls, hls, hli⟩
  rw [potsOf_infos_flat] at this
  obtain ⟨l, hl, rfl⟩ := List.mem_map.1 this
  exact ⟨l, hl, rfl⟩

theorem GameIn0.facts_potsOf_infos (g : GameIn0 es rows) :
    ∀ ls ∈ (potsOf es).map (fun p => p.levels.map (toInfo rows)), ∀ li ∈ ls, LevelFacts li := by
  intro ls hls li hli
  obtain ⟨l, hl, rfl⟩ := mem_potsOf_infos hls hli
  exact g.facts hl

/-- The plain record behind a `LevelInfo`. -/
def ofInfo (li : LevelInfo) : Level :=
  { level := li.level, wager := li.wager, total := li.total, contributors := li.contributors }

theorem ofInfo_toInfo (rows : List Row) (l : Level) : ofInfo (toInfo rows l) = l := rfl

/-- The levels of all pots, each with the odd-chip offset at which `CalculatePot` reaches it. -/
def levelsOf (es : List (Nat × Int × Bool)) (rows : List Row) : List (LevelInfo × Int) :=
  ((potsOf es).map (fun p => p.levels.map (toInfo rows))).flatMap (withOffsets 0)

theorem allUpdates_eq (es : List (Nat × Int × Bool)) (rows : List Row) :
    allUpdates es rows = (levelsOf es rows).flatMap (fun lo => levelUpdates lo.1 lo.2) := by
  simp only [allUpdates, levelsOf, potUpdates_eq_withOffsets, List.flatMap_assoc]

theorem levelsOf_fst (es : List (Nat × Int × Bool)) (rows : List Row) :
    (levelsOf es rows).map (·.1) = (llOf es).levels.map (toInfo rows) := by
  rw [← potsOf_infos_flat, levelsOf, List.map_flatMap]
  simp only [withOffsets_map_fst]
  rfl

theorem levelsOf_level {lo : LevelInfo × Int} (h : lo ∈ levelsOf es rows) :
    ∃ l ∈ (llOf es).levels, lo.1 = toInfo rows l := by
  have : lo.1 ∈ (levelsOf es rows).map (·.1) := List.mem_map_of_mem h
  rw [levelsOf_fst] at this
  obtain ⟨l, hl, e⟩ := List.mem_map.1 this
  exact ⟨l, hl, e.symm⟩

theorem sum_levelsOf (es : List (Nat × Int × Bool)) (rows : List Row) (f : Level → Int) :
    ((levelsOf es rows).map (fun lo => f (ofInfo lo.1))).sum = ((llOf es).levels.map f).sum := by
  have := congrArg (List.map (fun li => f (ofInfo li))) (levelsOf_fst es rows)
  rw [List.map_map, List.map_map] at this
  exact congrArg List.sum this

theorem initRows_idx (rows : List Row) :
    (rows.map (fun row => (⟨row.1, row.2.1, 0⟩ : PlayerResult))).map (·.idx) = rows.map (·.1) := by
  rw [List.map_map]
  rfl

theorem chg_initRows (rows : List Row) (i : Nat) :
    chg (rows.map (fun row => (⟨row.1, row.2.1, 0⟩ : PlayerResult))) i = 0 := by
  induction rows with
  | nil => rfl
  | cons r rs ih =>
    rw [List.map_cons, chg_cons]
    split
    · simp
    · simp [ih]

theorem GameIn0.chg_eq_net (g : GameIn0 es rows) {i : Nat} {c : Int} {b : Bool} (he : (i, c, b) ∈ es) :
    chg (gameResults (potsOf es) rows).players i = net (allUpdates es rows) i := by
  have hi : i ∈ es.map (·.1) := List.mem_map.2 ⟨_, he, rfl⟩
  rw [gameResults_players_eq, chg_bumpAll _ _ _ (by rwa [initRows_idx, g.idx_eq]), chg_initRows]
  omega

theorem GameIn0.chg_eq_levels (g : GameIn0 es rows) {i : Nat} {c : Int} {b : Bool} (he : (i, c, b) ∈ es) :
    chg (gameResults (potsOf es) rows).players i
      = ((levelsOf es rows).map (fun lo => net (levelUpdates lo.1 lo.2) i)).sum := by
  rw [g.chg_eq_net he, allUpdates_eq, net_flatMap]

theorem GameIn0.chg_ge (g : GameIn0 es rows) {i : Nat} {c : Int} {b : Bool} (he : (i, c, b) ∈ es) (f : Level → Int)
    (hf : ∀ l ∈ (llOf es).levels, ∀ o, f l ≤ net (levelUpdates (toInfo rows l) o) i) :
    ((llOf es).levels.map f).sum ≤ chg (gameResults (potsOf es) rows).players i := by
  rw [g.chg_eq_levels he, ← sum_levelsOf es rows f]
  apply sum_map_le_int
  intro lo hlo
  obtain ⟨l, hl, e⟩ := levelsOf_level hlo
  rw [e]
  exact hf l hl lo.2

theorem GameIn0.chg_le (g : GameIn0 es rows) {i : Nat} {c : Int} {b : Bool} (he : (i, c, b) ∈ es) (f : Level → Int)
    (hf : ∀ l ∈ (llOf es).levels, ∀ o, net (levelUpdates (toInfo rows l) o) i ≤ f l) :
    chg (gameResults (potsOf es) rows).players i ≤ ((llOf es).levels.map f).sum := by
  rw [g.chg_eq_levels he, ← sum_levelsOf es rows f]
  apply sum_map_le_int
  intro lo hlo
  obtain ⟨l, hl, e⟩ := levelsOf_level hlo
  rw [e]
  exact hf l hl lo.2

theorem GameIn0.mem_level_of_entry (g : GameIn0 es rows) {i : Nat} {c : Int} {f : Bool} (he : (i, c, f) ∈ es)
    {l : Level} (hl : l ∈ (llOf es).levels) : i ∈ l.contributors ↔ l.level ≤ c := by
  rw [g.mem_level hl]
  constructor
  · rintro ⟨c', f', he', hle⟩
    rw [(g.entry_unique he he').1]
    exact hle
  · intro hle
    exact ⟨c, f, he, hle⟩

theorem GameIn0.net_above (g : GameIn0 es rows) {i : Nat} {c : Int} {f : Bool} (he : (i, c, f) ∈ es)
    {l : Level} (hl : l ∈ (llOf es).levels) (o : Int) (h : ¬ l.level ≤ c) :
    net (levelUpdates (toInfo rows l) o) i = 0 :=
  (g.facts hl).net_out o (fun hi => h ((g.mem_level_of_entry he hl).1 hi))

theorem GameIn0.net_upto (g : GameIn0 es rows) {i : Nat} {c : Int} {f : Bool} (he : (i, c, f) ∈ es)
    {l : Level} (hl : l ∈ (llOf es).levels) (o : Int) (h : l.level ≤ c) :
    -l.wager ≤ net (levelUpdates (toInfo rows l) o) i ∧
      net (levelUpdates (toInfo rows l) o) i ≤ l.total - l.wager :=
  (g.facts hl).net_bounds o ((g.mem_level_of_entry he hl).2 h)

theorem GameIn0.stake_level (g : GameIn0 es rows) {i : Nat} {c : Int} {f : Bool} (he : (i, c, f) ∈ es) :
    c ∈ (llOf es).levels.map (·.level) ∧ 0 ≤ c ∧ c ≤ lastD 0 ((llOf es).levels.map (·.level)) := by
  have hm : c ∈ (llOf es).levels.map (·.level) := (llOf_levels es c).2 ⟨_, he, rfl⟩
  exact ⟨hm, g.nonneg _ he, le_lastD_of_sorted (llOf_inv es).sorted 0 c hm⟩

theorem sum_wager_upto_stake (g : GameIn0 es rows) {i : Nat} {c : Int} {f : Bool} (he : (i, c, f) ∈ es) :
    ((llOf es).levels.map (fun l => if l.level ≤ c then l.wager else 0)).sum = c := by
  obtain ⟨hm, h0, hle⟩ := g.stake_level he
  have h := (llOf_inv es).levels
  have := mkLevelsFrom_wager_sum_upto (llOf es).contribs 0 ((llOf es).levels.map (·.level)) c
    g.levelsOK.nonneg (llOf_inv es).sorted (Or.inr (Or.inl hm))
  rw [← h] at this
  rw [this]
  omega

theorem sum_wager_upto_le (g : GameIn0 es rows) (m : Int) (hm : 0 ≤ m) :
    ((llOf es).levels.map (fun l => if l.level ≤ m then l.wager else 0)).sum ≤ m := by
  have h := (llOf_inv es).levels
  have := mkLevelsFrom_wager_sum_upto_le (llOf es).contribs 0 ((llOf es).levels.map (·.level)) m
    g.levelsOK.nonneg (llOf_inv es).sorted
  rw [← h] at this
  omega

theorem sum_total_upto_stake (g : GameIn0 es rows) {i : Nat} {c : Int} {f : Bool} (he : (i, c, f) ∈ es) :
    ((llOf es).levels.map (fun l => if l.level ≤ c then l.total else 0)).sum
      = (es.map (fun e => min e.2.1 c)).sum := by
  -- the closed form of the totals up to a level (`mkLevelsFrom_total_sum_upto`: each contribution capped at `c`, as slices
  -- between 0 and the top level) read over the entries instead of the contribution list (`contribs_perm`); `c` is itself a
  -- level, at most the top one, so the two outer `min` drop
  obtain ⟨hm, h0, hle⟩ := g.stake_level he
  have h := (llOf_inv es).levels
  have := mkLevelsFrom_total_sum_upto (llOf es).contribs 0 ((llOf es).levels.map (·.level)) c
    g.levelsOK.nonneg (llOf_inv es).sorted (by
      intro kv hkv
      right
      left
      have := g.levelsOK.mem_levels kv hkv
      rcases Int.le_total c kv.2 with h | h
      · rw [Int.min_eq_left h]
        exact hm
      · rw [Int.min_eq_right h]
        exact this)
  rw [← h] at this
  rw [this]
  have hp := perm_sum_int ((C16.contribs_perm g.entriesValid).map
    (fun kv => min (min c kv.2) (lastD 0 ((llOf es).levels.map (·.level))) - min (min c kv.2) 0))
  rw [hp, List.map_map]
  congr 1
  apply List.map_congr_left
  intro e hee
  have := g.nonneg e hee
  simp only [Function.comp]
  rw [Int.min_eq_left (Int.le_trans (Int.min_le_left _ _) hle), Int.min_eq_right (Int.le_min.2 ⟨h0, this⟩),
    Int.sub_zero, Int.min_comm]

theorem gameResults_players_idx (es : List (Nat × Int × Bool)) (rows : List Row) :
    (gameResults (potsOf es) rows).players.map (·.idx) = rows.map (·.1) := by
  rw [gameResults_players_eq, bumpAll_idx, initRows_idx]

theorem gameResults_players_base (es : List (Nat × Int × Bool)) (rows : List Row) :
    (gameResults (potsOf es) rows).players.map (fun p => (p.idx, p.finalStack - p.changed))
      = rows.map (fun r => (r.1, r.2.1)) := by
  rw [gameResults_players_eq, bumpAll_base, List.map_map]
  simp only [Function.comp_def, Int.sub_zero]

theorem gameResults_zero_sum (g : GameIn0 es rows) :
    ((gameResults (potsOf es) rows).players.map (·.changed)).sum = 0 := by
  have hf := GameIn0.facts_potsOf_infos g
  rw [gameResults_players_eq, sum_changed_bumpAll]
  · -- nobody has changed anything before the first pot, and the updates of each pot add up to zero
    rw [allUpdates, sum_map_flatMap, List.map_congr_left fun ls hls => potUpdates_sum ls (hf ls hls) 0 (Int.le_refl _),
      sum_map_zero_int, List.map_map, Int.add_zero]
    exact sum_map_zero_int rows
  · intro u hu
    obtain ⟨ls, hls, hu⟩ := List.mem_flatMap.1 hu
    obtain ⟨li, hli, hc⟩ := potUpdates_keys ls (hf ls hls) 0 u hu
    obtain ⟨l, hl, rfl⟩ := mem_potsOf_infos hls hli
    obtain ⟨c, f, he, _⟩ := (g.mem_level hl u.1).1 hc
    rw [initRows_idx, g.idx_eq]
    exact List.mem_map.2 ⟨_, he, rfl⟩

theorem gameResults_lower (g : GameIn0 es rows) {i : Nat} {c : Int} {f : Bool} (he : (i, c, f) ∈ es) :
    -c ≤ chg (gameResults (potsOf es) rows).players i := by
  have := g.chg_ge he (fun l => - (if l.level ≤ c then l.wager else 0)) (by
    intro l hl o
    by_cases hc : l.level ≤ c
    · simp only [hc, if_true]
      exact (g.net_upto he hl o hc).1
    · simp only [hc, if_false]
      rw [g.net_above he hl o hc]
      omega)
  rw [sum_map_neg, sum_wager_upto_stake g he] at this
  exact this

theorem gameResults_upper (g : GameIn0 es rows) {i : Nat} {c : Int} {f : Bool} (he : (i, c, f) ∈ es) :
    chg (gameResults (potsOf es) rows).players i
      ≤ ((es.filter (fun e => e.1 != i)).map (fun e => min e.2.1 c)).sum := by
  have := g.chg_le he (fun l => (if l.level ≤ c then l.total else 0) - (if l.level ≤ c then l.wager else 0)) (by
    intro l hl o
    by_cases hc : l.level ≤ c
    · simp only [hc, if_true]
      exact (g.net_upto he hl o hc).2
    · simp only [hc, if_false]
      rw [g.net_above he hl o hc]
      omega)
  rw [sum_map_sub, sum_wager_upto_stake g he, sum_total_upto_stake g he,
    sum_split es g.nodup he (fun e => min e.2.1 c)] at this
  simp only at this
  omega

theorem gameResults_folded_le (g : GameIn es rows) {i : Nat} {c : Int} (he : (i, c, true) ∈ es) :
    chg (gameResults (potsOf es) rows).players i ≤ 0 := by
  have g0 := g.toGameIn0
  obtain ⟨r, hr, hri, hrf⟩ := g0.row_of_entry he
  have heff : eff r = 0 := by simp [eff, hrf]
  have := g0.chg_le he (fun _ => 0) (by
    intro l hl o
    by_cases hc : i ∈ l.contributors
    · by_cases hex : ∃ r' ∈ rows, r'.1 ∈ l.contributors ∧ 0 < eff r'
      · obtain ⟨r', hr', hc', hpos⟩ := hex
        have := g0.net_lower_score hl o hr (hri ▸ hc) hr' hc' (by omega)
        rw [hri] at this
        rw [this]
        have : 0 ≤ l.wager := (g0.facts hl).wager
        omega
      · have hall : ∀ r' ∈ rows, r'.1 ∈ l.contributors → eff r' = 0 := by
          intro r' hr' hc'
          have h1 := g.eff_nonneg hr'
          have h2 : ¬ 0 < eff r' := fun h => hex ⟨r', hr', hc', h⟩
          omega
        rw [g0.net_all_equal hl o 0 hall]
        exact Int.le_refl _
    · rw [(g0.facts hl).net_out o hc]
      exact Int.le_refl _)
  rw [sum_map_zero_int] at this
  exact this

theorem gameResults_folded_eq (g : GameIn es rows) {i : Nat} {c : Int} (he : (i, c, true) ∈ es)
    {j : Nat} {c' : Int} (hj : (j, c', false) ∈ es) (hle : c ≤ c') :
    chg (gameResults (potsOf es) rows).players i = -c := by
  have g0 := g.toGameIn0
  obtain ⟨r, hr, hri, hrf⟩ := g0.row_of_entry he
  obtain ⟨r', hr', hri', hrf'⟩ := g0.row_of_entry hj
  have heff : eff r = 0 := by simp [eff, hrf]
  have heff' : 0 < eff r' := g.eff_pos hr' hrf'
  have hlow := gameResults_lower g0 he
  have := g0.chg_le he (fun l => - (if l.level ≤ c then l.wager else 0)) (by
    intro l hl o
    by_cases hc : l.level ≤ c
    · simp only [hc, if_true]
      have h1 : r.1 ∈ l.contributors := hri ▸ (g0.mem_level_of_entry he hl).2 hc
      have h2 : r'.1 ∈ l.contributors := hri' ▸ (g0.mem_level_of_entry hj hl).2 (by omega)
      have := g0.net_lower_score hl o hr h1 hr' h2 (by omega)
      rw [hri] at this
      rw [this]
      exact Int.le_refl _
    · simp only [hc, if_false]
      rw [g0.net_above he hl o hc]
      omega)
  rw [sum_map_neg, sum_wager_upto_stake g0 he] at this
  omega

theorem gameResults_excess (g : GameIn0 es rows) {i : Nat} {c : Int} {f : Bool} (he : (i, c, f) ∈ es)
    (m : Int) (hm0 : 0 ≤ m) (hmc : m < c) (hothers : ∀ e ∈ es, e.1 ≠ i → e.2.1 ≤ m) :
    -m ≤ chg (gameResults (potsOf es) rows).players i := by
  obtain ⟨r, hr, hri, hrf⟩ := g.row_of_entry he
  have := g.chg_ge he (fun l => - (if l.level ≤ m then l.wager else 0)) (by
    intro l hl o
    by_cases hc : l.level ≤ m
    · simp only [hc, if_true]
      exact (g.net_upto he hl o (by omega)).1
    · -- above `m` the player is alone
      simp only [hc, if_false]
      have hall : ∀ r' ∈ rows, r'.1 ∈ l.contributors → eff r' = eff r := by
        intro r' hr' hc'
        obtain ⟨c2, f2, he2, hle2⟩ := (g.mem_level hl r'.1).1 hc'
        have : r'.1 = i := by
          apply Classical.byContradiction
          intro hne
          have := hothers _ he2 hne
          simp only at this
          omega
        rw [g.row_unique hr' hr (this.trans hri.symm)]
      rw [g.net_all_equal hl o (eff r) hall]
      omega)
  rw [sum_map_neg] at this
  have := sum_wager_upto_le g m hm0
  omega

end Pokerface
