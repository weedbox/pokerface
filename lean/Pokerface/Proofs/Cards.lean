import Pokerface.Proofs.CardsDefs
import Pokerface.Proofs.EngineStep
/-
  The cards invariant of the engine model (C14): where every card is, by street, and what the
  chain functions do to it.  The frame relation `CF` is read off a footprint (`Wr.cf`); the dealing functions
  (`dealHoles`, `burn`/`dealBoard`) are handled explicitly, street by street (`dealStreet_nxt`, which the bounds of
  CombosEngineBounds and the own-cards invariant of CombosOwn read too).

  The invariant comes in two strengths: `CCoreL`/`CInvL` need only a long enough deck, `CCore`/`CInv`
  add `deck.Nodup`.  The deck list never changes, so everything is proved for the first pair and
  the second follows.
-/
namespace Pokerface
open Game

/- `Card` derives `BEq` and `DecidableEq` separately (Model/Cards.lean); membership in a list of
    cards is decidable (for the examples decided by evaluation) once the derived `BEq` is known lawful. -/
deriving instance ReflBEq, LawfulBEq for Card

theorem take_succ_modify {α : Type} (f : α → α) :
    ∀ (l : List α) (m : Nat) (h : m < l.length), (l.modify m f).take (m + 1) = l.take m ++ [f l[m]]
  | [], _, h => by simp at h
  | a :: l, 0, _ => by simp
  | a :: l, m + 1, h => by
    have := take_succ_modify f l m (by simpa using h)
    simp [this]

theorem length_drop_take {deck : List Card} {pos k : Nat} (h : pos + k ≤ deck.length) :
    ((deck.drop pos).take k).length = k := by
  simp
  omega

theorem take_append_take_one {α : Type} {l : List α} {k : Nat} (h : l.length ≤ k + 1) :
    l.take k ++ (l.drop k).take 1 = l := by
  have h1 := List.take_append_drop 1 (l.drop k)
  rw [List.drop_drop, List.drop_eq_nil_of_le h, List.append_nil] at h1
  rw [h1, List.take_append_drop]

theorem streetCards_nil : streetCards [] [] = [] := rfl

theorem perm_interleave {α : Type} (b1 f1 b2 f2 b3 f3 : List α) :
    (b1 ++ f1 ++ b2 ++ f2 ++ b3 ++ f3).Perm (f1 ++ (f2 ++ f3) ++ (b1 ++ (b2 ++ b3))) := by
  classical
  rw [List.perm_iff_count]
  intro a
  simp only [List.count_append]
  omega

theorem streetCards_perm {B F : List Card} (hB : B.length ≤ 3) (hF : F.length ≤ 5) :
    (streetCards B F).Perm (F ++ B) := by
  have eF : F.take 3 ++ ((F.drop 3).take 1 ++ (F.drop 4).take 1) = F := by
    have h1 := take_append_take_one (l := F.drop 3) (k := 1) (List.length_drop ▸ by omega)
    rw [List.drop_drop] at h1
    rw [h1, List.take_append_drop]
  have eB : B.take 1 ++ ((B.drop 1).take 1 ++ (B.drop 2).take 1) = B := by
    have h1 := take_append_take_one (l := B.drop 1) (k := 1) (List.length_drop ▸ by omega)
    rw [List.drop_drop] at h1
    rw [h1, List.take_append_drop]
  have h := perm_interleave (B.take 1) (F.take 3) ((B.drop 1).take 1) ((F.drop 3).take 1) ((B.drop 2).take 1)
    ((F.drop 4).take 1)
  rw [eF, eB] at h
  exact h

theorem mem_streetCards {B F : List Card} (hB : B.length ≤ 3) (hF : F.length ≤ 5) (x : Card) :
    x ∈ streetCards B F ↔ x ∈ F ∨ x ∈ B := by
  rw [(streetCards_perm hB hF).mem_iff, List.mem_append]

theorem round_counts (r : Round) :
    (r.burnCount = 0 ∧ r.boardCount = 0) ∨ (r.burnCount = 1 ∧ r.boardCount = 3) ∨
    (r.burnCount = 2 ∧ r.boardCount = 4) ∨ (r.burnCount = 3 ∧ r.boardCount = 5) := by
  cases r <;> decide

theorem streetCards_length (B F : List Card)
    (hl : (B.length = 0 ∧ F.length = 0) ∨ (B.length = 1 ∧ F.length = 3) ∨ (B.length = 2 ∧ F.length = 4) ∨
          (B.length = 3 ∧ F.length = 5)) : (streetCards B F).length = F.length + B.length := by
  rw [(streetCards_perm (by omega) (by omega)).length_eq, List.length_append]

theorem Nxt.burnCount {a r : Round} (hn : Nxt a r) (ha : a ≠ .none) : r.burnCount = a.burnCount + 1 := by
  rcases hn with ⟨h, _⟩ | ⟨rfl, rfl⟩ | ⟨rfl, rfl⟩ | ⟨rfl, rfl⟩
  · exact absurd h ha
  all_goals rfl

/-- one more burn card and the street's board cards are appended in dealing order -/
theorem streetCards_step {a r : Round} (hn : Nxt a r) (ha : a ≠ .none) {B F X Y : List Card}
    (hB : B.length = a.burnCount) (hF : F.length = a.boardCount) (hX : X.length = 1)
    (hY : F.length + Y.length = r.boardCount) :
    streetCards (B ++ X) (F ++ Y) = streetCards B F ++ X ++ Y := by
  -- `streetCards` is defined by positions (`take`/`drop`): per street the lists are opened to their known lengths
  obtain ⟨x, rfl⟩ := List.length_eq_one_iff.mp hX
  rcases hn with ⟨h, _⟩ | ⟨rfl, rfl⟩ | ⟨rfl, rfl⟩ | ⟨rfl, rfl⟩
  · exact absurd h ha
  · rw [List.length_eq_zero_iff.mp hB, List.length_eq_zero_iff.mp hF]
    rw [hF] at hY
    rcases Y with _ | ⟨a, _ | ⟨b, _ | ⟨c, _ | ⟨d, Y⟩⟩⟩⟩ <;> simp [Round.boardCount] at hY
    simp [streetCards]
  · rw [hF] at hY
    rcases B with _ | ⟨b, _ | ⟨b2, B⟩⟩ <;> simp [Round.burnCount] at hB
    rcases F with _ | ⟨f1, _ | ⟨f2, _ | ⟨f3, _ | ⟨f4, F⟩⟩⟩⟩ <;> simp [Round.boardCount] at hF
    obtain ⟨y, rfl⟩ := List.length_eq_one_iff.mp (Nat.add_left_cancel (hY : 3 + Y.length = 3 + 1))
    simp [streetCards]
  · rw [hF] at hY
    rcases B with _ | ⟨b, _ | ⟨b2, _ | ⟨b3, B⟩⟩⟩ <;> simp [Round.burnCount] at hB
    rcases F with _ | ⟨f1, _ | ⟨f2, _ | ⟨f3, _ | ⟨f4, _ | ⟨f5, F⟩⟩⟩⟩⟩ <;> simp [Round.boardCount] at hF
    obtain ⟨y, rfl⟩ := List.length_eq_one_iff.mp (Nat.add_left_cancel (hY : 4 + Y.length = 4 + 1))
    simp [streetCards]

/-- where the cards are, as a function of the street (for any deck that is long enough) -/
structure CCoreL (g : Game) : Prop where
  long : g.n * g.opts.holeCount + 8 ≤ g.opts.deck.length
  holes : ∀ p ∈ g.players, p.hole.length = g.holeCountNow
  board : g.board.length = g.round.boardCount
  burned : g.burned.length = g.round.burnCount
  pos : g.deckPos = g.n * g.holeCountNow + g.round.boardCount + g.round.burnCount
  pref : g.dealtCards = g.opts.deck.take g.deckPos

/-- `CCoreL` plus "antes are only ever requested before any card is dealt" -/
structure CInvL (g : Game) : Prop where
  core : CCoreL g
  ante : g.event = .anteRequested → g.round = .none

/-- `CCoreL` for a deck without duplicates -/
structure CCore (g : Game) : Prop where
  nodup : g.opts.deck.Nodup
  long : g.n * g.opts.holeCount + 8 ≤ g.opts.deck.length
  holes : ∀ p ∈ g.players, p.hole.length = g.holeCountNow
  board : g.board.length = g.round.boardCount
  burned : g.burned.length = g.round.burnCount
  pos : g.deckPos = g.n * g.holeCountNow + g.round.boardCount + g.round.burnCount
  pref : g.dealtCards = g.opts.deck.take g.deckPos

/-- the cards invariant: `CCore` plus "antes are only ever requested before any card is dealt" -/
structure CInv (g : Game) : Prop where
  core : CCore g
  ante : g.event = .anteRequested → g.round = .none

theorem CCore.toL {g : Game} (h : CCore g) : CCoreL g := ⟨h.long, h.holes, h.board, h.burned, h.pos, h.pref⟩
theorem CInv.toL {g : Game} (h : CInv g) : CInvL g := ⟨h.core.toL, h.ante⟩

theorem CCoreL.withNodup {g : Game} (h : CCoreL g) (hn : g.opts.deck.Nodup) : CCore g :=
  ⟨hn, h.long, h.holes, h.board, h.burned, h.pos, h.pref⟩

theorem CInvL.withNodup {g : Game} (h : CInvL g) (hn : g.opts.deck.Nodup) : CInv g := ⟨h.core.withNodup hn, h.ante⟩

theorem holeCountNow_of_ne {g : Game} (h : g.round ≠ .none) : g.holeCountNow = g.opts.holeCount := by
  simp [Game.holeCountNow, h]

theorem holeCountNow_of_none {g : Game} (h : g.round = .none) : g.holeCountNow = 0 := by
  simp [Game.holeCountNow, h]

theorem CCoreL.of_none {g : Game} (hc : CCoreL g) (hr : g.round = .none) :
    g.deckPos = 0 ∧ g.board = [] ∧ g.burned = [] ∧ ∀ p ∈ g.players, p.hole = [] := by
  have hcn := holeCountNow_of_none hr
  refine ⟨?_, List.eq_nil_of_length_eq_zero (hc.board.trans (congrArg Round.boardCount hr)),
    List.eq_nil_of_length_eq_zero (hc.burned.trans (congrArg Round.burnCount hr)), fun p hp => ?_⟩
  · have := hc.pos
    rw [hcn, hr] at this
    simpa [Round.boardCount, Round.burnCount] using this
  · exact List.eq_nil_of_length_eq_zero (by rw [hc.holes p hp, hcn])

/-- the frame relation of the cards invariant (`CF.coreL`, `CF.invL`, `CF.stable`) -/
structure CF (g g' : Game) : Prop where
  opts : g'.opts = g.opts
  pos : g'.deckPos = g.deckPos
  board : g'.board = g.board
  burned : g'.burned = g.burned
  holes : g'.players.map (·.hole) = g.players.map (·.hole)
  round : g'.round = g.round
  ante : g'.event = .anteRequested → g.event = .anteRequested

theorem CF.refl (g : Game) : CF g g := ⟨rfl, rfl, rfl, rfl, rfl, rfl, id⟩
theorem CF.trans {a b c : Game} (h1 : CF a b) (h2 : CF b c) : CF a c :=
  ⟨h2.opts.trans h1.opts, h2.pos.trans h1.pos, h2.board.trans h1.board, h2.burned.trans h1.burned,
   h2.holes.trans h1.holes, h2.round.trans h1.round, h1.ante ∘ h2.ante⟩

theorem CF.length {g g' : Game} (h : CF g g') : g'.n = g.n := by
  have := congrArg List.length h.holes
  simpa [Game.n] using this

theorem CF.holeCards {g g' : Game} (h : CF g g') : g'.holeCards = g.holeCards := by
  simp only [Game.holeCards, List.flatMap_def]
  rw [h.holes]

theorem CF.coreL {g g' : Game} (h : CF g g') (hc : CCoreL g) : CCoreL g' := by
  have hn := h.length
  have hcn : g'.holeCountNow = g.holeCountNow := by simp only [Game.holeCountNow, h.round, h.opts]
  refine ⟨by simpa only [hn, h.opts] using hc.long, ?_, by simpa only [h.board, h.round] using hc.board,
    by simpa only [h.burned, h.round] using hc.burned, by simpa only [h.pos, hn, hcn, h.round] using hc.pos, ?_⟩
  · intro p hp
    have : p.hole ∈ g'.players.map (·.hole) := List.mem_map_of_mem hp
    rw [h.holes] at this
    obtain ⟨q, hq, hqe⟩ := List.mem_map.mp this
    rw [hcn, ← hqe]
    exact hc.holes q hq
  · simp only [Game.dealtCards, h.holeCards, h.burned, h.board, h.opts, h.pos]
    exact hc.pref

theorem CF.invL {g g' : Game} (h : CF g g') (hi : CInvL g) : CInvL g' :=
  ⟨h.coreL hi.core, fun he => by simpa only [h.round] using hi.ante (h.ante he)⟩

theorem CF.stable {g g' : Game} (h : CF g g') : Stable g g' := by
  refine ⟨by rw [h.opts], by simpa using congrArg List.length h.holes, by simpa only [h.pos] using Nat.le_refl _, ?_,
    by simpa only [h.board] using List.prefix_refl _, by simpa only [h.burned] using List.prefix_refl _⟩
  intro k p p' hp hp' _
  have h1 : (g'.players.map (·.hole))[k]? = some p'.hole := by simp [hp']
  rw [h.holes] at h1
  simpa [hp] using h1.symm

theorem Stable.refl (g : Game) : Stable g g := (CF.refl g).stable

theorem Stable.trans {a b c : Game} (h1 : Stable a b) (h2 : Stable b c) : Stable a c := by
  refine ⟨h2.deck.trans h1.deck, h2.seats.trans h1.seats, Nat.le_trans h1.pos h2.pos, ?_,
    h1.board.trans h2.board, h1.burned.trans h2.burned⟩
  intro k p p'' hp hp'' hne
  have hk : k < b.players.length := by
    rw [h1.seats]
    exact (List.getElem?_eq_some_iff.mp hp).1
  have hq : b.players[k]? = some b.players[k] := List.getElem?_eq_getElem hk
  have e1 := h1.holes k p _ hp hq hne
  have e2 := h2.holes k _ p'' hq hp'' (by simpa only [e1] using hne)
  rw [e2, e1]

theorem Stable.of_players {g g' : Game} (ho : g'.opts = g.opts) (hp : g'.players = g.players)
    (hpos : g.deckPos ≤ g'.deckPos) (hF : g.board <+: g'.board) (hB : g.burned <+: g'.burned) : Stable g g' := by
  refine ⟨by rw [ho], by rw [hp], hpos, ?_, hF, hB⟩
  intro k p p' h h' _
  rw [hp, h] at h'
  exact (Option.some.inj h').symm ▸ rfl

theorem Wr.cf {W : Fp} {g g' : Game} (h : Wr W g g')
    (hW : (W.deckPos || W.board || W.burned || W.hole || W.round || W.ante) = false := by rfl) : CF g g' := by
  simp only [Bool.or_eq_false_iff] at hW
  obtain ⟨⟨⟨⟨⟨h1, h2⟩, h3⟩, h4⟩, h5⟩, h6⟩ := hW
  exact ⟨h.opts, h.deckPos h1, h.board h2, h.burned h3,
    h.map (·.hole) fun p => by simp only [Player.erase, h4, cond_false], h.round h5, h.ante h6⟩

/-- what `dealHole`/`dealHoles` leave alone -/
structure DF (g g' : Game) : Prop where
  opts : g'.opts = g.opts
  board : g'.board = g.board
  burned : g'.burned = g.burned
  round : g'.round = g.round
  event : g'.event = g.event
  n : g'.n = g.n

theorem DF.refl (g : Game) : DF g g := ⟨rfl, rfl, rfl, rfl, rfl, rfl⟩
theorem DF.trans {a b c : Game} (h1 : DF a b) (h2 : DF b c) : DF a c :=
  ⟨h2.opts.trans h1.opts, h2.board.trans h1.board, h2.burned.trans h1.burned, h2.round.trans h1.round,
   h2.event.trans h1.event, h2.n.trans h1.n⟩

theorem Wr.df {W : Fp} {g g' : Game} (h : Wr W g g')
    (hW : (W.board || W.burned || W.round || W.event) = false := by rfl) : DF g g' := by
  simp only [Bool.or_eq_false_iff] at hW
  exact ⟨h.opts, h.board hW.1.1.1, h.burned hW.1.1.2, h.round hW.1.2, h.event hW.2, h.n⟩

theorem df_dealHoles (k i : Nat) (g : Game) : DF g (dealHoles k i g) := (wr_dealHoles k i g).df

theorem dealHoles_cards : ∀ (k i : Nat) (g : Game),
    (dealHoles k i g).deckPos = g.deckPos + k * g.opts.holeCount ∧ (dealHoles k i g).board = g.board ∧
    (dealHoles k i g).opts = g.opts ∧ (dealHoles k i g).n = g.n
  | 0, _, g => by simp [Game.dealHoles]
  | k + 1, i, g => by
    have df := df_dealHoles (k + 1) i g
    refine ⟨?_, df.board, df.opts, df.n⟩
    unfold Game.dealHoles
    rw [(dealHoles_cards k (i + 1) (g.dealHole i)).1, Nat.add_mul]
    show g.deckPos + g.opts.holeCount + k * g.opts.holeCount = _
    omega

theorem players_dealHole (g : Game) (i : Nat) :
    (g.dealHole i).players = g.players.modify i fun p => { p with hole := g.dealt g.opts.holeCount } := rfl

/-- the first `m` seats have been dealt their hole cards from the top of the deck -/
structure HD (deck : List Card) (hc m : Nat) (g : Game) : Prop where
  hdeck : g.opts.deck = deck
  hhc : g.opts.holeCount = hc
  pos : g.deckPos = m * hc
  cards : (g.players.take m).flatMap (·.hole) = deck.take (m * hc)
  len : ∀ p ∈ g.players.take m, p.hole.length = hc

theorem hd_dealHole {deck : List Card} {hc m : Nat} {g : Game} (h : HD deck hc m g) (hm : m < g.n)
    (hl : (m + 1) * hc ≤ deck.length) : HD deck hc (m + 1) (g.dealHole m) := by
  have hm' : m < g.players.length := hm
  have hd : g.dealt g.opts.holeCount = (deck.drop (m * hc)).take hc := by
    simp only [Game.dealt, h.hdeck, h.hhc, h.pos]
  have hpl := players_dealHole g m
  have hmul : (m + 1) * hc = m * hc + hc := Nat.succ_mul m hc
  refine ⟨h.hdeck, h.hhc, ?_, ?_, ?_⟩
  · show g.deckPos + g.opts.holeCount = (m + 1) * hc
    rw [h.pos, h.hhc, hmul]
  · rw [hpl, take_succ_modify _ _ _ hm', List.flatMap_append, h.cards, hmul, List.take_add]
    simp [hd]
  · rw [hpl, take_succ_modify _ _ _ hm']
    intro p hp
    rcases List.mem_append.mp hp with hp | hp
    · exact h.len p hp
    · simp only [List.mem_singleton] at hp
      subst hp
      simp only [hd]
      exact length_drop_take (by omega)

/- by its own recursion: `HD` is indexed by the seat counter, which a relation between two states
   (`dealHoles_steps`) does not see -/
theorem hd_dealHoles {deck : List Card} {hc : Nat} : ∀ (k i : Nat) (g : Game), HD deck hc i g → i + k = g.n →
    g.n * hc ≤ deck.length → HD deck hc (i + k) (dealHoles k i g)
  | 0, _, _, h, _, _ => h
  | k + 1, i, g, h, hn, hl => by
    have hlt : i < g.n := by omega
    have hle : (i + 1) * hc ≤ deck.length := Nat.le_trans (Nat.mul_le_mul_right hc (by omega)) hl
    have h1 := hd_dealHole h hlt hle
    have hn1 : (g.dealHole i).n = g.n := (wr_dealHole g i).n
    have hn' : i + 1 + k = (g.dealHole i).n := by
      rw [hn1]
      omega
    have := hd_dealHoles k (i + 1) (g.dealHole i) h1 hn' (by simpa only [hn1] using hl)
    have e : i + (k + 1) = i + 1 + k := by omega
    rw [e]
    exact this

theorem ccoreL_dealHoles (g : Game) (hc : CCoreL g) (hr : g.round = .none) :
    CCoreL (dealHoles g.n 0 (g.setRound .preflop)) := by
  -- `HD` from seat 0 to seat `n` gives the hole cards and the cursor, `DF` the rest; nothing else is out yet
  obtain ⟨hpos, hb, hu, _⟩ := hc.of_none hr
  have h0 : HD g.opts.deck g.opts.holeCount 0 (g.setRound .preflop) :=
    ⟨rfl, rfl, hpos.trans (Nat.zero_mul _).symm, by simp, by simp⟩
  have hl : g.n * g.opts.holeCount ≤ g.opts.deck.length := Nat.le_trans (Nat.le_add_right _ 8) hc.long
  have h1 := hd_dealHoles g.n 0 (g.setRound .preflop) h0 (by simp [Game.n, Game.setRound]) hl
  have hd := df_dealHoles g.n 0 (g.setRound .preflop)
  generalize dealHoles g.n 0 (g.setRound .preflop) = g2 at h1 hd
  have hn2 : g2.n = g.n := hd.n
  have hround : g2.round = .preflop := hd.round
  have hopts : g2.opts = g.opts := hd.opts
  have htake : g2.players.take (0 + g.n) = g2.players := by
    apply List.take_of_length_le
    show g2.n ≤ 0 + g.n
    omega
  have hcn2 : g2.holeCountNow = g.opts.holeCount := by
    rw [holeCountNow_of_ne (hround ▸ Round.noConfusion), hopts]
  have hpos2 : g2.deckPos = g.n * g.opts.holeCount := by simpa using h1.pos
  have hbb : g2.board = [] := hd.board.trans hb
  have huu : g2.burned = [] := hd.burned.trans hu
  refine ⟨by simpa only [hn2, hopts] using hc.long, ?_,
    (congrArg List.length hbb).trans (congrArg Round.boardCount hround).symm,
    (congrArg List.length huu).trans (congrArg Round.burnCount hround).symm, ?_, ?_⟩
  · intro p hp
    rw [hcn2]
    exact h1.len p (by simpa only [htake] using hp)
  · rw [hpos2, hn2, hcn2, hround]
    rfl
  · have hcards := h1.cards
    rw [htake] at hcards
    simp only [Game.dealtCards, Game.holeCards, hcards, hbb, huu, streetCards_nil, List.append_nil, hopts, hpos2]
    simp

/-- The dealing on entering the street after `g.round`, with the counts of that street: the hole cards when nothing has
    been dealt, else one burned card and `k` board cards (`dealStreet_cases` leaves `k` open). -/
theorem dealStreet_nxt {motive : Game → Prop} {g : Game} {r : Round} (hn : Nxt g.round r)
    (holes : g.round = .none → r = .preflop → motive (dealHoles g.n 0 (g.setRound r)))
    (street : ∀ k, g.round ≠ .none → g.round.boardCount + k = r.boardCount →
      motive ((((g.setRound r).burn 1).dealBoard k).setCurrentPlayer (g.setRound r).dealerIdx)) :
    motive (g.setRound r).dealStreet := by
  rcases hn with ⟨h1, rfl⟩ | ⟨h1, rfl⟩ | ⟨h1, rfl⟩ | ⟨h1, rfl⟩
  · exact holes h1 rfl
  · exact street 3 (h1 ▸ nofun) (h1 ▸ rfl)
  · exact street 1 (h1 ▸ nofun) (h1 ▸ rfl)
  · exact street 1 (h1 ▸ nofun) (h1 ▸ rfl)

theorem street_fields (g : Game) (r : Round) (k : Nat) :
    (((g.setRound r).burn 1).dealBoard k).opts = g.opts ∧
    (((g.setRound r).burn 1).dealBoard k).players = g.players ∧
    (((g.setRound r).burn 1).dealBoard k).round = r ∧
    (((g.setRound r).burn 1).dealBoard k).deckPos = g.deckPos + 1 + k ∧
    (((g.setRound r).burn 1).dealBoard k).burned = g.burned ++ (g.opts.deck.drop g.deckPos).take 1 ∧
    (((g.setRound r).burn 1).dealBoard k).board = g.board ++ (g.opts.deck.drop (g.deckPos + 1)).take k := by
  -- `rfl` through the three updates at once is slow for the structure-valued fields
  exact ⟨(burn_dealBoard _ k).1, (burn_dealBoard _ k).2.2.1, rfl, rfl, rfl, rfl⟩

theorem ccoreL_dealBoard {g : Game} (hc : CCoreL g) {r : Round} (hn : Nxt g.round r)
    (hne : g.round ≠ .none) {k : Nat} (hk : g.round.boardCount + k = r.boardCount) :
    CCoreL (((g.setRound r).burn 1).dealBoard k) := by
  -- the six fields of the new state (`street_fields`) against the counts of the new street; the prefix clause
  -- is `streetCards_step`
  have hr0 : r ≠ .none := hn.ne_none
  have hbu : r.burnCount = g.round.burnCount + 1 := hn.burnCount hne
  obtain ⟨ho, hp, hr, hpos, hB, hF⟩ := street_fields g r k
  generalize ((g.setRound r).burn 1).dealBoard k = g' at ho hp hr hpos hB hF
  have h8 := round_counts r
  have hn' : g'.n = g.n := congrArg List.length hp
  have hcn : g'.holeCountNow = g.holeCountNow := by
    rw [holeCountNow_of_ne hne, holeCountNow_of_ne (by simpa only [hr] using hr0), ho]
  have hpos0 := hc.pos
  have hlong := hc.long
  rw [holeCountNow_of_ne hne] at hpos0
  have hX : ((g.opts.deck.drop g.deckPos).take 1).length = 1 := length_drop_take (by omega)
  have hY : ((g.opts.deck.drop (g.deckPos + 1)).take k).length = k := length_drop_take (by omega)
  refine ⟨by simpa only [hn', ho] using hc.long, by simpa only [hp, hcn] using hc.holes, ?_, ?_, ?_, ?_⟩
  · rw [hF, List.length_append, hY, hc.board, hr, hk]
  · rw [hB, List.length_append, hX, hc.burned, hr, hbu]
  · rw [hpos, hn', hcn, hr, hbu, ← hk, hc.pos]
    omega
  · rw [Game.dealtCards, Game.holeCards, hp, hB, hF,
      streetCards_step hn hne hc.burned hc.board hX (by simpa only [hY, hc.board] using hk),
      hpos, ho, List.take_add, List.take_add, ← hc.pref]
    simp only [Game.dealtCards, Game.holeCards, List.append_assoc]

theorem ccoreL_dealStreet (g : Game) (hc : CCoreL g) (r : Round) (hn : Nxt g.round r) :
    CCoreL (g.setRound r).dealStreet := by
  refine dealStreet_nxt hn (fun h0 hr => ?_) fun k h0 hk => ?_
  · subst hr
    exact ccoreL_dealHoles g hc h0
  · exact (wr_askDealer_dealt _ k).cf.coreL (ccoreL_dealBoard hc hn h0 hk)

theorem stable_dealStreet (g : Game) (hc : CCoreL g) (r : Round) (hn : Nxt g.round r) :
    Stable g (g.setRound r).dealStreet := by
  refine dealStreet_nxt hn (fun h0 _ => ?_) fun k _ _ => ?_
  · obtain ⟨hpos, _, _, hh⟩ := hc.of_none h0
    have hd := df_dealHoles g.n 0 (g.setRound r)
    refine ⟨congrArg Meta.deck hd.opts, hd.n, Nat.le_trans (Nat.le_of_eq hpos) (Nat.zero_le _), ?_, ?_, ?_⟩
    · intro k p p' hp _ hne
      exact absurd (hh p (List.mem_of_getElem? hp)) hne
    · rw [hd.board]
      exact List.prefix_refl _
    · rw [hd.burned]
      exact List.prefix_refl _
  · obtain ⟨ho, hp, _, hpos, hB, hF⟩ := street_fields g r k
    exact (Stable.of_players ho hp (by omega) (by simpa only [hF] using List.prefix_append _ _)
      (by simpa only [hB] using List.prefix_append _ _)).trans (wr_askDealer_dealt _ k).cf.stable

end Pokerface
