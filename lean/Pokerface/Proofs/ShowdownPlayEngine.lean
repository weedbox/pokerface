import Pokerface.Proofs.ShowdownPlay
import Pokerface.Proofs.BetsMono
import Pokerface.Proofs.EngineOpens
import Pokerface.Proofs.FlowC06
import Pokerface.Proofs.FlowClose
/-
  The invariant `Lvl` (Proofs/ShowdownPlay.lean) holds in every state of a hand from the forced bets
  on, hence `Covered g` in EVERY reachable state: some non-folded player has put in at least as much
  as every other player.
-/
namespace Pokerface
open Game

theorem lvs_of_frame_fold {l l' : List Player} (hfr : l'.map Player.frame = l.map Player.frame)
    (hfo : l'.map (·.fold) = l.map (·.fold)) : l'.map Player.lv = l.map Player.lv := by
  -- `lv` is read off the frame and the fold flag
  have e : ∀ l : List Player, l.map Player.lv = ((l.map Player.frame).zip (l.map (·.fold))).map
      (fun x => (x.2, x.1.2.2.1, x.1.2.2.2.2.1, x.1.2.2.2.2.2)) := by
    intro l
    rw [List.zip_map', List.map_map]
    rfl
  rw [e l', e l, hfr, hfo]

structure LvSame (g g' : Game) : Prop where
  lvs : g'.lvs = g.lvs
  cw : g'.cw = g.cw

theorem LvSame.lvl {g g' : Game} (s : LvSame g g') (h : Lvl g.lvs g.cw) : Lvl g'.lvs g'.cw := by
  rw [s.lvs, s.cw]
  exact h

/-- a footprint without the wagers, the round-start stacks, what is in the pot, the fold flags and the wager to match -/
theorem Wr.lvSame {W : Fp} {g g' : Game} (h : Wr W g g')
    (hW : (W.fold || W.initial || W.pot || W.wager || W.cw) = false := by rfl) : LvSame g g' := by
  simp only [Bool.or_eq_false_iff] at hW
  obtain ⟨⟨⟨⟨h1, h2⟩, h3⟩, h4⟩, h5⟩ := hW
  exact ⟨h.map Player.lv fun p => by simp only [Player.lv, Player.erase, h1, h2, h3, h4, cond_false], h.cw h5⟩

theorem lvOK_of_chips {g : Game} (ok : ChipsOK g) : LvOK g.lvs g.cw := by
  intro k a ha
  simp only [Game.lvs, List.getElem?_map, Option.map_eq_some_iff] at ha
  obtain ⟨p, hp, rfl⟩ := ha
  have hm := List.mem_of_getElem? hp
  have pi := ok.pinv p hm
  -- wager ≤ initial because the stack `initial - wager` is not negative
  have hstack : 0 ≤ p.initial - p.wager := pi.rebase ▸ pi.stack0
  exact ⟨pi.wager0, ok.wle p hm, show p.wager ≤ p.initial by omega⟩

theorem lvs_getElem {g : Game} {k : Nat} {a : Lv} (h : g.lvs[k]? = some a) : ∃ p, g.players[k]? = some p ∧ a = p.lv := by
  simp only [Game.lvs, List.getElem?_map, Option.map_eq_some_iff] at h
  obtain ⟨p, hp, rfl⟩ := h
  exact ⟨p, hp, rfl⟩

theorem lvl_pay_game {g : Game} (ok : ChipsOK g) (h : Lvl g.lvs g.cw) (i : Nat) (c : Int) (hc : 0 ≤ c)
    (hnf : ∀ p, g.players[i]? = some p → p.fold = false) :
    Lvl (g.pay i c true).lvs (g.pay i c true).cw := by
  cases hp : g.players[i]? with
  | none =>
    rw [g.pay_none hp]
    exact h
  | some p =>
    have hfr := pay_frame hp c true
    have hfo : (g.pay i c true).players.map (·.fold) = (g.players.modify i (payF c)).map (·.fold) := by
      rw [(wr_pay g i c true).folds.fold, map_modify_of_proj (·.fold) (payF c) (payF_fold c)]
    have hl : (g.pay i c true).lvs = (g.players.modify i (payF c)).map Player.lv := lvs_of_frame_fold hfr hfo
    refine lvl_pay (i := i) (a := p.lv) (w' := (payF c p).wager) h (by simp [Game.lvs, hp]) ?_ ?_
      (payF_wager_mono (ok.pinv p (List.mem_of_getElem? hp)) hc) (Or.inl (hnf p hp)) (pay_cw_max hp c)
    · rw [hl, List.getElem?_map, List.getElem?_modify_eq, hp]
      show some (payF c p).lv = some _
      congr 1
      unfold payF
      split
      · rfl
      · rfl
    · intro k hk
      rw [hl]
      simp only [Game.lvs, List.getElem?_map]
      rw [List.getElem?_modify_ne _ _ (Ne.symm hk)]

theorem lvl_fold_game {g : Game} (ok : ChipsOK g) (h : Lvl g.lvs g.cw) (i : Nat) (p : Player)
    (hp : g.players[i]? = some p) (hlt : p.wager < g.cw) :
    Lvl (g.modP i foldMark).lvs (g.modP i foldMark).cw := by
  show Lvl ((g.players.modify i foldMark).map Player.lv) g.cw
  refine lvl_fold (i := i) (a := p.lv) h (lvOK_of_chips ok) (by simp [Game.lvs, hp]) ?_ ?_ hlt
  · simp only [List.getElem?_map, List.getElem?_modify_eq, hp]
    rfl
  · intro k hk
    simp only [Game.lvs, List.getElem?_map]
    rw [List.getElem?_modify_ne _ _ (Ne.symm hk)]

theorem lvs_resets (g : Game) (ok : ChipsOK0 g) :
    g.resetRoundStatus.resetAllPlayerStatus.lvs = g.lvs.map Lv.sweep := by
  show (g.players.map _).map Player.lv = (g.players.map Player.lv).map Lv.sweep
  rw [List.map_map, List.map_map]
  apply List.map_congr_left
  intro p hp
  have := (ok.pinv p hp).rebase
  simp only [Function.comp_def, Player.lv, Lv.sweep, Prod.mk.injEq, true_and, and_true]
  exact this

theorem lvl_nextRound (g : Game) (ok : ChipsOK g) (h : Lvl g.lvs g.cw) (hcl : 2 ≤ g.aliveCount → AllLevel g) :
    Lvl g.nextRound.lvs g.nextRound.cw := by
  unfold Game.nextRound
  refine (wr_nextRound' _).lvSame.lvl ?_
  rw [lvs_resets g ok.zero]
  show Lvl (g.lvs.map Lv.sweep) 0
  apply lvl_sweep h (lvOK_of_chips ok)
  by_cases h2 : 2 ≤ g.aliveCount
  · left
    intro k a ha hf hi
    obtain ⟨p, hp, rfl⟩ := lvs_getElem ha
    have hm := List.mem_of_getElem? hp
    have := (ok.pinv p hm).rebase
    simp only [Player.lv] at hi
    exact hcl h2 p hm hf (by omega)
  · right
    intro a ha b hb hfa hfb
    obtain ⟨p, hp, rfl⟩ := List.mem_map.1 ha
    obtain ⟨q, hq, rfl⟩ := List.mem_map.1 hb
    simp only [Player.lv] at hfa hfb
    unfold Game.aliveCount at h2
    rw [eq_of_filter_le_one (fun p : Player => !p.fold) (by omega) hp hq (by simp [hfa]) (by simp [hfb])]

theorem resume_event (X : Game) (he : X.event = .roundStarted) :
    X.resume.event = .roundStarted ∨ X.resume.event = .roundClosed := by
  rw [resume_started he]
  exact (requestPlayerAction_event X).imp_left (·.trans he)

/-- `Lvl`, and the blinds are not being requested (they are requested once, before any fold) -/
structure LvlGood (g : Game) : Prop where
  lvl : Lvl g.lvs g.cw
  ev : g.event ≠ .blindsRequested

theorem good_resume {X : Game} (hm : MidAct X) (hl : Lvl X.lvs X.cw) : LvlGood X.resume :=
  ⟨(wr_resume X).lvSame.lvl hl, by
    rcases resume_event X hm.ev with e | e
    · rw [e]
      exact nofun
    · rw [e]
      exact nofun⟩

theorem lvl_setActed {X : Game} (i : Nat) (hl : Lvl X.lvs X.cw) : Lvl (X.setActed i).lvs (X.setActed i).cw :=
  (wr_setActed X i).lvSame.lvl hl

/-- Every accepted action is a mark, a fold below the wager to match, or a payment by a non-folded seat
    (`ActShape`); each keeps `Lvl`. -/
theorem good_act (g : Game) (hi : Inv g) (hg : LvlGood g) (i : Nat) (a : Act) (x : Int) : LvlGood (g.act i a x).1 := by
  by_cases hacc : (g.act i a x).2 = none
  · obtain ⟨p, g1, hp, he, rfl, e, sh, hm, _⟩ := act_turn g hi i a x hacc
    rw [e, ← resume_started hm.ev]
    refine good_resume hm ?_
    cases sh with
    | mark _ => exact lvl_setActed _ hg.lvl
    | fold _ hw => exact lvl_fold_game (hi.chips (by rw [he]; exact nofun)) hg.lvl _ p hp hw
    | pay a b c ha _ hc hl _ =>
      refine lvl_pay_game (midAct_setPrev (midAct_setActed (hi.midAct he) _) a ha).chips (lvl_setActed _ hg.lvl) _ c hc
        fun q hq => ?_
      rw [show ((g.setActed g.cur).setPrev a).players[g.cur]? = _ from setActed_self hp] at hq
      cases hq
      exact hl.1
  · rw [Game.act_refused g i a x hacc]
    exact hg

/-- the invariant carried along a hand once the forced bets are in -/
structure LInv (g : Game) : Prop where
  rnd : g.round ≠ .none
  good : LvlGood g

theorem linv_step {g : Game} (hR : Reachable g) (h : LInv g) (op : Op) : LInv (g.step op).1 := by
  have hi := inv_reachable hR
  have hf := flow_reachable hR
  have hev : g.event ≠ .anteRequested := fun e => h.rnd (hf.ante e).2
  have ok := hi.chips hev
  have hrnd : (g.step op).1.round ≠ .none := by
    rcases round_step g hi hf op with e | ⟨_, _, e, _⟩ | ⟨_, e, _⟩ | ⟨_, _, e⟩
    · rw [e]
      exact h.rnd
    · exact absurd e h.rnd
    · exact absurd e h.rnd
    · intro hn
      rw [hn] at e
      simp [Round.idx] at e
  induction op using step_split hi hf with
  | refused op _ e => exact e.symm ▸ h
  | act s a x =>
    rw [g.step_act] at hrnd ⊢
    exact ⟨hrnd, good_act g hi h.good _ a x⟩
  | table op hop _ hacc =>
    refine ⟨hrnd, ?_⟩
    -- the blinds are requested only when the preflop round is entered from no street
    have hev' : op ≠ .payAnte → (g.step op).1.event ≠ .blindsRequested := by
      intro hpa hb
      obtain ⟨_, row, _⟩ := step_phase hi.struct hf op hop hacc
      rw [hb] at row
      generalize (g.step op).1.round = r at row
      cases row with
      | blinds hop' =>
        rcases hop' with rfl | ⟨_, hrn, _⟩
        · exact hpa rfl
        · exact h.rnd hrn
    have haw := accepted_awaited_table g op hop hacc
    cases op with
    | act s a x => exact absurd rfl (hop s a x)
    | payAnte => exact absurd haw hev
    | payBlinds => exact absurd haw h.good.ev
    | ready => exact ⟨(wr_step g .ready).lvSame.lvl h.good.lvl, hev' nofun⟩
    | next =>
      refine ⟨?_, hev' nofun⟩
      rw [step_next haw h.rnd]
      exact lvl_nextRound g ok h.good.lvl (level_of_closed hR haw)

end Pokerface
