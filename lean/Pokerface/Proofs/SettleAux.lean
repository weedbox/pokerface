import Pokerface.Proofs.SettleDefs
import Pokerface.Proofs.Assoc
/-
  The pieces of the settlement model one by one: `bumpPlayer` / `bumpAll`, `net` and `chg`, the rank groups
  (`rankAdd`, `sortGroups`), and the arithmetic of `reward`.
-/
namespace Pokerface

theorem bumpAll_nil (ps : List PlayerResult) : bumpAll ps [] = ps := rfl

theorem bumpAll_cons (ps : List PlayerResult) (u) (us : List (Nat × Int)) :
    bumpAll ps (u :: us) = bumpAll (bumpPlayer ps u.1 u.2) us := rfl

theorem bumpAll_append (ps : List PlayerResult) (us vs : List (Nat × Int)) :
    bumpAll ps (us ++ vs) = bumpAll (bumpAll ps us) vs := by
  simp [bumpAll, List.foldl_append]

theorem payWinners_players (wager based rem count offset : Int) (a : Acc) (i : Nat) (ws : List Nat) :
    (payWinners wager based rem count offset a i ws).players
      = bumpAll a.players ((ws.zipIdx i).map fun wp =>
          (wp.1, (if Int.tmod ((wp.2 : Int) - offset + count) count < rem then based + 1 else based) - wager)) := by
  induction ws generalizing a i with
  | nil => rfl
  | cons w ws ih =>
    simp only [payWinners, ih, List.zipIdx_cons, List.map_cons, bumpAll_cons, Acc.update]

theorem payWinners_offset (wager based rem count offset : Int) (a : Acc) (i : Nat) (ws : List Nat) :
    (payWinners wager based rem count offset a i ws).offset = a.offset := by
  induction ws generalizing a i with
  | nil => rfl
  | cons w ws ih => simp only [payWinners, ih, Acc.update]

theorem foldl_losers_players (w : Int) (L : List Nat) (a : Acc) :
    (L.foldl (fun a i => a.update i w (-w)) a).players = bumpAll a.players (L.map fun i => (i, -w)) := by
  induction L generalizing a with
  | nil => rfl
  | cons x L ih =>
    rw [List.foldl_cons, ih]
    rfl

theorem foldl_losers_offset (w : Int) (L : List Nat) (a : Acc) :
    (L.foldl (fun a i => a.update i w (-w)) a).offset = a.offset := by
  induction L generalizing a with
  | nil => rfl
  | cons x L ih =>
    rw [List.foldl_cons, ih]
    rfl

theorem bumpPlayer_base (ps : List PlayerResult) (j : Nat) (d : Int) :
    (bumpPlayer ps j d).map (fun p => (p.idx, p.finalStack - p.changed))
      = ps.map (fun p => (p.idx, p.finalStack - p.changed)) := by
  induction ps with
  | nil => rfl
  | cons p ps ih =>
    simp only [bumpPlayer]
    split
    · simp
      omega
    · simp [ih]

theorem bumpPlayer_idx (ps : List PlayerResult) (j : Nat) (d : Int) :
    (bumpPlayer ps j d).map (·.idx) = ps.map (·.idx) := by
  have := congrArg (List.map (·.1)) (bumpPlayer_base ps j d)
  rwa [List.map_map, List.map_map] at this

theorem net_nil (i : Nat) : net [] i = 0 := rfl

theorem net_cons (u : Nat × Int) (us : List (Nat × Int)) (i : Nat) :
    net (u :: us) i = (if u.1 = i then u.2 else 0) + net us i := by
  simp only [net, List.filter_cons]
  by_cases h : u.1 = i
  · simp [h]
  · simp [h]

theorem chg_cons (p : PlayerResult) (ps : List PlayerResult) (i : Nat) :
    chg (p :: ps) i = if p.idx = i then p.changed else chg ps i := by
  simp only [chg, List.find?_cons]
  by_cases h : p.idx = i
  · simp [h]
  · have : (p.idx == i) = false := by simpa using h
    simp [h, this]

theorem chg_self (ps : List PlayerResult) (hn : (ps.map (·.idx)).Nodup) {p : PlayerResult} (hp : p ∈ ps) :
    chg ps p.idx = p.changed := by
  simp only [chg, find?_key_of_mem (·.idx) hn hp]

theorem chg_bumpPlayer (ps : List PlayerResult) (j : Nat) (d : Int) (i : Nat)
    (h : i ∈ ps.map (·.idx)) : chg (bumpPlayer ps j d) i = chg ps i + (if j = i then d else 0) := by
  induction ps with
  | nil => simp at h
  | cons p ps ih =>
    simp only [bumpPlayer]
    split
    next hj =>
      rw [chg_cons, chg_cons]
      split
      next hi =>
        simp only [] at hi
        rw [if_pos (hj ▸ hi)]
      next hi =>
        simp only [] at hi
        rw [if_neg (hj ▸ hi)]
        omega
    next hj =>
      rw [chg_cons, chg_cons]
      split
      next hi =>
        rw [if_neg (fun e => hj (by omega))]
        omega
      next hi =>
        apply ih
        simp only [List.map_cons, List.mem_cons] at h
        rcases h with h | h
        · exact absurd h.symm hi
        · exact h

theorem sum_changed_bumpPlayer (ps : List PlayerResult) (j : Nat) (d : Int)
    (h : j ∈ ps.map (·.idx)) :
    ((bumpPlayer ps j d).map (·.changed)).sum = (ps.map (·.changed)).sum + d := by
  induction ps with
  | nil => simp at h
  | cons p ps ih =>
    simp only [bumpPlayer]
    by_cases hj : p.idx = j
    · simp [hj]
      omega
    · have hmem : j ∈ ps.map (·.idx) := by
        simp only [List.map_cons, List.mem_cons] at h
        rcases h with h | h
        · exact absurd h.symm hj
        · exact h
      simp [hj, ih hmem]
      omega

theorem addScores_nil (gs : List RankGroup) : addScores gs [] = gs := rfl

theorem addScores_cons (gs : List RankGroup) (x) (xs : List (Nat × Int)) :
    addScores gs (x :: xs) = addScores (rankAdd gs x.2 x.1) xs := rfl

theorem addScores_append (gs : List RankGroup) (xs ys : List (Nat × Int)) :
    addScores gs (xs ++ ys) = addScores (addScores gs xs) ys := by
  simp [addScores, List.foldl_append]

theorem scoredRows_nil (C : List Nat) : scoredRows [] C = [] := rfl

theorem scoredRows_cons (row : Nat × Int × Bool × Int) (rows) (C : List Nat) :
    scoredRows (row :: rows) C =
      if C.contains row.1 then (row.1, if row.2.2.1 then (0 : Int) else row.2.2.2) :: scoredRows rows C
      else scoredRows rows C := by
  simp only [scoredRows, List.filter_cons]
  split
  · simp
  · simp

theorem sortGroups_perm (gs : List RankGroup) : (sortGroups gs).Perm gs := isort_perm _ _

theorem sortGroups_sorted (gs : List RankGroup) : (sortGroups gs).Pairwise (fun a b => b.score ≤ a.score) :=
  isort_pairwise (fun a b : RankGroup => b.score ≤ a.score) (fun _ _ _ h1 h2 => Int.le_trans h2 h1)
    (fun _ _ h => Int.le_of_lt (of_decide_eq_true h)) (fun _ _ h => Int.not_lt.1 (of_decide_eq_false h)) gs

theorem rankAdd_scores (gs : List RankGroup) (s : Int) (i : Nat) :
    (rankAdd gs s i).map (·.score) = if s ∈ gs.map (·.score) then gs.map (·.score) else gs.map (·.score) ++ [s] := by
  induction gs with
  | nil => simp [rankAdd]
  | cons g gs ih =>
    simp only [rankAdd]
    split
    next h => simp [h]
    next h =>
      have h' : ¬ s = g.score := fun e => h e.symm
      simp only [List.map_cons, ih, List.mem_cons, h', false_or]
      split
      · simp
      · simp

theorem rankAdd_flatMap (gs : List RankGroup) (s : Int) (i : Nat) :
    ((rankAdd gs s i).flatMap (·.contributors)).Perm (gs.flatMap (·.contributors) ++ [i]) := by
  induction gs with
  | nil => simp [rankAdd]
  | cons g gs ih =>
    simp only [rankAdd]
    split
    · simp only [List.flatMap_cons, List.append_assoc]
      refine List.Perm.append_left _ ?_
      exact List.perm_append_comm
    · simp only [List.flatMap_cons, List.append_assoc]
      exact List.Perm.append_left _ ih

theorem rankAdd_mem (gs : List RankGroup) (s : Int) (i : Nat) (hnd : (gs.map (·.score)).Nodup)
    (g' : RankGroup) (hg' : g' ∈ rankAdd gs s i) :
    (g' ∈ gs ∧ g'.score ≠ s) ∨
    (∃ g ∈ gs, g.score = s ∧ g' = { g with contributors := g.contributors ++ [i] }) ∨
    (s ∉ gs.map (·.score) ∧ g' = ⟨s, [i]⟩) := by
  induction gs with
  | nil =>
    simp only [rankAdd, List.mem_singleton] at hg'
    right; right; simp [hg']
  | cons g gs ih =>
    simp only [List.map_cons, List.nodup_cons] at hnd
    simp only [rankAdd] at hg'
    split at hg'
    next h =>
      rcases List.mem_cons.1 hg' with rfl | hm
      · right; left; exact ⟨g, by simp, h, rfl⟩
      · left
        refine ⟨by simp [hm], ?_⟩
        intro e
        apply hnd.1
        rw [h, ← e]
        exact List.mem_map.2 ⟨g', hm, rfl⟩
    next h =>
      rcases List.mem_cons.1 hg' with rfl | hm
      · left; exact ⟨by simp, h⟩
      · rcases ih hnd.2 hm with ⟨h1, h2⟩ | ⟨g0, h1, h2, h3⟩ | ⟨h1, h2⟩
        · left; exact ⟨by simp [h1], h2⟩
        · right; left; exact ⟨g0, by simp [h1], h2, h3⟩
        · right; right
          refine ⟨?_, h2⟩
          simp only [List.map_cons, List.mem_cons, not_or]
          exact ⟨fun e => h e.symm, h1⟩

theorem rankAdd_contrib (gs : List RankGroup) (xs : List (Nat × Int)) (s : Int) (i : Nat)
    (hnd : (gs.map (·.score)).Nodup)
    (hc : ∀ g ∈ gs, g.contributors = (xs.filter (fun x => x.2 = g.score)).map (·.1))
    (hnew : s ∉ gs.map (·.score) → xs.filter (fun x => x.2 = s) = []) :
    ∀ g' ∈ rankAdd gs s i,
      g'.contributors = ((xs ++ [(i, s)]).filter (fun x => x.2 = g'.score)).map (·.1) := by
  intro g' hg'
  simp only [List.filter_append, List.map_append]
  rcases rankAdd_mem gs s i hnd g' hg' with ⟨h1, h2⟩ | ⟨g0, h1, h2, rfl⟩ | ⟨h1, rfl⟩
  · rw [hc g' h1]
    have : ¬ s = g'.score := fun e => h2 e.symm
    simp [this]
  · simp only
    rw [hc g0 h1]
    simp [h2]
  · simp [hnew h1]

/-- Invariant of `addScores [] xs`. -/
structure GroupsInv (gs : List RankGroup) (xs : List (Nat × Int)) : Prop where
  nodup : (gs.map (·.score)).Nodup
  scores : ∀ s, s ∈ gs.map (·.score) ↔ s ∈ xs.map (·.2)
  contrib : ∀ g ∈ gs, g.contributors = (xs.filter (fun x => x.2 = g.score)).map (·.1)
  perm : (gs.flatMap (·.contributors)).Perm (xs.map (·.1))

theorem GroupsInv.step {gs : List RankGroup} {xs : List (Nat × Int)} (h : GroupsInv gs xs) (x : Nat × Int) :
    GroupsInv (rankAdd gs x.2 x.1) (xs ++ [x]) := by
  obtain ⟨i, s⟩ := x
  refine ⟨?_, ?_, ?_, ?_⟩
  · rw [rankAdd_scores]
    split
    · exact h.nodup
    next hs =>
      rw [List.nodup_append]
      refine ⟨h.nodup, by simp, ?_⟩
      intro a ha b hb
      simp only [List.mem_singleton] at hb
      subst hb
      exact fun e => hs (e ▸ ha)
  · intro t
    rw [rankAdd_scores]
    simp only [List.map_append, List.mem_append, List.map_cons, List.map_nil, List.mem_singleton]
    split
    next hs =>
      rw [h.scores t]
      constructor
      · exact Or.inl
      · rintro (h1 | rfl)
        · exact h1
        · exact (h.scores _).1 hs
    next hs =>
      simp only [List.mem_append, List.mem_singleton, h.scores t]
  · refine rankAdd_contrib gs xs s i h.nodup h.contrib (fun hs => ?_)
    rw [List.filter_eq_nil_iff]
    intro a ha
    simp only [decide_eq_true_eq]
    exact fun e => hs ((h.scores s).2 (List.mem_map.2 ⟨a, ha, e⟩))
  · refine (rankAdd_flatMap gs s i).trans ?_
    simp only [List.map_append, List.map_cons, List.map_nil]
    exact List.Perm.append_right _ h.perm

theorem groupsInv_addScores (xs : List (Nat × Int)) : GroupsInv (addScores [] xs) xs := by
  suffices h : ∀ ys gs, GroupsInv gs ys → GroupsInv (addScores gs xs) (ys ++ xs) by
    simpa using h [] [] ⟨by simp, by simp, by simp, by simp⟩
  induction xs with
  | nil =>
    intro ys gs h
    simpa [addScores_nil] using h
  | cons x xs ih =>
    intro ys gs h
    rw [addScores_cons]
    have := ih (ys ++ [x]) _ (h.step x)
    simpa using this

theorem tmod_wrap (a n : Int) (h0 : 0 ≤ a) (h1 : a < 2 * n) :
    Int.tmod a n = if a < n then a else a - n := by
  split
  next h => exact Int.tmod_eq_of_lt h0 h
  next h =>
    rw [Int.tmod_eq_emod_of_nonneg h0, ← Int.sub_add_cancel a n, Int.add_emod_right,
      Int.emod_eq_of_lt (by omega) (by omega)]
    omega

/-- One level of the round robin.  Position `p` of `n` gets the quotient, the `T % n` odd chips go to
    the positions `o, o + 1, …` taken cyclically, and the offset moves on to `(o + T % n) mod n`.
    With one chip counted as owed to every position below the offset, this is a plain shift of the
    offset, plus one chip for everybody each time it wraps around. -/
theorem reward_step (T : Int) (n : Nat) (o : Int) (p : Nat) (hT : 0 ≤ T) (hp : p < n)
    (ho : 0 ≤ o) (hon : o < n) :
    reward T n o p + (if (p : Int) < o then 1 else 0)
      = T / n + (if o + T % n < n then 0 else 1)
        + (if (p : Int) < Int.tmod (o + T % n) n then 1 else 0) := by
  have h1 : 0 ≤ T % (n : Int) := Int.emod_nonneg _ (by omega)
  have h2 : T % (n : Int) < n := Int.emod_lt_of_pos _ (by omega)
  unfold reward
  rw [Int.tmod_eq_emod_of_nonneg hT, Int.tdiv_eq_ediv_of_nonneg hT,
    tmod_wrap (p - o + n) n (by omega) (by omega), tmod_wrap (o + T % n) n (by omega) (by omega)]
  generalize T % (n : Int) = r at *
  generalize T / (n : Int) = b
  by_cases hc : o + r < n
  · simp only [if_pos hc]
    by_cases hpo : (p : Int) < o
    · -- the window `[o, o + r)` lies above `p`
      have h3 : (p : Int) - o + n < n := by omega
      have h4 : ¬ (p : Int) - o + n < r := by omega
      have h5 : (p : Int) < o + r := by omega
      rw [if_pos h3, if_neg h4, if_pos hpo, if_pos h5]
      omega
    · have h3 : ¬ (p : Int) - o + n < n := by omega
      rw [if_neg h3, if_neg hpo]
      by_cases hw : (p : Int) < o + r
      · have h4 : (p : Int) - o + n - n < r := by omega
        rw [if_pos h4, if_pos hw]
        omega
      · have h4 : ¬ (p : Int) - o + n - n < r := by omega
        rw [if_neg h4, if_neg hw]
        omega
  · simp only [if_neg hc]
    by_cases hpo : (p : Int) < o
    · -- the window wraps around: it is `[o, n)` and `[0, o + r - n)`
      have h3 : (p : Int) - o + n < n := by omega
      rw [if_pos h3, if_pos hpo]
      by_cases hw : (p : Int) < o + r - n
      · have h4 : (p : Int) - o + n < r := by omega
        rw [if_pos h4, if_pos hw]
      · have h4 : ¬ (p : Int) - o + n < r := by omega
        rw [if_neg h4, if_neg hw]
        omega
    · have h3 : ¬ (p : Int) - o + n < n := by omega
      have h4 : (p : Int) - o + n - n < r := by omega
      have h5 : ¬ (p : Int) < o + r - n := by omega
      rw [if_neg h3, if_pos h4, if_neg hpo, if_neg h5]

theorem sum_add_lt (f : Nat → Int) (m : Nat) (k : Int) (h0 : 0 ≤ k) (hk : k ≤ m) :
    ((List.range m).map (fun p : Nat => f p + if (p : Int) < k then 1 else 0)).sum
      = ((List.range m).map f).sum + k := by
  induction m generalizing k with
  | zero =>
    simp
    omega
  | succ m ih =>
    rw [List.range_succ, List.map_append, List.map_append, List.sum_append_int, List.sum_append_int]
    simp only [List.map_cons, List.map_nil, List.sum_cons, List.sum_nil]
    by_cases h : (m : Int) < k
    · -- `k = m + 1`: among the first `m` positions it makes no difference
      have e : (List.range m).map (fun p : Nat => f p + if (p : Int) < k then 1 else 0)
          = (List.range m).map (fun p : Nat => f p + if (p : Int) < (m : Int) then 1 else 0) := by
        apply List.map_congr_left
        intro p hp
        have := List.mem_range.1 hp
        rw [if_pos (by omega), if_pos (by omega)]
      rw [e, ih m (by omega) (Int.le_refl _), if_pos h]
      omega
    · rw [ih k h0 (by omega), if_neg h]
      omega

theorem sum_reward (T : Int) (n : Nat) (o : Int) (hT : 0 ≤ T) (hn : 0 < n) (ho : 0 ≤ o) (hon : o < n) :
    ((List.range n).map (fun p => reward T n o p)).sum = T := by
  have h1 : 0 ≤ T % (n : Int) := Int.emod_nonneg _ (by omega)
  have h2 : T % (n : Int) < n := Int.emod_lt_of_pos _ (by omega)
  have h3 := Int.mul_ediv_add_emod T n
  have ho' := tmod_wrap (o + T % n) n (by omega) (by omega)
  have hle : Int.tmod (o + T % n) n ≤ n := Int.le_of_lt (Int.tmod_lt_of_pos _ (by omega))
  -- sum `reward_step` over the positions: every seat gets the quotient, and the two indicator sums count the
  -- positions below the old offset `o` and below the new one; what is left is linear once the sum, `T % n` and
  -- `n * (T / n)` are variables
  have key : ((List.range n).map (fun p : Nat => reward T n o p + (if (p : Int) < o then 1 else 0))).sum
      = ((List.range n).map (fun p : Nat => (T / n + (if o + T % n < n then 0 else 1))
        + (if (p : Int) < Int.tmod (o + T % n) n then 1 else 0))).sum := by
    congr 1
    apply List.map_congr_left
    intro p hp
    exact reward_step T n o p hT (List.mem_range.1 hp) ho hon
  rw [sum_add_lt _ n o ho (by omega), sum_add_lt _ n _ (Int.tmod_nonneg _ (by omega)) hle,
    List.map_const', List.sum_replicate_int, List.length_range, ho', Int.mul_add] at key
  generalize ((List.range n).map (fun p => reward T n o p)).sum = S at key ⊢
  generalize T % (n : Int) = r at *
  generalize (n : Int) * (T / (n : Int)) = q at *
  split at key
  · omega
  · omega

theorem reward_near (T n o : Int) (p : Nat) :
    Int.tdiv T n ≤ reward T n o p ∧ reward T n o p ≤ Int.tdiv T n + 1 := by
  unfold reward
  split
  · omega
  · omega

theorem reward_bounds (T : Int) (n : Nat) (o : Int) (p : Nat) (hT : 0 ≤ T) (hn : 0 < n) (hon : o ≤ n) :
    0 ≤ reward T n o p ∧ reward T n o p ≤ T := by
  unfold reward
  rw [Int.tmod_eq_emod_of_nonneg hT, Int.tdiv_eq_ediv_of_nonneg hT]
  have h1 : 0 ≤ T % (n : Int) := Int.emod_nonneg _ (by omega)
  have h3 := Int.mul_ediv_add_emod T n
  have h4 : 0 ≤ T / (n : Int) := Int.ediv_nonneg hT (by omega)
  have h5 : T / (n : Int) ≤ (n : Int) * (T / n) := by
    have : 1 * (T / (n : Int)) ≤ (n : Int) * (T / n) := Int.mul_le_mul_of_nonneg_right (by omega) h4
    omega
  have h6 : 0 ≤ Int.tmod ((p : Int) - o + n) n := Int.tmod_nonneg _ (by omega)
  generalize T % (n : Int) = r at *
  generalize T / (n : Int) = b at *
  generalize (n : Int) * b = nb at *
  generalize Int.tmod ((p : Int) - o + n) n = v at *
  split
  · omega
  · omega

theorem reward_dvd (w : Int) (n : Nat) (o : Int) (p : Nat) (hw : 0 ≤ w) (hn : 0 < n) (hon : o ≤ n) :
    reward (n * w) n o p = w := by
  have hT : 0 ≤ (n : Int) * w := Int.mul_nonneg (by omega) hw
  unfold reward
  rw [Int.tmod_eq_emod_of_nonneg hT, Int.tdiv_eq_ediv_of_nonneg hT,
    Int.mul_emod_right, Int.mul_ediv_cancel_left _ (by omega)]
  have h6 : 0 ≤ Int.tmod ((p : Int) - o + n) n := Int.tmod_nonneg _ (by omega)
  split
  next h => omega
  next => rfl

end Pokerface
