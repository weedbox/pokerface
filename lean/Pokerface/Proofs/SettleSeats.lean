import Pokerface.Proofs.SettleGame
import Pokerface.Proofs.PotsEntries
/-
  The levels of `potsOf es` settled against the rows of the same players: what the inputs of a showdown
  (`GameIn0`, and `GameIn` when non-folded scores are positive) say about one level of `llOf es`.
-/
namespace Pokerface

/-- A settlement row `(idx, bankroll, folded, score)`. -/
abbrev Row := Nat × Int × Bool × Int

/-- Score with which a row enters the ranking (`CalculateGameResults`: folded ⇒ 0). -/
def eff (r : Row) : Int := if r.2.2.1 then 0 else r.2.2.2

theorem eff_of_not_folded {r : Row} (h : r.2.2.1 = false) : eff r = r.2.2.2 := by simp [eff, h]

theorem not_folded_of_eff_pos {r : Row} (h : 0 < eff r) : r.2.2.1 = false := by
  unfold eff at h
  split at h
  · omega
  · rename_i hf
    simpa using hf

/-- Inputs of a showdown: pot entries `(idx, contribution, folded)` and rows for the same players
    in the same order; distinct idx, contributions ≥ 0, non-folded scores > 0 (reading I4). -/
structure GameIn (es : List (Nat × Int × Bool)) (rows : List Row) : Prop where
  nodup : (es.map (·.1)).Nodup
  nonneg : ∀ e ∈ es, 0 ≤ e.2.1
  same : rows.map (fun r => (r.1, r.2.2.1)) = es.map (fun e => (e.1, e.2.2))
  pos : ∀ r ∈ rows, r.2.2.1 = false → 0 < r.2.2.2

variable {es : List (Nat × Int × Bool)} {rows : List Row}

/-- `GameIn` without the positivity of non-folded scores.  The engine's `Combination.Power` of a
    non-folded player is not known to be positive for arbitrary power tables; only the statements
    about folded players and ties need it. -/
structure GameIn0 (es : List (Nat × Int × Bool)) (rows : List Row) : Prop where
  nodup : (es.map (·.1)).Nodup
  nonneg : ∀ e ∈ es, 0 ≤ e.2.1
  same : rows.map (fun r => (r.1, r.2.2.1)) = es.map (fun e => (e.1, e.2.2))

theorem GameIn.toGameIn0 (g : GameIn es rows) : GameIn0 es rows := ⟨g.nodup, g.nonneg, g.same⟩

theorem GameIn.eff_nonneg (g : GameIn es rows) {r : Row} (h : r ∈ rows) : 0 ≤ eff r := by
  unfold eff
  split
  · exact Int.le_refl _
  · rename_i hf
    have := g.pos r h (by simpa using hf)
    omega

theorem GameIn.eff_pos (g : GameIn es rows) {r : Row} (h : r ∈ rows) (hf : r.2.2.1 = false) : 0 < eff r := by
  unfold eff
  rw [hf]
  exact g.pos r h hf

theorem level_contributors_sorted {l : Level} (hl : l ∈ (llOf es).levels) : l.contributors.Pairwise (· < ·) := by
  rw [(llOf_inv es).contributors_eq hl]
  exact contribsAt_sorted (llOf_inv es).contribs _

theorem level_contributors_nodup {l : Level} (hl : l ∈ (llOf es).levels) : l.contributors.Nodup :=
  (level_contributors_sorted hl).imp Nat.ne_of_lt

theorem level_eq_entry {l : Level} (hl : l ∈ (llOf es).levels) : ∃ i c f, (i, c, f) ∈ es ∧ c = l.level := by
  have : l.level ∈ (llOf es).levels.map (·.level) := List.mem_map_of_mem hl
  rw [llOf_levels] at this
  obtain ⟨⟨i, c, f⟩, he, hc⟩ := this
  exact ⟨i, c, f, he, hc⟩

theorem mem_scoredRows (rows : List Row) (C : List Nat) (x : Nat × Int) :
    x ∈ scoredRows rows C ↔ ∃ r ∈ rows, r.1 ∈ C ∧ x = (r.1, eff r) := by
  simp only [scoredRows, List.mem_map, List.mem_filter, List.contains_eq_mem, decide_eq_true_eq, eff]
  constructor
  · rintro ⟨r, ⟨h1, h2⟩, rfl⟩
    exact ⟨r, h1, h2, rfl⟩
  · rintro ⟨r, h1, h2, rfl⟩
    exact ⟨r, ⟨h1, h2⟩, rfl⟩

theorem scoredRows_keys (rows : List Row) (C : List Nat) :
    (scoredRows rows C).map (·.1) = (rows.map (·.1)).filter (fun i => C.contains i) := by
  simp only [scoredRows, List.map_map, List.filter_map, Function.comp_def]

namespace GameIn0

theorem idx_eq (g : GameIn0 es rows) : rows.map (·.1) = es.map (·.1) := by
  have := congrArg (List.map (fun x : Nat × Bool => x.1)) g.same
  simpa [List.map_map, Function.comp_def] using this

theorem rows_nodup (g : GameIn0 es rows) : (rows.map (·.1)).Nodup := g.idx_eq ▸ g.nodup

theorem row_of_entry (g : GameIn0 es rows) {i : Nat} {c : Int} {f : Bool} (h : (i, c, f) ∈ es) :
    ∃ r ∈ rows, r.1 = i ∧ r.2.2.1 = f := by
  have : (i, f) ∈ es.map (fun e => (e.1, e.2.2)) := List.mem_map.2 ⟨_, h, rfl⟩
  rw [← g.same] at this
  obtain ⟨r, hr, he⟩ := List.mem_map.1 this
  simp only [Prod.mk.injEq] at he
  exact ⟨r, hr, he.1, he.2⟩

theorem entry_of_row (g : GameIn0 es rows) {r : Row} (h : r ∈ rows) :
    ∃ c, (r.1, c, r.2.2.1) ∈ es := by
  have : (r.1, r.2.2.1) ∈ rows.map (fun r => (r.1, r.2.2.1)) := List.mem_map.2 ⟨_, h, rfl⟩
  rw [g.same] at this
  obtain ⟨⟨i, c, f⟩, he, hh⟩ := List.mem_map.1 this
  simp only [Prod.mk.injEq] at hh
  exact ⟨c, by rwa [← hh.1, ← hh.2]⟩

theorem entriesValid (g : GameIn0 es rows) : C16.Valid es := ⟨g.nodup, g.nonneg⟩

theorem entry_unique (g : GameIn0 es rows) {i : Nat} {c c' : Int} {f f' : Bool}
    (h : (i, c, f) ∈ es) (h' : (i, c', f') ∈ es) : c = c' ∧ f = f' :=
  g.entriesValid.unique h h'

theorem row_unique (g : GameIn0 es rows) {r r' : Row} (h : r ∈ rows) (h' : r' ∈ rows) (e : r.1 = r'.1) :
    r = r' := eq_of_nodup_map (·.1) g.rows_nodup h h' e

theorem levelsOK (g : GameIn0 es rows) : LevelsOK (llOf es) := g.entriesValid.levelsOK

theorem mem_level (g : GameIn0 es rows) {l : Level} (hl : l ∈ (llOf es).levels) (i : Nat) :
    i ∈ l.contributors ↔ ∃ c f, (i, c, f) ∈ es ∧ l.level ≤ c := by
  rw [(llOf_inv es).contributors_eq hl, mem_contribsAt]
  constructor
  · rintro ⟨v, hv, hle⟩
    rw [llOf_contribs es g.nodup] at hv
    obtain ⟨f, hf⟩ := hv
    exact ⟨v, f, hf, hle⟩
  · rintro ⟨c, f, hm, hle⟩
    exact ⟨c, (llOf_contribs es g.nodup (i, c)).2 ⟨f, hm⟩, hle⟩

theorem level_wf (g : GameIn0 es rows) {l : Level} (hl : l ∈ (llOf es).levels) :
    LevelWF (scoredRows rows l.contributors) (toInfo rows l) := by
  have hnd : ((scoredRows rows l.contributors).map (·.1)).Nodup := by
    rw [scoredRows_keys]
    exact g.rows_nodup.sublist List.filter_sublist
  have hperm : ((scoredRows rows l.contributors).map (·.1)).Perm l.contributors := by
    rw [List.perm_ext_iff_of_nodup hnd (level_contributors_nodup hl)]
    intro i
    rw [scoredRows_keys]
    simp only [List.mem_filter, List.contains_eq_mem, decide_eq_true_eq]
    constructor
    · exact fun h => h.2
    · intro h
      refine ⟨?_, h⟩
      obtain ⟨c, f, hm, _⟩ := (g.mem_level hl i).1 h
      rw [g.idx_eq]
      exact List.mem_map.2 ⟨_, hm, rfl⟩
  have hf := mkLevelsFrom_level_facts _ _ _ g.levelsOK.nonneg (llOf_inv es).sorted l ((llOf_inv es).levels ▸ hl)
  refine ⟨rfl, hperm, hnd, ?_, hf.1, hf.2⟩
  obtain ⟨i, c, f, he, hc⟩ := level_eq_entry hl
  have : i ∈ l.contributors := (g.mem_level hl i).2 ⟨c, f, he, by omega⟩
  intro hnil
  have := hperm.symm.subset this
  rw [hnil] at this
  simp at this

end GameIn0

theorem GameIn0.facts (g : GameIn0 es rows) {l : Level} (hl : l ∈ (llOf es).levels) : LevelFacts (toInfo rows l) :=
  (g.level_wf hl).facts

theorem GameIn0.mem_levelWinners (g : GameIn0 es rows) {l : Level} (hl : l ∈ (llOf es).levels) :
    ∃ M, (∀ r ∈ rows, r.1 ∈ l.contributors → eff r ≤ M) ∧ (∃ r ∈ rows, r.1 ∈ l.contributors ∧ eff r = M) ∧
      levelWinners (toInfo rows l)
        = (rows.filter (fun r => l.contributors.contains r.1 && decide (eff r = M))).map (·.1) := by
  obtain ⟨M, h1, ⟨x, hx, hxM⟩, hW, _⟩ := levelWinners_spec (g.level_wf hl)
  refine ⟨M, ?_, ?_, ?_⟩
  · intro r hr hc
    exact h1 (r.1, eff r) ((mem_scoredRows _ _ _).2 ⟨r, hr, hc, rfl⟩)
  · obtain ⟨r, hr, hc, rfl⟩ := (mem_scoredRows _ _ _).1 hx
    exact ⟨r, hr, hc, hxM⟩
  · rw [hW]
    simp only [scoredRows, List.filter_map, List.map_map, List.filter_filter, Function.comp_def, eff]
    congr 1
    apply List.filter_congr
    intro r _
    exact Bool.and_comm _ _

theorem GameIn0.net_all_equal (g : GameIn0 es rows) {l : Level} (hl : l ∈ (llOf es).levels) (o : Int) (s : Int)
    (hall : ∀ r ∈ rows, r.1 ∈ l.contributors → eff r = s) (i : Nat) :
    net (levelUpdates (toInfo rows l) o) i = 0 := by
  apply (g.facts hl).net_all_win o
  -- the winners are all the contributors
  obtain ⟨M, h1, ⟨x, hx, hxM⟩, hW, hperm⟩ := levelWinners_spec (g.level_wf hl)
  have hMs : M = s := by
    obtain ⟨r, hr, hc, rfl⟩ := (mem_scoredRows _ _ _).1 hx
    rw [← hxM]
    exact hall r hr hc
  have hfull : (scoredRows rows l.contributors).filter (fun x => x.2 = M) = scoredRows rows l.contributors := by
    apply List.filter_eq_self.2
    intro y hy
    obtain ⟨r, hr, hc, rfl⟩ := (mem_scoredRows _ _ _).1 hy
    simp only [decide_eq_true_eq]
    rw [hMs]
    exact hall r hr hc
  rw [hfull] at hW
  have hlen := hperm.length_eq
  rw [List.length_append, hW] at hlen
  have : (levelLosers (toInfo rows l)).length = 0 := by omega
  exact List.length_eq_zero_iff.1 this

theorem GameIn0.net_lower_score (g : GameIn0 es rows) {l : Level} (hl : l ∈ (llOf es).levels) (o : Int) {r r' : Row}
    (hr : r ∈ rows) (hc : r.1 ∈ l.contributors) (hr' : r' ∈ rows) (hc' : r'.1 ∈ l.contributors)
    (hlt : eff r < eff r') : net (levelUpdates (toInfo rows l) o) r.1 = -l.wager := by
  apply (g.facts hl).net_nonwinner o hc
  obtain ⟨M, h1, _, hW⟩ := g.mem_levelWinners hl
  rw [hW]
  intro hmem
  obtain ⟨r2, hr2, he⟩ := List.mem_map.1 hmem
  simp only [List.mem_filter, Bool.and_eq_true, decide_eq_true_eq] at hr2
  have : r2 = r := g.row_unique hr2.1 hr he
  subst this
  have := h1 r' hr' hc'
  omega

end Pokerface
