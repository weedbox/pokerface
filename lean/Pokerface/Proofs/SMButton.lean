/-
  `nextDealer` with at least two playable seats (`nextDealer_spec`, with its conclusion `DealerOk`); counting lemmas for `next`.
-/
import Pokerface.Proofs.SMJoin

namespace Pokerface
namespace SM

theorem countP_range_seats {sm : SM} (hw : sm.WF) (P : Seat → Bool) :
    (List.range sm.max).countP (fun i => match sm.seats[i]? with | some s => P s | none => false) =
      sm.seats.countP P := by
  calc _ = ((List.range sm.max).map fun i => sm.seats[i]?).countP
        fun o => match o with | some s => P s | none => false := List.countP_map.symm
    _ = (sm.seats.map some).countP _ := by rw [← hw, range_map_getElem?]
    _ = sm.seats.countP P := List.countP_map

theorem playableCount_eq_seats {sm : SM} (hw : sm.WF) : sm.playableCount = sm.seats.countP Seat.playable := by
  rw [playableCount_eq_countP, ← countP_range_seats hw]
  rfl

theorem nonEmptyCount_eq (sm : SM) :
    sm.nonEmptyCount = sm.seats.countP (fun s => !s.reserved && s.player.isSome) := by
  simp [nonEmptyCount, List.countP_eq_length_filter]

theorem playableCount_le_nonEmpty {sm : SM} (hw : sm.WF) : sm.playableCount ≤ sm.nonEmptyCount := by
  rw [playableCount_eq_seats hw, nonEmptyCount_eq]
  apply List.countP_mono_left
  intro s _ h
  simp [Seat.playable] at h ⊢
  exact ⟨h.1.2, h.2⟩

theorem SamePlayers.nonEmptyCount {sm sm' : SM} (h : SamePlayers sm sm') : sm'.nonEmptyCount = sm.nonEmptyCount := by
  have e : ∀ t : SM, t.nonEmptyCount = (t.seats.map core).countP (fun c => !c.2 && c.1.isSome) := by
    intro t
    rw [nonEmptyCount_eq, List.countP_map]
    rfl
  rw [e, e, h]


theorem playableCount_le_of {sm t : SM} (hm : t.max = sm.max)
    (h : ∀ i, i < sm.max → sm.playable i = true → t.playable i = true) : sm.playableCount ≤ t.playableCount := by
  rw [playableCount_eq_countP, playableCount_eq_countP, hm]
  exact List.countP_mono_left fun i hi => h i (List.mem_range.mp hi)

theorem playableCount_congr {sm t : SM} (hm : t.max = sm.max)
    (h : ∀ i, i < sm.max → t.playable i = sm.playable i) : t.playableCount = sm.playableCount := by
  rw [playableCount_eq_countP, playableCount_eq_countP, hm]
  exact List.countP_congr fun i hi => by rw [h i (List.mem_range.mp hi)]

theorem ActUp.playableCount_le {sm sm' : SM} (h : ActUp sm sm') : sm.playableCount ≤ sm'.playableCount :=
  playableCount_le_of h.max fun _ _ hp => h.playable hp

/-- Where `nextDealer` starts scanning: `(start seat, first offset)`. -/
def scanBase (sm : SM) : Nat × Nat :=
  match sm.dealer with
  | none => (0, 0)
  | some d => (d, 1)

theorem scanBase_of_dealer {sm : SM} {d : Nat} (h : sm.dealer = some d) : sm.scanBase = (d, 1) := by
  rw [scanBase, h]

theorem scanBase_of_none {sm : SM} (h : sm.dealer = none) : sm.scanBase = (0, 0) := by
  rw [scanBase, h]

theorem scanIds_eq (sm : SM) : sm.scanIds = (sm.normalize sm.scanBase.1).drop sm.scanBase.2 := by
  unfold scanIds scanBase
  cases sm.dealer <;> simp

theorem scanBase_le_one (sm : SM) : sm.scanBase.2 ≤ 1 := by
  unfold scanBase
  cases sm.dealer <;> simp

/-- What `nextDealer` has made of `sm`, scanning from the base `(b, a)`, when at least two seats were playable: the new dealer
sits at the first playable offset `k ≥ a` from `b`; the seats at the offsets from `a` up to `k - 1` are activated; nothing else
changes. -/
structure DealerOk (sm : SM) (b a k : Nat) : Prop where
  k_ge : a ≤ k
  k_lt : k < sm.max
  playable : sm.playable ((b + k) % sm.max) = true
  skipped : ∀ j, a ≤ j → j < k → sm.playable ((b + j) % sm.max) = false
  found : sm.nextDealer.2 = true
  dealer : sm.nextDealer.1.dealer = some ((b + k) % sm.max)
  seats : ∀ j, j < sm.max → sm.nextDealer.1.seats[(b + j) % sm.max]? =
    if a ≤ j ∧ j < k then (sm.seats[(b + j) % sm.max]?).map actv else sm.seats[(b + j) % sm.max]?

theorem nextDealer_spec (sm : SM) (hc : 2 ≤ sm.playableCount) {b a : Nat} (hb : sm.scanBase = (b, a)) :
    ∃ k, DealerOk sm b a k := by
  have hids : sm.scanIds = (sm.normalize b).drop a := by rw [scanIds_eq, hb]
  have ha1 : a ≤ 1 := by
    have := scanBase_le_one sm
    rwa [hb] at this
  have hcn := playableCount_eq_normalize sm b
  have h1 := countP_drop_one_ge sm.playable (sm.normalize b)
  have hpos : 0 < ((sm.normalize b).drop a).countP sm.playable := by
    by_cases h0 : a = 0
    · rw [h0, List.drop_zero]
      omega
    · have h0' : a = 1 := by omega
      rw [h0']
      omega
  obtain ⟨k, hlt, hpe, hall, hf⟩ := findActive_normalize_drop sm b a hpos
  have hne : ¬ sm.playableCount = 1 := by omega
  have hnd : sm.nextDealer = ({ sm.modAll (sm.scanIds.take k) actv with
      dealer := some ((b + (a + k)) % sm.max) }, true) := by
    rw [nextDealer_eq, if_neg hne, hids, hf]
  refine ⟨a + k, by omega, hlt, hpe, hall, by rw [hnd], by rw [hnd], ?_⟩
  intro j hj
  rw [hnd]
  show (sm.modAll (sm.scanIds.take k) actv).seats[(b + j) % sm.max]? = _
  rw [modAll_seats _ _ _ actv_actv, hids]
  simp only [mem_normalize_drop_take sm _ _ _ hj]

end SM
end Pokerface
