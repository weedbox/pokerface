import Pokerface.Proofs.FlowC06
import Pokerface.Proofs.PotsEntries
import Pokerface.Proofs.EngineStep
/-
  The published pots (`Game.pots`) and the settlement result (`Game.result`) through the
  event chain (used by C01).

  `updatePots` is the only function that writes `pots`, `calculateGameResults` the only one
  that writes `result`; `resetAllPlayerStatus` is the only one that moves chips into the
  per-player `pot` account.  The invariant `PotsOK` says

   * at `RoundClosed` the pots are exactly `potsOf` of the current per-player totals
     (`pot + wager`, fold flag) — they have just been published;
   * at any other wait point the pot totals add up to Σ pot (the part already swept);
   * a result, once written, is `gameResults` of the published pots and the rows of the
     current players, the pots are those of the current players, and all wagers are zero.

  Every other function leaves pots, pot accounts and result alone, so the invariant is carried through the
  forms of an operation (`Game.step_form`): the chain of handlers comes to rest at a wait point with nothing
  touched or in `onRoundClosed` (`Game.Tail`).  No published pot ever has a negative total.
-/
namespace Pokerface
open Game

/-- what pot.go `updatePots` feeds to the pot package -/
def Game.entries (g : Game) : List (Nat × Int × Bool) :=
  g.players.map fun p => (p.idx, p.pot + p.wager, p.fold)

/-- what settlement.go `CalculateGameResults` feeds to the settlement package -/
def Game.rows (g : Game) : List (Nat × Int × Bool × Int) :=
  g.players.map fun p => (p.idx, p.bankroll, p.fold, ((p.comb.map (·.power)).getD 0 : Nat))

theorem updatePots_pots (g : Game) : g.updatePots.pots = potsOf g.entries := rfl
theorem calculateGameResults_result (g : Game) :
    g.calculateGameResults.result = some (gameResults g.pots g.rows) := rfl

/-- the frame of the pots invariant (`PotsOK`, `PN`): read off a footprint by `Wr.potsKeep` -/
structure PotsKeep (g g' : Game) : Prop where
  pots : g'.pots = g.pots
  potl : g'.players.map (·.pot) = g.players.map (·.pot)
  result : g'.result = g.result

theorem PotsKeep.refl (g : Game) : PotsKeep g g := ⟨rfl, rfl, rfl⟩
theorem PotsKeep.trans {a b c : Game} (h1 : PotsKeep a b) (h2 : PotsKeep b c) : PotsKeep a c :=
  ⟨h2.pots.trans h1.pots, h2.potl.trans h1.potl, h2.result.trans h1.result⟩

theorem PotsKeep.potSum {g g' : Game} (h : PotsKeep g g') : g'.potSum = g.potSum := by
  simp only [Game.potSum, h.potl]

theorem Wr.potsKeep {W : Fp} {g g' : Game} (h : Wr W g g') (hW : (W.pots || W.pot || W.result) = false := by rfl) :
    PotsKeep g g' := by
  simp only [Bool.or_eq_false_iff] at hW
  obtain ⟨⟨h1, h2⟩, h3⟩ := hW
  exact ⟨h.pots h1, h.map (·.pot) fun p => by simp only [Player.erase, h2, cond_false], h.result h3⟩

theorem map_idx_range {g : Game} (hs : Struct g) : g.players.map (·.idx) = List.range g.n := by
  apply List.ext_getElem
  · simp [Game.n]
  · intro i h1 h2
    simp only [List.length_map] at h1
    simp only [List.getElem_map, List.getElem_range]
    exact hs.idx i _ (List.getElem?_eq_getElem h1)

theorem entries_valid {g : Game} (hs : Struct g) (hp : ∀ p ∈ g.players, PInv p) : C16.Valid g.entries := by
  constructor
  · have : g.entries.map (·.1) = g.players.map (·.idx) := by
      simp [Game.entries, List.map_map, Function.comp_def]
    rw [this, map_idx_range hs]
    exact List.nodup_range
  · intro e he
    obtain ⟨p, hpm, rfl⟩ := List.mem_map.mp he
    have := (hp p hpm).pot0
    have := (hp p hpm).wager0
    show 0 ≤ p.pot + p.wager
    omega

theorem sum_fresh {g : Game} (hs : Struct g) (hp : ∀ p ∈ g.players, PInv p) :
    ((potsOf g.entries).map (·.total)).sum = g.potSum + g.wagerSum := by
  rw [C16.potsOf_totals_sum (entries_valid hs hp)]
  simp only [Game.entries, List.map_map, Function.comp_def, Game.potSum, Game.wagerSum]
  exact (sum_map_add g.players (·.pot) (·.wager)).symm

theorem potSum_resetAllPlayerStatus (g : Game) : g.resetAllPlayerStatus.potSum = g.potSum + g.wagerSum := by
  simp only [Game.potSum, Game.wagerSum, Game.resetAllPlayerStatus, Game.mapP, List.map_map, Function.comp_def]
  exact (sum_map_add g.players (·.pot) (·.wager)).symm

theorem wager_resetAllPlayerStatus (g : Game) : ∀ p ∈ g.resetAllPlayerStatus.players, p.wager = 0 := by
  intro p hp
  simp only [Game.resetAllPlayerStatus, Game.mapP] at hp
  obtain ⟨q, _, rfl⟩ := List.mem_map.mp hp
  rfl

/-- the pot totals add up to the chips in the per-player pot accounts -/
def PotsEq (g : Game) : Prop := (g.pots.map (·.total)).sum = g.potSum

/-- the pots are those of the current per-player totals -/
def PotsFresh (g : Game) : Prop := g.pots = potsOf g.entries

/-- the result is the settlement of the published pots for the current players -/
structure ResultGood (g : Game) : Prop where
  res : g.result = some (gameResults g.pots g.rows)
  fresh : PotsFresh g
  w0 : ∀ p ∈ g.players, p.wager = 0

structure PotsOK (g : Game) : Prop where
  closed : g.event = .roundClosed → PotsFresh g
  opened : g.event ≠ .roundClosed → PotsEq g
  res : g.result ≠ none → ResultGood g

/-- what the tail of every chain needs from the state it starts in -/
structure PotsPre (g : Game) : Prop where
  eq : PotsEq g
  res : g.result = none

theorem PotsKeep.potsEq {g g' : Game} (h : PotsKeep g g') (e : PotsEq g) : PotsEq g' := by
  unfold PotsEq at *
  rw [h.pots, h.potSum]
  exact e

theorem PotsPre.keep {g g' : Game} (p : PotsPre g) (h : PotsKeep g g') : PotsPre g' :=
  ⟨h.potsEq p.eq, h.result.trans p.res⟩

theorem potsOK_of_pre {g : Game} (h : PotsPre g) (he : g.event ≠ .roundClosed) : PotsOK g :=
  ⟨fun e => absurd e he, fun _ => h.eq, fun hr => absurd h.res hr⟩

theorem potsOK_roundClosed (g : Game) (hr : g.result = none) : PotsOK g.roundClosed :=
  ⟨fun _ => rfl, fun h => absurd rfl h, fun h => absurd hr h⟩

theorem Game.Tail.potsOK {g g' : Game} (t : Tail g g') (hr : g.result = none)
    (h : g'.event ≠ .roundClosed → PotsEq g) : PotsOK g' := by
  cases t with
  | wait k he => exact potsOK_of_pre ⟨k.potsKeep.potsEq (h he), k.result.trans hr⟩ he
  | closed k => exact potsOK_roundClosed _ (k.result.trans hr)

theorem potsOK_enterRound (g : Game) (r : Round) (h : PotsPre g) : PotsOK (g.enterRound r) :=
  have h' := h.keep (((wr_setRound g r).trans (wr_dealStreet _)).trans (wr_updateCombinations _)).potsKeep
  (tail_enterRound g r).potsOK h'.res fun _ => h'.eq

/-- `ResetAllPlayerStatus` right after a publication (`g1` is `g` up to the pots and the betting fields): the pots
    add up to the pot accounts -/
theorem potsPre_swept {g g1 : Game} (hs : Struct g) (hp : ∀ p ∈ g.players, PInv p) (hpl : g1.players = g.players)
    (hpots : g1.pots = potsOf g.entries) (hr : g1.result = none) : PotsPre g1.resetAllPlayerStatus := by
  refine ⟨?_, hr⟩
  show (g1.pots.map (·.total)).sum = g1.resetAllPlayerStatus.potSum
  rw [potSum_resetAllPlayerStatus, hpots, sum_fresh hs hp, Game.potSum, Game.wagerSum, Game.potSum, Game.wagerSum, hpl]

theorem potsOK_gameCompleted (g : Game) (hs : Struct g) (hp : ∀ p ∈ g.players, PInv p)
    (hw : ∀ p ∈ g.players, p.wager = 0) : PotsOK g.gameCompleted := by
  have he : g.gameCompleted.event = .gameClosed := rfl
  refine ⟨(by rw [he]; intro h; cases h), fun _ => ?_, fun _ => ⟨rfl, rfl, hw⟩⟩
  show ((potsOf g.entries).map (·.total)).sum = g.potSum
  rw [sum_fresh hs hp, wagerSum_zero hw]
  omega

theorem anteInv_payAnteLoop {g : Game} (hi : Inv g) (he : g.event = .anteRequested) :
    AnteInv (payAnteLoop g.seatsFromDealer g).1 :=
  anteInv_loop _ g (hi.anteInv he)

theorem antePaid_entries {g : Game} (ha : AnteInv g) :
    Struct (g.resetAllAllowed.setEvent .antePaid) ∧ ∀ p ∈ (g.resetAllAllowed.setEvent .antePaid).players, PInv p :=
  have n0 : NoChip g (g.resetAllAllowed.setEvent .antePaid) := ((wr_resetAllAllowed g).trans (wr_setEvent _ _)).noChip
  ⟨n0.struct ha.struct, pinv_of_noChip n0 ha.chips0.pinv⟩

theorem potsPre_anteSwept {g : Game} (ha : AnteInv g) (hr : g.result = none) : PotsPre g.anteSwept := by
  obtain ⟨s0, p0⟩ := antePaid_entries ha
  have p1 : PotsPre (g.resetAllAllowed.setEvent .antePaid).updatePots.resetAllPlayerStatus :=
    potsPre_swept s0 p0 rfl rfl hr
  exact p1.keep (wr_resetRoundStatus _).potsKeep

theorem potsOK_step (g : Game) (hi : Inv g) (hf : Flow g) (ok : PotsOK g) (op : Op) : PotsOK (g.step op).1 := by
  by_cases hc : g.event = .gameClosed
  · rw [(closed_refuses g hi hc op).2]
    exact ok
  have hr : g.result = none := hf.result_none hc
  -- at a wait point other than `RoundClosed` the chain starts from `PotsPre`
  have pre : g.event ≠ .roundClosed → PotsPre g := fun h => ⟨ok.opened h, hr⟩
  have ready : g.event = .readyRequested → g.event ≠ .roundClosed := fun h => by
    rw [h]
    exact fun h => nomatch h
  have h := g.step_form op
  generalize (g.step op).1 = g' at h ⊢
  cases h with
  | same => exact ok
  | tail he t => exact t.potsOK hr fun _ => ok.opened he
  | askAnte he k _ =>
    exact potsOK_of_pre ((pre (ready he)).keep (k.trans (wr_askAnte _)).potsKeep) (fun h => nomatch h)
  | enter he k _ => exact potsOK_enterRound _ _ ((pre (ready he)).keep k.potsKeep)
  | antePaid he k =>
    exact potsOK_enterRound _ _ (potsPre_anteSwept (anteInv_payAnteLoop hi he) (k.result.trans hr))
  | next he _ _ =>
    exact potsOK_enterRound _ _ (potsPre_swept (g1 := g.resetRoundStatus) hi.struct hi.chips0.pinv rfl (ok.closed he) hr)
  | complete he _ =>
    have ok1 : ChipsOK g.sweep := chipsOK_resets (g := g) rfl rfl rfl rfl hi.chips0
    exact potsOK_gameCompleted _ ((wr_sweep g).struct hi.struct) ok1.pinv (wager_resetAllPlayerStatus _)
  | act k t hcl => exact (Tail.of k t).potsOK hr fun he => ok.opened fun hc => he (hcl hc)

theorem potsOK_start (c : Config) (h : (start c).2 = none) : PotsOK (start c).1 := by
  obtain ⟨_, _, he⟩ := start_ok c h
  rw [he]
  have h0 : PotsPre c.game0 := by
    refine ⟨?_, rfl⟩
    show (([] : List Pot).map (·.total)).sum = (c.players.map (·.pot)).sum
    have : c.players.map (·.pot) = c.players.map (fun _ => (0 : Int)) := by
      apply List.map_congr_left
      intro p hp
      obtain ⟨i, hi, hpi⟩ := List.getElem_of_mem hp
      exact (config_players_getElem c i p (by simp [List.getElem?_eq_getElem hi, hpi])).2.2.2.2.1
    rw [this, sum_map_zero_int]
    rfl
  exact (tail_requestReady _).potsOK h0.res fun _ => (h0.keep (wr_resetRoundStatus _).potsKeep).eq

theorem potsOK_reachable {g : Game} (h : Reachable g) : PotsOK g :=
  h.induct (fun c _ hs => potsOK_start c hs) fun g hR ok op =>
    potsOK_step g (inv_reachable hR) (flow_reachable hR) ok op

theorem pots_total_of {g : Game} (hi : Inv g) (ok : PotsOK g) :
    (g.pots.map (·.total)).sum = g.potSum + (if g.event = .roundClosed then g.wagerSum else 0) := by
  by_cases he : g.event = .roundClosed
  · rw [if_pos he, ok.closed he]
    exact sum_fresh hi.struct hi.chips0.pinv
  · rw [if_neg he, ok.opened he]
    omega

/-! ## no published pot has a negative total

  `potsOf es` has non-negative totals for valid entries (from the per-pot formula of C16).  Along a run the
  `pots` field only changes where `updatePots` is called: at every `RoundClosed`, before the settlement
  (`GameClosed`) and at `AntePaid`.  After an operation the totals are still non-negative because the pots are
  the old ones or those published at `AntePaid`, or the state stands at `RoundClosed` / `GameClosed`, where
  `PotsOK` says they are `potsOf` of the current entries.  Used by C12. -/

theorem potsOf_total_nonneg (es : List C16.Entry) (h : C16.Valid es) : ∀ p ∈ potsOf es, 0 ≤ p.total := by
  intro p hp
  obtain ⟨pre, post, hsplit⟩ := List.append_of_mem hp
  have hpot := getPots_at h.levelsOK hsplit
  have hle := hpot.le
  rw [hpot.total]
  apply sum_map_nonneg_int
  intro kv _
  omega

/-- all published pot totals are non-negative -/
def PN (g : Game) : Prop := ∀ p ∈ g.pots, 0 ≤ p.total

theorem pn_fresh {g : Game} (hs : Struct g) (hp : ∀ p ∈ g.players, PInv p) (hf : PotsFresh g) : PN g := by
  intro p hpm
  rw [hf] at hpm
  exact potsOf_total_nonneg _ (entries_valid hs hp) p hpm

theorem PN.of_pots {g g' : Game} (pn : PN g) (h : g'.pots = g.pots) : PN g' := by
  intro p hp
  rw [h] at hp
  exact pn p hp

theorem Game.Tail.pn {g g' : Game} (t : Tail g g') (pn : PN g) : PN g' ∨ g'.event = .roundClosed := by
  cases t with
  | wait k _ => exact .inl (pn.of_pots k.pots)
  | closed k => exact .inr rfl

theorem pn_enterRound (g : Game) (r : Round) (pn : PN g) : PN (g.enterRound r) ∨ (g.enterRound r).event = .roundClosed :=
  (tail_enterRound g r).pn (pn.of_pots (((wr_setRound g r).trans (wr_dealStreet _)).trans (wr_updateCombinations _)).pots)

theorem pn_anteSwept {g : Game} (ha : AnteInv g) : PN g.anteSwept := by
  obtain ⟨s0, p0⟩ := antePaid_entries ha
  exact fun p hp => potsOf_total_nonneg _ (entries_valid s0 p0) p hp

theorem pn_step (g : Game) (hi : Inv g) (hf : Flow g) (ok : PotsOK g) (pn : PN g) (op : Op) : PN (g.step op).1 := by
  have hi' := inv_step g hi op
  have ok' := potsOK_step g hi hf ok op
  have h := g.step_form op
  generalize (g.step op).1 = g' at h hi' ok' ⊢
  have closed : g'.event = .roundClosed → PN g' := fun he => pn_fresh hi'.struct hi'.chips0.pinv (ok'.closed he)
  cases h with
  | same => exact pn
  | tail _ t => exact (t.pn pn).elim id closed
  | askAnte _ k _ => exact pn.of_pots k.pots
  | enter _ k _ => exact (pn_enterRound _ _ (pn.of_pots k.pots)).elim id closed
  | antePaid he _ => exact (pn_enterRound _ .preflop (pn_anteSwept (anteInv_payAnteLoop hi he))).elim id closed
  | next _ _ _ => exact (pn_enterRound g.sweep _ (pn.of_pots rfl)).elim id closed
  | complete _ _ =>
    have hres : g.sweep.gameCompleted.result ≠ none := fun h => nomatch h
    exact pn_fresh hi'.struct hi'.chips0.pinv (ok'.res hres).fresh
  | act k t _ => exact ((Tail.of k t).pn pn).elim id closed

theorem pn_start (c : Config) (h : (start c).2 = none) : PN (start c).1 := by
  obtain ⟨_, _, he⟩ := start_ok c h
  rw [he]
  intro p hp
  have : (c.game0.resetRoundStatus.requestReady).pots = [] :=
    ((wr_resetRoundStatus c.game0).trans (wr_requestReady _)).pots
  rw [this] at hp
  cases hp

theorem pn_reachable {g : Game} (h : Reachable g) : PN g :=
  h.induct (fun c _ hs => pn_start c hs) fun g hR pn op =>
    pn_step g (inv_reachable hR) (flow_reachable hR) (potsOK_reachable hR) pn op

end Pokerface
