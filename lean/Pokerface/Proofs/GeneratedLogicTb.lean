import Pokerface.Model.Table
import Pokerface.Generated.LogicTb
import Pokerface.Proofs.GeneratedLogicLoops
/-
  K1, translated logic (glue between the seat manager and the hand engine): table/internal.go (`setupPosition`,
  `checkEndConditions`, `prepareNextGame`, `startGame`, `updatePlayerStates`, `updateGameState`), table/table.go
  (`Join`, `leave`, `Leave`, `Activate`, `Reserve`), table/state.go (`GetPlayerByGameIdx`, `ResetPositions`),
  seat_manager.go `getPlayableSeats`, match/table.go (`Join`, the "left" loop of `ApplySeatChanges`, `GetPlayers`)
  (Generated/LogicTb.lean).

  The obligations are against `Model/Table.lean` (for match.Table: against the expression the `mt` lines of
  Driver/Main.lean evaluate on the seat-manager model).  A function is translated as (the tracked fields it leaves, the
  list of steps it took); the theorem runs the model's pieces in the order of that list and any other list falls into a
  last branch the model never takes (`badInput`), so a reordered, dropped or added step breaks the equality.
  Conventions: header of Proofs/GeneratedLogicBase.lean.  The few facts about `setupPosition`, `assignGameIdx`,
  `applyResult` and the stages of `prepareNextGame` needed here are proved here (`tb_…`).  Proofs/TableGlue.lean and
  TableGlueGame.lean state some of them too (`setupPosition_opts`, `setupPosition_gameCount`, `assignGameIdx_opts`, …,
  `prepareNextGame_cases`), without an invariant in their hypotheses, but in modules that import the proofs of the
  properties (FlowC06, SMBook, SMLayout), which a K1 module does not import.
-/
namespace Pokerface.GeneratedLogic
open Pokerface Table
open Pokerface.Generated.Logic

/-- the options, the game count and `inPosition`: what the two loops of `startGame` (`assignGameIdx`) and
    `updatePlayerStates` (`applyResult`) read and do not write; `startGame` itself sets the last two behind them
    (`tbStartGame_closed`) -/
def tbFrame (t : Table) : TOpts × Nat × Bool := (t.opts, t.gameCount, t.inPosition)

theorem tb_foldl_frame {α : Type} (f : Table → α → Table) (h : ∀ t a, tbFrame (f t a) = tbFrame t) (l : List α) (t : Table) :
    tbFrame (l.foldl f t) = tbFrame t := by
  induction l generalizing t with
  | nil => rfl
  | cons a l ih => rw [List.foldl_cons, ih, h]

theorem tb_assignGameIdx_frame (t : Table) (seats : List Nat) : tbFrame (t.assignGameIdx seats) = tbFrame t := by
  unfold assignGameIdx
  dsimp only
  rw [tb_foldl_frame]
  · rfl
  · intro t a
    rfl

theorem tb_leave_frame (t : Table) (seat : Int) : tbFrame (t.leave seat).1 = tbFrame t := by
  unfold leave
  rcases t.sm.step (.leave seat) with ⟨sm', e, r⟩
  cases e <;> rfl

theorem tb_applyFinal_frame (t : Table) (k : Nat) (f : Int) : tbFrame (t.applyFinal k f) = tbFrame t := by
  unfold applyFinal
  split
  · rfl
  · dsimp only
    split
    · split
      · exact tb_leave_frame _ _
      · rfl
    · rfl

theorem tb_applyResult_frame (t : Table) (finals : List Int) : tbFrame (t.applyResult finals) = tbFrame t := by
  unfold applyResult
  rw [tb_foldl_frame]
  intro t a
  exact tb_applyFinal_frame t a.2 a.1

/-! ### internal.go `setupPosition`, state.go `ResetPositions` -/

/-- how `setupPosition` passes on an error of `Next()` that is not the seat manager's "insufficient number of
    players" (`return err`; the model's `panic` — an out-of-range slice expression in the Go code — stays `panic`) -/
def tbPassErr : SMErr → TErr
  | .panic => .panic
  | e => .sm e

/-- `PlayerInfo.Positions` of a sheet entry -/
def tbPositions (p : TPlayer) : List String :=
  (if p.dealer then ["dealer"] else []) ++ (if p.sb then ["sb"] else []) ++ (if p.bb then ["bb"] else [])

/-- one sheet entry after the translated iteration of the loop of `setupPosition` for its seat `i` (seat manager
    `sm'`): `Positions` and `Playable` are what the iteration leaves.  The iteration is entered with `hasPlayer = true`
    (the sheet entry is reached through the player of the seat); the model's `playable` also asks the seat to hold a
    player, which is the condition under which the Go loop does not skip the seat. -/
def tbCopyPos (sm' : SM) (i : Nat) (p : TPlayer) : TPlayer :=
  let s := sm'.seats[i]?
  let g := tbSetupStep true i sm'.dealer sm'.sb sm'.bb ((s.map (·.reserved)).getD false) ((s.map (·.active)).getD false)
    (tbPositions p) p.playable
  { p with dealer := g.2.1.contains "dealer", sb := g.2.1.contains "sb", bb := g.2.1.contains "bb",
           playable := g.2.2 && (s.bind (·.player)).isSome }

/-- the position list the iteration of `setupPosition` writes: "dealer" first, then "sb", else "bb" -/
def tbPosList (d s b : Bool) : List String :=
  (if d then ["dealer"] else []) ++ (if s then ["sb"] else if b then ["bb"] else [])

/-- closed form of the iteration of `setupPosition` on a seat that holds a player: the sheet entry is looked up, the
    positions are `tbPosList` of the three comparisons with the seat, `Playable = !IsReserved && IsActive`; what the entry
    held before is not read -/
theorem tbSetupStep_closed (seat : Nat) (d s b : Option Nat) (r a : Bool) (ps : List String) (pl : Bool) :
    tbSetupStep true seat d s b r a ps pl =
      ("GetPlayerByID(s.Player.ID)", tbPosList (some seat == d) (some seat == s) (some seat == b), !r && a) := by
  unfold tbSetupStep tbPosList
  generalize (some seat == d) = x
  generalize (some seat == s) = y
  generalize (some seat == b) = z
  generalize (!r && a) = c
  cases x <;> cases y <;> cases z <;> cases c <;> rfl

theorem tbPosList_flags (d s b : Bool) :
    (tbPosList d s b).contains "dealer" = d ∧ (tbPosList d s b).contains "sb" = s ∧ (tbPosList d s b).contains "bb" = (!s && b) ∧
    tbPosList d s b = (if d then ["dealer"] else []) ++ (if s then ["sb"] else []) ++ (if (!s && b) then ["bb"] else []) := by
  cases d <;> cases s <;> cases b <;> decide

theorem some_beq_eq_decide (i : Nat) (o : Option Nat) : (some i == o) = decide (o = some i) := by
  cases o with
  | none => rfl
  | some j =>
    by_cases h : j = i
    · subst h
      simp
    · have h' : ¬ i = j := fun e => h e.symm
      simp [h, h']

theorem tbCopyPos_closed (sm' : SM) (i : Nat) (p : TPlayer) :
    tbCopyPos sm' i p =
      ({ p with dealer := decide (sm'.dealer = some i), sb := decide (sm'.sb = some i),
                bb := decide (sm'.sb ≠ some i) && decide (sm'.bb = some i), playable := sm'.playable i } : TPlayer) := by
  unfold tbCopyPos
  simp only [tbSetupStep_closed, tbPosList_flags, some_beq_eq_decide, SM.playable]
  cases sm'.seats[i]? with
  | none => simp
  | some s => simp [Bool.and_comm, Bool.and_assoc]

/-- internal.go `setupPosition`, one seat: positions — "dealer" iff the seat is the button; "sb" iff it is the small
    blind, else "bb" iff it is the big blind, in this order (last conjunct: the list written is exactly the one of the
    model's entry) — and `Playable = !IsReserved && IsActive`; a seat without a player is skipped (nothing is written) -/
theorem tbSetupStep_eq (sm' : SM) (i : Nat) (p : TPlayer) :
    ({ p with dealer := decide (sm'.dealer = some i), sb := decide (sm'.sb = some i),
              bb := decide (sm'.sb ≠ some i) && decide (sm'.bb = some i), playable := sm'.playable i } : TPlayer)
      = tbCopyPos sm' i p ∧
    (∀ (seat : Nat) (d s b : Option Nat) (r a : Bool) (ps : List String) (pl : Bool),
      tbSetupStep false seat d s b r a ps pl = ("", ps, pl)) ∧
    (∀ (seat : Nat) (d s b : Option Nat) (r a : Bool) (ps : List String) (pl : Bool),
      (tbSetupStep true seat d s b r a ps pl).1 = "GetPlayerByID(s.Player.ID)") ∧
    (∀ (r a : Bool) (ps : List String) (pl : Bool),
      (tbSetupStep true i sm'.dealer sm'.sb sm'.bb r a ps pl).2.1 = tbPositions (tbCopyPos sm' i p)) := by
  refine ⟨(tbCopyPos_closed sm' i p).symm, fun _ _ _ _ _ _ _ _ => rfl, fun _ _ _ _ _ _ _ _ => by rw [tbSetupStep_closed], ?_⟩
  intro r a ps pl
  rw [tbSetupStep_closed, tbCopyPos_closed, (tbPosList_flags _ _ _).2.2.2]
  simp [tbPositions, some_beq_eq_decide]

/-- internal.go `setupPosition`: nothing when the positions are in place; else `Next()`, whose error is passed on
    (`ErrInsufficientNumberOfPlayers` as the table's own) with `inPosition` untouched; else every sheet entry gets the
    translated iteration and `inPosition` is set -/
theorem tbSetupPosition_eq (t : Table) :
    t.setupPosition =
      (let n := t.sm.step .next
       let g := tbSetupPosition SMErr.insufficientPlayers t.inPosition n.2.1
       if g.2 = ["nil"] then ({ t with inPosition := g.1 }, none)
       else if g.2 = ["sm.Next()", "ErrInsufficientNumberOfPlayers"] then
         ({ t with sm := n.1, inPosition := g.1 }, some .insufficient)
       else if g.2 = ["sm.Next()", "return err"] then ({ t with sm := n.1, inPosition := g.1 }, n.2.1.map tbPassErr)
       else if g.2 = ["sm.Next()", "ResetPositions", "GetSeats", "seatsLoop", "nil"] then
         ({ t with sm := n.1, players := t.players.zipIdx.map fun (p, i) => p.map (tbCopyPos n.1 i), inPosition := g.1 }, none)
       else (t, some .badInput)) := by
  unfold setupPosition tbSetupPosition
  by_cases hp : t.inPosition = true
  · rcases t with ⟨o, sm, pls, ip, gc⟩
    simp only at hp
    subst hp
    simp
  · have hp' : t.inPosition = false := by simpa using hp
    rcases t with ⟨o, sm, pls, ip, gc⟩
    simp only at hp'
    subst hp'
    rcases hn : sm.step .next with ⟨sm', e, r⟩
    cases e with
    | none =>
      simp only [Option.isSome_none, Bool.false_eq_true, if_false, List.nil_append, List.cons_append]
      simp only [(tbSetupStep_eq sm' _ _).1]
      simp
    | some e =>
      cases e
      all_goals simp [tbPassErr]
      all_goals decide

/-- state.go `ResetPositions`, one player: the positions are emptied -/
theorem tbResetPositionsStep_eq (ps : List String) : tbResetPositionsStep ps = [] := rfl

/-! ### internal.go `checkEndConditions` -/

/-- closed form: the game limit is tested first (`MaxGames > 0 && MaxGames == gameCount`), then the clock -/
theorem tbCheckEnd_closed (m g : Int) (timesUp : Bool) :
    tbCheckEnd m g timesUp =
      if m > 0 ∧ m = g then ["ErrMaxGamesExceeded"] else if timesUp then ["ErrTimesUp"] else ["nil"] := by
  unfold tbCheckEnd
  by_cases h1 : m > 0 <;> by_cases h2 : m = g <;> cases timesUp <;> simp [h1, h2]

/-- `checkEndConditions` at game count `gc`, without the clock -/
def tbEndReached (t : Table) (gc : Int) : Bool := decide (tbCheckEnd t.opts.maxGames gc false ≠ ["nil"])

/-- internal.go `checkEndConditions` without the clock (`timesUp = false`: the harness puts the end of the table far
    in the future) is the model's `maxGamesReached`, on every table that has the options of `t` -/
theorem tbCheckEnd_eq (t t' : Table) (ho : t'.opts = t.opts) : t'.maxGamesReached = tbEndReached t t'.gameCount := by
  rw [tbEndReached, tbCheckEnd_closed, ← ho]
  unfold maxGamesReached
  simp only [gt_iff_lt, Int.natCast_pos, Int.ofNat_inj]
  by_cases h : 0 < t'.opts.maxGames ∧ t'.opts.maxGames = t'.gameCount
  · rw [if_pos h]
    simpa using h
  · rw [if_neg h]
    simpa using h

/-! ### internal.go `startGame`, seat_manager.go `getPlayableSeats` -/

/-- `startGame`, the first loop, one player: the game index is cleared -/
theorem tbClearIdxStep_eq (g : Int) : tbClearIdxStep g = -1 := rfl

/-- `startGame`, the second loop, one playable seat `i`-th in `GetPlayableSeats` order: its player gets game index `i`
    and one player setting (bankroll, positions of that player) is appended to `opts.Players` -/
theorem tbAssignStep_closed {B P : Type} (i g : Int) (b : B) (ps : P) (acc : List (B × P)) :
    tbAssignStep i g b ps acc = (i, acc ++ [(b, ps)]) := rfl

/-- `startGame`: the game indices — every entry of the sheet gets the translated iteration of the first loop, then the
    playable seats, in order, the translated iteration of the second -/
theorem tbAssignGameIdx_eq (t : Table) (seats : List Nat) :
    t.assignGameIdx seats =
      seats.zipIdx.foldl (fun t (s, i) => t.modPl s fun p => { p with gameIdx := (tbAssignStep (i : Int) p.gameIdx () () []).1 })
        { t with players := t.players.map (·.map fun p => { p with gameIdx := tbClearIdxStep p.gameIdx }) } := rfl

/-- what `startGame` reads from the sheet for a playable seat: `Bankroll` and `Positions` (as the three flags of the
    model); a seat without an entry — the Go code would dereference nil — gives the model's zeros -/
def tbEntry (t : Table) (s : Nat) : Int × Bool × Bool × Bool :=
  match t.players[s]? with
  | some (some p) => (p.bankroll, p.dealer, p.sb, p.bb)
  | _ => (0, false, false, false)

def tbCfgOf (x : Int × Bool × Bool × Bool) : SeatCfg := { bankroll := x.1, dealer := x.2.1, sb := x.2.2.1, bb := x.2.2.2 }

/-- `startGame`: `GameOptions.Players` is what the translated iteration of the second loop appends, seat by seat in
    `GetPlayableSeats` order: the bankroll and the positions of that seat's own player -/
theorem tbGameSeats_eq (t : Table) (seats : List Nat) :
    t.gameSeats seats =
      (seats.foldl (fun acc s => (tbAssignStep 0 0 (tbEntry t s).1 (tbEntry t s).2 acc).2) []).map tbCfgOf := by
  simp only [tbAssignStep_closed]
  rw [foldl_snoc_map (fun s => ((tbEntry t s).1, (tbEntry t s).2))]
  unfold gameSeats tbEntry tbCfgOf
  simp only [List.nil_append, List.map_map]
  apply List.map_congr_left
  intro s _
  simp only [Function.comp]
  rcases t.players[s]? with _ | _ | p <;> rfl

/-- seat_manager.go `getPlayableSeats`, one seat of the normalized order: kept iff `!IsReserved && IsActive && Player != nil` -/
theorem tbPlayableSeatsStep_closed {S : Type} (s : S) (r a h : Bool) (acc : List S) :
    tbPlayableSeatsStep s r a h acc = if !r && a && h then acc ++ [s] else acc := by
  unfold tbPlayableSeatsStep
  cases r <;> cases a <;> cases h <;> rfl

/-- seat_manager.go `getPlayableSeats` (the members and the order of the next game): the translated iteration over the
    seats clockwise from the button -/
theorem tbPlayableSeats_eq (sm : SM) :
    playableSeats sm = sm.dealer.map fun d =>
      (sm.normalize d).foldl (fun acc i =>
        tbPlayableSeatsStep i ((sm.seats[i]?.map (·.reserved)).getD false) ((sm.seats[i]?.map (·.active)).getD false)
          ((sm.seats[i]?.bind (·.player)).isSome) acc) [] := by
  unfold playableSeats
  congr 1
  funext d
  simp only [tbPlayableSeatsStep_closed]
  rw [foldl_snoc_if (fun i : Nat => !((sm.seats[i]?.map (fun s : Seat => s.reserved)).getD false) &&
    ((sm.seats[i]?.map (fun s : Seat => s.active)).getD false) && (sm.seats[i]?.bind (fun s : Seat => s.player)).isSome)
    (fun i => i), List.nil_append, List.map_id']
  apply List.filter_congr
  intro i _
  unfold SM.playable
  cases sm.seats[i]? with
  | none => rfl
  | some s => simp [Bool.and_comm]

/-- internal.go `startGame` together with the closing `updateGameState`, as `Table.prepareNextGame` inlines it (the
    definition is the text of the model; `tb_prepareNextGame_unfold` shows that the model's `prepareNextGame` runs it
    after its checks and the first `setupPosition`; the tie of `tbStartGame_eq` to the model rests on that lemma) -/
def tbStartGameM (t : Table) (finals : List Int) : Table × TOut :=
  match playableSeats t.sm with
  | none => (t, { err := some .panic })
  | some seats =>
    let t := t.assignGameIdx seats
    let cfg := t.gameSeats seats
    match startRefusal cfg with
    | some e => (t, { err := some (.game e), cfg := some cfg })
    | none =>
      if finals.length ≠ cfg.length then (t, { err := some .badInput, cfg := some cfg })
      else
        let t := t.applyResult finals
        ({ t with gameCount := t.gameCount + 1, inPosition := false }, { cfg := some cfg })

/-- the steps of `startGame` up to and including `t.g.Start()` -/
def tbStartPrefix : List String :=
  ["deck", "ante", "blind.dealer", "blind.sb", "blind.bb", "clearLoop", "GetPlayableSeats", "assignLoop", "NewGame",
   "OnStateUpdated(updateGameState)", "Start"]

/-- closed form of the translated `startGame`: the steps up to `Start()`; a refusal is returned with `gameCount` and
    `inPosition` as they were; otherwise `gameCount++`, the hand is waited for, `inPosition = false` -/
theorem tbStartGame_closed (gc : Int) (ip fails : Bool) :
    tbStartGame gc ip fails =
      if fails then (gc, ip, tbStartPrefix ++ ["return err"]) else (gc + 1, false, tbStartPrefix ++ ["wait", "nil"]) := by
  cases fails <;> rfl

/-- internal.go `startGame`: the options, the two loops (game indices cleared, then handed out in `GetPlayableSeats`
    order while the player settings are collected), `NewGame`, the state callback, `Start()`.  A refusal of `Start()` is
    returned with `gameCount` and `inPosition` untouched; otherwise `gameCount++`, the hand is played (`wait`: the
    closing state writes the final stacks back, `applyResult`), and only then `inPosition = false`. -/
theorem tbStartGame_eq (t : Table) (finals : List Int) :
    tbStartGameM t finals =
      (match playableSeats t.sm with
       | none => (t, { err := some .panic })
       | some seats =>
         let t1 := t.assignGameIdx seats
         let cfg := t1.gameSeats seats
         let refusal := startRefusal cfg
         let g := tbStartGame t.gameCount t.inPosition refusal.isSome
         if g.2.2 = tbStartPrefix ++ ["return err"] then
           ({ t1 with gameCount := g.1.toNat, inPosition := g.2.1 }, { err := refusal.map .game, cfg := some cfg })
         else if g.2.2 = tbStartPrefix ++ ["wait", "nil"] then
           if finals.length ≠ cfg.length then (t1, { err := some .badInput, cfg := some cfg })
           else ({ t1.applyResult finals with gameCount := g.1.toNat, inPosition := g.2.1 }, { cfg := some cfg })
         else (t, { err := some .badInput })) := by
  unfold tbStartGameM
  cases playableSeats t.sm with
  | none => rfl
  | some seats =>
    have hf := tb_assignGameIdx_frame t seats
    have hr := tb_applyResult_frame (t.assignGameIdx seats) finals
    simp only [tbFrame, Prod.mk.injEq] at hf hr
    -- the prefix stays folded: the two step lists differ behind it
    have hne : tbStartPrefix ++ ["wait", "nil"] ≠ tbStartPrefix ++ ["return err"] := by simp
    simp only [tbStartGame_closed]
    cases startRefusal ((t.assignGameIdx seats).gameSeats seats) with
    | some e =>
      simp only [Option.isSome_some, if_true, Option.map_some, ← hf.2.1, ← hf.2.2, Int.toNat_natCast]
    | none =>
      simp only [Option.isSome_none, Bool.false_eq_true, if_false, if_neg hne, if_true]
      split
      · rfl
      · have e1 : ((t.gameCount : Int) + 1).toNat = ((t.assignGameIdx seats).applyResult finals).gameCount + 1 := by
          rw [hr.2.1, hf.2.1]
          omega
        rw [e1]

/-! ### internal.go `prepareNextGame` -/

theorem tb_setupPosition_frame (t : Table) :
    t.setupPosition.1.opts = t.opts ∧ t.setupPosition.1.gameCount = t.gameCount := by
  unfold setupPosition
  split
  · exact ⟨rfl, rfl⟩
  · split <;> exact ⟨rfl, rfl⟩

theorem tb_startGameM_opts (t : Table) (finals : List Int) : (tbStartGameM t finals).1.opts = t.opts := by
  unfold tbStartGameM
  split
  · rfl
  · rename_i seats _
    have hf := congrArg Prod.fst (tb_assignGameIdx_frame t seats)
    have hr := congrArg Prod.fst (tb_applyResult_frame (t.assignGameIdx seats) finals)
    dsimp only
    split
    · exact hf
    · split
      · exact hf
      · exact hr.trans hf

theorem tb_prepareNextGame_unfold (t : Table) (finals : List Int) :
    t.prepareNextGame finals =
      (if t.maxGamesReached then (t, { err := some .maxGames })
       else match t.setupPosition with
         | (t1, some e) => (t1, { err := some e })
         | (t1, none) =>
           if (t1.gameCount = 0 ∧ t1.sm.playableCount < t1.opts.initialPlayers) ∨ t1.sm.playableCount < t1.opts.minPlayers then
             (t1, { err := some .insufficient })
           else
             let g1 := tbStartGameM t1 finals
             if g1.2.err.isSome then g1
             else if g1.1.maxGamesReached then (g1.1, { err := some .maxGames, cfg := g1.2.cfg })
             else (g1.1.setupPosition.1, { err := g1.1.setupPosition.2, cfg := g1.2.cfg })) := by
  unfold prepareNextGame tbStartGameM
  by_cases hm : t.maxGamesReached = true
  · rw [if_pos hm, if_pos hm]
  · rw [if_neg hm, if_neg hm]
    rcases t.setupPosition with ⟨t1, e1⟩
    cases e1 with
    | some e => rfl
    | none =>
      dsimp only
      by_cases hi : (t1.gameCount = 0 ∧ t1.sm.playableCount < t1.opts.initialPlayers) ∨ t1.sm.playableCount < t1.opts.minPlayers
      · rw [if_pos hi, if_pos hi]
      · rw [if_neg hi, if_neg hi]
        cases playableSeats t1.sm with
        | none => rfl
        | some seats =>
          dsimp only
          obtain href | ⟨e, href⟩ : startRefusal ((t1.assignGameIdx seats).gameSeats seats) = none ∨
              ∃ e, startRefusal ((t1.assignGameIdx seats).gameSeats seats) = some e := by
            cases startRefusal ((t1.assignGameIdx seats).gameSeats seats) <;> simp
          · simp only [href]
            by_cases hl : finals.length ≠ ((t1.assignGameIdx seats).gameSeats seats).length
            · simp only [if_pos hl]
              rfl
            · simp only [if_neg hl, Option.isSome_none, Bool.false_eq_true, if_false]
          · simp only [href]
            rfl

/-- a paused table starts nothing: the pause is tested before anything else -/
theorem tbPrepareNextGame_paused (gc i m : Int) (er : Int → Bool) (f1 : Bool) (pl : Int) (sf : Bool) (gca : Int) (f2 : Bool) :
    tbPrepareNextGame true gc i m er f1 pl sf gca f2 = ["ErrGameCancelled"] := rfl

/-- closed form of the translated `prepareNextGame` on a table that is not paused: the step list up to the first error -/
theorem tbPrepareNextGame_closed (gc i m : Int) (er : Int → Bool) (f1 : Bool) (pl : Int) (sf : Bool) (gca : Int) (f2 : Bool) :
    tbPrepareNextGame false gc i m er f1 pl sf gca f2 =
      if er gc then ["checkEndConditions: return err"]
      else if f1 then ["checkEndConditions", "setupPosition", "return err"]
      else if (gc = 0 ∧ pl < i) ∨ pl < m then
        ["checkEndConditions", "setupPosition", "GetPlayableSeatCount", "ErrInsufficientNumberOfPlayers"]
      else if sf then ["checkEndConditions", "setupPosition", "GetPlayableSeatCount", "startGame", "return err"]
      else if er gca then
        ["checkEndConditions", "setupPosition", "GetPlayableSeatCount", "startGame", "checkEndConditions: return err"]
      else if f2 then
        ["checkEndConditions", "setupPosition", "GetPlayableSeatCount", "startGame", "checkEndConditions", "setupPosition", "return err"]
      else ["checkEndConditions", "setupPosition", "GetPlayableSeatCount", "startGame", "checkEndConditions", "setupPosition", "nil"] := by
  unfold tbPrepareNextGame
  dsimp only
  cases er gc
  case true => rfl
  cases f1
  case true => rfl
  simp only [Bool.false_eq_true, if_false, Bool.and_eq_true, beq_iff_eq, decide_eq_true_eq]
  by_cases h1 : gc = 0 ∧ pl < i
  · rw [if_pos h1, if_pos (Or.inl h1)]
    rfl
  · rw [if_neg h1]
    by_cases h2 : pl < m
    · rw [if_pos h2, if_pos (Or.inr h2)]
      rfl
    · have h3 : ¬ ((gc = 0 ∧ pl < i) ∨ pl < m) := fun h => h.elim h1 h2
      rw [if_neg h2, if_neg h3]
      cases sf
      case true => rfl
      cases er gca
      case true => rfl
      cases f2 <;> rfl

/-- internal.go `prepareNextGame` (table not paused): the end conditions, `setupPosition`, the number of playable seats
    — read after `setupPosition` — against `InitialPlayers` (first game only) and `MinPlayers`, `startGame`, the end
    conditions again (with the game count `startGame` left), `setupPosition` again; every error is returned at once -/
theorem tbPrepareNextGame_eq (t : Table) (finals : List Int) :
    t.prepareNextGame finals =
      (let s1 := t.setupPosition
       let g1 := tbStartGameM s1.1 finals
       let s2 := g1.1.setupPosition
       let r := tbPrepareNextGame false t.gameCount t.opts.initialPlayers t.opts.minPlayers (tbEndReached t)
         s1.2.isSome s1.1.sm.playableCount g1.2.err.isSome g1.1.gameCount s2.2.isSome
       if r = ["checkEndConditions: return err"] then (t, { err := some .maxGames })
       else if r = ["checkEndConditions", "setupPosition", "return err"] then (s1.1, { err := s1.2 })
       else if r = ["checkEndConditions", "setupPosition", "GetPlayableSeatCount", "ErrInsufficientNumberOfPlayers"] then
         (s1.1, { err := some .insufficient })
       else if r = ["checkEndConditions", "setupPosition", "GetPlayableSeatCount", "startGame", "return err"] then g1
       else if r = ["checkEndConditions", "setupPosition", "GetPlayableSeatCount", "startGame", "checkEndConditions: return err"] then
         (g1.1, { err := some .maxGames, cfg := g1.2.cfg })
       else if r = ["checkEndConditions", "setupPosition", "GetPlayableSeatCount", "startGame", "checkEndConditions", "setupPosition",
           "return err"] then (s2.1, { err := s2.2, cfg := g1.2.cfg })
       else if r = ["checkEndConditions", "setupPosition", "GetPlayableSeatCount", "startGame", "checkEndConditions", "setupPosition",
           "nil"] then (s2.1, { cfg := g1.2.cfg })
       else (t, { err := some .badInput })) := by
  rw [tb_prepareNextGame_unfold]
  have hfr := tb_setupPosition_frame t
  rw [tbCheckEnd_eq t t rfl]
  simp only [tbPrepareNextGame_closed]
  cases tbEndReached t t.gameCount
  case true => simp
  simp only [Bool.false_eq_true, if_false]
  rcases hsp : t.setupPosition with ⟨t1, e1⟩
  rw [hsp] at hfr
  simp only at hfr
  cases e1 with
  | some e => simp
  | none =>
    simp only [Option.isSome_none, Bool.false_eq_true, if_false, hfr.1, hfr.2, Int.natCast_eq_zero, Int.ofNat_lt]
    by_cases hi : (t.gameCount = 0 ∧ t1.sm.playableCount < t.opts.initialPlayers) ∨ t1.sm.playableCount < t.opts.minPlayers
    · rw [if_pos hi, if_pos hi]
      simp
    · rw [if_neg hi, if_neg hi]
      have hgo := tb_startGameM_opts t1 finals
      rcases hg : tbStartGameM t1 finals with ⟨t2, o2⟩
      rw [hg] at hgo
      cases o2.err.isSome
      case true => simp
      simp only [Bool.false_eq_true, if_false]
      rw [tbCheckEnd_eq t t2 (hgo.trans hfr.1)]
      cases tbEndReached t (t2.gameCount : Int)
      case true => simp
      simp only [Bool.false_eq_true, if_false]
      rcases t2.setupPosition with ⟨t3, e3⟩
      cases e3 <;> simp

/-! ### internal.go `updatePlayerStates`, `updateGameState`; state.go `GetPlayerByGameIdx` -/

/-- `updatePlayerStates`: the write-back runs only on a state whose event is "GameClosed" (the model applies the final
    stacks once, for the closing state of the hand) -/
theorem tbUpdateGuard_eq (noGameState : Bool) (event : String) :
    tbUpdateGuard noGameState event = (!noGameState && event == "GameClosed") := by
  unfold tbUpdateGuard
  cases noGameState <;> by_cases h : event = "GameClosed" <;> simp [h]

/-- `updateGameState`: the state is stored before `updatePlayerStates` reads it; then the state callback -/
theorem tbUpdateGameState_eq :
    tbUpdateGameState = ["GameState = gs", "updatePlayerStates(t.ts)", "emitStateUpdated", "nil"] := rfl

/-- state.go `GetPlayerByGameIdx`, one player: returned iff its game index is the one asked for -/
theorem tbByGameIdxStep_closed (g k : Int) : tbByGameIdxStep g k = (g == k) := by
  unfold tbByGameIdxStep
  by_cases h : g = k <;> simp [h]

/-- state.go `GetPlayerByGameIdx`: the model's lookup is the translated test on every sheet entry -/
theorem tbByGameIdx_eq (t : Table) (k : Nat) :
    t.seatOfGameIdx k = (t.players.zipIdx.find? fun (p, _) => match p with
      | some p => tbByGameIdxStep p.gameIdx (k : Int)
      | none => false).map (·.2) := by
  unfold seatOfGameIdx
  congr 2
  funext x
  rcases x with ⟨p, i⟩
  cases p <;> simp [tbByGameIdxStep_closed]

/-- the reading of the steps of one iteration of the loop of `updatePlayerStates` on the player of seat `s` -/
def tbUpdEff (s : Nat) (t : Table) (e : String) : Table :=
  if e = "sm.Reserve(p.SeatID)" then { t with sm := (t.sm.step (.reserve (s : Int))).1 }
  else if e = "leave(p.SeatID)" then (t.leave (s : Int)).1
  else t

/-- internal.go `updatePlayerStates`, one entry of `Result.Players`: no player with that game index ⇒ nothing; else the
    bankroll becomes the final stack and, exactly when it is 0, the seat is reserved and — in "leave" mode only — left -/
theorem tbUpdateStep_eq (t : Table) (k : Nat) (final : Int) (mode : String) (hm : t.opts.leaveMode = (mode == "leave")) :
    t.applyFinal k final =
      (match t.seatOfGameIdx k with
       | none => t
       | some s =>
         let g := tbUpdateStep true final (((t.players[s]?).join.map (·.bankroll)).getD 0) mode
         g.2.foldl (tbUpdEff s) (t.modPl s fun p => { p with bankroll := g.1 })) ∧
    (∀ (final b0 : Int) (mode : String), tbUpdateStep false final b0 mode = (b0, ["GetPlayerByGameIdx(rs.Idx)"])) := by
  refine ⟨?_, fun _ _ _ => rfl⟩
  unfold applyFinal tbUpdateStep
  cases t.seatOfGameIdx k with
  | none => rfl
  | some s =>
    dsimp only
    by_cases hf : final = 0
    · subst hf
      by_cases hl : mode = "leave"
      · have hm' : t.opts.leaveMode = true := by
          rw [hm]
          simp [hl]
        simp [tbUpdEff, hl, hm', modPl]
      · have hm' : t.opts.leaveMode = false := by
          rw [hm]
          simp [hl]
        simp [tbUpdEff, hl, hm', modPl]
    · simp [hf, tbUpdEff]

/-! ### table.go -/

/-- closed form (`seatID`: the seat asked for, which nothing depends on): the game index is -1 whatever it was; on a refusal of `sm.Join` -1 is returned, nothing is stored and
    the player's `SeatID` is untouched; otherwise `SeatID` and the returned seat are the seat obtained -/
theorem tbJoin_closed (seatID gi0 sid0 : Int) (fails : Bool) (sid : Int) :
    tbJoin seatID gi0 sid0 fails sid =
      if fails then (-1, sid0, -1, ["sm.Join(seatID, p)", "return err"])
      else (-1, sid, sid, ["sm.Join(seatID, p)", "Players[sid] = p", "emitStateUpdated", "nil"]) := by
  unfold tbJoin
  cases fails <;> rfl

/-- table.go `Join`: `GameIdx = -1`, `sm.Join`; its error is returned with nothing stored; otherwise the player is stored
    on the sheet at the seat obtained and that seat is returned -/
theorem tbJoin_eq (t : Table) (seat : Int) (pid : Nat) (bankroll : Int) (chose : Option Nat) (gi0 sid0 : Int) :
    t.step (.join seat pid bankroll chose) =
      (let r := t.sm.step (.join seat pid chose)
       let g := tbJoin seat gi0 sid0 r.2.1.isSome ((r.2.2.map Int.ofNat).getD (-1))
       if g.2.2.2 = ["sm.Join(seatID, p)", "return err"] then
         (t, { err := r.2.1.map .sm, ret := if g.2.2.1 = -1 then none else some g.2.2.1.toNat })
       else if g.2.2.2 = ["sm.Join(seatID, p)", "Players[sid] = p", "emitStateUpdated", "nil"] then
         match r.2.2 with
         | none => (t, { err := some .panic })
         | some _ =>
           (({ t with sm := r.1 }).setPl g.2.1.toNat (some { pid := pid, bankroll := bankroll, gameIdx := g.1 }),
            { ret := some g.2.2.1.toNat })
       else (t, { err := some .badInput })) := by
  simp only [tbJoin_closed]
  unfold Table.step
  rcases hr : t.sm.step (.join seat pid chose) with ⟨sm', e, r⟩
  cases e with
  | some e => simp [hr]
  | none => cases r <;> simp [hr]

/-- table.go `leave`: `sm.Leave`; its error is returned with the sheet untouched; otherwise the entry is deleted -/
theorem tbLeave_eq (t : Table) (seat : Int) :
    t.leave seat =
      (let r := t.sm.step (.leave seat)
       let g := tbLeave r.2.1.isSome
       if g = ["sm.Leave(seatID)", "return err"] then (t, r.2.1.map .sm)
       else if g = ["sm.Leave(seatID)", "delete(Players, seatID)", "nil"] then (({ t with sm := r.1 }).setPl seat.toNat none, none)
       else (t, some .badInput)) := by
  unfold leave tbLeave
  rcases t.sm.step (.leave seat) with ⟨sm', e, r⟩
  cases e <;> simp

/-- table.go `Leave`: `leave`, its error passed on -/
theorem tbLeaveOp_eq (t : Table) (seat : Int) :
    t.step (.leave seat) =
      (let l := t.leave seat
       let g := tbLeaveOp l.2.isSome
       if g = ["leave(seatID)", "return err"] then (l.1, { err := l.2 })
       else if g = ["leave(seatID)", "emitStateUpdated", "nil"] then (l.1, {})
       else (t, { err := some .badInput })) := by
  unfold Table.step tbLeaveOp
  rcases hl : t.leave seat with ⟨t', e⟩
  cases e <;> simp [hl]

/-- closed form of table.go `Activate`: `sm.Seat` first; `nil` is returned whatever happens; a new game is requested
    exactly when the seat exists, the table runs, is idle, and `GetPlayerCount() >= InitialPlayers` -/
theorem tbActivate_closed (fails running : Bool) (status : String) (pc init : Int) :
    tbActivate fails running status pc init =
      ["sm.Seat(seatID)"] ++ (if !fails && running && status == "idle" && decide (pc ≥ init) then ["NewGame(0)"] else []) ++ ["nil"] := by
  unfold tbActivate
  simp only [bne]
  generalize (status == "idle") = b
  generalize decide (pc ≥ init) = c
  cases fails <;> cases running <;> cases b <;> cases c <;> rfl

/-- table.go `Activate`: the seat manager's `Seat`, whose error is swallowed (the table loop that `NewGame` wakes up is
    outside the model) -/
theorem tbActivate_eq (t : Table) (seat : Int) (running : Bool) (status : String) (pc init : Int) :
    t.step (.activate seat) =
      (let r := t.sm.step (.seat seat)
       let g := tbActivate r.2.1.isSome running status pc init
       if g.head? = some "sm.Seat(seatID)" ∧ g.getLast? = some "nil" then ({ t with sm := r.1 }, {})
       else if g.getLast? = some "return err" then ({ t with sm := r.1 }, { err := r.2.1.map .sm })
       else (t, { err := some .badInput })) := by
  simp only [tbActivate_closed]
  unfold Table.step
  generalize (!(t.sm.step (.seat seat)).2.1.isSome && running && status == "idle" && decide (pc ≥ init)) = c
  cases c <;> simp

/-- table.go `Reserve`: the seat manager's `Reserve`, its error passed on -/
theorem tbReserve_eq (t : Table) (seat : Int) :
    tbReserve = ["sm.Reserve(seatID)"] ∧
    t.step (.reserve seat) =
      (match t.sm.step (.reserve seat) with
       | (_, some e, _) => (t, { err := some (.sm e) })
       | (sm', none, _) => ({ t with sm := sm' }, {})) := ⟨rfl, rfl⟩

/-! ### match/table.go -/

/-- what the `mt join` line of Driver/Main.lean evaluates -/
def tbMtJoin (sm : SM) (seat : Int) (pid : Nat) (chose : Option Nat) : SM × Option SMErr :=
  ((sm.step (.join seat pid chose)).1, (sm.step (.join seat pid chose)).2.1)

/-- what the `mt left` line of Driver/Main.lean evaluates (`none`: the seat does not exist, the Go code dereferences nil) -/
def tbMtLeft (sm : SM) (i : Nat) : Option SM :=
  match sm.seats[i]? with
  | none => none
  | some st => if st.player.isNone then some sm else some (sm.step (.leave (i : Int))).1

/-- closed form of match/table.go `Join`: `sm.Join` is called; its error is returned and no callback runs; otherwise
    `onPlayerJoined(playerID, sid)` with the seat OBTAINED, whatever seat was asked for -/
theorem tbMatchJoin_closed {P : Type} (pid : P) (seatID : Int) (fails : Bool) (sid : Int) :
    tbMatchJoin pid seatID fails sid = (fails, true, if fails then [] else [("onPlayerJoined", pid, sid)]) := by
  unfold tbMatchJoin
  cases fails <;> rfl

/-- match/table.go `Join` on the seat-manager model: the error returned is the seat manager's, the seat manager is the
    one `Join` leaves, the callback carries the seat `Join` returned -/
theorem tbMatchJoin_eq (sm : SM) (seat : Int) (pid : Nat) (chose : Option Nat) :
    (let r := sm.step (.join seat pid chose)
     let g := tbMatchJoin pid seat r.2.1.isSome ((r.2.2.map Int.ofNat).getD (-1))
     tbMtJoin sm seat pid chose = (if g.2.1 then r.1 else sm, if g.1 then r.2.1 else none) ∧
     g.2.2 = if r.2.1.isSome then [] else [("onPlayerJoined", pid, (r.2.2.map Int.ofNat).getD (-1))]) := by
  simp only [tbMatchJoin_closed, tbMtJoin]
  rcases sm.step (.join seat pid chose) with ⟨sm', e, r⟩
  cases e <;> simp

/-- closed form of one iteration of the loop of `ApplySeatChanges`: a seat not reported "left", or holding nobody, is
    skipped; otherwise `sm.Leave(seatID)`, then `onPlayerLeft` with the player the seat held -/
theorem tbMatchLeftStep_closed {P : Type} (state : String) (occupied : Bool) (player : P) (seatID : Int) :
    tbMatchLeftStep state occupied player seatID =
      if state = "left" ∧ occupied then [("sm.Leave", player, seatID), ("onPlayerLeft", player, seatID)] else [] := by
  unfold tbMatchLeftStep
  by_cases h : state = "left" <;> cases occupied <;> simp [h]

/-- the `mt left` line is the translated iteration, its `sm.Leave` read as the seat manager's `Leave` (error ignored) -/
theorem tbMatchLeft_eq (sm : SM) (i : Nat) :
    tbMtLeft sm i = (sm.seats[i]?).map fun st =>
      (tbMatchLeftStep "left" st.player.isSome (st.player.getD 0) (i : Int)).foldl
        (fun sm e => if e.1 = "sm.Leave" then (sm.step (.leave e.2.2)).1 else sm) sm := by
  unfold tbMtLeft
  simp only [tbMatchLeftStep_closed]
  cases sm.seats[i]? with
  | none => rfl
  | some st => cases hp : st.player <;> simp [hp]

/-- one iteration of the loop of `GetPlayers`: the player of an occupied seat is appended -/
theorem tbMatchPlayersStep_closed {P : Type} (has : Bool) (p : P) (acc : List P) :
    tbMatchPlayersStep has p acc = if has then acc ++ [p] else acc := by
  unfold tbMatchPlayersStep
  cases has <;> rfl

/-- match/table.go `GetPlayers`: the players of the occupied seats, in seat order (the `players=` field of the `mt` lines) -/
theorem tbMatchPlayers_eq (sm : SM) :
    sm.seats.filterMap (·.player) =
      sm.seats.foldl (fun acc s => tbMatchPlayersStep s.player.isSome (s.player.getD 0) acc) [] := by
  simp only [tbMatchPlayersStep_closed]
  rw [foldl_snoc_if (fun s : Seat => s.player.isSome) (fun s => s.player.getD 0), List.nil_append]
  induction sm.seats with
  | nil => rfl
  | cons s l ih => cases hp : s.player <;> simp [hp, ih]

/-! ### what the translated definitions compute, on concrete inputs (non-vacuity) -/

example : tbSetupStep true 3 (some 3) (some 3) (some 5) false true [] false = ("GetPlayerByID(s.Player.ID)", ["dealer", "sb"], true) := rfl
example : tbSetupStep true 5 (some 3) (some 3) (some 5) true true ["dealer"] true = ("GetPlayerByID(s.Player.ID)", ["bb"], false) := rfl
example : tbPrepareNextGame false 0 3 2 (fun _ => false) false 2 false 1 false =
    ["checkEndConditions", "setupPosition", "GetPlayableSeatCount", "ErrInsufficientNumberOfPlayers"] := rfl
example : tbPrepareNextGame false 1 3 2 (fun _ => false) false 2 false 2 false =
    ["checkEndConditions", "setupPosition", "GetPlayableSeatCount", "startGame", "checkEndConditions", "setupPosition", "nil"] := rfl
example : tbStartGame 4 true true = (4, true, tbStartPrefix ++ ["return err"]) := rfl
example : tbStartGame 4 true false = (5, false, tbStartPrefix ++ ["wait", "nil"]) := rfl
example : tbUpdateStep true 0 70 "leave" = (0, ["GetPlayerByGameIdx(rs.Idx)", "sm.Reserve(p.SeatID)", "leave(p.SeatID)"]) := rfl
example : tbMatchJoin "p1" (-1) false 4 = (false, true, [("onPlayerJoined", "p1", 4)]) := rfl

end Pokerface.GeneratedLogic
