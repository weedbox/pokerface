import Pokerface.Proofs.CombosGosper
/-
  `GetPossibleCombinations` / `GetAllPossibleCombinations`: a bit mask picks a sub-list, and the
  enumerated selections are exactly the admissible ones (`Admissible`).
-/
namespace Pokerface

/-- The sub-list of `cards` picked by the one-bits of `v` (bit `i` ↔ position `i`). -/
def selectByMask {α : Type} : Nat → List α → List α
  | _, [] => []
  | v, c :: cs => if v % 2 = 1 then c :: selectByMask (v / 2) cs else selectByMask (v / 2) cs

theorem bit_shift_succ (v i : Nat) : ((v >>> (i + 1)) &&& 1 == 1) = (((v / 2) >>> i) &&& 1 == 1) := by
  rw [Nat.shiftRight_succ_inside]

theorem binaryOnesPositions_succ (v n : Nat) :
    binaryOnesPositions v (n + 1) =
      (if v % 2 = 1 then [0] else []) ++ (binaryOnesPositions (v / 2) n).map (· + 1) := by
  simp only [binaryOnesPositions, List.range_succ_eq_map, List.filter_cons, List.filter_map]
  have h0 : ((v >>> 0) &&& 1 == 1) = decide (v % 2 = 1) := by
    rw [Nat.shiftRight_zero, Nat.and_one_is_mod]
    by_cases h : v % 2 = 1 <;> simp [h]
  have hf : ((fun i => (v >>> i) &&& 1 == 1) ∘ Nat.succ) = (fun i => ((v / 2) >>> i) &&& 1 == 1) := by
    funext i
    exact bit_shift_succ v i
  rw [h0, hf]
  by_cases h : v % 2 = 1 <;> simp [h]

theorem map_positions_eq_select {α : Type} [Inhabited α] :
    ∀ (cards : List α) (v : Nat),
      (binaryOnesPositions v cards.length).map (fun p => cards[p]!) = selectByMask v cards
  | [], v => by simp [binaryOnesPositions, selectByMask]
  | c :: cs, v => by
    rw [List.length_cons, binaryOnesPositions_succ, selectByMask, List.map_append, List.map_map]
    have ih := map_positions_eq_select cs (v / 2)
    have hc : ((fun p => (c :: cs)[p]!) ∘ fun x => x + 1) = fun p => cs[p]! := by
      funext p
      simp
    rw [hc, ih]
    by_cases h : v % 2 = 1 <;> simp [h]

theorem selectByMask_sublist {α : Type} : ∀ (cards : List α) (v : Nat), (selectByMask v cards).Sublist cards
  | [], _ => by simp [selectByMask]
  | c :: cs, v => by
    rw [selectByMask]
    split
    · exact (selectByMask_sublist cs _).cons_cons c
    · exact (selectByMask_sublist cs _).cons c

theorem possibleCombinations_sublist {α : Type} [Inhabited α] (cards : List α) (n : Nat) :
    ∀ s ∈ possibleCombinations cards n, s.Sublist cards := by
  intro s hs
  unfold possibleCombinations at hs
  split at hs
  · rw [List.mem_singleton.1 hs]
    exact List.Sublist.refl _
  · obtain ⟨v, _, rfl⟩ := List.mem_map.mp hs
    rw [map_positions_eq_select]
    exact selectByMask_sublist cards v

theorem allPossibleCombinations_sublist {α : Type} [Inhabited α] (board hole : List α) (k : Nat) :
    ∀ s ∈ allPossibleCombinations board hole k, s.Sublist (hole ++ board) := by
  intro s hs
  unfold allPossibleCombinations at hs
  split at hs
  · exact possibleCombinations_sublist _ _ s hs
  · obtain ⟨hsel, hh, hs2⟩ := List.mem_flatMap.mp hs
    obtain ⟨bs, hb, rfl⟩ := List.mem_map.mp hs2
    exact (possibleCombinations_sublist _ _ _ hh).append (possibleCombinations_sublist _ _ _ hb)

theorem length_selectByMask {α : Type} : ∀ (cards : List α) (v : Nat),
    (selectByMask v cards).length = popCount cards.length v
  | [], _ => rfl
  | c :: cs, v => by
    have ih := length_selectByMask cs (v / 2)
    rw [selectByMask, List.length_cons, popCount]
    split
    · rw [List.length_cons, ih]
      omega
    · rw [ih]
      omega

theorem exists_mask_of_sublist {α : Type} {s cards : List α} (h : s.Sublist cards) :
    ∃ v, v < 2 ^ cards.length ∧ selectByMask v cards = s := by
  induction h with
  | slnil => exact ⟨0, by simp, rfl⟩
  | @cons l₁ l₂ a _ ih =>
    obtain ⟨v, hv, hs⟩ := ih
    refine ⟨2 * v, ?_, ?_⟩
    · rw [List.length_cons, Nat.pow_succ]
      omega
    · rw [selectByMask]
      have h2 : 2 * v / 2 = v := by omega
      simp [h2, hs]
  | @cons_cons l₁ l₂ a _ ih =>
    obtain ⟨v, hv, hs⟩ := ih
    refine ⟨2 * v + 1, ?_, ?_⟩
    · rw [List.length_cons, Nat.pow_succ]
      omega
    · rw [selectByMask]
      have h1 : (2 * v + 1) % 2 = 1 := by omega
      have h2 : (2 * v + 1) / 2 = v := by omega
      simp [h1, h2, hs]

theorem gospersHack_eq {n k : Nat} (hn : n ≤ 9) (hk : 0 < k) (hkn : k ≤ n) :
    gospersHack k n = wordsOfWeight k n := by
  have h := gospersCheck_of_le hn hk hkn
  simp only [gospersCheck, Bool.and_eq_true] at h
  rw [eq_of_beq h.1, wordsOfWeight]
  simp only [bitCount_eq_popCount]

theorem mem_wordsOfWeight {k n v : Nat} : v ∈ wordsOfWeight k n ↔ v < 2 ^ n ∧ popCount n v = k := by
  simp [wordsOfWeight, List.mem_filter, bitCount_eq_popCount]

theorem mem_possibleCombinations {α : Type} [Inhabited α] {cards : List α} {n : Nat}
    (hn : 0 < n) (hlen : cards.length ≤ 9) (s : List α) :
    s ∈ possibleCombinations cards n ↔ s.Sublist cards ∧ s.length = min n cards.length := by
  unfold possibleCombinations
  split
  · next hle =>
    rw [List.mem_singleton, Nat.min_eq_right hle]
    constructor
    · rintro rfl
      exact ⟨List.Sublist.refl _, rfl⟩
    · rintro ⟨hs, hl⟩
      exact hs.eq_of_length hl
  · next hlt =>
    have hlt : n < cards.length := by omega
    rw [gospersHack_eq hlen hn (by omega), Nat.min_eq_left (by omega)]
    simp only [List.mem_map, mem_wordsOfWeight, map_positions_eq_select]
    constructor
    · rintro ⟨v, ⟨_, hb⟩, rfl⟩
      exact ⟨selectByMask_sublist _ _, by rw [length_selectByMask, hb]⟩
    · rintro ⟨hs, hl⟩
      obtain ⟨v, hv, rfl⟩ := exists_mask_of_sublist hs
      exact ⟨v, ⟨hv, by rw [← length_selectByMask, hl]⟩, rfl⟩

theorem possibleCombinations_ne_nil {α : Type} [Inhabited α] {cards : List α} {n : Nat}
    (hn : 0 < n) (hlen : cards.length ≤ 9) : possibleCombinations cards n ≠ [] := by
  have : cards.take n ∈ possibleCombinations cards n := by
    rw [mem_possibleCombinations hn hlen]
    exact ⟨List.take_sublist _ _, List.length_take⟩
  exact List.ne_nil_of_mem this

theorem selectByMask_inj {α : Type} : ∀ (cards : List α), cards.Nodup → ∀ (v w : Nat),
    v < 2 ^ cards.length → w < 2 ^ cards.length → selectByMask v cards = selectByMask w cards → v = w
  | [], _, v, w, hv, hw, _ => by
    simp at hv hw
    omega
  | c :: cs, hnd, v, w, hv, hw, h => by
    have ⟨hc, hcs⟩ := List.nodup_cons.mp hnd
    rw [List.length_cons, Nat.pow_succ] at hv hw
    have ih := selectByMask_inj cs hcs (v / 2) (w / 2) (by omega) (by omega)
    rw [selectByMask, selectByMask] at h
    have hsub : ∀ u, c ∉ selectByMask u cs := fun u hm => hc ((selectByMask_sublist cs u).subset hm)
    by_cases h1 : v % 2 = 1 <;> by_cases h2 : w % 2 = 1
    all_goals simp only [h1, h2, if_true, if_false] at h
    · have := ih (List.cons.inj h).2
      omega
    · exact absurd (h ▸ List.mem_cons_self ..) (hsub _)
    · exact absurd (h ▸ List.mem_cons_self ..) (hsub _)
    · have := ih h
      omega

theorem nodup_wordsOfWeight (k n : Nat) : (wordsOfWeight k n).Nodup := by
  have : (wordsOfWeight k n).Pairwise (· < ·) := List.Pairwise.filter _ List.pairwise_lt_range
  exact this.imp (fun h => Nat.ne_of_lt h)

theorem nodup_possibleCombinations {α : Type} [Inhabited α] {cards : List α} {n : Nat}
    (hn : 0 < n) (hlen : cards.length ≤ 9) (hnd : cards.Nodup) : (possibleCombinations cards n).Nodup := by
  unfold possibleCombinations
  split
  · simp
  · next hlt =>
    rw [gospersHack_eq hlen hn (by omega)]
    simp only [map_positions_eq_select]
    rw [List.Nodup, List.pairwise_map]
    apply (nodup_wordsOfWeight n cards.length).imp_of_mem
    intro a b ha hb hab heq
    exact hab (selectByMask_inj cards hnd a b (mem_wordsOfWeight.mp ha).1 (mem_wordsOfWeight.mp hb).1 heq)

theorem nodup_allPossibleCombinations {α : Type} [Inhabited α] {board hole : List α} {req : Nat}
    (hreq : req < 5) (hh : hole.length ≤ 9) (hb : board.length ≤ 9)
    (hall : req = 0 → hole.length + board.length ≤ 9) (hnd : (hole ++ board).Nodup) :
    (allPossibleCombinations board hole req).Nodup := by
  unfold allPossibleCombinations
  split
  · next h0 => exact nodup_possibleCombinations (by omega) (by simpa using hall h0) hnd
  · next h0 =>
    have hndh : hole.Nodup := (List.nodup_append.mp hnd).1
    have hndb : board.Nodup := (List.nodup_append.mp hnd).2.1
    have hH := nodup_possibleCombinations (n := req) (by omega) hh hndh
    have hB := nodup_possibleCombinations (n := 5 - req) (by omega) hb hndb
    rw [List.Nodup, List.pairwise_flatMap]
    constructor
    · intro hs _
      rw [List.pairwise_map]
      exact hB.imp (fun hne heq => hne (List.append_cancel_left heq))
    · apply hH.imp_of_mem
      intro a b ha hb' hab x hx y hy hxy
      obtain ⟨b1, _, rfl⟩ := List.mem_map.mp hx
      obtain ⟨b2, _, rfl⟩ := List.mem_map.mp hy
      have la := ((mem_possibleCombinations (by omega) hh a).mp ha).2
      have lb := ((mem_possibleCombinations (by omega) hh b).mp hb').2
      exact hab (List.append_inj hxy (by rw [la, lb])).1

/-- The two counts the repository's own test checks, for every input of that shape: 21 under the rule "any five"
    (`required = 0`) for seven cards … -/
theorem length_allPossibleCombinations_any {α : Type} [Inhabited α] {board hole : List α}
    (h : hole.length + board.length = 7) : (allPossibleCombinations board hole 0).length = 21 := by
  simp only [allPossibleCombinations, possibleCombinations, if_true, List.length_append, h]
  have : ¬ (7 ≤ 5) := by omega
  simp only [this, if_false, List.length_map]
  decide

/-- … and 60 under "exactly two of four hole cards" with five board cards. -/
theorem length_allPossibleCombinations_two_of_four {α : Type} [Inhabited α] {board hole : List α}
    (hh : hole.length = 4) (hb : board.length = 5) : (allPossibleCombinations board hole 2).length = 60 := by
  have h1 : (possibleCombinations hole 2).length = 6 := by
    simp only [possibleCombinations, hh, show ¬ (4 ≤ 2) by omega, if_false, List.length_map]
    decide
  have h2 : (possibleCombinations board (5 - 2)).length = 10 := by
    simp only [possibleCombinations, hb, show ¬ (5 ≤ 5 - 2) by omega, if_false, List.length_map]
    decide
  simp only [allPossibleCombinations, show (2 : Nat) ≠ 0 by omega, if_false, List.length_flatMap,
    List.length_map, h2]
  rw [List.map_const', List.sum_replicate_nat, h1]

/-- Specification-level: `s` is an admissible five-card selection for a player holding `hole`
    on `board` under the rule "exactly `req` hole cards" (`req = 0`: any five of the seven).
    When fewer cards are available than asked for, all available ones are taken
    (this is what makes the pre-flop / flop "hands" of fewer than five cards). -/
def Admissible {α : Type} (board hole : List α) (req : Nat) (s : List α) : Prop :=
  if req = 0 then s.Sublist (hole ++ board) ∧ s.length = min 5 (hole.length + board.length)
  else ∃ hs bs, s = hs ++ bs ∧ hs.Sublist hole ∧ hs.length = min req hole.length ∧
         bs.Sublist board ∧ bs.length = min (5 - req) board.length

theorem admissible_zero {α : Type} {board hole s : List α} :
    Admissible board hole 0 s ↔
      s.Sublist (hole ++ board) ∧ s.length = min 5 (hole.length + board.length) :=
  Iff.of_eq (if_pos rfl)

theorem admissible_pos {α : Type} {board hole s : List α} {req : Nat} (h : req ≠ 0) :
    Admissible board hole req s ↔
      ∃ hs bs, s = hs ++ bs ∧ hs.Sublist hole ∧ hs.length = min req hole.length ∧
        bs.Sublist board ∧ bs.length = min (5 - req) board.length :=
  Iff.of_eq (if_neg h)

theorem mem_allPossibleCombinations {α : Type} [Inhabited α] {board hole : List α} {req : Nat}
    (hreq : req < 5) (hh : hole.length ≤ 9) (hb : board.length ≤ 9)
    (hall : req = 0 → hole.length + board.length ≤ 9) (s : List α) :
    s ∈ allPossibleCombinations board hole req ↔ Admissible board hole req s := by
  unfold allPossibleCombinations
  split
  · next h0 =>
    subst h0
    rw [admissible_zero, mem_possibleCombinations (by omega) (by simpa using hall rfl), List.length_append]
  · next h0 =>
    simp only [admissible_pos h0, List.mem_flatMap, List.mem_map]
    constructor
    · rintro ⟨hs, hhs, bs, hbs, rfl⟩
      rw [mem_possibleCombinations (by omega) hh] at hhs
      rw [mem_possibleCombinations (by omega) hb] at hbs
      exact ⟨hs, bs, rfl, hhs.1, hhs.2, hbs.1, hbs.2⟩
    · rintro ⟨hs, bs, rfl, h1, h2, h3, h4⟩
      exact ⟨hs, (mem_possibleCombinations (by omega) hh _).mpr ⟨h1, h2⟩,
             bs, (mem_possibleCombinations (by omega) hb _).mpr ⟨h3, h4⟩, rfl⟩

theorem allPossibleCombinations_ne_nil {α : Type} [Inhabited α] {board hole : List α} {req : Nat}
    (hreq : req < 5) (hh : hole.length ≤ 9) (hb : board.length ≤ 9)
    (hall : req = 0 → hole.length + board.length ≤ 9) : allPossibleCombinations board hole req ≠ [] := by
  unfold allPossibleCombinations
  split
  · next h0 => exact possibleCombinations_ne_nil (by omega) (by simpa using hall h0)
  · next h0 =>
    have h1 := possibleCombinations_ne_nil (cards := hole) (n := req) (by omega) hh
    have h2 := possibleCombinations_ne_nil (cards := board) (n := 5 - req) (by omega) hb
    obtain ⟨a, ha⟩ := List.exists_mem_of_ne_nil _ h1
    obtain ⟨b, hb'⟩ := List.exists_mem_of_ne_nil _ h2
    apply List.ne_nil_of_mem (a := a ++ b)
    simp only [List.mem_flatMap, List.mem_map]
    exact ⟨a, ha, b, hb', rfl⟩

theorem Admissible.sublist {α : Type} {board hole : List α} {req : Nat} {s : List α}
    (h : Admissible board hole req s) : s.Sublist (hole ++ board) := by
  by_cases h0 : req = 0
  · subst h0
    exact (admissible_zero.1 h).1
  · obtain ⟨hs, bs, rfl, h1, _, h3, _⟩ := (admissible_pos h0).1 h
    exact h1.append h3

theorem Admissible.length {α : Type} {board hole : List α} {req : Nat} {s : List α} (h : Admissible board hole req s) :
    s.length = if req = 0 then min 5 (hole.length + board.length)
      else min req hole.length + min (5 - req) board.length := by
  by_cases h0 : req = 0
  · subst h0
    exact (admissible_zero.1 h).2
  · obtain ⟨hs, bs, rfl, _, h2, _, h4⟩ := (admissible_pos h0).1 h
    rw [if_neg h0, List.length_append, h2, h4]

theorem Admissible.length_eq_five {α : Type} {board hole : List α} {req : Nat} {s : List α}
    (h : Admissible board hole req s) (hreq : req ≤ 5) (hh : req ≤ hole.length)
    (hb : 5 - req ≤ board.length) : s.length = 5 := by
  rw [h.length]
  split <;> omega

theorem Admissible.length_eq {α : Type} {board hole : List α} {req : Nat} {s s' : List α}
    (h : Admissible board hole req s) (h' : Admissible board hole req s') : s.length = s'.length :=
  h.length.trans h'.length.symm

theorem Admissible.ne_nil {α : Type} {board hole : List α} {req : Nat} {s : List α}
    (h : Admissible board hole req s) (hh : 1 ≤ hole.length) : s ≠ [] := by
  intro hnil
  have := h.length
  rw [hnil, List.length_nil] at this
  split at this <;> omega

end Pokerface
