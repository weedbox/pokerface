import Pokerface.Proofs.EvalGroups
import Pokerface.Proofs.EvalKey
import Pokerface.Generated.Tables
/-!
  C03: assembly.  The evaluator sorts the hand, so its result on a valid hand is the
  normal form of `EvalGroups`; the category offsets of a ranking table separate the
  categories; hence the score order is the poker order.
-/
namespace Pokerface.C03
open Generated

theorem isFlush_sortCards (h : List Card) (hv : Valid h) : isFlush (sortCards h) = sameSuit h := by
  have p := sortCards_perm h
  rw [isFlush_eq_sameSuit _ ?_, sameSuit_perm p]
  intro h0
  have := p.length_eq
  rw [h0, hv.five] at this
  simp at this

/-- What `calculatePower lvl T` returns on `h`, with `raw` the score before the category offset.  The offsets are
    those of arbitrary category sizes `lvl`; `raw_lt` bounds `raw` by the size the generated `CombinationLevel`
    reserves (`level_ok`), whatever `lvl` is. -/
structure NormalForm (lvl : Cat → Nat) (T : List Cat) (h : List Card) (raw : Nat) : Prop where
  cat_eq : (calculatePower lvl T h).cat = specCat (ranks h) (sameSuit h)
  score_eq : (calculatePower lvl T h).score = raw + powerLevels lvl T (specCat (ranks h) (sameSuit h))
  raw_eq : raw + shift (specCat (ranks h) (sameSuit h)) = enc (specTiebreak (ranks h))
  len_eq : (specTiebreak (ranks h)).length = tbLen (specCat (ranks h) (sameSuit h))
  inRange : InRange (specTiebreak (ranks h))
  raw_lt : raw < combinationLevel (specCat (ranks h) (sameSuit h))

/-- `CombinationLevel` reserves for every category at least the range of the base-13 values of
    its tiebreaks (decided on the regenerated constants). -/
theorem level_ok (c : Cat) : 13 ^ tbLen c ≤ combinationLevel c + shift c := by
  cases c <;> decide

theorem normalForm (lvl : Cat → Nat) (T : List Cat) (h : List Card) (hv : Valid h) :
    ∃ raw, NormalForm lvl T h raw := by
  have p := sortCards_perm h
  have pr : ((sortCards h).map (·.rank)).Perm (ranks h) := p.map _
  obtain ⟨h1, h2, h3⟩ := normalForm_sorted (rs := (sortCards h).map (·.rank))
    (by rw [List.length_map, p.length_eq, hv.five]) (List.pairwise_map.2 (sortCards_sorted h))
    (fun r hr => by
      obtain ⟨c, hc, rfl⟩ := List.mem_map.1 hr
      exact hv.inRange c (p.mem_iff.1 hc))
    (fun r => by rw [pr.count_eq]; exact hv.atMostFour r) (sameSuit h)
  rw [specCat_perm pr] at h1 h2 h3
  rw [specTiebreak_perm pr] at h2 h3
  have hcat : (calculatePower lvl T h).cat = specCat (ranks h) (sameSuit h) := by
    rw [calculatePower_cat, isFlush_sortCards h hv]
    exact h1
  have hin := specTiebreak_inRange (ranks h)
  refine ⟨_, hcat, by rw [calculatePower_score, ← hcat]; rfl, h2, h3, hin, ?_⟩
  -- a tiebreak of `tbLen c` digits has a value below `13 ^ tbLen c`
  have := enc_lt_pow _ hin
  have := level_ok (specCat (ranks h) (sameSuit h))
  rw [h3] at *
  omega

theorem Cat.mem_all (c : Cat) : c ∈ Cat.all := by cases c <;> decide

/-- What is needed of a ranking table `T` with category sizes `lvl`: different
    categories sit at different positions, and the offset of a later category is at
    least the offset of an earlier one plus the earlier one's size. -/
def tableOK (lvl : Cat → Nat) (T : List Cat) : Bool :=
  Cat.all.all fun c => Cat.all.all fun c' =>
    (T.idxOf c != T.idxOf c' || c == c') &&
    (!decide (T.idxOf c < T.idxOf c') || decide (powerLevels lvl T c + lvl c ≤ powerLevels lvl T c'))

theorem tableOK_standard : tableOK combinationLevel powerStandard = true := by decide
theorem tableOK_shortDeck : tableOK combinationLevel powerShortDeck = true := by decide

theorem tableOK_inj {lvl : Cat → Nat} {T : List Cat} (hT : tableOK lvl T = true) (c c' : Cat)
    (h : T.idxOf c = T.idxOf c') : c = c' := by
  have := (List.all_eq_true.1 ((List.all_eq_true.1 hT) c (Cat.mem_all c))) c' (Cat.mem_all c')
  simp only [Bool.and_eq_true, Bool.or_eq_true, bne_iff_ne, beq_iff_eq] at this
  rcases this.1 with h' | h'
  · exact absurd h h'
  · exact h'

theorem tableOK_sep {lvl : Cat → Nat} {T : List Cat} (hT : tableOK lvl T = true) (c c' : Cat)
    (h : T.idxOf c < T.idxOf c') : powerLevels lvl T c + lvl c ≤ powerLevels lvl T c' := by
  have := (List.all_eq_true.1 ((List.all_eq_true.1 hT) c (Cat.mem_all c))) c' (Cat.mem_all c')
  simp only [Bool.and_eq_true, Bool.or_eq_true, Bool.not_eq_true', decide_eq_false_iff_not,
    decide_eq_true_eq] at this
  rcases this.2 with h' | h'
  · exact absurd h h'
  · exact h'

theorem score_lt_iff_of_tableOK (T : List Cat) (hT : tableOK combinationLevel T = true)
    (h₁ h₂ : List Card) (hv₁ : Valid h₁) (hv₂ : Valid h₂) :
    (calculatePower combinationLevel T h₁).score < (calculatePower combinationLevel T h₂).score
      ↔ pokerKey T h₁ < pokerKey T h₂ := by
  obtain ⟨raw₁, n₁⟩ := normalForm combinationLevel T h₁ hv₁
  obtain ⟨raw₂, n₂⟩ := normalForm combinationLevel T h₂ hv₂
  rw [n₁.score_eq, n₂.score_eq, PokerKey.lt_def]
  simp only [pokerKey]
  -- by the positions of the two categories in `T`: apart, the offsets keep the scores apart (`tableOK_sep`,
  -- `raw_lt`); equal, the categories agree and the raw scores compare as the tiebreaks do (`enc_lt_iff`)
  have e₁ := n₁.raw_eq
  have e₂ := n₂.raw_eq
  have l₁ := n₁.raw_lt
  have l₂ := n₂.raw_lt
  rcases Nat.lt_trichotomy (T.idxOf (specCat (ranks h₁) (sameSuit h₁)))
      (T.idxOf (specCat (ranks h₂) (sameSuit h₂))) with hlt | heq | hgt
  · have := tableOK_sep hT _ _ hlt
    constructor
    · intro _
      exact Or.inl hlt
    · intro _
      omega
  · have hc := tableOK_inj hT _ _ heq
    have hlen : (specTiebreak (ranks h₁)).length = (specTiebreak (ranks h₂)).length := by
      rw [n₁.len_eq, n₂.len_eq, hc]
    rw [← enc_lt_iff _ _ hlen n₁.inRange n₂.inRange]
    rw [hc] at e₁ ⊢
    constructor
    · intro h
      exact Or.inr ⟨rfl, by omega⟩
    · rintro (h | ⟨_, h⟩)
      · omega
      · omega
  · have := tableOK_sep hT _ _ hgt
    constructor
    · intro h
      omega
    · rintro (h | ⟨h, _⟩)
      · omega
      · omega

/-- Equal scores exactly for equal keys: both orders are total, and neither side is below the
    other. -/
theorem score_eq_iff_of_tableOK (T : List Cat) (hT : tableOK combinationLevel T = true)
    (h₁ h₂ : List Card) (hv₁ : Valid h₁) (hv₂ : Valid h₂) :
    (calculatePower combinationLevel T h₁).score = (calculatePower combinationLevel T h₂).score
      ↔ pokerKey T h₁ = pokerKey T h₂ := by
  have hlt := score_lt_iff_of_tableOK T hT h₁ h₂ hv₁ hv₂
  have hgt := score_lt_iff_of_tableOK T hT h₂ h₁ hv₂ hv₁
  constructor
  · intro he
    rcases PokerKey.lt_trichotomy (pokerKey T h₁) (pokerKey T h₂) with h | h | h
    · have := hlt.2 h
      omega
    · exact h
    · have := hgt.2 h
      omega
  · intro he
    rw [he] at hlt hgt
    have := key_lt_irrefl (pokerKey T h₂)
    rcases Nat.lt_trichotomy (calculatePower combinationLevel T h₁).score
      (calculatePower combinationLevel T h₂).score with h | h | h
    · exact absurd (hlt.1 h) this
    · exact h
    · exact absurd (hgt.1 h) this

end Pokerface.C03
