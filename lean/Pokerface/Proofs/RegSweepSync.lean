/-
  C20, the small bound: `SyncState(t, 0)` against the potential (`syncState_phiF`, with any number
  of players on the way; its cases `breakTable_phi`, `take_phi`, `release_phi`).
  How many players its release loop hands back: in a state with exactly the tables needed, a table
  above the level releases at most (total deficit of the tables at or below the level) − (queue
  length) players (`not_reached`, `release_fits`).
-/
import Pokerface.Proofs.RegSweepDrain

namespace Pokerface
namespace Reg

theorem SameSheet.phi {r r' : Reg} (h : SameSheet r r') (hq : r'.queue = r.queue) : phi r' = phi r := by
  unfold Reg.phi qind
  rw [h.psi, h.Ds, hq]

theorem beginOp_sheet (r : Reg) (ch : List Nat) : SameSheet r (r.beginOp ch) := ⟨rfl, rfl, rfl, rfl⟩

theorem deficit_le_required (F : Int) (ts : List RTable) (h : tot (uF F) ts = 0) (hr : ∀ t ∈ ts, 0 ≤ t.required) :
    tot (eF F) ts ≤ tot rF ts := by
  apply tot_le_tot
  intro t ht
  have h1 := tot_eq_zero h t ht
  have h2 := hr t ht
  simp only [uF] at h1
  simp only [eF, rF]
  split at h1
  · omega
  · omega

theorem low_deficit (F : Int) (ts : List RTable) :
    F * ((lowOf F ts).length : Int) - sumCount (lowOf F ts) = (tot (eF F) ts : Nat) := by
  induction ts with
  | nil => simp [lowOf, sumCount, tot]
  | cons t ts ih =>
    by_cases h : t.count ≤ F
    · have : lowOf F (t :: ts) = t :: lowOf F ts := by simp [lowOf, h]
      rw [this, List.length_cons, sumCount_cons, tot_cons]
      have e : F * ((lowOf F ts).length + 1 : Nat) = F * ((lowOf F ts).length : Int) + F := by
        rw [Int.natCast_add, Int.mul_add]
        simp
      rw [e]
      simp only [eF]
      omega
    · have : lowOf F (t :: ts) = lowOf F ts := by simp [lowOf, h]
      rw [this, tot_cons]
      simp only [eF]
      omega

theorem not_reached (r : Reg) (X : Int) (hX : r.playerCount = X + sumCount r.tables)
    (h : r.lowerWaterLevelReached (flr r) = false) :
    (lowOf (flr r) r.tables = [] ∧ X ≤ 0) ∨
      (lowOf (flr r) r.tables ≠ [] ∧ X < (tot (eF (flr r)) r.tables : Nat)) := by
  have hn : ¬ r.lowerWaterLevelReached (flr r) = true := by
    rw [h]
    exact Bool.noConfusion
  rw [lowerWaterLevelReached_iff r X hX, low_deficit] at hn
  by_cases hl : lowOf (flr r) r.tables = []
  · rw [if_pos hl] at hn
    exact Or.inl ⟨hl, by omega⟩
  · rw [if_neg hl] at hn
    exact Or.inr ⟨hl, by omega⟩

/-- one table of `b` is replaced; the number of tables and what determines the level stay -/
structure OneTable (b r1 : Reg) (t : Nat) (f : RTable → RTable) : Prop where
  needs : SameNeeds b r1
  tc : r1.tableCount = b.tableCount
  tables : r1.tables = upd t f b.tables

section
variable {b r1 : Reg} {t : Nat} {f : RTable → RTable} (h : OneTable b r1 t f)
include h

theorem OneTable.tot (g : Int → RTable → Nat) (hwf : WF b) {t0 : RTable} (ht0 : t0 ∈ b.tables)
    (hid : t0.id = t) :
    tot (g (flr r1)) r1.tables + g (flr b) t0 = tot (g (flr b)) b.tables + g (flr b) (f t0) := by
  rw [flr_same h.needs, h.tables]
  exact tot_upd _ _ hwf.nodup ht0 hid f

theorem OneTable.length : r1.tables.length = b.tables.length := by rw [h.tables, upd_length]
theorem OneTable.dTR : dTR r1 = dTR b := (dTR_dRT_congr h.needs h.tc).1
theorem OneTable.dRT : dRT r1 = dRT b := (dTR_dRT_congr h.needs h.tc).2

end

/-- breaking a table while there are more than needed pays for everything a later
    `ReleasePlayers` can do: the calm-bonus of the state after the break is not even used -/
theorem breakTable_phi {b : Reg} (hwf : WF b) {t : Nat} {t0 : RTable} (ht0 : t0 ∈ b.tables) (hid : t0.id = t)
    (hlt : b.requiredTables < b.tableCount) :
    psi1 (b.breakTable t) + 2 ≤ psi b ∧ Ds (b.breakTable t) ≤ Ds b := by
  have hF : flr (b.breakTable t) = flr b := flr_same ⟨rfl, rfl⟩
  have htab : (b.breakTable t).tables = b.tables.filter (fun x => x.id != t) := rfl
  have hg := tot_filter_ne (gF (flr b)) b.tables hwf.nodup ht0 hid
  have hd := tot_filter_ne (dF (flr b)) b.tables hwf.nodup ht0 hid
  have hl := filter_ne_length b.tables hwf.nodup ht0 hid
  have hnc : ¬ calm b := fun c => by
    have := c.1
    omega
  constructor
  · have a2 : dTR (b.breakTable t) + 1 = dTR b := by
      unfold dTR
      show ((b.tableCount - 1 - b.requiredTables).toNat + 1 = _)
      omega
    have a3 : dRT (b.breakTable t) = 0 := by
      unfold dRT
      show (b.requiredTables - (b.tableCount - 1)).toNat = 0
      omega
    have a4 : dRT b = 0 := by
      unfold dRT
      omega
    -- the table takes its share of `G` with it (`hg`), the table term loses one (`hl`) and the
    -- spare-table term one more (`a2`); no table is missing before or after (`a3`, `a4`)
    unfold psi1 psi Gs
    rw [TP_not_calm hnc, a3, a4, hF, htab]
    omega
  · unfold Ds
    rw [hF, htab]
    omega

theorem phi_le_of_parts {b r1 : Reg} {d e : Nat} (hG : Gs r1 ≤ Gs b) (hTP : TP r1 ≤ TP b) (hT : dTR r1 = dTR b)
    (hR : dRT r1 = dRT b) (hmax : r1.max = b.max) (hD : Ds r1 + d ≤ Ds b) (hq : qind r1 + e ≤ qind b) :
    phi r1 + d + e ≤ phi b := by
  unfold phi psi
  rw [hT, hR, hmax]
  omega

theorem take_table {F : Int} {t0 : RTable} {k : Int} {rq : Option Int} (h0 : 0 ≤ k) (hk0 : k ≤ F - t0.count)
    (hr : 0 ≤ t0.required) (hreq0 : 1 ≤ k → t0.required = 0)
    (hrq : (if F - t0.count - k > 0 then some (F - t0.count - k) else none) = rq) :
    gF F (adj k rq t0) ≤ gF F t0 ∧ uF F (adj k rq t0) ≤ uF F t0 ∧ dF F (adj k rq t0) ≤ dF F t0 ∧
    (k = F - t0.count → 1 ≤ k → dF F (adj k rq t0) + 1 = dF F t0) := by
  have hcov : F ≤ (adj k rq t0).count + (adj k rq t0).required := by
    rw [← hrq]
    simp only [adj]
    split
    · simp only [Option.getD_some]
      omega
    · simp only [Option.getD_none]
      omega
  refine ⟨?_, ?_, ?_, ?_⟩
  · rw [← hrq]
    simp only [gF, adj]
    split
    · simp only [Option.getD_some]
      omega
    · simp only [Option.getD_none]
      by_cases hk1 : 1 ≤ k
      · have := hreq0 hk1
        omega
      · omega
  · simp only [uF]
    rw [if_neg (by omega)]
    omega
  · simp only [dF, adj]
    omega
  · intro hfull hk1
    simp only [dF, adj]
    omega

/-- a top-up of `k` queued players (all that are there, up to the level): no component of the
    potential rises; if somebody came, the table reached the level or the queue ran empty -/
theorem take_phi {b r1 : Reg} {t : Nat} {t0 : RTable} (hwf : WF b) (hQ : Q b) (ht0 : t0 ∈ b.tables)
    (hid : t0.id = t) {n k : Nat} {rq : Option Int} (hn : (n : Int) = flr b - t0.count)
    (hk : (b.queue.take n).length = k)
    (hrq : (if flr b - t0.count - (k : Int) > 0 then some (flr b - t0.count - (k : Int)) else none) = rq)
    (hr1 : r1 = { b with queue := b.queue.drop n, tables := upd t (adj k rq) b.tables }) :
    phi r1 ≤ phi b ∧ (1 ≤ k → phi r1 + 1 ≤ phi b) := by
  have h : OneTable b r1 t (adj k rq) := by
    rw [hr1]
    exact ⟨⟨rfl, rfl⟩, rfl, rfl⟩
  have hmax : r1.max = b.max := h.needs.max
  have hq : r1.queue = b.queue.drop n := by rw [hr1]
  have hbt := hwf.bnd t0 ht0
  have hk0 : (k : Int) ≤ flr b - t0.count := by
    rw [← hk, List.length_take]
    omega
  have hreq0 : 1 ≤ (k : Int) → t0.required = 0 := by
    intro hk1
    have hne : b.queue ≠ [] := by
      intro hnil
      rw [hnil] at hk
      simp at hk
      omega
    have := hQ hne t0 ht0
    omega
  obtain ⟨hg, hu, hd, hfill⟩ := take_table (F := flr b) (t0 := t0) (k := k) (by omega) hk0 hbt.2.1 hreq0 hrq
  have aG : Gs r1 + gF (flr b) t0 = Gs b + gF (flr b) (adj k rq t0) := h.tot gF hwf ht0 hid
  have aU : Us r1 + uF (flr b) t0 = Us b + uF (flr b) (adj k rq t0) := h.tot uF hwf ht0 hid
  have aD : Ds r1 + dF (flr b) t0 = Ds b + dF (flr b) (adj k rq t0) := h.tot dF hwf ht0 hid
  have aL := h.length
  have aTP : TP r1 ≤ TP b := by
    by_cases c : calm b
    · have c1 : calm r1 := ⟨by rw [h.tc, h.needs.req]; exact c.1, by have := c.2; omega⟩
      rw [TP_calm c1]
      omega
    · rw [TP_not_calm c]
      have := TP_le r1
      omega
  have hG' : Gs r1 ≤ Gs b := by omega
  have hD' : Ds r1 ≤ Ds b := by omega
  have aq : qind r1 ≤ qind b := by
    unfold qind
    rw [hq]
    split
    · omega
    · rename_i hne
      have : b.queue ≠ [] := by
        intro hnil
        rw [hnil] at hne
        simp at hne
      rw [if_neg this]
      omega
  refine ⟨phi_le_of_parts (d := 0) (e := 0) hG' aTP h.dTR h.dRT hmax hD' aq, fun hk1 => ?_⟩
  by_cases hfull : (k : Int) = flr b - t0.count
  · have hd' := hfill hfull (by omega)
    exact phi_le_of_parts (d := 1) (e := 0) hG' aTP h.dTR h.dRT hmax (by omega) aq
  · have hlen : b.queue.length < n := by
      rw [List.length_take] at hk
      omega
    have hq1 : r1.queue = [] := by
      rw [hq]
      exact List.drop_eq_nil_of_le (by omega)
    have hq0 : b.queue ≠ [] := by
      intro hnil
      rw [hnil] at hk
      simp at hk
      omega
    have : qind r1 + 1 ≤ qind b := by
      unfold qind
      rw [if_pos hq1, if_neg hq0]
      exact Nat.le_refl _
    exact phi_le_of_parts (d := 0) (e := 1) hG' aTP h.dTR h.dRT hmax hD' this

theorem release_phi {b r1 : Reg} {t : Nat} {t0 : RTable} (hwf : WF b) (ht0 : t0 ∈ b.tables)
    (hid : t0.id = t) {j : Nat} (hj : flr b ≤ t0.count - j)
    (h : OneTable b r1 t (adj (-(j : Int)) none)) :
    psi r1 + j = psi b ∧ psi1 r1 + j = psi1 b ∧ Ds r1 = Ds b ∧ (calm r1 ↔ calm b) ∧
    tot rF r1.tables = tot rF b.tables := by
  have hbt := hwf.bnd t0 ht0
  have hg : gF (flr b) (adj (-(j : Int)) none t0) + j = gF (flr b) t0 := by
    simp only [gF, adj, Option.getD_none]
    omega
  have hu : uF (flr b) (adj (-(j : Int)) none t0) = uF (flr b) t0 := by
    have h1 : uF (flr b) (adj (-(j : Int)) none t0) = 0 := by
      unfold uF
      rw [if_neg]
      simp only [adj, Option.getD_none]
      omega
    have h2 : uF (flr b) t0 = 0 := by
      unfold uF
      rw [if_neg]
      omega
    rw [h1, h2]
  have hd : dF (flr b) (adj (-(j : Int)) none t0) = dF (flr b) t0 := by
    simp only [dF, adj]
    omega
  have aG : Gs r1 + gF (flr b) t0 = Gs b + gF (flr b) (adj (-(j : Int)) none t0) := h.tot gF hwf ht0 hid
  have aU : Us r1 + uF (flr b) t0 = Us b + uF (flr b) (adj (-(j : Int)) none t0) := h.tot uF hwf ht0 hid
  have aD : Ds r1 + dF (flr b) t0 = Ds b + dF (flr b) (adj (-(j : Int)) none t0) := h.tot dF hwf ht0 hid
  have aRF : tot rF r1.tables = tot rF b.tables := by
    rw [h.tables]
    exact tot_upd_eq _ _ hwf.nodup ht0 hid _ rfl
  have aL := h.length
  have acalm : calm r1 ↔ calm b := by
    unfold calm
    rw [h.tc, h.needs.req, show Us r1 = Us b by omega]
  have aTP : TP r1 = TP b := TP_congr acalm aL
  refine ⟨?_, ?_, by omega, acalm, aRF⟩
  · unfold psi
    rw [aTP, h.dTR, h.dRT, h.needs.max]
    omega
  · unfold psi1
    rw [aL, h.dTR, h.dRT, h.needs.max]
    omega

/-- in a calm state the release loop stops while the players released, the queue and the `f`
    players on the way still fit into the outstanding `Required`s: its last test, made with
    `j − 1` players released, found the deficit of the low tables not yet covered -/
theorem release_fits {b : Reg} {t : Nat} {t0 : RTable} {f : Nat} (hwf : WF b)
    (hcnt : b.playerCount = b.queue.length + sumCount b.tables + f) (ht0 : t0 ∈ b.tables) (hid : t0.id = t)
    (hreq : 0 < b.requiredTables) (hc : calm b) {j : Nat} (hj1 : 1 ≤ j) (hj : flr b ≤ t0.count - j)
    (hlast : ({ b with tables := upd t (adj (-((j : Int) - 1)) none) b.tables } : Reg).lowerWaterLevelReached
      (flr b) = false) :
    b.queue.length + f + j ≤ tot rF b.tables := by
  have hidm : t ∈ b.tables.map (·.id) := List.mem_map.2 ⟨t0, ht0, hid⟩
  generalize hri : ({ b with tables := upd t (adj (-((j : Int) - 1)) none) b.tables } : Reg) = ri at hlast
  have htabi : ri.tables = upd t (adj (-((j : Int) - 1)) none) b.tables := by rw [← hri]
  have hsc : sumCount ri.tables = sumCount b.tables + -((j : Int) - 1) := by
    rw [htabi]
    exact sumCount_upd_adj hwf.nodup hidm _ _
  have hpci : ri.playerCount = b.playerCount := by rw [← hri]
  have hreqi : ri.requiredTables = b.requiredTables := by
    rw [← hri]
    rfl
  have hFi : ri.playerCount / ri.requiredTables = flr b := by
    rw [hpci, hreqi]
    rfl
  have hX : ri.playerCount = ((b.queue.length : Int) + (f : Int) + ((j : Int) - 1)) + sumCount ri.tables := by
    rw [hpci, hsc, hcnt]
    omega
  have hflri : flr ri = flr b := hFi
  rw [← hflri] at hlast
  have hlowne : lowOf (flr ri) ri.tables ≠ [] := by
    apply low_nonempty ri (by rw [hreqi]; exact hreq)
    · rw [hreqi, htabi, upd_length, ← hwf.tc]
      exact hc.1.symm
    · rw [hpci, hsc, hcnt]
      omega
  rcases not_reached ri _ hX hlast with ⟨hnil, _⟩ | ⟨_, hlt2⟩
  · exact absurd hnil hlowne
  · have he0 : eF (flr b) (adj (-((j : Int) - 1)) none t0) = eF (flr b) t0 := by
      simp only [eF, adj]
      omega
    have hE : tot (eF (flr b)) ri.tables = tot (eF (flr b)) b.tables := by
      rw [htabi]
      exact tot_upd_eq _ _ hwf.nodup ht0 hid _ he0
    have hdr := deficit_le_required (flr b) b.tables hc.2 (fun x hx => (hwf.bnd x hx).2.1)
    rw [hflri, hE] at hlt2
    omega

/-- `SyncState(t, 0)` while `f` players are on the way back to the regulator (`f = 0` on the
    synchronous system): its total is `|queue| + Σ PlayerCount + f`.  The three ways the call can go,
    each with its effect on the potential: nothing or a top-up from the queue; a break; a release -
    and in a calm state the released players, the queue and the players on the way fit into the
    outstanding `Required`s.  The `F` of the name is this `f`, the players in flight, not the
    forward-only layer that the suffix `F` marks in Proofs/RegDrain.lean. -/
theorem syncState_phiF (r : Reg) (t : Nat) (t0 : RTable) (f : Nat) (hwf : WF r) (hQ : Q r)
    (hcnt : r.playerCount = r.queue.length + sumCount r.tables + f) (hf : r.findTable t = some t0) :
    ((r.syncState t 0).2.2.1 = 0 ∧ (r.syncState t 0).1.findTable t ≠ none ∧
        phi (r.syncState t 0).1 ≤ phi r ∧
        ((r.syncState t 0).2.2.2 ≠ [] → phi (r.syncState t 0).1 + 1 ≤ phi r)) ∨
    ((r.syncState t 0).1.findTable t = none ∧ (r.syncState t 0).2.2.2 = [] ∧
        psi1 (r.syncState t 0).1 + 2 ≤ psi r ∧ Ds (r.syncState t 0).1 ≤ Ds r) ∨
    ((r.syncState t 0).2.2.2 = [] ∧ 1 ≤ (r.syncState t 0).2.2.1 ∧ (r.syncState t 0).1.findTable t ≠ none ∧
        psi (r.syncState t 0).1 + (r.syncState t 0).2.2.1.toNat = psi r ∧
        psi1 (r.syncState t 0).1 + (r.syncState t 0).2.2.1.toNat = psi1 r ∧
        Ds (r.syncState t 0).1 = Ds r ∧ (calm (r.syncState t 0).1 ↔ calm r) ∧
        (calm r → (r.syncState t 0).1.queue.length + f + (r.syncState t 0).2.2.1.toNat ≤
          tot rF (r.syncState t 0).1.tables)) := by
  obtain ⟨ht0, hid0⟩ := findTable_some hf
  have hidm : t ∈ r.tables.map (·.id) := List.mem_map.2 ⟨t0, ht0, hid0⟩
  have hb := beginOp_sheet r []
  obtain ⟨r1, rel, nw, he, hc⟩ := syncState_zero_cases r t t0 hf
  rw [he]
  simp only
  cases hc with
  | brk hlt =>
    obtain ⟨b1, b2⟩ := breakTable_phi (hwf.beginOp []) ht0 hid0 hlt
    exact Or.inr (Or.inl ⟨breakTable_find _ t, rfl, b1, b2⟩)
  | same =>
    refine Or.inl ⟨rfl, ?_, by rw [hb.phi rfl]; exact Nat.le_refl _, fun hh => absurd rfl hh⟩
    rw [show (r.beginOp []).findTable t = some t0 from hf]
    exact Option.some_ne_none _
  | take n rq hreq hlow hn hrq =>
    obtain ⟨a1, a2⟩ := take_phi (hwf.beginOp []) hQ ht0 hid0 hn rfl hrq.symm rfl
    exact Or.inl ⟨rfl, findTable_upd_adj hidm rfl, a1, fun hne => a2 (List.length_pos_iff.2 hne)⟩
  | release j hreq hhigh hj _ hlast =>
    have h1 : OneTable (r.beginOp [])
        { r.beginOp [] with tables := upd t (adj (-(j : Int)) none) (r.beginOp []).tables } t _ :=
      ⟨⟨rfl, rfl⟩, rfl, rfl⟩
    by_cases hj0 : j = 0
    · subst hj0
      have hsh : SameSheet r { r.beginOp [] with tables := upd t (adj (-((0 : Nat) : Int)) none) (r.beginOp []).tables } := by
        refine ⟨?_, rfl, rfl, rfl⟩
        show upd t (adj (-((0 : Nat) : Int)) none) r.tables = r.tables
        simp only [Int.natCast_zero, Int.neg_zero, upd_adj_zero]
      exact Or.inl ⟨rfl, findTable_upd_adj hidm rfl, by rw [hsh.phi rfl]; exact Nat.le_refl _, fun hh => absurd rfl hh⟩
    · obtain ⟨c1, c2, c3, c4, c5⟩ := release_phi (hwf.beginOp []) ht0 hid0 hj h1
      have hjn : ((j : Int)).toNat = j := by omega
      rw [hjn]
      refine Or.inr (Or.inr ⟨rfl, by omega, findTable_upd_adj hidm rfl, ?_, ?_, ?_, ?_, fun hcalm => ?_⟩)
      · rw [c1, hb.psi]
      · rw [c2, hb.psi1]
      · rw [c3, hb.Ds]
      · rw [c4, hb.calm]
      · rw [c5]
        exact release_fits (hwf.beginOp []) hcnt ht0 hid0 hreq (hb.calm.2 hcalm) (by omega) hj
          (hlast (by omega))

end Reg
end Pokerface
