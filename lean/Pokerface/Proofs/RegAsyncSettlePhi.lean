/-
  C20 on the ASYNCHRONOUS system: the potential `Reg.phi` of Proofs/RegSweepDefs.lean
  against the two halves of a rebalancing move when they are separate operations.
  The asynchronous potential `ASys.potentialA` is `phi` plus `ASys.find`, the indicator "somebody
  is on the way back".  A sync never raises it and lowers it when it asks (from
  `Reg.syncState_phiF` with the players on the way); a report raises it by at most its `lateCost`:
  twice the number of tables when it `overflows`, one more when it `strands`.  Hence the accounting:
  asking syncs ≤ potential at the start + late costs (`lateCostSum`).
-/
import Pokerface.Proofs.RegAsyncSettle
import Pokerface.Proofs.RegSweepBound

namespace Pokerface
open Reg

namespace ASys

/-- the indicator "somebody is on the way back" (0 or 1, as `qind` is for the queue): the term the
    asynchronous potential adds to `phi`; nothing is looked up -/
def find (s : ASys) : Nat := if s.flying = [] then 0 else 1

/-- the asynchronous potential: the synchronous one (`Reg.phi = 2·psi + D + [queue ≠ ∅]`) plus one
    while somebody is on the way back -/
def potentialA (s : ASys) : Nat := phi s.r + find s

theorem find_le (s : ASys) : find s ≤ 1 := by
  unfold find
  split <;> omega

theorem sync_step_phi {s : ASys} (h : AInvF s) (t : Nat) (stay rel keep : List Nat)
    (hok : s.ok (.sync t [] stay rel keep)) :
    potentialA (s.step (.sync t [] stay rel keep)) ≤ potentialA s ∧
    (s.asks (.sync t [] stay rel keep) = true →
      potentialA (s.step (.sync t [] stay rel keep)) + 1 ≤ potentialA s) := by
  have hsa : s.syncAnswer t [] = s.r.syncState t 0 := rfl
  cases hm : s.env.membersOf t with
  | none =>
    have hf2 : find ({ r := s.r.beginOp [], env := s.env, inflight := s.inflight } : ASys) = find s := rfl
    unfold potentialA
    rw [h.a.step_sync_unknown hm, (beginOp_sheet s.r []).phi rfl, hf2]
    refine ⟨Nat.le_refl _, ?_⟩
    intro ha
    rw [(asks_false_iff s t stay rel keep).2 fun hs => by rw [hm] at hs; cases hs] at ha
    cases ha
  | some ms =>
    obtain ⟨hp1, hp2, hrl, hkeep⟩ := (ok_sync_known hm [] stay rel keep).1 hok
    obtain ⟨r1, relc, nw, t0, ⟨hft, hc0, hans, post, _, _⟩⟩ := h.a.sync_known t [] stay ms hm hp1
    have hss : s.r.syncState t 0 = (r1, none, relc, nw) := hsa ▸ hans
    have hphi := syncState_phiF s.r t t0 s.flying.length h.f.wf h.f.q h.a.cnt hft
    rw [hss] at hphi
    simp only at hphi
    rw [hans] at hrl
    simp only at hrl
    have hstep : (s.step (.sync t [] stay rel keep)).r = r1 := by rw [step_sync_r, hans]
    have hask : s.asks (.sync t [] stay rel keep) = true →
        (relc ≠ 0 ∨ nw ≠ [] ∨ r1.findTable t = none) := fun ha =>
      asked_cases hss fun hq => by
        rw [(asks_false_iff s t stay rel keep).2 fun _ => hq] at ha
        cases ha
    have hfly := (flying_step_sync_known hm [] stay rel keep).2
    have hf1 := find_le (s.step (.sync t [] stay rel keep))
    unfold potentialA
    rw [hstep]
    rcases hphi with ⟨a1, a2, a3, a4⟩ | ⟨b1, b2, b3, b4⟩ | ⟨c1, c2, _, c4, _, c6, _, _⟩
    · -- nothing, or a top-up from the queue: nobody leaves
      have hrel : rel = [] := List.length_eq_zero_iff.1 (by omega)
      have hf2 : find (s.step (.sync t [] stay rel keep)) = find s := by
        unfold find
        rw [hfly, hrel, List.append_nil]
      rw [hf2]
      refine ⟨by omega, fun ha => ?_⟩
      rcases hask ha with h1 | h1 | h1
      · exact absurd a1 h1
      · have := a4 h1
        omega
      · exact absurd h1 a2
    · have hq1 : r1.queue = s.r.queue := by
        have := post.queue
        rw [b2, syncBase_queue] at this
        simpa using this.symm
      have hbonus := psi_le_psi1 r1
      have : phi r1 + 3 ≤ phi s.r := phi_add_le_of_queue hq1 (by omega)
      exact ⟨by omega, fun _ => by omega⟩
    · have hq1 : r1.queue = s.r.queue := by
        have := post.queue
        rw [c1, syncBase_queue] at this
        simpa using this.symm
      have hk : 1 ≤ relc.toNat := by omega
      have : phi r1 + 2 ≤ phi s.r := phi_add_le_of_queue hq1 (by omega)
      exact ⟨by omega, fun _ => by omega⟩

/-- the outstanding `Required`s cannot take the queue and the reported players, in a calm state:
    `updateTableRequirements` will hand out fresh `Required`s (the one-time bonus of the potential
    is cashed) -/
def overflows (s : ASys) (ps : List Nat) : Prop :=
  calm s.r ∧ tot rF s.r.tables < s.r.queue.length + ps.length

instance (s : ASys) (ps : List Nat) : Decidable (overflows s ps) := inferInstanceAs (Decidable (_ ∧ _))

/-- the report leaves players queued (none were before) while others are still on the way -/
def strands (s : ASys) (op : AOp) : Prop :=
  s.r.queue = [] ∧ (s.step op).r.queue ≠ [] ∧ (s.step op).flying ≠ []

instance (s : ASys) (op : AOp) : Decidable (strands s op) := inferInstanceAs (Decidable (_ ∧ _ ∧ _))

/-- what a report may add to the potential -/
def lateCost (s : ASys) : AOp → Nat
  | .report t ps rest ch =>
      (if overflows s ps then 2 * s.r.tables.length else 0) +
        (if strands s (.report t ps rest ch) then 1 else 0)
  | _ => 0

theorem report_step_phi {s : ASys} (h : AInvF s) (t : Nat) (ps rest ch : List Nat)
    (hok : s.ok (.report t ps rest ch)) :
    potentialA (s.step (.report t ps rest ch)) ≤ potentialA s + lateCost s (.report t ps rest ch) := by
  obtain ⟨hperm, hbad⟩ := hok
  have hr : (s.step (.report t ps rest ch)).r = s.r.releasePlayers ps ch := rfl
  have hpc := h.a.pc_nonneg
  -- the players on the way afterwards are among those on the way before
  have hF := (h.a.step_report t ps rest ch ⟨hperm, hbad⟩).2.flying
  have hlen : (s.step (.report t ps rest ch)).flying.length + ps.length = s.flying.length := by
    simpa [departing, reported] using hF.length_eq
  have hsub : (s.step (.report t ps rest ch)).flying ≠ [] → s.flying ≠ [] := fun hne hnil => by
    rw [hnil, List.length_nil] at hlen
    exact hne (List.length_eq_zero_iff.1 (by omega))
  have hps : ps ≠ [] → s.flying ≠ [] := fun hne hnil => by
    rw [hnil, List.length_nil] at hlen
    exact hne (List.length_eq_zero_iff.1 (by omega))
  by_cases hnil : ps = [] ∧ s.r.queue = []
  · -- nobody reported, nobody queued: only the scratch fields change
    obtain ⟨hp0, hq0⟩ := hnil
    subst hp0
    have hrr : (s.step (.report t [] rest ch)).r = s.r.beginOp ch := by
      rw [hr]
      exact releasePlayers_nil s.r ch hq0
    have hfl : find (s.step (.report t [] rest ch)) ≤ find s := by
      unfold find
      split
      · omega
      · rename_i hne
        rw [if_neg (hsub hne)]
        omega
    unfold potentialA
    rw [hrr, (beginOp_sheet s.r ch).phi rfl]
    omega
  · have hind : qind (s.r.releasePlayers ps ch) + find (s.step (.report t ps rest ch)) ≤
        qind s.r + find s + (if strands s (.report t ps rest ch) then 1 else 0) := by
      have q1 := qind_le (s.r.releasePlayers ps ch)
      have f1 := find_le (s.step (.report t ps rest ch))
      by_cases hq : s.r.queue = []
      · have hpne : ps ≠ [] := fun hp => hnil ⟨hp, hq⟩
        have hfs : find s = 1 := by
          unfold find
          rw [if_neg (hps hpne)]
        by_cases hq' : (s.step (.report t ps rest ch)).r.queue = []
        · have : qind (s.r.releasePlayers ps ch) = 0 := by
            unfold qind
            rw [← hr, if_pos hq']
          omega
        · by_cases hf' : (s.step (.report t ps rest ch)).flying = []
          · have : find (s.step (.report t ps rest ch)) = 0 := by
              unfold find
              rw [if_pos hf']
            omega
          · have : strands s (.report t ps rest ch) := ⟨hq, hq', hf'⟩
            rw [if_pos this]
            omega
      · have hqs : qind s.r = 1 := by
          unfold qind
          rw [if_neg hq]
        have : find (s.step (.report t ps rest ch)) ≤ find s := by
          unfold find
          split
          · omega
          · rename_i hne
            rw [if_neg (hsub hne)]
            omega
        omega
    have htab : 2 * psi (s.r.releasePlayers ps ch) + Ds (s.r.releasePlayers ps ch) ≤
        2 * psi s.r + Ds s.r + (if overflows s ps then 2 * s.r.tables.length else 0) :=
      releasePlayers_cost s.r ps ch h.f.wf hpc hbad
    unfold potentialA phi
    rw [hr]
    simp only [lateCost]
    omega

/-- the late costs (`lateCost`, one operation) of the reports of a script, summed; `C20.late_cost`
    is this under the property's name -/
def lateCostSum : ASys → List AOp → Nat
  | _, [] => 0
  | s, op :: ops => lateCost s op + lateCostSum (s.step op) ops

theorem askCount_le_phiA : ∀ (ops : List AOp) (s : ASys), AInvF s →
    (∀ op ∈ ops, quietOp op = true) → s.allOkFwd ops →
    s.askCount ops + potentialA (s.run ops) ≤ potentialA s + lateCostSum s ops := by
  intro ops
  induction ops with
  | nil =>
    intro s _ _ _
    simp [askCount, run, lateCostSum]
  | cons op ops ih =>
    intro s h hq hok
    have hqo := hq op (List.mem_cons_self ..)
    obtain ⟨hS', _⟩ := h.step_full op hok.1
    have hrec := ih (s.step op) hS' (fun o ho => hq o (List.mem_cons_of_mem _ ho)) hok.2
    have hrun : s.run (op :: ops) = (s.step op).run ops := rfl
    rw [hrun]
    simp only [askCount, lateCostSum]
    rcases quietOp_cases hqo with ⟨t, stay, rel, keep, rfl⟩ | ⟨t, ps, rest, ch, rfl⟩
    · obtain ⟨q1, q2⟩ := sync_step_phi h t stay rel keep (ok_of_okFwd hok.1)
      have hl : lateCost s (.sync t [] stay rel keep) = 0 := rfl
      by_cases ha : s.asks (.sync t [] stay rel keep) = true
      · have := q2 ha
        rw [if_pos ha]
        omega
      · rw [if_neg ha]
        omega
    · have := report_step_phi h t ps rest ch (ok_of_okFwd hok.1)
      have ha : s.asks (.report t ps rest ch) = false := rfl
      rw [ha]
      simp only [Bool.false_eq_true, if_false]
      omega

theorem potentialA_le {s : ASys} (h : AInvF s) : potentialA s ≤ smallBound s.r + 1 := by
  have := phi_le_smallBound s.r h.f.wf h.a.pc_nonneg
  have := find_le s
  unfold potentialA
  omega

end ASys
end Pokerface
