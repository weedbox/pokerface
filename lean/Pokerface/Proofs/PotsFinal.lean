import Pokerface.Proofs.PotsSpec
/-
  The published pots, one position at a time: level, wager, total, contributors and levels of the pot
  standing after the pots `pre` (`getPots_at`, `getPots_contributors_mem`).
-/
namespace Pokerface

theorem GoodPot.lastD_level {F : List Nat} {q : Pot} {l0 : Level} (hg : GoodPot F q l0) (d : Int) :
    lastD d (q.levels.map (·.level)) = q.level := by
  rw [hg.level]
  exact lastD_of_getLast? (by rw [List.getLast?_map, hg.last]; rfl)

theorem GoodPot.level_mem {F : List Nat} {q : Pot} {l0 : Level} (hg : GoodPot F q l0) :
    q.level ∈ q.levels.map (·.level) := by
  rw [hg.level]
  exact List.mem_map_of_mem (List.mem_of_getLast? hg.last)

theorem lastD_flatMap_levels {F : List Nat} (pre : List Pot) (h : ∀ q ∈ pre, ∃ l, GoodPot F q l) (p : Int) :
    lastD p ((pre.flatMap (·.levels)).map (·.level)) = lastD p (pre.map (·.level)) := by
  rcases List.eq_nil_or_concat pre with rfl | ⟨init, q, rfl⟩
  · rfl
  · obtain ⟨l, hq⟩ := h q (by simp)
    simp only [List.concat_eq_append, List.flatMap_append, List.flatMap_cons, List.flatMap_nil, List.append_nil,
      List.map_append, List.map_cons, List.map_nil, lastD_append, lastD_cons, lastD_nil, hq.lastD_level]

theorem mergedPots_runs_sorted {ll : LevelList} (h : LLInv ll) :
    (∀ q ∈ mergedPots ll, (q.levels.map (·.level)).Pairwise (· < ·)) ∧
    (mergedPots ll).Pairwise (fun a b => ∀ x ∈ a.levels.map (·.level), ∀ y ∈ b.levels.map (·.level), x < y) := by
  have hs := h.sorted
  rwa [← (mergedPots_spec h).2.1, List.map_flatMap, List.pairwise_flatMap] at hs

theorem mergedPots_levels_sorted {ll : LevelList} (h : LLInv ll) :
    ((mergedPots ll).map (·.level)).Pairwise (· < ·) := by
  rw [List.pairwise_map]
  refine (mergedPots_runs_sorted h).2.imp_of_mem fun {a b} ha hb hab => ?_
  obtain ⟨_, ga⟩ := (mergedPots_spec h).1 a ha
  obtain ⟨_, gb⟩ := (mergedPots_spec h).1 b hb
  exact hab _ ga.level_mem _ gb.level_mem

theorem getPots_levels {ll : LevelList} : ll.getPots.map (·.level) = (mergedPots ll).map (·.level) := by
  rw [getPots_eq, putAll_map (·.level) (fun _ _ => rfl)]

theorem getPots_totals {ll : LevelList} : ll.getPots.map (·.total) = (mergedPots ll).map (·.total) := by
  rw [getPots_eq, putAll_map (·.total) (fun _ _ => rfl)]

theorem getPots_flatMap_levels {ll : LevelList} (h : LLInv ll) :
    ll.getPots.flatMap (·.levels) = ll.levels := by
  rw [← (mergedPots_spec h).2.1, getPots_eq, List.flatMap_def, List.flatMap_def,
    putAll_map (·.levels) (fun _ _ => rfl)]

/-- The pot `p` standing after the pots `pre` in `ll.getPots`: it reaches from the level of the pot before it to
    its own, holds what everybody put in between the two, lists the players still in at its level with that amount
    (and the folded players the put-back loop writes), and is a run of levels with those same players still in. -/
structure PotAt (ll : LevelList) (pre : List Pot) (p : Pot) : Prop where
  le : lastD 0 (pre.map (·.level)) ≤ p.level
  wager : p.wager = p.level - lastD 0 (pre.map (·.level))
  total : p.total = (ll.contribs.map (fun kv => min kv.2 p.level - min kv.2 (lastD 0 (pre.map (·.level))))).sum
  contributors : p.contributors = putContribs (foldedStakes ll) (pre.map (·.level))
    ((live ll p.level).map (fun i => (i, p.wager)))
  levels : p.levels = mkLevelsFrom ll.contribs (lastD 0 (pre.map (·.level))) (p.levels.map (·.level))
  nf : ∀ l ∈ p.levels, nf ll.folded l = live ll p.level
  level_mem : ∃ l ∈ p.levels, l.level = p.level

theorem getPots_at {ll : LevelList} (h : LevelsOK ll)
    {pre post : List Pot} {p : Pot} (hp : ll.getPots = pre ++ p :: post) : PotAt ll pre p := by
  -- `p` is a merged pot `q` with the folded players put back; the levels of `q` are a segment of `mkLevelsFrom`, which
  -- `mkLevelsFrom_segment` places: it starts at the level of the pot before, so wager and total are the sums over it
  -- (`mkLevelsFrom_wager_sum`, `mkLevelsFrom_total_sum`), and the non-folded contributors are those of its last level
  obtain ⟨preM, q, postM, hM, hprelev, hpq⟩ := getPots_split hp
  obtain ⟨hg, hflat, _⟩ := mergedPots_spec h.toLLInv
  have hsplit : mkLevelsFrom ll.contribs 0 (ll.levels.map (·.level))
      = preM.flatMap (·.levels) ++ q.levels ++ postM.flatMap (·.levels) := by
    rw [← h.levels, ← hflat, hM]
    simp
  obtain ⟨hS, hsS, hPle, hgap⟩ := mkLevelsFrom_segment _ _ _ _ _ _ hsplit h.sorted h.nonneg
  have hP : lastD 0 ((preM.flatMap (·.levels)).map (·.level)) = lastD 0 (pre.map (·.level)) := by
    rw [lastD_flatMap_levels preM (fun x hx => hg x (by rw [hM]; simp [hx])), hprelev]
  rw [hP] at hS hPle hgap
  obtain ⟨l0, hgq⟩ := hg q (by rw [hM]; simp)
  have hlast := hgq.lastD_level (lastD 0 (pre.map (·.level)))
  have hl0mem : l0 ∈ q.levels := List.mem_of_getLast? hgq.last
  have hwager : q.wager = q.level - lastD 0 (pre.map (·.level)) := by
    have := mkLevelsFrom_wager_sum ll.contribs (lastD 0 (pre.map (·.level))) (q.levels.map (·.level))
    rw [← hS, hlast] at this
    rw [hgq.wager, this]
  have htotal :
      q.total = (ll.contribs.map (fun kv => min kv.2 q.level - min kv.2 (lastD 0 (pre.map (·.level))))).sum := by
    have := mkLevelsFrom_total_sum ll.contribs (lastD 0 (pre.map (·.level))) (q.levels.map (·.level))
      hPle hsS (fun kv hkv => hgap _ (h.mem_levels kv hkv))
    rw [← hS, hlast] at this
    rw [hgq.total, this]
  have hnfl0 : nf ll.folded l0 = live ll q.level := by
    rw [nf, mkLevelsFrom_contributors ll.contribs _ _ l0 (hS ▸ hl0mem), hgq.level, live]
  subst hpq
  refine ⟨?_, hwager, htotal, ?_, hS, ?_, ⟨l0, hl0mem, hgq.level.symm⟩⟩
  · exact hgq.level ▸ hPle l0.level (List.mem_map_of_mem hl0mem)
  · show putContribs _ _ q.contributors = _
    rw [hgq.contributors, hnfl0]
  · intro l hl
    rw [hgq.same l hl, hnfl0]

theorem getPots_contributors_sorted {ll : LevelList} (h : LevelsOK ll)
    {pre post : List Pot} {p : Pot} (hp : ll.getPots = pre ++ p :: post) : KeysSorted p.contributors := by
  rw [(getPots_at h hp).contributors]
  exact putContribs_sorted _ _ _ (keysSorted_map (live_sorted h.toLLInv _) _)

theorem getPots_contributors_mem {ll : LevelList} (h : LevelsOK ll)
    {pre post : List Pot} {p : Pot} (hp : ll.getPots = pre ++ p :: post) (i : Nat) (a : Int) :
    (i, a) ∈ p.contributors ↔
      (i ∈ ll.folded ∧ a = (assocGet? ll.contribs i).getD 0 ∧ a ≠ 0 ∧ ∀ L ∈ pre.map (·.level), L ≤ a) ∨
      (a = p.wager ∧ i ∈ live ll p.level) := by
  have hfs : ((foldedStakes ll).map (·.1)).Nodup := by
    rw [foldedStakes_keys]
    exact h.folded.imp Nat.ne_of_lt
  have hbase : ∀ y : Nat × Int,
      y ∈ (live ll p.level).map (fun i => (i, p.wager)) ↔ y.2 = p.wager ∧ y.1 ∈ live ll p.level := by
    intro y
    rw [List.mem_map]
    constructor
    · rintro ⟨j, hj, rfl⟩
      exact ⟨rfl, hj⟩
    · rintro ⟨h1, h2⟩
      exact ⟨y.1, h2, by rw [← h1]⟩
  rw [(getPots_at h hp).contributors, putContribs_mem _ _ _ (keysSorted_map (live_sorted h.toLLInv _) _) hfs
    (fun f hf y hy he => (mem_live.1 ((hbase y).1 hy).2).1 (he ▸ (mem_foldedStakes.1 hf).1)), mem_foldedStakes, hbase,
    and_assoc]

theorem getPots_nonfolded_counts {ll : LevelList} (h : LLInv ll) :
    ll.getPots.map (fun p => (p.contributors.filter (fun kv => !ll.folded.contains kv.1)).length)
      = (mergedPots ll).map (fun q => q.contributors.length) := by
  rw [getPots_eq]
  apply List.ext_getElem?
  intro k
  simp only [List.getElem?_map, putAll_getElem?]
  cases hq : (mergedPots ll)[k]? with
  | none => simp
  | some q =>
    simp only [Option.map_some, Option.some.injEq]
    rw [putContribs_filter (fun j => !ll.folded.contains j)]
    · obtain ⟨l0, hg⟩ := (mergedPots_spec h).1 q (List.mem_of_getElem? hq)
      rw [hg.contributors, List.filter_map, List.length_map, List.length_map]
      congr 1
      apply List.filter_eq_self.2
      intro j hj
      simp only [nf, List.mem_filter] at hj
      simpa using hj.2
    · intro f hf
      simp [(mem_foldedStakes.1 hf).1]

theorem getPots_totals_sum {ll : LevelList} (h : LevelsOK ll) :
    (ll.getPots.map (·.total)).sum = (ll.contribs.map (·.2)).sum := by
  obtain ⟨hg, hflat, _⟩ := mergedPots_spec h.toLLInv
  rw [getPots_totals, List.map_congr_left fun q hq => (hg q hq).elim fun _ g => g.total, ← sum_map_flatMap, hflat, h.levels,
    mkLevelsFrom_total_sum _ _ _ h.nonneg h.sorted (fun kv hkv => Or.inr (Or.inl (h.mem_levels kv hkv)))]
  congr 1
  apply List.map_congr_left
  intro kv hkv
  have h1 := h.nonneg _ (h.mem_levels kv hkv)
  have h2 := le_lastD_of_sorted h.sorted 0 _ (h.mem_levels kv hkv)
  omega

end Pokerface
