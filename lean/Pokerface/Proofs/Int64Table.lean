import Pokerface.Proofs.Int64Base
import Pokerface.Proofs.BetsActs
/-
  The table fields `cw` (CurrentWager) and `prev` (PreviousRaiseSize) are bounded by any `M` that
  bounds every bankroll, the big blind and the dealer blind: an invariant carried through `step`.
-/
namespace Pokerface.I64
open Pokerface Game

structure Bd (M : Int) (g : Game) : Prop where
  cw : g.cw ≤ M
  prev : g.prev ≤ M
  bank : ∀ p ∈ g.players, p.bankroll ≤ M
  bb : g.opts.blindBB ≤ M
  bd : g.opts.blindDealer ≤ M

theorem bank_transfer {M : Int} {l l' : List Player} (e : l'.map Player.static = l.map Player.static)
    (h : ∀ p ∈ l, p.bankroll ≤ M) : ∀ p ∈ l', p.bankroll ≤ M := by
  intro p hp
  obtain ⟨q, hq, hqe⟩ := mem_of_map_eq e hp
  have : q.bankroll = p.bankroll := congrArg (fun t : Nat × Bool × Bool × Bool × Int => t.2.2.2.2) hqe
  rw [← this]
  exact h q hq

theorem Bd.static {M : Int} {g g' : Game} (h : Bd M g) (st : Static g g') (hcw : g'.cw ≤ M) (hprev : g'.prev ≤ M) :
    Bd M g' :=
  ⟨hcw, hprev, bank_transfer st.ids h.bank, by rw [st.opts]; exact h.bb, by rw [st.opts]; exact h.bd⟩

theorem Bd.noChip {M : Int} {g g' : Game} (h : Bd M g) (nc : NoChip g g') : Bd M g' :=
  h.static nc.static (by rw [nc.cw]; exact h.cw) (by rw [nc.prev]; exact h.prev)

theorem Bd.setPrev {M : Int} {g : Game} (h : Bd M g) (v : Int) (hv : v ≤ M) : Bd M (g.setPrev v) :=
  ⟨h.cw, hv, h.bank, h.bb, h.bd⟩

/-- a wager payment lifts the wager to match at most to what the paying seat holds -/
theorem Bd.pay {M : Int} {g : Game} (h : Bd M g) (pinv : ∀ p ∈ g.players, PInv p) (i : Nat) (c : Int) :
    Bd M (g.pay i c true) := by
  refine h.static (wr_pay g i c true).static ?_ (by rw [Game.pay_prev]; exact h.prev)
  cases hp : g.players[i]? with
  | none =>
    rw [g.pay_none hp]
    exact h.cw
  | some p =>
    have hm := List.mem_of_getElem? hp
    obtain ⟨hstack0, hwager0, hpot0, hsplit, hrebase, _⟩ := pinv_facts pinv p hm
    have := h.bank p hm
    have hcw := h.cw
    rw [pay_cw hp c]
    split
    · split
      · omega
      · omega
    · split
      · omega
      · omega

theorem Bd.markPay {M : Int} {g : Game} (h : Bd M g) (ok : ChipsOK g) (i : Nat) {r : Int} (hr : r ≤ M) (c : Int) :
    Bd M (g.markPay i r c) :=
  ((h.noChip (wr_setActed g i).noChip).setPrev r hr).pay (ChipsOK.of_noChip (wr_setActed g i).noChip ok).pinv i c

theorem bd_payAnteLoop {M : Int} : ∀ (is : List Nat) (g : Game), Bd M g → Bd M (payAnteLoop is g).1 :=
  payAnteLoop_steps (R := fun a b => Bd M a → Bd M b) (fun _ h => h) (fun h1 h2 h => h2 (h1 h)) fun g i _ _ _ h =>
    h.static (wr_pay g i _ false).static (by rw [Game.pay_false_cw]; exact h.cw) (by rw [Game.pay_prev]; exact h.prev)

theorem bd_zero {M : Int} {g g' : Game} (h : Bd M g) (hM : 0 ≤ M) (st : Static g g') (hcw : g'.cw = 0) (hprev : g'.prev = 0) :
    Bd M g' := h.static st (by omega) (by omega)

theorem bd_antePaid {M : Int} (g : Game) (h : Bd M g) (hM : 0 ≤ M) : Bd M g.antePaid :=
  g.antePaid_eq ▸ (bd_zero h hM (wr_anteSwept g).static rfl rfl).noChip (wr_enterRound _ .preflop).noChip

theorem bd_foldl {M : Int} (is : List Nat) (g : Game) (hb : BInv g) (h : Bd M g) : Bd M (is.foldl payBlind g) :=
  bInv_foldl_keeps (fun _ i _ hb _ h => h.pay hb.chips.pinv i _) is g hb h

theorem bd_blindsPaid {M : Int} (g : Game) (h : Bd M g) : Bd M g.blindsPaid := by
  have hx : g.opts.openBlind ≤ M := by
    have hbb := h.bb
    have hbd := h.bd
    unfold Meta.openBlind
    split
    · omega
    · omega
  exact (h.setPrev _ hx).noChip (wr_blindsPaid_rest g).noChip

theorem wagerOf_le {M : Int} {g : Game} (h : Bd M g) (pinv : ∀ p ∈ g.players, PInv p) (i : Nat) (hM : 0 ≤ M) :
    g.wagerOf i ≤ M := by
  unfold Game.wagerOf
  cases hp : g.players[i]? with
  | none => simpa using hM
  | some p =>
    have hmem := List.mem_of_getElem? hp
    exact Int.le_trans (wager_le_bankroll (pinv p hmem)) (h.bank p hmem)

theorem bd_act {M : Int} (g : Game) (hi : Inv g) (h : Bd M g) (hM : 0 ≤ M) (i : Nat) (a : Act) (x : Int) :
    Bd M (g.act i a x).1 := by
  by_cases hacc : (g.act i a x).2 = none
  · obtain ⟨p, g1, hp, he, _, ok, e, nf⟩ := act_nf hi hacc
    obtain ⟨hs0, _, hpot, hsplit, hreb, _⟩ := pinv_facts ok.pinv p (List.mem_of_getElem? hp)
    have hbank := h.bank p (List.mem_of_getElem? hp)
    have hcw := h.cw
    have hcw0 := ok.cw0
    have hprev := h.prev
    rw [e]
    refine Bd.noChip ?_ (wr_resume g1).noChip
    -- the size an action records is the old one, or at most what the seat holds
    cases nf with
    | pass | check => exact h.noChip (wr_setActed g i).noChip
    | fold => exact h.noChip (wr_fold g i).noChip
    | call => exact h.markPay ok i hprev _
    | allin => exact h.markPay ok i (by split <;> omega) _
    | bet x hx =>
      have h2 := h.markPay ok i hprev x
      exact h2.setPrev _ (wagerOf_le h2 (chipsOK_pay _ i x (ChipsOK.of_noChip (wr_setActed g i).noChip ok) hx).pinv i hM)
    | raise x r _ _ _ _ _ hr => exact h.markPay ok i (by rcases hr with ⟨rfl, _⟩ | ⟨rfl, _⟩ <;> omega) _
  · rw [g.act_refused i a x hacc]
    exact h

theorem bd_step {M : Int} (g : Game) (hi : Inv g) (h : Bd M g) (hM : 0 ≤ M) (op : Op) : Bd M (g.step op).1 := by
  refine g.step_cases op (motive := fun r => Bd M r.1) (fun _ => h) ?_ ?_ ?_ ?_ ?_ ?_
  · intro _ _
    exact h.noChip ((wr_resetAllAllowed g).trans (wr_readiness _)).noChip
  · intro _ _ _
    have hl := bd_payAnteLoop g.seatsFromDealer g h
    cases hr : payAnteLoop g.seatsFromDealer g with
    | mk g' e =>
      rw [hr] at hl
      cases e with
      | some e => exact hl
      | none => exact bd_antePaid _ hl hM
  · intro _ he
    exact bd_blindsPaid _ (bd_foldl _ g (hi.bInv he) h)
  · intro _ _ _
    -- the sweep leaves the wager to match and the recorded raise size at 0
    exact (bd_zero h hM (wr_sweep g).static rfl rfl).noChip (wr_nextRound' _).noChip
  · intro _ _ _
    exact h
  · intro seat a x _
    exact bd_act g hi h hM _ a x

theorem bd_run {M : Int} (hM : 0 ≤ M) (ops : List Op) (g : Game) (hi : Inv g) (h : Bd M g) : Bd M (g.run ops) :=
  (Game.run_induction (P := fun g => Inv g ∧ Bd M g) (fun g op h => ⟨inv_step g h.1 op, bd_step g h.1 h.2 hM op⟩)
    ⟨hi, h⟩ ops).2

theorem bd_reachable {g : Game} (hr : Reachable g) {M : Int} (hT : total g ≤ M)
    (hbb : g.opts.blindBB ≤ M) (hbd : g.opts.blindDealer ≤ M) : Bd M g := by
  have hg := inv_reachable hr
  have hM : 0 ≤ M := Int.le_trans hg.opts.bb0 hbb
  have hbank : ∀ p ∈ g.players, p.bankroll ≤ M := fun p hp => by
    have := pinv_facts hg.chips0.pinv p hp
    omega
  obtain ⟨c, ops, wf, hs, rfl⟩ := hr
  have hi0 := inv_start c wf hs
  have st : Static (start c).1 ((start c).1.run ops) := (wr_run _ ops).static
  have h0 : Bd M (start c).1 := by
    refine ⟨?_, ?_, bank_transfer st.ids.symm hbank, by rw [← st.opts]; exact hbb, by rw [← st.opts]; exact hbd⟩
    · rw [(start_ok c hs).2.2, (wr_requestReady _).cw]
      exact hM
    · rw [(start_ok c hs).2.2, (wr_requestReady _).prev]
      exact hM
  exact bd_run hM ops _ hi0 h0

end Pokerface.I64
