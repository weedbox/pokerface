/-
  The clauses of C09 and C19 on the synchronous invariants `SInv0`, `SInv` (how these come from the
  asynchronous ones: header of Proofs/RegEnv.lean).  The clauses about a state are the asynchronous
  lemmas at the state with nobody on the way (`SInv0.async`, `SInv.async`).  Of the clauses about
  one operation, those about the callbacks are read off `StepFacts`; `handout_once`,
  `no_callback_before_start` and `initial_min(_release)` are proved on `RSys.step` itself, and each
  says at its place why.  Then totality on the widest domain, read off the asynchronous one (a sync
  also needs dispatch choices for the `ReleasePlayers` that follows: `SInv0.ok_sync_of_async`); on the
  forward domain: Properties/C19.lean.
-/
import Pokerface.Proofs.RegEnv

namespace Pokerface
open Reg

namespace RSys

theorem SInv0.mem_table {s : RSys} (h : SInv0 s) {e : Nat × List Nat} (he : e ∈ s.env.members) :
    ∃ tb ∈ s.r.tables, tb.id = e.1 ∧ tb.count = e.2.length :=
  h.async.mem_table he

theorem SInv.capacity {s : RSys} (h : SInv s) {e : Nat × List Nat} (he : e ∈ s.env.members) :
    e.2.length ≤ s.r.max :=
  h.async.capacity he

theorem SInv.sync_known {s : RSys} (h : SInv s) (t : Nat) (elim stay ms : List Nat)
    (hm : s.env.membersOf t = some ms) (hp : ms.Perm (elim ++ stay)) :
    ∃ r1 relc nw t0, s.syncAnswer t elim = (r1, none, relc, nw) ∧ s.r.findTable t = some t0 ∧
      t0.count = ms.length ∧ 0 ≤ relc ∧ relc ≤ (stay.length : Int) + nw.length ∧ (nw = [] ∨ relc = 0) ∧
      s.r.queue = nw ++ r1.queue ∧ r1.calls = [] ∧
      (s.broken t elim = true → relc = stay.length ∧ nw = []) :=
  let ⟨r1, relc, nw, t0, k⟩ := h.async.a.sync_known t elim stay ms hm hp
  ⟨r1, relc, nw, t0, k.ans, k.find, k.count0, k.post.rel0, k.rel_le, k.post.excl, k.queue, k.calls, k.broken⟩

theorem SInv.unknown_iff {s : RSys} (h : SInv s) (t : Nat) :
    s.env.membersOf t = none ↔ s.r.findTable t = none :=
  h.toSInv0.unknown_iff t

/-! ### the clauses of C09, for any state satisfying the invariant -/

theorem SInv0.counts_agree {s : RSys} (hS : SInv0 s) :
    s.r.playerCount = s.env.alive.length ∧
    s.r.tableCount = s.r.tables.length ∧
    s.r.tables.length = s.env.members.length ∧
    s.r.tables.map (fun t => (t.id, t.count)) = s.env.members.map (fun e => (e.1, (e.2.length : Int))) :=
  hS.async.counts_agree

theorem SInv0.count_of_table {s : RSys} (hS : SInv0 s) (t : Nat) :
    (s.r.findTable t).map (fun tb => tb.count) = (s.env.membersOf t).map (fun ms => (ms.length : Int)) :=
  hS.async.count_of_table t

theorem SInv0.conservation {s : RSys} (hS : SInv0 s) :
    s.env.alive.Perm (s.r.queue ++ s.env.seated) ∧ (s.r.queue ++ s.env.seated).Nodup ∧ s.env.alive.Nodup := by
  simpa [ASys.ofRSys, ASys.flying] using hS.async.conservation

theorem SInv0.exactly_one_place {s : RSys} (hS : SInv0 s) (p : Nat) :
    (p ∈ s.env.alive ↔ (p ∈ s.r.queue ∨ ∃ e ∈ s.env.members, p ∈ e.2)) ∧
    ¬ (p ∈ s.r.queue ∧ ∃ e ∈ s.env.members, p ∈ e.2) ∧
    s.r.queue.Nodup ∧ s.env.seated.Nodup := by
  obtain ⟨a, b, _, _, c, d, _⟩ := hS.async.exactly_one_place p
  refine ⟨?_, b, c, d⟩
  simpa [ASys.ofRSys] using a

theorem SInv0.release_feasible {s : RSys} (hS : SInv0 s) (t : Nat) (ms elim stay : List Nat)
    (hm : s.env.membersOf t = some ms) (hp : ms.Perm (elim ++ stay)) :
    (s.syncAnswer t elim).2.1 = none ∧ 0 ≤ (s.syncAnswer t elim).2.2.1 ∧
    (s.syncAnswer t elim).2.2.1 ≤ ((stay ++ (s.syncAnswer t elim).2.2.2).length : Int) :=
  hS.async.release_feasible t ms elim stay hm hp

/-- the players handed out in a step were queued or came in, each once: the registrants of an
    `add` need only be distinct and not alive.
    The equation is a field of `StepFacts`.  The `Nodup` half is counted here and not read off
    `AInv.handout_once`: a sync with a release is two asynchronous steps, the first gives
    `Nodup (nw ++ q1)`, the second `Nodup (q1 ++ rel)`, and to join them one has to know that a sync
    never both hands out and releases (`nw = [] ∨ rel = []`) - the case split made below. -/
theorem SInv0.handout_once {s : RSys} (hS : SInv0 s) (op : EOp) (hok : s.okRe op) :
    s.r.queue ++ s.incoming op = s.returned op ++ handed (s.step op).r.calls ++ (s.step op).r.queue ∧
    (s.returned op ++ handed (s.step op).r.calls ++ (s.step op).r.queue).Nodup := by
  have hF := (hS.step_full_re op hok).2
  refine ⟨hF.handout, ?_⟩
  rw [← hF.handout, List.nodup_iff_count]
  intro a
  have c1 := hS.cons.count_eq a
  have c2 := List.nodup_iff_count.1 hS.nodup a
  rw [List.count_append] at c1 ⊢
  cases op with
  | status st ch =>
    simp only [incoming, List.count_nil]
    omega
  | add ps ch =>
    simp only [incoming]
    split
    · simp only [List.count_nil]
      omega
    · obtain ⟨hnd, hdisj, _⟩ := hok
      have c3 := List.nodup_iff_count.1 hnd a
      by_cases ha : a ∈ ps
      · have := List.count_eq_zero.2 (hdisj a ha)
        omega
      · have := List.count_eq_zero.2 ha
        omega
  | sync t elim stay rel keep ch =>
    simp only [incoming]
    cases hm : s.env.membersOf t with
    | none =>
      simp only [List.count_nil]
      omega
    | some ms =>
      simp only []
      -- the released are members of the table after the arrivals; when somebody arrived nobody is
      -- released, otherwise they are old members, who are seated and hence not queued
      have hok' := (ok_sync_known hm elim stay rel keep ch).1 hok
      obtain ⟨r1, relc, nw, t0, k⟩ := hS.async.sync_known t elim stay ms hm hok'.1
      have hans : s.syncAnswer t elim = (r1, none, relc, nw) := k.ans
      have hex := k.post.excl
      have hp2 := hok'.2.1
      have hrl := hok'.2.2.1
      rw [hans] at hp2 hrl
      simp only [] at hp2 hrl
      have c3 := (count_seatedOf_split s.env.members t ms [] hS.ids_nodup (Env.membersOf_some hm) a).1
      have c4 := hok'.1.count_eq a
      have c5 := hp2.count_eq a
      simp only [List.count_append] at c4 c5
      rcases hex with hnw | hr0
      · subst hnw
        simp only [List.count_nil] at c5
        omega
      · have : rel = [] := by
          rw [hr0] at hrl
          exact List.length_eq_zero_iff.1 (by omega)
        subst this
        simp only [List.count_nil]
        omega

/-! ### the clauses of C19, for any state satisfying the invariant -/

theorem SInv.capacity_during {s : RSys} {op : EOp} (hS' : SInv (s.step op)) (hF : StepFacts s op)
    (cs₁ cs₂ : List RCall) (hcs : (s.step op).r.calls = cs₁ ++ cs₂) :
    ∀ e ∈ Env.applyCalls (s.baseMembers op) cs₁, e.2.length ≤ s.r.max :=
  applyCalls_prefix_le (hcs ▸ hF.members) fun _ he => hF.max_eq ▸ hS'.capacity he

theorem SInv.no_table_before_start {s : RSys} (hS : SInv s) (hp : s.r.status = .pending) :
    s.r.tables = [] ∧ s.r.tableCount = 0 ∧ s.env.members = [] :=
  let ⟨a, b, c, _⟩ := hS.async.no_table_before_start hp
  ⟨a, b, c⟩

theorem StepFacts.members_ne_nil {s : RSys} {op : EOp} (hF : StepFacts s op)
    (hc : (s.step op).r.calls ≠ []) : (s.step op).env.members ≠ [] :=
  hF.members ▸ applyCalls_ne_nil hF.valid hc

theorem StepFacts.pending_is_initial {s : RSys} {op : EOp} (hF : StepFacts s op)
    (hfwd : ∀ st ch, op = .status st ch → st ≠ .pending ∨ s.r.status = .pending)
    (hp : (s.step op).r.status = .pending) : s.r.status = .pending := by
  have hst := hF.status_eq
  cases op with
  | add ps ch =>
    simp only at hst
    exact hst ▸ hp
  | sync t elim stay rel keep ch =>
    simp only at hst
    exact hst ▸ hp
  | status st ch =>
    simp only at hst
    rcases hfwd st ch rfl with h1 | h1
    · exact absurd (hst ▸ hp) h1
    · exact h1

theorem SInv.no_table_before_min {s : RSys} (hS : SInv s) (hne : s.env.members ≠ []) :
    s.r.min ≤ s.env.registered.length :=
  hS.async.no_table_before_min hne

theorem SInv.no_request_before_min {s : RSys} {op : EOp} (hS' : SInv (s.step op)) (hF : StepFacts s op)
    (id : Nat) (ps : List Nat) (hc : RCall.requestTable id ps ∈ (s.step op).r.calls) :
    s.r.min ≤ (s.step op).env.registered.length := by
  have := hS'.no_table_before_min (hF.members_ne_nil (List.ne_nil_of_mem hc))
  rw [hF.min_eq] at this
  exact this

/-- if the status is `pending` after an operation, it was `pending` before or the operation set it,
    and either way every regulator function took its pending branch, which calls nothing
    (`*_pending_calls`, RegOps).  This is on the widest domain `SInv0`; the asynchronous system has
    the clause on `AInvF` only (`AInvF.no_callback_before_start`, by another argument: no table
    exists while pending), so it cannot be read off that one. -/
theorem SInv0.no_callback_before_start {s : RSys} (hS : SInv0 s) (op : EOp) (hok : s.okRe op)
    (hp : (s.step op).r.status = .pending) : (s.step op).r.calls = [] := by
  have hst := (hS.step_full_re op hok).2.status_eq
  cases op with
  | add ps ch =>
    rw [step_add_r]
    exact addPlayers_pending_calls s.r ps ch (hst.symm.trans hp)
  | status st ch =>
    have : st = .pending := hst.symm.trans hp
    subst this
    exact setStatus_to_pending_calls s.r ch
  | sync t elim stay rel keep ch =>
    obtain ⟨hc1, hs1, _⟩ := syncState_frame s.r t elim.length
    rw [step_sync_eq]
    split
    · exact hc1
    · exact releasePlayers_pending_calls _ rel ch (hs1.trans (hst.symm.trans hp))

/-- the asynchronous clause `ASys.initial_min` speaks of the calls of ONE asynchronous operation; the
    calls of a synchronous sync with a release are those of its second half, made in the state the
    first half left.  So `add` and `status` are that clause, the sync without a table is a rejection,
    and the release after the last table was broken is `initial_min_release`, whose hypothesis is
    on the intermediate state. -/
theorem SInv0.initial_min {s : RSys} (hS : SInv0 s) (hmax : 0 < s.r.max) (h0 : s.r.tableCount = 0)
    (op : EOp) (id : Nat) (ps : List Nat) (hc : RCall.requestTable id ps ∈ (s.step op).r.calls) :
    s.r.min ≤ ps.length := by
  cases op with
  | add qs ch =>
    rw [step_add_r] at hc
    exact addPlayers_initial s.r qs ch hmax h0 id ps hc
  | status st ch => exact setStatus_initial s.r st ch hmax h0 id ps hc
  | sync t elim stay rel keep ch =>
    have hm : s.env.membersOf t = none :=
      (hS.unknown_iff t).2 (by simp [Reg.findTable, tables_nil_of_tc0 hS.rinv.wf h0])
    rw [hS.step_sync_unknown t elim stay rel keep ch hm] at hc
    cases hc

/-- the calls of a sync are those of its `ReleasePlayers`, made in the state `SyncState` left; this
    needs no invariant and no validity (`syncState_frame`) -/
theorem initial_min_release (s : RSys) (hmax : 0 < s.r.max) (t : Nat) (elim stay rel keep ch : List Nat)
    (h0 : (s.syncAnswer t elim).1.tableCount = 0) (id : Nat) (ps : List Nat)
    (hc : RCall.requestTable id ps ∈ (s.step (.sync t elim stay rel keep ch)).r.calls) :
    s.r.min ≤ ps.length := by
  obtain ⟨hc1, _, hmax1, hmin1, _⟩ := syncState_frame s.r t elim.length
  rw [step_sync_eq] at hc
  split at hc
  · rw [show (s.syncAnswer t elim).1.calls = [] from hc1] at hc
    cases hc
  · rw [← hmin1]
    exact releasePlayers_initial _ rel ch (hmax1.symm ▸ hmax) h0 id ps hc

theorem SInv.initial_min {s : RSys} (hS : SInv s) (h0 : s.r.tableCount = 0) (op : EOp)
    (id : Nat) (ps : List Nat) (hc : RCall.requestTable id ps ∈ (s.step op).r.calls) :
    s.r.min ≤ ps.length :=
  hS.toSInv0.initial_min hS.rinv.wf.maxpos h0 op id ps hc

/-! ### totality on the widest domain -/

theorem SInv0.add_total {s : RSys} (h : SInv0 s) (ps : List Nat) (hnd : ps.Nodup)
    (hfresh : ∀ p ∈ ps, p ∉ s.env.registered) : ∃ ch, s.ok (.add ps ch) :=
  h.async.add_total ps hnd hfresh

theorem SInv0.status_total {s : RSys} (h : SInv0 s) (st : RStatus) : ∃ ch, s.okAny (.status st ch) :=
  h.async.status_total st

/-- a sync that is valid on the asynchronous system is valid on the synchronous one, for some
    dispatch choices of the `ReleasePlayers` that follows it at once -/
theorem SInv0.ok_sync_of_async {s : RSys} (h : SInv0 s) {t : Nat} {elim stay rel keep : List Nat}
    (hok : (ASys.ofRSys s).ok (.sync t elim stay rel keep)) : ∃ ch, s.ok (.sync t elim stay rel keep ch) := by
  cases hm : s.env.membersOf t with
  | none => exact ⟨[], by simp only [ok, hm]⟩
  | some ms =>
    have hwf1 := (h.async.step_full_re (.sync t elim stay rel keep) hok).1.wf
    rw [ASys.step_sync_r] at hwf1
    obtain ⟨ch, hch⟩ := releasePlayers_total _ rel hwf1
    obtain ⟨h1, h2, h3, h4⟩ := (ASys.ok_sync_known (s := ASys.ofRSys s) hm elim stay rel keep).1 hok
    exact ⟨ch, (ok_sync_known hm elim stay rel keep ch).2 ⟨h1, h2, h3, h4, Or.inr hch⟩⟩

/-- every sync is possible, with ANY admissible release: any table id (known or not), any split
    `elim`/`stay` of the members of a known table, and ANY split `rel`/`keep` of the members after
    the arrivals in which `rel` has the length the regulator asked for -/
theorem SInv0.sync_total_rel {s : RSys} (h : SInv0 s) (t : Nat) (elim stay rel keep : List Nat)
    (hsplit : ∀ ms, s.env.membersOf t = some ms → ms.Perm (elim ++ stay))
    (hrel : (stay ++ (s.syncAnswer t elim).2.2.2).Perm (rel ++ keep))
    (hlen : (rel.length : Int) = (s.syncAnswer t elim).2.2.1) :
    ∃ ch, s.ok (.sync t elim stay rel keep ch) :=
  h.ok_sync_of_async (h.async.sync_total_rel t elim stay rel keep hsplit hrel hlen)

/-- every sync is possible: any table id (known or not), any split `elim`/`stay` of the members
    of a known table; the released players can be taken to be the first `release count` of
    `stay ++ new players` -/
theorem SInv0.sync_total {s : RSys} (h : SInv0 s) (t : Nat) (elim stay : List Nat)
    (hsplit : ∀ ms, s.env.membersOf t = some ms → ms.Perm (elim ++ stay)) :
    ∃ rel keep ch, s.ok (.sync t elim stay rel keep ch) :=
  let ⟨rel, keep, hok⟩ := h.async.sync_total t elim stay hsplit
  ⟨rel, keep, h.ok_sync_of_async hok⟩

theorem SInv0.add_total_re {s : RSys} (h : SInv0 s) (ps : List Nat) (hnd : ps.Nodup)
    (hfree : ∀ p ∈ ps, p ∉ s.env.alive) : ∃ ch, s.okRe (.add ps ch) :=
  h.async.add_total_re ps hnd hfree

end RSys
end Pokerface
