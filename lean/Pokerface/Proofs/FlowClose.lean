import Pokerface.Proofs.FlowGhost
/-
  C05: betting rounds that are closed without any player action (at `ReadyForAll`, when the
  preflop round finds nobody able to move; at `Next`, when a later street finds fewer than two
  stacks).  In both cases every non-folded seat with chips is level with the wager to match (`skip_close_level`).
  With the closings by a player action (`closes_level`, FlowGhost) this gives `close_level`: every closing with two
  players left leaves the seats with chips level — hence every reachable state at a closed round has them level
  (`level_of_closed`).
-/
namespace Pokerface
open Game

/-- every non-folded seat with chips has exactly the wager to match on the table -/
def AllLevel (g : Game) : Prop := ∀ p ∈ g.players, p.fold = false → 0 < p.stack → p.wager = g.cw

theorem level_of_movable0 {g : Game} (h : g.movableCount = 0) : AllLevel g := by
  intro p hp hf hs
  obtain ⟨j, hj⟩ := List.getElem?_of_mem hp
  exact absurd h (movable_pos_of_seat hj hf hs)

theorem level_of_zero {g : Game} (hw : ∀ p ∈ g.players, p.wager = 0) (hc : g.cw = 0) : AllLevel g := by
  intro p hp _ _
  rw [hw p hp, hc]

/-- The complete list of ways a round is closed by an operation that is not a player action: from a state
    that is not an open betting round, an accepted operation ending in `RoundClosed` is either the
    `ReadyForAll` that opens the preflop round with nobody able to move, or the `Next` that deals a later
    street with fewer than two stacks (wagers swept, wager to match 0). -/
theorem skip_close_cases (g : Game) (hi : Inv g) (hf : Flow g) (hne : g.event ≠ .roundStarted) (op : Op)
    (hacc : (g.step op).2 = none) (hc : (g.step op).1.event = .roundClosed) (h2 : 2 ≤ (g.step op).1.aliveCount) :
    (op = .ready ∧ g.event = .readyRequested ∧ g.round = .preflop ∧ (g.step op).1.movableCount = 0) ∨
    (op = .next ∧ g.event = .roundClosed ∧ (g.round = .preflop ∨ g.round = .flop ∨ g.round = .turn) ∧
      (g.step op).1.movableCount ≤ 1 ∧ (∀ p ∈ (g.step op).1.players, p.wager = 0) ∧ (g.step op).1.cw = 0) := by
  obtain ⟨haw, row, _⟩ := step_phase hi.struct hf op (tableOp_of_outside hi hne hacc) hacc
  rw [hc] at row
  generalize (g.step op).1.round = r at row
  cases row with
  | skip hrn hcl =>
    -- the round of a dealt street is closed at once only when nobody can move; after the flop two can
    have m := (wr_step g .ready).mov
    rw [m.alive] at h2
    have h0 : g.movableCount = 0 := hcl.resolve_left (by omega)
    refine .inl ⟨rfl, haw, ?_, m.movable.trans h0⟩
    refine Decidable.byContradiction fun hpre => ?_
    have := hf.ready2 haw hrn hpre
    omega
  | allin hrn hcl hmv =>
    have hrr := Round.before_river.mpr ⟨hrn, fun h => hcl (.inr h)⟩
    -- `Next` sweeps the wagers before it deals
    obtain ⟨hcw, _, hw⟩ := swept_step (.inr ⟨rfl, hrn⟩) hacc
    exact .inr ⟨rfl, haw, hrr, by rw [(wr_step g .next).mov.movable]; exact hmv, hw, hcw⟩

theorem skip_close_level (g : Game) (hi : Inv g) (hf : Flow g) (hne : g.event ≠ .roundStarted) (op : Op)
    (hacc : (g.step op).2 = none) (hc : (g.step op).1.event = .roundClosed) (h2 : 2 ≤ (g.step op).1.aliveCount) :
    AllLevel (g.step op).1 := by
  rcases skip_close_cases g hi hf hne op hacc hc h2 with ⟨_, _, _, hm⟩ | ⟨_, _, _, _, hw, hcw⟩
  · exact level_of_movable0 hm
  · exact level_of_zero hw hcw

/-- Whenever an accepted operation on a reachable state ends in `RoundClosed` with at least two players left, every
    non-folded seat with chips has exactly the wager to match on the table: closings by a player action
    (`closes_level`) and the others (`skip_close_level`). -/
theorem close_level {g : Game} (h : Reachable g) (op : Op) (hacc : (g.step op).2 = none)
    (hc : (g.step op).1.event = .roundClosed) (h2 : 2 ≤ (g.step op).1.aliveCount) : AllLevel (g.step op).1 := by
  have hi := inv_reachable h
  have hf := flow_reachable h
  by_cases he : g.event = .roundStarted
  · obtain ⟨gh, hG⟩ := greachable_of_reachable h
    obtain ⟨seat, a, x, rfl⟩ := accepted_at_started g he op hacc
    rw [g.step_act] at hacc hc h2 ⊢
    intro p hp hfo hs
    obtain ⟨j, hj⟩ := List.getElem?_of_mem hp
    exact (closes_level g gh hi hf he ((greachable_inv hG).2 he) _ a x hacc (by rw [hc]; exact nofun) h2 j p hj hfo hs).1
  · exact skip_close_level g hi hf he op hacc hc h2

/-- The same as a fact about states: a reachable state at a closed round with two players left has its seats with
    chips level (it was reached by a closing step, and refused operations change nothing). -/
theorem level_of_closed {g : Game} (h : Reachable g) : g.event = .roundClosed → 2 ≤ g.aliveCount → AllLevel g := by
  refine h.induct (P := fun g => g.event = .roundClosed → 2 ≤ g.aliveCount → AllLevel g) (fun c _ hs he => ?_)
    (fun g hR ih op => ?_)
  · rw [(start_ok c hs).2.2] at he
    cases he
  · by_cases hacc : (g.step op).2 = none
    · exact close_level hR op hacc
    · rw [refused_same g (flow_reachable hR) op hacc]
      exact ih

end Pokerface
