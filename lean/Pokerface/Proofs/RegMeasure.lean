/-
  The termination measure behind C20 `rebalancing_settles`.

  With `N` players, `R = ⌈N/max⌉` tables needed, `F = ⌊N/R⌋`, the measure is the
  lexicographic tuple
      ( |T − R| , #deficit tables , B , A , S , Λ )
  where, over the tables (count `c`, Required `ρ`):
    deficit   : c < F
    B = Σ ρ over tables whose Required cannot even fill them to F   (c + ρ < F)
    A = number of deficit tables nobody is asked to fill            (c < F, ρ = 0)
    S = Σ (c + ρ − max c F)⁺   (Required that would lift a table above F)
    Λ = Σ |c − F|
  and the whole tuple counts as zero once nobody is in deficit and T = R.
-/
import Pokerface.Proofs.RegTot

namespace Pokerface
namespace Reg

structure Vec where
  m2 : Nat
  b : Nat
  a : Nat
  s : Nat
  l : Nat

def lexLe (v' v : Vec) : Prop :=
  v'.m2 < v.m2 ∨ (v'.m2 = v.m2 ∧ (v'.b < v.b ∨ (v'.b = v.b ∧ (v'.a < v.a ∨ (v'.a = v.a ∧
    (v'.s < v.s ∨ (v'.s = v.s ∧ v'.l ≤ v.l)))))))

def lexLt (v' v : Vec) : Prop :=
  v'.m2 < v.m2 ∨ (v'.m2 = v.m2 ∧ (v'.b < v.b ∨ (v'.b = v.b ∧ (v'.a < v.a ∨ (v'.a = v.a ∧
    (v'.s < v.s ∨ (v'.s = v.s ∧ v'.l < v.l)))))))

def bF (F : Int) (t : RTable) : Nat := if t.count + t.required < F then t.required.toNat else 0
def aF (F : Int) (t : RTable) : Nat := Min.min (Min.min 1 (F - t.count).toNat) (Min.min 1 (1 - t.required).toNat)
def sF (F : Int) (t : RTable) : Nat := (t.count + t.required - Max.max t.count F).toNat
def lF (F : Int) (t : RTable) : Nat := (t.count - F).natAbs

def cv (F : Int) (t : RTable) : Vec := ⟨dF F t, bF F t, aF F t, sF F t, lF F t⟩

def vecOf (F : Int) (ts : List RTable) : Vec :=
  ⟨tot (dF F) ts, tot (bF F) ts, tot (aF F) ts, tot (sF F) ts, tot (lF F) ts⟩

/-! ### lexicographic comparisons, one component at a time

`lexLe`, `lexLt`, `MLe`, `MLt` are nests of the shape `a < b ∨ (a = b ∧ P)`; every fact about them
used below is a nest of one of the three lemmas that follow. -/

theorem lex_trans {a b c : Nat} {P Q R : Prop} (h1 : a < b ∨ (a = b ∧ P)) (h2 : b < c ∨ (b = c ∧ Q))
    (h : P → Q → R) : a < c ∨ (a = c ∧ R) := by
  rcases h1 with h1 | ⟨h1, p⟩
  · rcases h2 with h2 | ⟨h2, _⟩
    · exact Or.inl (Nat.lt_trans h1 h2)
    · exact Or.inl (h2 ▸ h1)
  · rcases h2 with h2 | ⟨h2, q⟩
    · exact Or.inl (h1 ▸ h2)
    · exact Or.inr ⟨h1.trans h2, h p q⟩

theorem lex_mono {a b : Nat} {P Q : Prop} (h1 : a < b ∨ (a = b ∧ P)) (h : P → Q) : a < b ∨ (a = b ∧ Q) :=
  h1.imp_right fun ⟨e, p⟩ => ⟨e, h p⟩

/-- a sum in which the summand `c` was exchanged for `c'` compares as `c'` does with `c` -/
theorem lex_add {x' x c' c : Nat} {P Q : Prop} (e : x' + c = x + c') (h : c' < c ∨ (c' = c ∧ P))
    (hpq : P → Q) : x' < x ∨ (x' = x ∧ Q) := by
  rcases h with h | ⟨h, p⟩
  · exact Or.inl (by omega)
  · exact Or.inr ⟨by omega, hpq p⟩

theorem lexLe_refl (v : Vec) : lexLe v v :=
  Or.inr ⟨rfl, Or.inr ⟨rfl, Or.inr ⟨rfl, Or.inr ⟨rfl, Nat.le_refl _⟩⟩⟩⟩

theorem lexLe_trans {a b c : Vec} (h1 : lexLe a b) (h2 : lexLe b c) : lexLe a c :=
  lex_trans h1 h2 fun p q => lex_trans p q fun p q => lex_trans p q fun p q => lex_trans p q Nat.le_trans

theorem lexLt_of_le_lt {a b c : Vec} (h1 : lexLe a b) (h2 : lexLt b c) : lexLt a c :=
  lex_trans h1 h2 fun p q => lex_trans p q fun p q => lex_trans p q fun p q => lex_trans p q Nat.lt_of_le_of_lt

theorem lexLt_le {a b : Vec} (h : lexLt a b) : lexLe a b :=
  lex_mono h fun p => lex_mono p fun p => lex_mono p fun p => lex_mono p Nat.le_of_lt

theorem lexLe_m2 {a b : Vec} (h : lexLe a b) : a.m2 ≤ b.m2 := by
  rcases h with h | ⟨h, _⟩
  · exact Nat.le_of_lt h
  · exact Nat.le_of_eq h

theorem lexLe_zero (v : Vec) : lexLe ⟨0, 0, 0, 0, 0⟩ v := by
  simp only [lexLe]
  omega

theorem lexLe_of_upd {F : Int} {ts : List RTable} (hn : (ts.map (·.id)).Nodup) {t0 : RTable}
    (ht0 : t0 ∈ ts) {id : Nat} (hid : t0.id = id) (f : RTable → RTable)
    (h : lexLe (cv F (f t0)) (cv F t0)) : lexLe (vecOf F (upd id f ts)) (vecOf F ts) :=
  lex_add (tot_upd _ ts hn ht0 hid f) h fun p => lex_add (tot_upd _ ts hn ht0 hid f) p fun p =>
    lex_add (tot_upd _ ts hn ht0 hid f) p fun p => lex_add (tot_upd _ ts hn ht0 hid f) p fun p => by
      have := tot_upd (lF F) ts hn ht0 hid f
      have q : lF F (f t0) ≤ lF F t0 := p
      show tot (lF F) (upd id f ts) ≤ tot (lF F) ts
      omega

theorem lexLt_of_upd {F : Int} {ts : List RTable} (hn : (ts.map (·.id)).Nodup) {t0 : RTable}
    (ht0 : t0 ∈ ts) {id : Nat} (hid : t0.id = id) (f : RTable → RTable)
    (h : lexLt (cv F (f t0)) (cv F t0)) : lexLt (vecOf F (upd id f ts)) (vecOf F ts) :=
  lex_add (tot_upd _ ts hn ht0 hid f) h fun p => lex_add (tot_upd _ ts hn ht0 hid f) p fun p =>
    lex_add (tot_upd _ ts hn ht0 hid f) p fun p => lex_add (tot_upd _ ts hn ht0 hid f) p fun p => by
      have := tot_upd (lF F) ts hn ht0 hid f
      have q : lF F (f t0) < lF F t0 := p
      show tot (lF F) (upd id f ts) < tot (lF F) ts
      omega

theorem cv_of_ge {F : Int} {t : RTable} (h : F ≤ t.count) (hr : 0 ≤ t.required) :
    cv F t = ⟨0, 0, 0, t.required.toNat, (t.count - F).toNat⟩ := by
  simp only [cv, dF, bF, aF, sF, lF, Vec.mk.injEq]
  refine ⟨by omega, ?_, by omega, by omega, by omega⟩
  split
  · omega
  · rfl

theorem cv_of_covered {F : Int} {t : RTable} (h : t.count < F) (hc : F ≤ t.count + t.required) :
    cv F t = ⟨1, 0, 0, (t.count + t.required - F).toNat, (F - t.count).toNat⟩ := by
  simp only [cv, dF, bF, aF, sF, lF, Vec.mk.injEq]
  refine ⟨by omega, ?_, by omega, by omega, by omega⟩
  split
  · omega
  · rfl

theorem cv_of_uncovered {F : Int} {t : RTable} (hc : t.count + t.required < F) (hr : 0 ≤ t.required) :
    cv F t = ⟨1, t.required.toNat, (1 - t.required).toNat, 0, (F - t.count).toNat⟩ := by
  simp only [cv, dF, bF, aF, sF, lF, Vec.mk.injEq]
  refine ⟨by omega, ?_, by omega, by omega, by omega⟩
  split
  · rfl
  · omega

theorem cv_dispatch (F : Int) (t : RTable) (k : Int) (h1 : 1 ≤ k) (h2 : k ≤ t.required) :
    lexLe (cv F (give k t)) (cv F t) := by
  generalize ht' : give k t = t'
  have hc : t'.count = t.count + k := by
    rw [← ht']
    rfl
  have hr : t'.required = t.required - k := by
    rw [← ht']
    rfl
  by_cases hge : F ≤ t.count
  · rw [cv_of_ge (t := t) hge (by omega), cv_of_ge (t := t') (by omega) (by omega), hc, hr]
    simp only [lexLe, Nat.lt_irrefl, false_or, true_and]
    omega
  · by_cases hcov : F ≤ t.count + t.required
    · rw [cv_of_covered (t := t) (by omega) hcov]
      by_cases hge' : F ≤ t'.count
      · rw [cv_of_ge (t := t') hge' (by omega)]
        exact Or.inl Nat.zero_lt_one
      · rw [cv_of_covered (t := t') (by omega) (by omega), hc, hr]
        simp only [lexLe, Nat.lt_irrefl, false_or, true_and]
        omega
    · rw [cv_of_uncovered (t := t) (by omega) (by omega), cv_of_uncovered (t := t') (by omega) (by omega), hc, hr]
      simp only [lexLe, Nat.lt_irrefl, false_or, true_and]
      omega

theorem cv_release (F : Int) (t : RTable) (j : Int) (h0 : 0 ≤ j) (h1 : F ≤ t.count - j)
    (hr : 0 ≤ t.required) :
    lexLe (cv F (adj (-j) none t)) (cv F t) ∧ (1 ≤ j → lexLt (cv F (adj (-j) none t)) (cv F t)) := by
  generalize ht' : adj (-j) none t = t'
  have hc : t'.count = t.count - j := by
    rw [← ht', adj_count]
    omega
  have hr' : t'.required = t.required := by
    rw [← ht']
    rfl
  rw [cv_of_ge (t := t) (by omega) hr, cv_of_ge (t := t') (by omega) (by omega), hc, hr']
  simp only [lexLe, lexLt, Nat.lt_irrefl, false_or, true_and]
  constructor
  · omega
  · intro hj
    omega

theorem cv_take (F : Int) (t : RTable) (k : Int) (h0 : 0 ≤ k) (h1 : t.count + k ≤ F)
    (hr : 0 ≤ t.required) :
    lexLe (cv F (adj k (if F - t.count - k > 0 then some (F - t.count - k) else none) t)) (cv F t) ∧
    (1 ≤ k → lexLt (cv F (adj k (if F - t.count - k > 0 then some (F - t.count - k) else none) t)) (cv F t)) := by
  generalize ht' : adj k (if F - t.count - k > 0 then some (F - t.count - k) else none) t = t'
  have hc : t'.count = t.count + k := by rw [← ht', adj_count]
  have hr' : t'.required = if F - t.count - k > 0 then F - t.count - k else t.required := by
    rw [← ht']
    simp only [adj]
    split
    · rfl
    · rfl
  by_cases hfull : t.count + k = F
  · rw [if_neg (by omega)] at hr'
    rw [cv_of_ge (t := t') (by omega) (by omega), hc, hr']
    by_cases hk : k = 0
    · rw [cv_of_ge (t := t) (by omega) hr]
      simp only [lexLe, lexLt, Nat.lt_irrefl, false_or, true_and]
      omega
    · have hlt : lexLt ⟨0, 0, 0, t.required.toNat, (t.count + k - F).toNat⟩ (cv F t) := by
        by_cases hcov : F ≤ t.count + t.required
        · rw [cv_of_covered (t := t) (by omega) hcov]
          exact Or.inl Nat.zero_lt_one
        · rw [cv_of_uncovered (t := t) (by omega) hr]
          exact Or.inl Nat.zero_lt_one
      exact ⟨lexLt_le hlt, fun _ => hlt⟩
  · rw [if_pos (by omega)] at hr'
    rw [cv_of_covered (t := t') (by omega) (by omega), hc, hr']
    by_cases hcov : F ≤ t.count + t.required
    · rw [cv_of_covered (t := t) (by omega) hcov]
      simp only [lexLe, lexLt, Nat.lt_irrefl, false_or, true_and]
      omega
    · rw [cv_of_uncovered (t := t) (by omega) hr]
      simp only [lexLe, lexLt, Nat.lt_irrefl, false_or, true_and]
      omega

/-- nobody in deficit and exactly the tables needed: nothing will ever be asked again -/
def zeroed (r : Reg) : Prop := (vecOf (flr r) r.tables).m2 = 0 ∧ r.tableCount = r.requiredTables

instance (r : Reg) : Decidable (zeroed r) := inferInstanceAs (Decidable (_ ∧ _))

def mu1 (r : Reg) : Nat := if zeroed r then 0 else (r.tableCount - r.requiredTables).natAbs
def muv (r : Reg) : Vec := if zeroed r then ⟨0, 0, 0, 0, 0⟩ else vecOf (flr r) r.tables

/-- the measure did not increase from `r` to `r'` -/
def MLe (r' r : Reg) : Prop := mu1 r' < mu1 r ∨ (mu1 r' = mu1 r ∧ lexLe (muv r') (muv r))
/-- the measure decreased from `r` to `r'` -/
def MLt (r' r : Reg) : Prop := mu1 r' < mu1 r ∨ (mu1 r' = mu1 r ∧ lexLt (muv r') (muv r))

theorem MLe_refl (r : Reg) : MLe r r := Or.inr ⟨rfl, lexLe_refl _⟩
theorem MLe_trans {a b c : Reg} (h1 : MLe a b) (h2 : MLe b c) : MLe a c :=
  lex_trans h1 h2 lexLe_trans
theorem MLt_le {a b : Reg} (h : MLt a b) : MLe a b := lex_mono h lexLt_le
theorem MLt_of_lt_le {a b c : Reg} (h1 : MLt a b) (h2 : MLe b c) : MLt a c :=
  lex_trans h1 h2 fun p q => lex_trans p q fun p q => lex_trans p q fun p q => lex_trans p q fun p q =>
    lex_trans p q Nat.lt_of_lt_of_le
theorem MLt_of_le_lt {a b c : Reg} (h1 : MLe a b) (h2 : MLt b c) : MLt a c :=
  lex_trans h1 h2 lexLt_of_le_lt

/-- the first component is `|T − R|` in every state: in a `zeroed` one `T = R` -/
theorem mu1_eq (r : Reg) : mu1 r = (r.tableCount - r.requiredTables).natAbs := by
  unfold mu1
  split
  · rename_i z
    have := z.2
    omega
  · rfl

theorem muv_pos {r : Reg} (z : zeroed r) : muv r = ⟨0, 0, 0, 0, 0⟩ := if_pos z
theorem muv_neg {r : Reg} (z : ¬ zeroed r) : muv r = vecOf (flr r) r.tables := if_neg z

section
variable {r r' : Reg} (h2 : r'.tableCount = r.tableCount) (hs : SameNeeds r r')
include h2 hs

theorem MLe_of_vec (hv : lexLe (vecOf (flr r) r'.tables) (vecOf (flr r) r.tables)) : MLe r' r := by
  have hR := hs.req
  have hF := flr_same hs
  refine Or.inr ⟨by rw [mu1_eq, mu1_eq, h2, hR], ?_⟩
  by_cases zb : zeroed r'
  · rw [muv_pos zb]
    exact lexLe_zero _
  · have za : ¬ zeroed r := fun za => zb ⟨by
      have := lexLe_m2 hv
      have := za.1
      rw [hF]
      omega, by
        rw [h2, hR]
        exact za.2⟩
    rw [muv_neg zb, muv_neg za, hF]
    exact hv

theorem MLt_of_vec (hz : ¬ zeroed r) (hv : lexLt (vecOf (flr r) r'.tables) (vecOf (flr r) r.tables)) :
    MLt r' r := by
  refine Or.inr ⟨by rw [mu1_eq, mu1_eq, h2, hs.req], ?_⟩
  rw [muv_neg hz]
  by_cases zb : zeroed r'
  · rw [muv_pos zb]
    exact lexLt_of_le_lt (lexLe_zero _) hv
  · rw [muv_neg zb, flr_same hs]
    exact hv

end

theorem MLe_of_congr {r r' : Reg} (h1 : r'.tables = r.tables) (h2 : r'.tableCount = r.tableCount)
    (hs : SameNeeds r r') : MLe r' r :=
  MLe_of_vec h2 hs (h1 ▸ lexLe_refl _)

theorem MLt_of_m1 {r r' : Reg} (hs : SameNeeds r r')
    (h : (r'.tableCount - r.requiredTables).natAbs < (r.tableCount - r.requiredTables).natAbs) : MLt r' r :=
  Or.inl (by rw [mu1_eq, mu1_eq, hs.req]; exact h)

end Reg
end Pokerface
