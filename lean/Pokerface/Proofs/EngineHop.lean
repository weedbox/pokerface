import Pokerface.Model.Game
/-
  C07: the JSON hop commutes with every operation of the engine.

  `Game.hop` (Model/Game.lean) drops the pots' `levels` — the only part of `GameState` proper
  that is not serialised (`json:"-"`).  The Go `settlement.Result` kept in `GameState.Result`
  has unexported internals too (`PotResult.level`, the rank groups), which the model keeps in
  `Game.result`; to cover them as well everything here is parametric in a function
  `σ : Option Result → Option Result` applied to the `result` field by the serialisation
  `ser σ g = { g.hop with result := σ g.result }`:
    * `σ = id`                       gives `ser id g = g.hop`;
    * `σ = Option.map stripResult`   gives `Game.json`, the state as the JSON really has it.

  `Same σ a b` : the two in-memory games have the same serialisation (`ser σ a = ser σ b`), i.e.
  they agree on every field except possibly `pots[·].levels` (and `result` up to `σ`).
  `Same σ` is a congruence for the engine: `Same σ a b → Same σ (f a) (f b)` for every function `f` of the
  model, up to `sameR_step`.  It has three generators: a setter commutes with `ser σ` (`Same.map … (fun _ => rfl)`,
  definitionally, for everything that reads neither `pots` nor `result`; `Same.map'` for `updatePots`, which
  overwrites the pots from the players, and for `gameCompleted`, where `calculateGameResults` — the only reader
  of `levels` — runs right after `updatePots` and overwrites `result`; nothing reads `result`); a read has the
  same value on both sides (`Same.congr`, the lemmas `Same.<field>`); and `same_ite`.

  Every branching function has a congruence lemma `same_<fn>` of its own, which unfolds the function, rewrites
  the reads it branches on to those of the second state, and goes through the branches.  This is the one place
  where the model is walked again instead of using the case principles `Game.<fn>_cases` and the footprints
  (Proofs/EngineActCases.lean, EngineFrame.lean), and it has to be: those relate ONE state `g` to `f g` and say that
  `f g` is one of the listed branches, not which; for a congruence the second state must take the SAME branch as
  the first, which is exactly what equal reads give.  Hence also the import of the model alone.
-/
namespace Pokerface
open Game

def Game.ser (σ : Option Result → Option Result) (g : Game) : Game := { g.hop with result := σ g.result }

/-- what JSON keeps of a `settlement.Result`: not the levels/rank groups of the pots
    (`PotResult.level`, `PotResult.rank` are unexported) -/
def stripResult (r : Result) : Result := { r with pots := r.pots.map fun p => { p with levels := [] } }

/-- the state as it is after `json.Marshal`/`Unmarshal` + `NewGameFromState`, the internals of
    the settlement result dropped as well -/
def Game.json (g : Game) : Game := g.ser (Option.map stripResult)

theorem ser_id (g : Game) : g.ser id = g.hop := rfl

def Same (σ : Option Result → Option Result) (a b : Game) : Prop := a.ser σ = b.ser σ

def SameR (σ : Option Result → Option Result) (x y : Game × Option Err) : Prop := Same σ x.1 y.1 ∧ x.2 = y.2

theorem hop_hop (g : Game) : g.hop.hop = g.hop := by
  simp [Game.hop, List.map_map, Function.comp_def]

theorem stripResult_idem (r : Result) : stripResult (stripResult r) = stripResult r := by
  simp [stripResult, List.map_map, Function.comp_def]

theorem json_json (g : Game) : g.json.json = g.json := by
  have h1 : g.json.json.result = g.json.result := by
    show (g.result.map stripResult).map stripResult = g.result.map stripResult
    cases g.result with
    | none => rfl
    | some r => simp [stripResult_idem]
  have h2 := hop_hop g
  cases g
  simp only [Game.json, Game.ser, Game.hop, Game.mk.injEq] at h1 h2 ⊢
  simp [h1, h2]

variable {σ : Option Result → Option Result}

theorem Same.refl (a : Game) : Same σ a a := rfl
theorem Same.symm {a b : Game} (h : Same σ a b) : Same σ b a := Eq.symm h
theorem Same.trans {a b c : Game} (h1 : Same σ a b) (h2 : Same σ b c) : Same σ a c := Eq.trans h1 h2
theorem SameR.refl (x : Game × Option Err) : SameR σ x x := ⟨rfl, rfl⟩
theorem SameR.mk' {a b : Game} (h : Same σ a b) (e : Option Err) : SameR σ (a, e) (b, e) := ⟨h, rfl⟩

theorem same_hop_left (g : Game) : Same id g.hop g := hop_hop g
theorem same_json_left (g : Game) : Same (Option.map stripResult) g.json g := json_json g

namespace Same
variable {a b : Game}

theorem congr {α : Sort _} (h : Same σ a b) (f : Game → α) (hf : ∀ g : Game, f (g.ser σ) = f g) : f a = f b := by
  rw [← hf a, ← hf b, h]

theorem map' (F G : Game → Game) (hF : ∀ g : Game, (F g).ser σ = G (g.ser σ)) (h : Same σ a b) : Same σ (F a) (F b) := by
  unfold Same
  rw [hF a, hF b, h]

theorem map (F : Game → Game) (hF : ∀ g : Game, F (g.ser σ) = (F g).ser σ) (h : Same σ a b) : Same σ (F a) (F b) :=
  map' F F (fun g => (hF g).symm) h

theorem opts (h : Same σ a b) : a.opts = b.opts := h.congr Game.opts (fun _ => rfl)
theorem players (h : Same σ a b) : a.players = b.players := h.congr Game.players (fun _ => rfl)
theorem miniBet (h : Same σ a b) : a.miniBet = b.miniBet := h.congr Game.miniBet (fun _ => rfl)
theorem round (h : Same σ a b) : a.round = b.round := h.congr Game.round (fun _ => rfl)
theorem burned (h : Same σ a b) : a.burned = b.burned := h.congr Game.burned (fun _ => rfl)
theorem board (h : Same σ a b) : a.board = b.board := h.congr Game.board (fun _ => rfl)
theorem prev (h : Same σ a b) : a.prev = b.prev := h.congr Game.prev (fun _ => rfl)
theorem deckPos (h : Same σ a b) : a.deckPos = b.deckPos := h.congr Game.deckPos (fun _ => rfl)
theorem roundPot (h : Same σ a b) : a.roundPot = b.roundPot := h.congr Game.roundPot (fun _ => rfl)
theorem cw (h : Same σ a b) : a.cw = b.cw := h.congr Game.cw (fun _ => rfl)
theorem raiser (h : Same σ a b) : a.raiser = b.raiser := h.congr Game.raiser (fun _ => rfl)
theorem cur (h : Same σ a b) : a.cur = b.cur := h.congr Game.cur (fun _ => rfl)
theorem event (h : Same σ a b) : a.event = b.event := h.congr Game.event (fun _ => rfl)
theorem result (h : Same σ a b) : σ a.result = σ b.result := congrArg Game.result (show a.ser σ = b.ser σ from h)
theorem n (h : Same σ a b) : a.n = b.n := h.congr Game.n (fun _ => rfl)
theorem dealerIdx? (h : Same σ a b) : a.dealerIdx? = b.dealerIdx? := h.congr Game.dealerIdx? (fun _ => rfl)
theorem dealerIdx (h : Same σ a b) : a.dealerIdx = b.dealerIdx := h.congr Game.dealerIdx (fun _ => rfl)
theorem nextIdx (h : Same σ a b) : a.nextIdx = b.nextIdx := h.congr Game.nextIdx (fun _ => rfl)
theorem aliveCount (h : Same σ a b) : a.aliveCount = b.aliveCount := h.congr Game.aliveCount (fun _ => rfl)
theorem movableCount (h : Same σ a b) : a.movableCount = b.movableCount := h.congr Game.movableCount (fun _ => rfl)
theorem seatsFromDealer (h : Same σ a b) : a.seatsFromDealer = b.seatsFromDealer :=
  h.congr Game.seatsFromDealer (fun _ => rfl)
theorem availableActions (h : Same σ a b) : a.availableActions = b.availableActions :=
  h.congr Game.availableActions (fun _ => rfl)
theorem allows (h : Same σ a b) (i : Nat) (x : Act) : a.allows i x = b.allows i x :=
  h.congr (fun g => g.allows i x) (fun _ => rfl)
theorem dealt (h : Same σ a b) (k : Nat) : a.dealt k = b.dealt k := h.congr (fun g => g.dealt k) (fun _ => rfl)

theorem pots (h : Same σ a b) :
    a.pots.map (fun p => { p with levels := [] }) = b.pots.map (fun p => { p with levels := [] }) :=
  congrArg Game.pots (show a.ser σ = b.ser σ from h)

end Same

section
variable {a b : Game}

theorem same_ite {c : Prop} [Decidable c] {a1 a2 b1 b2 : Game} (h1 : Same σ a1 b1) (h2 : Same σ a2 b2) :
    Same σ (if c then a1 else a2) (if c then b1 else b2) := by
  split <;> assumption

theorem sameR_ite {c : Prop} [Decidable c] {a1 a2 b1 b2 : Game × Option Err} (h1 : SameR σ a1 b1) (h2 : SameR σ a2 b2) :
    SameR σ (if c then a1 else a2) (if c then b1 else b2) := by
  split <;> assumption

theorem same_modP (h : Same σ a b) (i : Nat) (f : Player → Player) : Same σ (a.modP i f) (b.modP i f) :=
  h.map (fun g => g.modP i f) (fun _ => rfl)
theorem same_mapP (h : Same σ a b) (f : Player → Player) : Same σ (a.mapP f) (b.mapP f) :=
  h.map (fun g => g.mapP f) (fun _ => rfl)
theorem same_setEvent (h : Same σ a b) (e : Ev) : Same σ (a.setEvent e) (b.setEvent e) :=
  h.map (fun g => g.setEvent e) (fun _ => rfl)
theorem same_setRound (h : Same σ a b) (r : Round) : Same σ (a.setRound r) (b.setRound r) :=
  h.map (fun g => g.setRound r) (fun _ => rfl)
theorem same_setCur (h : Same σ a b) (i : Nat) : Same σ (a.setCur i) (b.setCur i) :=
  h.map (fun g => g.setCur i) (fun _ => rfl)
theorem same_setRaiser (h : Same σ a b) (i : Nat) : Same σ (a.setRaiser i) (b.setRaiser i) :=
  h.map (fun g => g.setRaiser i) (fun _ => rfl)
theorem same_setCw (h : Same σ a b) (x : Int) : Same σ (a.setCw x) (b.setCw x) :=
  h.map (fun g => g.setCw x) (fun _ => rfl)
theorem same_setPrev (h : Same σ a b) (x : Int) : Same σ (a.setPrev x) (b.setPrev x) :=
  h.map (fun g => g.setPrev x) (fun _ => rfl)
theorem same_addRoundPot (h : Same σ a b) (x : Int) : Same σ (a.addRoundPot x) (b.addRoundPot x) :=
  h.map (fun g => g.addRoundPot x) (fun _ => rfl)
theorem same_offer (h : Same σ a b) (i : Nat) : Same σ (a.offer i) (b.offer i) :=
  h.map (fun g => g.offer i) (fun _ => rfl)
theorem same_setCurrentPlayer (h : Same σ a b) (i : Nat) : Same σ (a.setCurrentPlayer i) (b.setCurrentPlayer i) := by
  unfold setCurrentPlayer
  rw [h.cur]
  exact same_offer (same_setCur (same_modP h _ _) i) i
theorem same_resetAllAllowed (h : Same σ a b) : Same σ a.resetAllAllowed b.resetAllAllowed :=
  h.map Game.resetAllAllowed (fun _ => rfl)
theorem same_resetAllPlayerStatus (h : Same σ a b) : Same σ a.resetAllPlayerStatus b.resetAllPlayerStatus :=
  h.map Game.resetAllPlayerStatus (fun _ => rfl)
theorem same_resetRoundStatus (h : Same σ a b) : Same σ a.resetRoundStatus b.resetRoundStatus :=
  h.map Game.resetRoundStatus (fun _ => rfl)
theorem same_resetActed (h : Same σ a b) : Same σ a.resetActed b.resetActed :=
  h.map Game.resetActed (fun _ => rfl)
theorem same_setActed (h : Same σ a b) (i : Nat) : Same σ (a.setActed i) (b.setActed i) :=
  h.map (fun g => g.setActed i) (fun _ => rfl)
theorem same_becomeRaiser (h : Same σ a b) (i : Nat) : Same σ (a.becomeRaiser i) (b.becomeRaiser i) :=
  same_setActed (same_resetActed (same_setRaiser h i)) i
theorem same_advance (h : Same σ a b) (k : Nat) : Same σ (a.advance k) (b.advance k) :=
  h.map (fun g => g.advance k) (fun _ => rfl)
theorem same_burn (h : Same σ a b) (k : Nat) : Same σ (a.burn k) (b.burn k) :=
  h.map (fun g => g.burn k) (fun _ => rfl)
theorem same_dealBoard (h : Same σ a b) (k : Nat) : Same σ (a.dealBoard k) (b.dealBoard k) :=
  h.map (fun g => g.dealBoard k) (fun _ => rfl)
theorem same_dealHole (h : Same σ a b) (i : Nat) : Same σ (a.dealHole i) (b.dealHole i) :=
  h.map (fun g => g.dealHole i) (fun _ => rfl)
theorem same_updateCombinations (h : Same σ a b) : Same σ a.updateCombinations b.updateCombinations :=
  h.map Game.updateCombinations (fun _ => rfl)

theorem same_dealHoles : ∀ (k i : Nat) {a b : Game}, Same σ a b → Same σ (dealHoles k i a) (dealHoles k i b)
  | 0, _, _, _, h => h
  | k + 1, i, _, _, h => same_dealHoles k (i + 1) (same_dealHole h i)

theorem same_payAllin (h : Same σ a b) (i : Nat) (p : Player) (w : Bool) :
    Same σ (a.payAllin i p w) (b.payAllin i p w) := by
  have g1 : Same σ ((a.addRoundPot (p.initial - p.wager)).modP i goAllin)
      ((b.addRoundPot (p.initial - p.wager)).modP i goAllin) := same_modP (same_addRoundPot h _) _ _
  have g2 : Same σ (if p.initial > b.cw then ((a.addRoundPot (p.initial - p.wager)).modP i goAllin).setCw p.initial
        else (a.addRoundPot (p.initial - p.wager)).modP i goAllin)
      (if p.initial > b.cw then ((b.addRoundPot (p.initial - p.wager)).modP i goAllin).setCw p.initial
        else (b.addRoundPot (p.initial - p.wager)).modP i goAllin) := same_ite (same_setCw g1 _) g1
  simp only [payAllin, h.cw, h.prev]
  exact same_ite (same_ite (same_becomeRaiser g2 i) (same_resetActed g2)) g1

theorem same_payPart (h : Same σ a b) (i : Nat) (p : Player) (c : Int) (w : Bool) :
    Same σ (a.payPart i p c w) (b.payPart i p c w) := by
  have g1 : Same σ ((a.modP i (putWager (p.wager + c))).addRoundPot c) ((b.modP i (putWager (p.wager + c))).addRoundPot c) :=
    same_addRoundPot (same_modP h _ _) _
  simp only [payPart, h.cw]
  exact same_ite (same_becomeRaiser (same_setCw g1 _) i) g1

theorem same_pay (h : Same σ a b) (i : Nat) (c : Int) (w : Bool) : Same σ (a.pay i c w) (b.pay i c w) := by
  unfold pay
  rw [h.players]
  split
  · exact h
  · exact same_ite (same_payAllin h _ _ _) (same_payPart h _ _ _ _)

theorem updatePots_hop (g : Game) : g.hop.updatePots = g.updatePots := rfl

/-- pot.go `updatePots`: the pots as a function of the players -/
def potsOfPlayers (ps : List Player) : List Pot := potsOf (ps.map fun p => (p.idx, p.pot + p.wager, p.fold))

def stripPots (ps : List Pot) : List Pot := ps.map fun p => { p with levels := [] }

theorem same_updatePots (h : Same σ a b) : Same σ a.updatePots b.updatePots :=
  h.map' Game.updatePots (fun s => { s with pots := stripPots (potsOfPlayers s.players) }) (fun _ => rfl)

theorem same_roundClosed (h : Same σ a b) : Same σ a.roundClosed b.roundClosed :=
  same_updatePots (same_resetAllAllowed (same_setEvent h _))

/-- settlement: `updatePots` runs first, so neither the old levels nor the old result matter:
    the new pots AND the new result (which contains the levels) are functions of the players -/
theorem same_gameCompleted (h : Same σ a b) : Same σ a.gameCompleted b.gameCompleted :=
  h.map' Game.gameCompleted
    (fun s => { s with
      pots := stripPots (potsOfPlayers s.players),
      result := σ (some (gameResults (potsOfPlayers s.players)
        (s.players.map fun p => (p.idx, p.bankroll, p.fold, ((p.comb.map (·.power)).getD 0 : Nat))))),
      event := .gameClosed })
    (fun _ => rfl)

theorem gameCompleted_eq (h : Same id a b) : a.gameCompleted = b.gameCompleted := by
  have : ∀ g : Game, g.hop.gameCompleted = g.gameCompleted := fun _ => rfl
  rw [← this a, ← this b, show a.hop = b.hop from h]

theorem same_requestPlayerAction (h : Same σ a b) : Same σ a.requestPlayerAction b.requestPlayerAction := by
  unfold requestPlayerAction
  rw [h.aliveCount, h.movableCount, h.nextIdx, h.players]
  refine same_ite (same_roundClosed h) (same_ite (same_roundClosed h) ?_)
  split
  · exact h
  · exact same_ite (same_roundClosed h) (same_setCurrentPlayer h _)

theorem same_requestReady (h : Same σ a b) : Same σ a.requestReady b.requestReady :=
  same_setEvent (same_resetAllAllowed h) _

theorem same_prepareRound (h : Same σ a b) : Same σ a.prepareRound b.prepareRound := by
  unfold prepareRound
  rw [h.round, h.movableCount]
  exact same_ite (same_requestReady h) (same_ite (same_roundClosed h) (same_requestReady h))

theorem same_requestBlinds (h : Same σ a b) : Same σ a.requestBlinds b.requestBlinds := by
  unfold requestBlinds
  rw [h.opts]
  exact same_ite (same_prepareRound (same_setEvent h _)) (same_setEvent h _)

theorem same_dealStreet (h : Same σ a b) : Same σ a.dealStreet b.dealStreet := by
  unfold dealStreet
  rw [h.round, h.n, h.dealerIdx]
  split
  · exact same_dealHoles _ _ h
  · exact same_setCurrentPlayer (same_dealBoard (same_burn h _) _) _
  · exact same_setCurrentPlayer (same_dealBoard (same_burn h _) _) _
  · exact same_setCurrentPlayer (same_dealBoard (same_burn h _) _) _
  · exact h

theorem same_afterRoundInitialized (h : Same σ a b) : Same σ a.afterRoundInitialized b.afterRoundInitialized := by
  unfold afterRoundInitialized
  rw [h.round]
  exact same_ite (same_requestBlinds h) (same_prepareRound h)

theorem same_enterRound (h : Same σ a b) (r : Round) : Same σ (a.enterRound r) (b.enterRound r) :=
  same_afterRoundInitialized (same_setEvent (same_updateCombinations (same_dealStreet (same_setRound h r))) _)

theorem same_seekBB : ∀ (k : Nat) {a b : Game}, Same σ a b → Same σ (seekBB k a) (seekBB k b)
  | 0, _, _, h => h
  | k + 1, a, b, h => by
    unfold seekBB
    rw [h.nextIdx, h.players]
    split
    · exact same_ite (same_setCurrentPlayer h _) (same_seekBB k (same_setCurrentPlayer h _))
    · exact same_setCurrentPlayer h _

theorem same_openRound (h : Same σ a b) : Same σ a.openRound b.openRound :=
  same_requestPlayerAction (same_setEvent h _)

theorem same_startRound' (h : Same σ a b) : Same σ a.startRound' b.startRound' := by
  unfold startRound'
  rw [h.round, h.movableCount, h.n, h.dealerIdx]
  exact same_ite (same_ite (same_roundClosed h) (same_openRound (same_seekBB _ (same_setCurrentPlayer h _))))
    (same_openRound (same_setCurrentPlayer h _))

theorem same_nextRound' (h : Same σ a b) : Same σ a.nextRound' b.nextRound' := by
  unfold nextRound'
  rw [h.aliveCount, h.round]
  refine same_ite (same_gameCompleted h) ?_
  split
  · exact same_enterRound h _
  · exact same_enterRound h _
  · exact same_enterRound h _
  · exact same_gameCompleted h
  · exact h

theorem same_resume (h : Same σ a b) : Same σ a.resume b.resume := by
  unfold resume
  rw [h.event]
  split
  · exact same_requestPlayerAction h
  · exact same_roundClosed h
  · exact h

theorem same_readiness (h : Same σ a b) : Same σ a.readiness b.readiness := by
  unfold readiness
  rw [h.round, h.opts]
  exact same_ite (same_ite (same_setEvent h _) (same_enterRound h _)) (same_startRound' (same_resetAllAllowed h))

theorem sameR_readyForAll (h : Same σ a b) : SameR σ a.readyForAll b.readyForAll := by
  unfold readyForAll
  rw [h.event]
  exact sameR_ite (SameR.mk' h _) (SameR.mk' (same_readiness (same_resetAllAllowed h)) _)

theorem sameR_payAnteLoop : ∀ (is : List Nat) {a b : Game}, Same σ a b → SameR σ (payAnteLoop is a) (payAnteLoop is b)
  | [], _, _, h => SameR.mk' h _
  | i :: is, a, b, h => by
    unfold payAnteLoop
    rw [h.players, h.opts]
    split
    · exact SameR.mk' h _
    · exact sameR_ite (SameR.mk' h _) (sameR_payAnteLoop is (same_pay h _ _ _))

theorem sameR_payAnte (h : Same σ a b) : SameR σ a.payAnte b.payAnte := by
  unfold payAnte
  rw [h.opts, h.event, h.seatsFromDealer]
  refine sameR_ite (SameR.mk' h _) (sameR_ite (SameR.mk' h _) ?_)
  have hl := sameR_payAnteLoop b.seatsFromDealer h
  revert hl
  generalize payAnteLoop b.seatsFromDealer a = x
  generalize payAnteLoop b.seatsFromDealer b = y
  intro hl
  obtain ⟨x1, x2⟩ := x
  obtain ⟨y1, y2⟩ := y
  obtain ⟨h1, h2⟩ := hl
  simp only at h1 h2
  subst h2
  cases x2 with
  | none =>
    exact SameR.mk' (same_enterRound (same_resetRoundStatus (same_resetAllPlayerStatus (same_updatePots
      (same_setEvent (same_resetAllAllowed h1) _)))) _) _
  | some e => exact SameR.mk' h1 _

theorem same_payBlind (h : Same σ a b) (i : Nat) : Same σ (a.payBlind i) (b.payBlind i) := by
  unfold payBlind
  rw [h.players, h.opts]
  split
  · exact h
  · exact same_pay h _ _ _

theorem same_foldl_payBlind : ∀ (is : List Nat) {a b : Game}, Same σ a b → Same σ (is.foldl payBlind a) (is.foldl payBlind b)
  | [], _, _, h => h
  | i :: is, _, _, h => same_foldl_payBlind is (same_payBlind h i)

theorem same_blindsPaid (h : Same σ a b) : Same σ a.blindsPaid b.blindsPaid := by
  unfold blindsPaid
  rw [h.opts]
  exact same_prepareRound (same_setEvent (same_resetAllAllowed (same_setPrev h _)) _)

theorem sameR_payBlinds (h : Same σ a b) : SameR σ a.payBlinds b.payBlinds := by
  unfold payBlinds
  rw [h.event, h.seatsFromDealer]
  exact sameR_ite (SameR.mk' h _) (SameR.mk' (same_blindsPaid (same_foldl_payBlind _ h)) _)

theorem sameR_next (h : Same σ a b) : SameR σ a.next b.next := by
  unfold next
  rw [h.event, h.round]
  exact sameR_ite (SameR.mk' h _) (sameR_ite (SameR.mk' h _) (SameR.mk' (same_nextRound' (same_resetAllPlayerStatus (same_resetRoundStatus h))) _))

theorem same_doCall (h : Same σ a b) (i : Nat) : Same σ (a.doCall i) (b.doCall i) := by
  unfold doCall
  rw [h.players, h.cw, h.opts]
  split
  · exact h
  · exact same_resume (same_pay (same_setActed h _) _ _ _)

theorem same_doAllin (h : Same σ a b) (i : Nat) : Same σ (a.doAllin i) (b.doAllin i) := by
  unfold doAllin
  rw [h.players, h.cw, h.prev]
  split
  · exact h
  · exact same_resume (same_pay (same_ite (same_setPrev (same_setActed h _) _) (same_setActed h _)) _ _ _)

theorem same_recordBet (h : Same σ a b) (i : Nat) : Same σ (a.recordBet i) (b.recordBet i) := by
  unfold recordBet wagerOf
  rw [h.players]
  exact same_setPrev h _

theorem same_doRaise (h : Same σ a b) (i : Nat) (p : Player) (x : Int) : Same σ (a.doRaise i p x) (b.doRaise i p x) := by
  simp only [doRaise, h.cw, h.prev, h.opts]
  exact same_resume (same_pay (same_setPrev (same_setActed h _) _) _ _ _)

theorem sameR_act (h : Same σ a b) (i : Nat) (x : Act) (v : Int) : SameR σ (a.act i x v) (b.act i x v) := by
  unfold act
  cases x <;> simp only [h.allows, h.cw, h.prev, h.players]
  case pass =>
    exact sameR_ite (SameR.mk' h _) (SameR.mk' (same_resume (same_setActed h _)) _)
  case fold =>
    exact sameR_ite (SameR.mk' h _) (SameR.mk' (same_resume (same_modP h _ _)) _)
  case check =>
    exact sameR_ite (SameR.mk' h _) (SameR.mk' (same_resume (same_setActed h _)) _)
  case call =>
    exact sameR_ite (SameR.mk' h _) (SameR.mk' (same_doCall h _) _)
  case allin =>
    exact sameR_ite (SameR.mk' h _) (SameR.mk' (same_doAllin h _) _)
  case bet =>
    exact sameR_ite (SameR.mk' h _) (sameR_ite (SameR.mk' h _) (SameR.mk' (same_resume (same_recordBet (same_pay (same_setActed h _) _ _ _) _)) _))
  case raise =>
    refine sameR_ite (SameR.mk' h _) (sameR_ite (SameR.mk' h _)
      (sameR_ite (sameR_ite (SameR.mk' h _) (SameR.mk' (same_doCall h _) _)) ?_))
    split
    · exact SameR.mk' h _
    · exact sameR_ite (sameR_ite (SameR.mk' h _) (SameR.mk' (same_doAllin h _) _)) (SameR.mk' (same_doRaise h _ _ _) _)
  case pay =>
    exact sameR_ite (SameR.mk' h _) (SameR.mk' (same_resume (same_pay h _ _ _)) _)

theorem sameR_step (h : Same σ a b) (op : Op) : SameR σ (a.step op) (b.step op) := by
  unfold step
  cases op with
  | ready => exact sameR_readyForAll h
  | payAnte => exact sameR_payAnte h
  | payBlinds => exact sameR_payBlinds h
  | next => exact sameR_next h
  | act seat x v =>
    cases seat with
    | none =>
      simp only [h.cur]
      exact sameR_act h _ _ _
    | some i => exact sameR_act h _ _ _

end

end Pokerface
