/-
  Join / seat / reserve / leave: exact post-states; `next` keeps players and reservations; player count;
  the seats `Join(-1, …)` may draw.
-/
import Pokerface.Proofs.SMStep

namespace Pokerface
namespace SM

def setSeat (sm : SM) (i : Nat) (s : Seat) : SM := { sm with seats := sm.seats.set i s }

@[simp] theorem setSeat_dealer (sm : SM) (i : Nat) (s : Seat) : (sm.setSeat i s).dealer = sm.dealer := rfl

theorem modSeat_eq_setSeat {sm : SM} {i : Nat} {s : Seat} (f : Seat → Seat) (h : sm.seats[i]? = some s) :
    sm.modSeat i f = sm.setSeat i (f s) := by
  simp [modSeat, setSeat, modify_eq_set_of_getElem? f h]

theorem setSeat_seats (sm : SM) (i : Nat) (s : Seat) (j : Nat) :
    (sm.setSeat i s).seats[j]? = if i = j then (if j < sm.seats.length then some s else none) else sm.seats[j]? := by
  simp only [setSeat, List.getElem?_set]
  by_cases h : i = j
  · subst h
    simp
  · simp [h]

theorem joinAt_of_empty {sm : SM} {i : Nat} {s : Seat} (hs : sm.seats[i]? = some s) (hemp : s.player = none)
    (pid : Nat) :
    sm.joinAt pid i = (sm.setSeat i { s with reserved := true, player := some pid }, none, some i) := by
  unfold joinAt
  simp only [hs, hemp, Option.isSome_none, Bool.false_eq_true, if_false]
  rw [modSeat_eq_setSeat _ hs]

theorem joinAt_of_occupied {sm : SM} {i : Nat} {s : Seat} (hs : sm.seats[i]? = some s)
    (hocc : s.player.isSome = true) (pid : Nat) : sm.joinAt pid i = (sm, some .notAvailable, none) := by
  unfold joinAt
  simp only [hs, hocc, if_true]

theorem step_leave_nat (sm : SM) {i : Nat} (hi : i < sm.max) :
    sm.step (.leave (i : Int)) =
      match sm.seats[i]? with
      | none => (sm, some .notFoundSeat, none)
      | some s =>
        if s.player.isNone then (sm, some .emptySeat, none)
        else (sm.modSeat i fun s => { s with player := none, reserved := false }, none, none) := by
  unfold step
  simp only
  rw [if_neg (by omega)]
  rfl

theorem step_leave_ok {sm : SM} {i : Nat} {s : Seat} (hw : sm.WF) (hs : sm.seats[i]? = some s)
    (hp : s.player.isSome = true) :
    sm.step (.leave (i : Int)) = (sm.setSeat i { s with player := none, reserved := false }, none, none) := by
  have hi := hw.lt_max hs
  have hn : ¬ s.player.isNone = true := by
    rw [Option.isNone_iff_eq_none]
    intro he
    rw [he] at hp
    cases hp
  rw [step_leave_nat sm hi, hs]
  simp only
  rw [if_neg hn, modSeat_eq_setSeat _ hs]

theorem step_seat_cases (sm : SM) (id : Int) :
    ((id < 0 ∨ id ≥ (sm.max : Int)) ∧ sm.step (.seat id) = (sm, some .notFoundSeat, none)) ∨
    (∃ i : Nat, id = (i : Int) ∧ i < sm.max ∧
      sm.step (.seat id) = (sm.modSeat i fun s => { s with reserved := false }, none, none)) := by
  unfold step
  simp only
  split
  · next h => exact Or.inl ⟨h, rfl⟩
  · next h => exact Or.inr ⟨id.toNat, by omega, by omega, rfl⟩

theorem step_reserve_cases (sm : SM) (id : Int) :
    ((id < 0 ∨ id ≥ (sm.max : Int)) ∧ sm.step (.reserve id) = (sm, some .notFoundSeat, none)) ∨
    (∃ i : Nat, id = (i : Int) ∧ i < sm.max ∧
      sm.step (.reserve id) = (sm.modSeat i fun s => { s with reserved := true }, none, none)) := by
  unfold step
  simp only
  split
  · next h => exact Or.inl ⟨h, rfl⟩
  · next h => exact Or.inr ⟨id.toNat, by omega, by omega, rfl⟩

theorem step_seat_nat (T : SM) {x : Nat} (hx : x < T.max) :
    T.step (.seat (x : Int)) = (T.modSeat x fun s => { s with reserved := false }, none, none) :=
  if_neg (by omega)

theorem join_landed {T : SM} {seat : Int} {pid : Nat} {c : Option Nat} {x : Nat}
    (h : (T.step (.join seat pid c)).2 = (none, some x)) :
    ∃ s, T.seats[x]? = some s ∧ s.player = none ∧ (seat = -1 ∨ seat = (x : Int)) ∧
      (T.step (.join seat pid c)).1 = T.setSeat x { s with reserved := true, player := some pid } := by
  rcases step_local T (op := .join seat pid c) nofun with ⟨e, he⟩ | ⟨i, _, hi, he, hj, _⟩
  · rw [he] at h
    cases h
  · rw [he] at h
    cases h
    obtain ⟨s, hs, hp⟩ := hj rfl
    rw [he]
    exact ⟨s, hs, hp, hi.symm.imp (fun e => e.1) id, modSeat_eq_setSeat _ hs⟩

theorem join_explicit_accepted {T : SM} {x : Nat} {s : Seat} (hs : T.seats[x]? = some s) (hemp : s.player = none)
    (hxm : x < T.max) (pid : Nat) (c : Option Nat) : (T.step (.join (x : Int) pid c)).2 = (none, some x) := by
  rw [step_join_nat T hxm, joinAt_of_empty hs hemp]

theorem playable_step_join (sm : SM) (seat : Int) (pid : Nat) (c : Option Nat) (j : Nat) :
    (sm.step (.join seat pid c)).1.playable j = sm.playable j := by
  rcases step_local sm (op := .join seat pid c) nofun with ⟨e, he⟩ | ⟨i, _, _, he, hj, _⟩
  · rw [he]
  · obtain ⟨s, hs, hp⟩ := hj rfl
    rw [he]
    unfold playable
    rw [modSeat_seats]
    by_cases hij : i = j
    · subst hij
      rw [if_pos rfl, hs]
      simp [hp, SMOp.onSeat]
    · rw [if_neg hij]

/-- What `next` never touches: who sits where and who is reserved. -/
def core (s : Seat) : Option Nat × Bool := (s.player, s.reserved)

def SamePlayers (sm sm' : SM) : Prop := sm'.seats.map core = sm.seats.map core

theorem SamePlayers.of_seatwise {sm sm' : SM}
    (h : ∀ i : Nat, ∃ f : Seat → Seat, (∀ s, core (f s) = core s) ∧ sm'.seats[i]? = (sm.seats[i]?).map f) :
    SamePlayers sm sm' := by
  apply List.ext_getElem?
  intro i
  obtain ⟨f, hf, he⟩ := h i
  rw [List.getElem?_map, List.getElem?_map, he]
  cases sm.seats[i]? <;> simp [hf]

theorem SamePlayers.seat {sm sm' : SM} (h : SamePlayers sm sm') (i : Nat) :
    (sm'.seats[i]?).map core = (sm.seats[i]?).map core := by
  have := congrArg (fun l => l[i]?) h
  simpa [List.getElem?_map] using this

theorem SamePlayers.trans {a b c : SM} (h1 : SamePlayers a b) (h2 : SamePlayers b c) : SamePlayers a c :=
  Eq.trans h2 h1

theorem ActUp.samePlayers {sm sm' : SM} (h : ActUp sm sm') : SamePlayers sm sm' := by
  apply SamePlayers.of_seatwise
  intro i
  rcases h.seat i with h' | h'
  · exact ⟨id, fun _ => rfl, by rw [h']; simp⟩
  · exact ⟨actv, fun _ => rfl, h'⟩

theorem core_renewF (kb j : Nat) (s : Seat) : core (renewF kb j s) = core s := by
  unfold renewF
  split
  · unfold deact core; split <;> rfl
  · split <;> rfl

theorem NextOk.samePlayers {sm sm' : SM} {d ks kb : Nat} (h : Inv sm) (hn : NextOk sm sm' d ks kb) :
    SamePlayers sm sm' := by
  have hmid := nextDealer_actUp sm
  refine hmid.samePlayers.trans (SamePlayers.of_seatwise fun i => ?_)
  by_cases hi : i < sm.max
  · obtain ⟨j, hj, rfl⟩ := exists_offset d hi
    exact ⟨renewF kb j, core_renewF kb j, hn.seats j hj⟩
  · refine ⟨id, fun _ => rfl, ?_⟩
    have h1 : sm.nextDealer.1.seats[i]? = none := by
      rw [List.getElem?_eq_none_iff, hmid.len, h.wf]
      omega
    have h2 : sm'.seats[i]? = none := by
      rw [List.getElem?_eq_none_iff, hn.len, h.wf]
      omega
    rw [h1, h2]
    rfl

theorem next_samePlayers {sm : SM} (h : Inv sm) : SamePlayers sm (sm.step .next).1 := by
  rcases step_next_cases h with ⟨he, _⟩ | ⟨_, d, ks, kb, hn⟩
  · rw [he]
    exact (nextDealer_actUp sm).samePlayers
  · exact hn.samePlayers h

theorem playerCount_eq (sm : SM) : sm.playerCount = (sm.seats.map core).countP (fun c => c.1.isSome) := by
  unfold playerCount
  rw [List.countP_map, List.countP_eq_length_filter]
  rfl

theorem SamePlayers.playerCount {sm sm' : SM} (h : SamePlayers sm sm') : sm'.playerCount = sm.playerCount := by
  rw [playerCount_eq, playerCount_eq, h]

theorem playerCount_setSeat {sm : SM} {i : Nat} {s : Seat} (s' : Seat) (h : sm.seats[i]? = some s) :
    (sm.setSeat i s').playerCount + (if s.player.isSome then 1 else 0) =
      sm.playerCount + (if s'.player.isSome then 1 else 0) := by
  obtain ⟨hl, hg⟩ := List.getElem?_eq_some_iff.mp h
  unfold playerCount setSeat
  simp only [← List.countP_eq_length_filter]
  rw [List.countP_set hl, hg]
  have := List.boole_getElem_le_countP (p := fun s : Seat => s.player.isSome) hl
  rw [hg] at this
  omega

theorem playerCount_modSeat_same (sm : SM) (i : Nat) (f : Seat → Seat) (hf : ∀ s, (f s).player = s.player) :
    (sm.modSeat i f).playerCount = sm.playerCount := by
  have e : ∀ t : SM, t.playerCount = (t.seats.map (·.player)).countP (·.isSome) := by
    intro t
    rw [List.countP_map, playerCount, List.countP_eq_length_filter]
    rfl
  rw [e, e, modSeat, map_modify_of_proj (·.player) f hf]

def Free (sm : SM) (i : Nat) : Prop :=
  ∃ s, sm.seats[i]? = some s ∧ s.player = none ∧ s.reserved = false

def FreeActive (sm : SM) (i : Nat) : Prop :=
  ∃ s, sm.seats[i]? = some s ∧ s.player = none ∧ s.reserved = false ∧ s.active = true

theorem FreeActive.free {sm : SM} {i : Nat} (h : FreeActive sm i) : Free sm i := by
  obtain ⟨s, h1, h2, h3, _⟩ := h
  exact ⟨s, h1, h2, h3⟩

theorem mem_avail1 {sm : SM} (hw : sm.WF) (c : Nat) : c ∈ sm.availableSeats.1 ↔ FreeActive sm c := by
  unfold availableSeats FreeActive
  simp only [List.mem_filter, List.mem_range]
  constructor
  · rintro ⟨⟨_, h1⟩, h2⟩
    cases hs : sm.seats[c]? with
    | none => simp [hs] at h1
    | some s =>
      simp [hs] at h1 h2
      exact ⟨s, rfl, h1.2, h1.1, h2⟩
  · rintro ⟨s, hs, h1, h2, h3⟩
    simp [hs, h1, h2, h3, hw.lt_max hs]

theorem mem_avail2 {sm : SM} (hw : sm.WF) (c : Nat) :
    c ∈ sm.availableSeats.2 ↔ Free sm c ∧ ¬ FreeActive sm c := by
  unfold availableSeats FreeActive Free
  simp only [List.mem_filter, List.mem_range]
  constructor
  · rintro ⟨⟨_, h1⟩, h2⟩
    cases hs : sm.seats[c]? with
    | none => simp [hs] at h1
    | some s =>
      simp [hs] at h1 h2
      refine ⟨⟨s, rfl, h1.2, h1.1⟩, ?_⟩
      rintro ⟨s', hs', _, _, h3⟩
      cases hs'
      simp [h2] at h3
  · rintro ⟨⟨s, hs, h1, h2⟩, h3⟩
    have := hw.lt_max hs
    have h4 : s.active = false := by
      cases ha : s.active with
      | false => rfl
      | true => exact absurd ⟨s, hs, h1, h2, ha⟩ h3
    simp [hs, h1, h2, h4, this]

theorem mem_joinPool {sm : SM} (hw : sm.WF) (c : Nat) :
    c ∈ sm.joinPool ↔ Free sm c ∧ (FreeActive sm c ∨ ∀ j, ¬ FreeActive sm j) := by
  unfold joinPool
  split
  · next h =>
    have hne : ∃ j, j ∈ sm.availableSeats.1 := by
      cases hl : sm.availableSeats.1 with
      | nil => simp [hl] at h
      | cons a l => exact ⟨a, by simp⟩
    obtain ⟨j, hj⟩ := hne
    rw [mem_avail1 hw]
    constructor
    · intro hc
      exact ⟨hc.free, Or.inl hc⟩
    · rintro ⟨_, hc | hc⟩
      · exact hc
      · exact absurd ((mem_avail1 hw j).mp hj) (hc j)
  · next h =>
    have hnil : sm.availableSeats.1 = [] := by simpa using h
    have hno : ∀ j, ¬ FreeActive sm j := by
      intro j hj
      have := (mem_avail1 hw j).mpr hj
      rw [hnil] at this
      cases this
    rw [mem_avail2 hw]
    constructor
    · rintro ⟨hf, _⟩
      exact ⟨hf, Or.inr hno⟩
    · rintro ⟨hf, _⟩
      exact ⟨hf, hno c⟩

/-- `mem_joinPool` forwards, without well-formedness: `Small.join_any_success_seat_was_free` is stated for every state. -/
theorem mem_joinPool_free {sm : SM} {c : Nat} (h : c ∈ sm.joinPool) : Free sm c := by
  unfold joinPool availableSeats at h
  unfold Free
  cases hs : sm.seats[c]? with
  | none =>
    split at h
    · simp [hs] at h
    · simp [hs] at h
  | some s =>
    refine ⟨s, rfl, ?_⟩
    split at h
    · simp [hs] at h
      exact ⟨h.2.2.2, h.2.2.1⟩
    · simp [hs] at h
      exact ⟨h.2.2.2, h.2.2.1⟩

theorem join_any_landed {T : SM} {pid : Nat} {c : Option Nat} {x : Nat}
    (herr : (T.step (.join (-1) pid c)).2.1 = none) (hland : (T.step (.join (-1) pid c)).2.2 = some x) :
    x ∈ T.joinPool := by
  rcases step_local T (op := .join (-1) pid c) nofun with ⟨e, he⟩ | ⟨i, _, hi, he, _, _⟩
  · rw [he] at herr
    cases herr
  · rw [he] at hland
    cases hland
    rcases hi with hi | ⟨_, _, hm⟩
    · have hi' : (-1 : Int) = (x : Int) := hi
      omega
    · exact hm

theorem no_pool_iff {sm : SM} (hw : sm.WF) :
    (sm.availableSeats.1.isEmpty && sm.availableSeats.2.isEmpty) = true ↔ ∀ i, ¬ Free sm i := by
  simp only [Bool.and_eq_true, List.isEmpty_iff]
  constructor
  · rintro ⟨h1, h2⟩ i hf
    by_cases ha : FreeActive sm i
    · have := (mem_avail1 hw i).mpr ha
      rw [h1] at this
      cases this
    · have := (mem_avail2 hw i).mpr ⟨hf, ha⟩
      rw [h2] at this
      cases this
  · intro h
    constructor
    · apply List.eq_nil_iff_forall_not_mem.mpr
      intro i hi
      exact h i ((mem_avail1 hw i).mp hi).free
    · apply List.eq_nil_iff_forall_not_mem.mpr
      intro i hi
      exact h i ((mem_avail2 hw i).mp hi).1

theorem step_join_any_of_free {sm : SM} (hw : sm.WF) (hfree : ∃ i, Free sm i) (pid : Nat) (c : Option Nat) :
    sm.step (.join (-1) pid c) =
      match c with
      | none => (sm, some .badChoice, none)
      | some c => if sm.joinPool.contains c then sm.joinAt pid c else (sm, some .badChoice, none) := by
  have hp : ¬ (sm.availableSeats.1.isEmpty && sm.availableSeats.2.isEmpty) = true := by
    rw [no_pool_iff hw]
    intro h'
    obtain ⟨i, hi⟩ := hfree
    exact h' i hi
  rw [step_join_eq, if_neg (by omega), if_neg (by omega), if_neg hp]
  cases c <;> rfl

end SM
end Pokerface
