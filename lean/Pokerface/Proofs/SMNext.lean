/-
  Analysis of `nextDealer` and `renewSeatStatus`.
-/
import Pokerface.Proofs.SMBasic

namespace Pokerface
namespace SM

def actv (s : Seat) : Seat := { s with active := true }
def deact (s : Seat) : Seat := if s.player.isNone then { s with active := false } else s
def actvOcc (s : Seat) : Seat := if !s.reserved && s.player.isSome then { s with active := true } else s

@[simp] theorem actv_actv (s : Seat) : actv (actv s) = actv s := rfl
@[simp] theorem deact_deact (s : Seat) : deact (deact s) = deact s := by
  unfold deact
  split
  · simp
  · simp
@[simp] theorem actvOcc_actvOcc (s : Seat) : actvOcc (actvOcc s) = actvOcc s := by
  unfold actvOcc
  split
  · simp
  · simp

theorem activate_eq (sm : SM) (ids : List Nat) : sm.activate ids = sm.modAll ids actv := rfl

def SeatUp (o o' : Option Seat) : Prop := o' = o ∨ o' = o.map actv

theorem SeatUp.refl (o : Option Seat) : SeatUp o o := Or.inl rfl

theorem SeatUp.trans {a b c : Option Seat} (h1 : SeatUp a b) (h2 : SeatUp b c) : SeatUp a c := by
  unfold SeatUp at *
  rcases h1 with rfl | rfl <;> rcases h2 with rfl | rfl
  · left
    rfl
  · right
    rfl
  · right
    rfl
  · right
    cases a <;> simp

/-- `sm'` is `sm` with some seats activated (dealer may differ). -/
structure ActUp (sm sm' : SM) : Prop where
  max : sm'.max = sm.max
  len : sm'.seats.length = sm.seats.length
  sb : sm'.sb = sm.sb
  bb : sm'.bb = sm.bb
  seat : ∀ i : Nat, SeatUp sm.seats[i]? sm'.seats[i]?

theorem ActUp.refl (sm : SM) : ActUp sm sm := ⟨rfl, rfl, rfl, rfl, fun _ => SeatUp.refl _⟩

theorem ActUp.trans {a b c : SM} (h1 : ActUp a b) (h2 : ActUp b c) : ActUp a c :=
  ⟨h2.max.trans h1.max, h2.len.trans h1.len, h2.sb.trans h1.sb, h2.bb.trans h1.bb,
   fun i => (h1.seat i).trans (h2.seat i)⟩

theorem ActUp.setDealer (sm : SM) (d : Option Nat) : ActUp sm { sm with dealer := d } :=
  ⟨rfl, rfl, rfl, rfl, fun _ => SeatUp.refl _⟩

theorem ActUp.modSeat (sm : SM) (i : Nat) (f : Seat → Seat) (hf : ∀ s, f s = s ∨ f s = actv s) :
    ActUp sm (sm.modSeat i f) := by
  refine ⟨rfl, by simp, rfl, rfl, fun j => ?_⟩
  rw [modSeat_seats]
  unfold SeatUp
  split
  · cases h : sm.seats[j]? with
    | none => simp
    | some s => rcases hf s with h' | h' <;> simp [h']
  · left
    rfl

theorem ActUp.modAll (sm : SM) (ids : List Nat) (f : Seat → Seat) (hf : ∀ s, f s = s ∨ f s = actv s) :
    ActUp sm (sm.modAll ids f) := by
  induction ids generalizing sm with
  | nil => exact ActUp.refl sm
  | cons i ids ih => exact (ActUp.modSeat sm i f hf).trans (ih _)

theorem actv_up (s : Seat) : actv s = s ∨ actv s = actv s := Or.inr rfl
theorem actvOcc_up (s : Seat) : actvOcc s = s ∨ actvOcc s = actv s := by
  unfold actvOcc
  split
  · right
    rfl
  · left
    rfl

theorem ActUp.wf {sm sm' : SM} (h : ActUp sm sm') (hw : sm.WF) : sm'.WF := by
  unfold WF at *
  rw [h.len, h.max, hw]

theorem ActUp.playable {sm sm' : SM} (h : ActUp sm sm') {i : Nat} (hp : sm.playable i = true) :
    sm'.playable i = true := by
  obtain ⟨s, hs, ha, hr, ho⟩ := playable_iff.mp hp
  rcases h.seat i with h' | h'
  · exact playable_iff.mpr ⟨s, h'.trans hs, ha, hr, ho⟩
  · exact playable_iff.mpr ⟨actv s, h'.trans (congrArg (Option.map actv) hs), rfl, hr, ho⟩


/-- The scan list of `nextDealer`'s normal path. -/
def scanIds (sm : SM) : List Nat :=
  match sm.dealer with
  | none => sm.normalize 0
  | some d => (sm.normalize d).drop 1

@[simp] theorem playable_setDealer (sm : SM) (d : Option Nat) (i : Nat) :
    ({ sm with dealer := d } : SM).playable i = sm.playable i := rfl
@[simp] theorem playable_setSb (sm : SM) (d : Option Nat) (i : Nat) :
    ({ sm with sb := d } : SM).playable i = sm.playable i := rfl
@[simp] theorem playable_setBb (sm : SM) (d : Option Nat) (i : Nat) :
    ({ sm with bb := d } : SM).playable i = sm.playable i := rfl

theorem nextDealer_eq (sm : SM) : sm.nextDealer =
    if sm.playableCount = 1 then
      if sm.nonEmptyCount ≤ 1 then (sm, false)
      else match sm.firstPlayable with
        | none => (sm, false)
        | some d => (({ sm with dealer := some d } : SM).modAll ((sm.normalize d).drop 1) actvOcc, true)
    else
      match sm.findActive sm.scanIds with
      | some (d, k) => ({ sm.modAll (sm.scanIds.take k) actv with dealer := some d }, true)
      | none =>
        match (sm.modAll sm.scanIds actv).findActive sm.scanIds with
        | some (d, _) => ({ sm.modAll sm.scanIds actv with dealer := some d }, true)
        | none => ({ sm.modAll sm.scanIds actv with dealer := none }, false) := by
  rfl

theorem modAll_setDealer (sm : SM) (D : Option Nat) (ids : List Nat) (f : Seat → Seat) :
    ({ sm with dealer := D } : SM).modAll ids f = { sm.modAll ids f with dealer := D } := by
  induction ids generalizing sm with
  | nil => rfl
  | cons i ids ih => exact ih (sm.modSeat i f)

theorem nextDealer_cases (sm : SM) :
    ∃ ids f D, (∀ s, f s = s ∨ f s = actv s) ∧ sm.nextDealer.1 = { sm.modAll ids f with dealer := D } ∧
      (sm.nextDealer.2 = true → ∃ d, D = some d ∧ sm.nextDealer.1.playable d = true) ∧
      (sm.nextDealer.2 = false → sm.nextDealer.1 = sm ∨ D = none) := by
  have stay : ∃ ids f D, (∀ s, f s = s ∨ f s = actv s) ∧ sm = { sm.modAll ids f with dealer := D } ∧
      (false = true → ∃ d, D = some d ∧ sm.playable d = true) ∧ (false = false → sm = sm ∨ D = none) :=
    ⟨[], actv, sm.dealer, actv_up, rfl, nofun, fun _ => Or.inl rfl⟩
  rw [nextDealer_eq]
  split
  · split
    · exact stay
    · split
      · exact stay
      · next d hd =>
        refine ⟨_, actvOcc, some d, actvOcc_up, modAll_setDealer .., fun _ => ⟨d, rfl, ?_⟩, nofun⟩
        have hp : sm.playable d = true := by simpa using List.find?_some hd
        exact (ActUp.modAll _ _ actvOcc actvOcc_up).playable (by simpa using hp)
  · split
    · next d k hf =>
      refine ⟨_, actv, some d, actv_up, rfl, fun _ => ⟨d, rfl, ?_⟩, nofun⟩
      exact (ActUp.modAll sm _ actv actv_up).playable ((findActive_some _ _ _ _).mp hf).2.1
    · split
      · next d k hf2 =>
        exact ⟨_, actv, some d, actv_up, rfl, fun _ => ⟨d, rfl, ((findActive_some _ _ _ _).mp hf2).2.1⟩, nofun⟩
      · exact ⟨_, actv, none, actv_up, rfl, nofun, fun _ => Or.inr rfl⟩

theorem nextDealer_actUp (sm : SM) : ActUp sm sm.nextDealer.1 := by
  obtain ⟨ids, f, D, hf, he, _⟩ := nextDealer_cases sm
  rw [he]
  exact (ActUp.modAll sm ids f hf).trans (ActUp.setDealer _ _)

theorem nextDealer_found (sm : SM) (h : sm.nextDealer.2 = true) :
    ∃ d, sm.nextDealer.1.dealer = some d ∧ sm.nextDealer.1.playable d = true := by
  obtain ⟨ids, f, D, _, he, hfound, _⟩ := nextDealer_cases sm
  obtain ⟨d, rfl, hp⟩ := hfound h
  exact ⟨d, by rw [he], hp⟩

theorem nextDealer_notfound (sm : SM) (h : sm.nextDealer.2 = false) :
    sm.nextDealer.1 = sm ∨ sm.nextDealer.1.dealer = none := by
  obtain ⟨ids, f, D, _, he, _, hno⟩ := nextDealer_cases sm
  rcases hno h with h' | rfl
  · exact Or.inl h'
  · right
    rw [he]


theorem mem_normalize_drop_take (sm : SM) (d : Nat) {j : Nat} (a n : Nat) (hj : j < sm.max) :
    (d + j) % sm.max ∈ ((sm.normalize d).drop a).take n ↔ a ≤ j ∧ j < a + n := by
  rw [List.mem_iff_getElem?]
  constructor
  · rintro ⟨i, hi⟩
    rw [List.getElem?_take] at hi
    split at hi
    · next hin =>
      rw [normalize_drop_getElem?] at hi
      split at hi
      · next him =>
        have := offset_inj him hj (by simpa using hi)
        omega
      · cases hi
    · cases hi
  · rintro ⟨h1, h2⟩
    refine ⟨j - a, ?_⟩
    rw [List.getElem?_take, if_pos (by omega), normalize_drop_getElem?, Nat.add_sub_cancel' h1, if_pos hj]

theorem mem_normalize_take (sm : SM) (d : Nat) {j : Nat} (n : Nat) (hj : j < sm.max) :
    (d + j) % sm.max ∈ (sm.normalize d).take n ↔ j < n := by
  have := mem_normalize_drop_take sm d 0 n hj
  simpa using this

theorem mem_normalize_drop (sm : SM) (d : Nat) {j : Nat} (n : Nat) (hj : j < sm.max) :
    (d + j) % sm.max ∈ (sm.normalize d).drop n ↔ n ≤ j := by
  have := mem_normalize_drop_take sm d n sm.max hj
  rw [List.take_of_length_le (by simp)] at this
  rw [this]
  exact ⟨fun h => h.1, fun h => ⟨h, by omega⟩⟩

/-- Second half of `renewSeatStatus`: big blind, deactivation, activation. -/
def renewTail (sm : SM) (orig seats : List Nat) : Option SM :=
  if seats.isEmpty then none
  else
    match sm.findActive (seats.drop 1) with
    | none => none
    | some (b, k) =>
      some ((({ sm with bb := some b } : SM).modAll (orig.takeWhile (· != b)) deact).modAll
        (((seats.drop 1).drop k).drop 1) actv)

theorem renewSeatStatus_eq (sm : SM) : sm.renewSeatStatus =
    match sm.dealer with
    | none => none
    | some d =>
      if sm.playableCount = 2 then
        renewTail { sm with sb := some d } (sm.normalize d) (sm.normalize d)
      else
        match sm.findActive ((sm.normalize d).drop 1) with
        | none => none
        | some (s, k) =>
          renewTail { sm with sb := some s } (sm.normalize d) (((sm.normalize d).drop 1).drop k) := by
  unfold renewSeatStatus
  cases sm.dealer with
  | none => rfl
  | some d =>
    by_cases h : sm.playableCount = 2
    · simp only [h, if_true]
      rfl
    · simp only [h, if_false]
      cases sm.findActive ((sm.normalize d).drop 1) with
      | none => rfl
      | some p => rfl

/-- Seat update applied by `renewSeatStatus` at offset `j` from the dealer when the big blind is at offset `kb`. -/
def renewF (kb j : Nat) : Seat → Seat := if j < kb then deact else if j = kb then id else actv

theorem renewTail_spec (sm : SM) (d ks : Nat) (hks : ks < sm.max)
    (hcnt : 1 ≤ ((sm.normalize d).drop (ks + 1)).countP sm.playable) :
    ∃ kb sm', ks < kb ∧ kb < sm.max ∧ sm.playable ((d + kb) % sm.max) = true ∧
      (∀ j, ks < j → j < kb → sm.playable ((d + j) % sm.max) = false) ∧
      renewTail sm (sm.normalize d) ((sm.normalize d).drop ks) = some sm' ∧
      sm'.max = sm.max ∧ sm'.dealer = sm.dealer ∧ sm'.sb = sm.sb ∧ sm'.bb = some ((d + kb) % sm.max) ∧
      sm'.seats.length = sm.seats.length ∧
      ∀ j, j < sm.max → sm'.seats[(d + j) % sm.max]? = (sm.seats[(d + j) % sm.max]?).map (renewF kb j) := by
  obtain ⟨k, hlt, hpb, hall, hf⟩ := findActive_normalize_drop sm d (ks + 1) hcnt
  generalize hb : (d + (ks + 1 + k)) % sm.max = b at hpb hf
  have hget := hb
  have hne : ((sm.normalize d).drop ks).isEmpty = false := by
    rw [List.isEmpty_eq_false_iff]
    intro h
    have := congrArg List.length h
    simp at this
    omega
  have hbget : (sm.normalize d)[ks + 1 + k]? = some b := by
    rw [normalize_getElem?, if_pos hlt, hget]
  have hrt : renewTail sm (sm.normalize d) ((sm.normalize d).drop ks) =
      some ((({ sm with bb := some b } : SM).modAll ((sm.normalize d).takeWhile (· != b)) deact).modAll
        ((sm.normalize d).drop (ks + 1 + k + 1)) actv) := by
    unfold renewTail
    rw [hne]
    simp only [Bool.false_eq_true, if_false, List.drop_drop]
    rw [hf]
  refine ⟨ks + 1 + k, _, by omega, hlt, by rw [hget]; exact hpb, fun j hj1 hj2 => hall j (by omega) hj2, hrt, ?_⟩
  · refine ⟨by simp, by simp, by simp, by simp [hget], by simp, ?_⟩
    intro j hj
    rw [modAll_seats _ _ _ actv_actv, modAll_seats _ _ _ deact_deact,
      takeWhile_ne_of_nodup (normalize_nodup sm d) hbget]
    simp only [mem_normalize_take sm d _ hj, mem_normalize_drop sm d _ hj]
    unfold renewF
    by_cases h1 : j < ks + 1 + k
    · have : ¬ (ks + 1 + k + 1 ≤ j) := by omega
      simp [h1, this]
    · by_cases h2 : j = ks + 1 + k
      · subst h2
        simp
        intro h
        omega
      · have : ks + 1 + k + 1 ≤ j := by omega
        simp [h1, h2, this]


/-- What `renewSeatStatus` has made of `sm` (dealer `d`) when it returns `sm'`: small blind at offset `ks`, big blind
at offset `kb` from the dealer; seats before the big blind are deactivated when empty, seats after it are activated. -/
structure RenewOk (sm sm' : SM) (d ks kb : Nat) : Prop where
  ks_lt : ks < kb
  kb_lt : kb < sm.max
  branch : sm.playableCount = 2 ∧ ks = 0 ∨
    sm.playableCount ≠ 2 ∧ 0 < ks ∧ sm.playable ((d + ks) % sm.max) = true ∧
      ∀ j, 0 < j → j < ks → sm.playable ((d + j) % sm.max) = false
  bb_playable : sm.playable ((d + kb) % sm.max) = true
  between : ∀ j, ks < j → j < kb → sm.playable ((d + j) % sm.max) = false
  max_eq : sm'.max = sm.max
  dealer : sm'.dealer = some d
  sb : sm'.sb = some ((d + ks) % sm.max)
  bb : sm'.bb = some ((d + kb) % sm.max)
  len : sm'.seats.length = sm.seats.length
  seats : ∀ j, j < sm.max → sm'.seats[(d + j) % sm.max]? = (sm.seats[(d + j) % sm.max]?).map (renewF kb j)

theorem renew_spec (sm : SM) (d : Nat) (hd : sm.dealer = some d) (hdlt : d < sm.max)
    (hc : 2 ≤ sm.playableCount) :
    ∃ ks kb sm', sm.renewSeatStatus = some sm' ∧ RenewOk sm sm' d ks kb := by
  have hmax : 2 ≤ sm.max := Nat.le_trans hc (playableCount_le_max sm)
  have hcn := playableCount_eq_normalize sm d
  have h1 := countP_drop_one_ge sm.playable (sm.normalize d)
  -- the small blind, at offset `ks`; what is left is the second half of `renewSeatStatus`
  obtain ⟨ks, hbranch, hks, hcnt, hrs⟩ : ∃ ks,
      (sm.playableCount = 2 ∧ ks = 0 ∨
        sm.playableCount ≠ 2 ∧ 0 < ks ∧ sm.playable ((d + ks) % sm.max) = true ∧
          ∀ j, 0 < j → j < ks → sm.playable ((d + j) % sm.max) = false) ∧
      ks < sm.max ∧ 1 ≤ ((sm.normalize d).drop (ks + 1)).countP sm.playable ∧
      sm.renewSeatStatus =
        renewTail { sm with sb := some ((d + ks) % sm.max) } (sm.normalize d) ((sm.normalize d).drop ks) := by
    rw [renewSeatStatus_eq, hd]
    simp only
    by_cases h2 : sm.playableCount = 2
    · refine ⟨0, Or.inl ⟨h2, rfl⟩, by omega, by rw [Nat.zero_add]; omega, ?_⟩
      rw [if_pos h2, Nat.add_zero, Nat.mod_eq_of_lt hdlt]
      rfl
    · obtain ⟨k, hlt, hps, halls, hf⟩ := findActive_normalize_drop sm d 1 (by omega)
      have hcd := countP_drop_of_findActive hf
      have h3 := countP_drop_one_ge sm.playable (((sm.normalize d).drop 1).drop k)
      simp only [List.drop_drop] at h3 hcd
      refine ⟨1 + k, Or.inr ⟨h2, by omega, hps, halls⟩, hlt, by omega, ?_⟩
      rw [if_neg h2, hf]
      simp only [List.drop_drop]
  obtain ⟨kb, sm', hk1, hk2, hp, hall, hrt, e1, e2, e3, e4, e5, e6⟩ :=
    renewTail_spec ({ sm with sb := some ((d + ks) % sm.max) } : SM) d ks hks hcnt
  exact ⟨ks, kb, sm', hrs.trans hrt, hk1, hk2, hbranch, hp, hall, e1, e2.trans hd, e3, e4, e5, e6⟩

end SM
end Pokerface
