/-
  The hand-off of the table composed with the engine (for Properties/LinksTable.lean): its hypotheses (`HandOff`), the
  step from the engine's game indices to the seats of the table (`HandOff.seatwise`) and its layout in game indices;
  solvency of a table; the chips moved by every operation but a played hand.  First three facts
  about the engine's `start` that the composition needs: the dealer of a configuration whose first seat is the dealer
  has game index 0 (`dealerIdx_run_zero`), the players and seats of the started game (`start_players`, `start_seat`).
-/
import Pokerface.Proofs.TableGlueLayout
import Pokerface.Proofs.EngineFirst

namespace Pokerface
namespace Table
open SM

theorem dealerIdx_run_zero (m : Meta) (cfg : List SeatCfg) (hs : (start ⟨m, cfg⟩).2 = none)
    (hne : cfg ≠ []) (h : ∀ (k : Nat) c, cfg[k]? = some c → (c.dealer = true ↔ k = 0)) (ops : List Op) :
    ((start ⟨m, cfg⟩).1.run ops).dealerIdx = 0 := by
  rw [dealerIdx_of_config ⟨m, cfg⟩ hs ops, lastDealer_zero cfg hne h]
  rfl

theorem start_players (c : Config) (hs : (start c).2 = none) :
    (start c).1.players = c.players.map fun p => { p with acted := false, allowed := [] } := by
  rw [(start_ok c hs).2.2]
  rfl

theorem start_seat (c : Config) (hs : (start c).2 = none) {j : Nat} {q : Player} (hq : (start c).1.players[j]? = some q) :
    ∃ s, c.seats[j]? = some s ∧ q.idx = j ∧ q.posDealer = s.dealer ∧ q.posSB = s.sb ∧ q.posBB = s.bb ∧
      q.bankroll = s.bankroll ∧ q.stack = s.bankroll ∧ q.wager = 0 ∧ q.pot = 0 := by
  rw [start_players c hs, List.getElem?_map, Option.map_eq_some_iff] at hq
  obtain ⟨p0, hp0, rfl⟩ := hq
  obtain ⟨s, hs0, c1, c2, c3, c4, c5⟩ := config_seat c j p0 hp0
  obtain ⟨_, d2, _, d4, d5, _⟩ := config_players_getElem c j p0 hp0
  exact ⟨s, hs0, c1, c2, c3, c4, c5, d2.trans c5, d4, d5⟩

/-- The hypotheses of the theorems of Properties/LinksTable.lean about one hand-off: a table satisfying the invariant whose positions are not set up; `setupPosition`
runs `Next()` and succeeds, giving `t'`; `seats` is `GetPlayableSeats()`; every player on a playable seat has chips; the
options `m` the table hands to the engine have non-negative forced bets and a deck. -/
structure HandOff (t t' : Table) (seats : List Nat) (m : Meta) : Prop where
  inv : TInv t
  fresh : t.inPosition = false
  setup : t.setupPosition = (t', none)
  seats : playableSeats t'.sm = some seats
  bank : ∀ i p, t'.players[i]? = some (some p) → t'.sm.playable i = true → 0 < p.bankroll
  opts : OptsOK m
  deck : m.deck ≠ []

theorem HandOff.inv' {t t' : Table} {seats : List Nat} {m : Meta} (h : HandOff t t' seats m) : TInv t' :=
  h.inv.of_setup h.setup

theorem HandOff.entry {t t' : Table} {seats : List Nat} {m : Meta} (h : HandOff t t' seats m) {k s : Nat}
    (hk : seats[k]? = some s) :
    t'.sm.playable s = true ∧ ∃ p, t'.players[s]? = some (some p) ∧ 0 < p.bankroll ∧
      (t'.gameSeats seats)[k]? = some ⟨p.bankroll, (posOf t'.sm s).1, (posOf t'.sm s).2.1, (posOf t'.sm s).2.2⟩ := by
  obtain ⟨_, _, _, _, _, hmem⟩ := playableSeats_spec h.seats
  have hp := ((hmem s).mp (List.mem_of_getElem? hk)).2
  obtain ⟨p, hp1, hp2⟩ := cfg_of_playable h.inv h.fresh h.setup hp
  refine ⟨hp, p, hp1, h.bank s p hp1 hp, ?_⟩
  rw [gameSeats_getElem?, hk, Option.map_some, hp2]

/-- **From game index to seat.**  The engine states what it knows of game player `j` against the configured seat `j`, in
the shape `hR` (`start_seat`, `forced_seat`, `C05.seat_can_move_iff`).  At a hand-off the same fact `R` holds of the player
on the playable seat `seats[k]`, against the entry the table made for him. -/
theorem HandOff.seatwise {t t' : Table} {seats : List Nat} {m : Meta} (h : HandOff t t' seats m) {G : Game}
    (hn : G.n = (t'.gameSeats seats).length) {R : Nat → SeatCfg → Player → Prop}
    (hR : ∀ {j : Nat} {q : Player}, G.players[j]? = some q → ∃ s0, (t'.gameSeats seats)[j]? = some s0 ∧ R j s0 q)
    {k s : Nat} (hk : seats[k]? = some s) :
    ∃ p q, t'.players[s]? = some (some p) ∧ G.players[k]? = some q ∧
      R k ⟨p.bankroll, (posOf t'.sm s).1, (posOf t'.sm s).2.1, (posOf t'.sm s).2.2⟩ q := by
  obtain ⟨_, p, hp, _, hcfg⟩ := h.entry hk
  have hkl : k < G.players.length := by
    rw [show G.players.length = _ from hn]
    exact (gameSeats_length t' seats).symm ▸ (List.getElem?_eq_some_iff.mp hk).1
  obtain ⟨s0, hs0, hr⟩ := hR (List.getElem?_eq_getElem hkl)
  cases hs0.symm.trans hcfg
  exact ⟨p, _, hp, List.getElem?_eq_getElem hkl, hr⟩

/-- **The layout in game indices**: `HandoffLayout` read for the seat list `l` handed to the engine.  Game index 0 is
the dealer's seat; the big-blind seat has game index `kb`: 1 when the small blind is the dealer (heads-up layout), 2
otherwise, with the small-blind seat at index 1. -/
structure IndexLayout (t t' : Table) (l : List Nat) (d s b kb : Nat) (rest : List Nat) (ring : Bool) : Prop
    extends HandoffLayout t t' d s b rest ring where
  at_zero : l[0]? = some d
  at_kb : l[kb]? = some b
  branch : (kb = 1 ∧ s = d ∧ t.sm.nextDealer.1.playableCount = 2) ∨
    (kb = 2 ∧ l[1]? = some s ∧ s ≠ d ∧ IsNextAfter t'.sm d s)
  nodup : l.Nodup
  dealer_playable : t'.sm.playable d = true
  seats_eq : l = (t'.sm.normalize d).filter t'.sm.playable
  length : l.length = t'.sm.playableCount

theorem HandOff.indexLayout {t t' : Table} {seats : List Nat} {m : Meta} (h : HandOff t t' seats m) :
    ∃ d s b kb rest ring, IndexLayout t t' seats d s b kb rest ring := by
  obtain ⟨d, s, b, rest, ring, L⟩ := handoff_layout h.inv h.fresh h.setup
  have hse := Option.some.inj (h.seats.symm.trans L.seats)
  obtain ⟨d', hd', hfil, hnd, hlen, hmem⟩ := playableSeats_spec h.seats
  obtain rfl : d' = d := Option.some.inj (hd'.symm.trans L.dealer)
  have hpd : t'.sm.playable d' = true := by
    apply ((hmem d').mp _).2
    rw [hse]
    cases ring <;> simp
  cases ring with
  | false =>
    simp only [Bool.false_eq_true, if_false] at hse
    refine ⟨d', s, b, 1, _, _, L, hse ▸ rfl, hse ▸ rfl, Or.inl ⟨rfl, L.sb_dealer rfl, ?_⟩, hnd, hpd, hfil, hlen⟩
    apply Decidable.byContradiction
    intro hne
    exact absurd (L.ring_iff.mpr hne) (by simp)
  | true =>
    simp only [if_true] at hse
    exact ⟨d', s, b, 2, _, _, L, hse ▸ rfl, hse ▸ rfl,
      Or.inr ⟨rfl, hse ▸ rfl, fun e => L.dealer_ne_sb rfl e.symm, L.sb_next rfl⟩, hnd, hpd, hfil, hlen⟩

theorem HandOff.has_blind_seats {t t' : Table} {seats : List Nat} {m : Meta} (h : HandOff t t' seats m) :
    (∃ s ∈ t'.gameSeats seats, s.sb = true) ∧ (∃ s ∈ t'.gameSeats seats, s.bb = true) := by
  obtain ⟨d, s, b, kb, _, _, L⟩ := h.indexLayout
  constructor
  · have key : ∀ k : Nat, seats[k]? = some s → ∃ x ∈ t'.gameSeats seats, x.sb = true := by
      intro k hk
      obtain ⟨_, p, _, _, hcfg⟩ := h.entry hk
      refine ⟨_, List.mem_of_getElem? hcfg, ?_⟩
      exact decide_eq_true L.sb
    rcases L.branch with ⟨_, e, _⟩ | ⟨_, h1, _⟩
    · exact key 0 (by rw [L.at_zero, e])
    · exact key 1 h1
  · obtain ⟨_, p, _, _, hcfg⟩ := h.entry L.at_kb
    refine ⟨_, List.mem_of_getElem? hcfg, ?_⟩
    show (posOf t'.sm b).2.2 = true
    rw [posOf_bb L.dealer L.sb L.bb L.dealer_ne_bb L.sb_ne_bb]

section
variable {t t' : Table} {l : List Nat} {d s b kb : Nat} {rest : List Nat} {ring : Bool}
  (L : IndexLayout t t' l d s b kb rest ring)
include L

theorem IndexLayout.kb_pos : 0 < kb := by
  rcases L.branch with ⟨e, _⟩ | ⟨e, _⟩ <;> omega

theorem IndexLayout.kb_eq : kb = if t'.sm.sb = t'.sm.dealer then 1 else 2 := by
  rw [L.sb, L.dealer]
  rcases L.branch with ⟨e, e2, _⟩ | ⟨e, _, e2, _⟩
  · rw [e2, if_pos rfl, e]
  · rw [if_neg (fun e' => e2 (Option.some.inj e')), e]

end

theorem HandOff.layout {t t' : Table} {seats : List Nat} {m : Meta} (h : HandOff t t' seats m) :
    ∃ d s b kb, t'.sm.dealer = some d ∧ t'.sm.sb = some s ∧ t'.sm.bb = some b ∧
      seats[0]? = some d ∧ seats[kb]? = some b ∧
      ((kb = 1 ∧ s = d ∧ t.sm.nextDealer.1.playableCount = 2) ∨
        (kb = 2 ∧ seats[1]? = some s ∧ s ≠ d ∧ IsNextAfter t'.sm d s)) ∧
      d ≠ b ∧ s ≠ b ∧ seats.Nodup ∧ d < t'.sm.max ∧ t'.sm.playable d = true ∧ IsNextAfter t'.sm s b ∧
      seats = (t'.sm.normalize d).filter t'.sm.playable ∧ seats.length = t'.sm.playableCount := by
  obtain ⟨d, s, b, kb, _, _, L⟩ := h.indexLayout
  exact ⟨d, s, b, kb, L.dealer, L.sb, L.bb, L.at_zero, L.at_kb, L.branch, L.dealer_ne_bb, L.sb_ne_bb, L.nodup,
    L.dealer_lt, L.dealer_playable, L.bb_next, L.seats_eq, L.length⟩

theorem next_after_index {sm : SM} {d : Nat} {seats : List Nat} (hd : d < sm.max) (hpd : sm.playable d = true)
    (hs : seats = (sm.normalize d).filter sm.playable) (h0 : seats[0]? = some d) {kb b : Nat} (hkb : 0 < kb)
    (hb : seats[kb]? = some b) :
    ∃ x, seats[cwNext seats.length kb]? = some x ∧ IsNextAfter sm b x := by
  have hlt := (List.getElem?_eq_some_iff.mp hb).1
  unfold cwNext
  by_cases hl : kb + 1 = seats.length
  · rw [if_pos hl]
    exact ⟨d, h0, playableSeats_wrap hd hpd hs hb (List.getElem?_eq_none_iff.mpr (by omega)) hkb⟩
  · rw [if_neg hl]
    have hlt' : kb + 1 < seats.length := by omega
    exact ⟨seats[kb + 1], List.getElem?_eq_getElem hlt',
      playableSeats_consecutive hs hb (List.getElem?_eq_getElem hlt')⟩


/-- every player on the sheet has chips, or is held out of play (reserved: e.g. busted, or joined and not yet seated) -/
def Solvent (t : Table) : Prop := ∀ i p, t.playerAt i = some p → 0 < p.bankroll ∨ SM.Held t.sm i

theorem Solvent.bank {t : Table} (h : Solvent t) {i : Nat} {p : TPlayer} (hp : t.players[i]? = some (some p))
    (hpl : t.sm.playable i = true) : 0 < p.bankroll := by
  rcases h i p (playerAt_eq_some.mpr hp) with h1 | h1
  · exact h1
  · rw [h1.not_playable] at hpl
    cases hpl

theorem Solvent.setupPosition {t : Table} (hi : TInv t) (h : Solvent t) : Solvent t.setupPosition.1 := by
  intro i p hp
  have hm := setupPosition_money t i
  rw [hp] at hm
  cases hq : t.playerAt i with
  | none =>
    rw [hq] at hm
    cases hm
  | some q =>
    rw [hq] at hm
    simp only [Option.map_some, Option.some.injEq, money, Prod.mk.injEq] at hm
    rcases h i q hq with h1 | h1
    · left
      rw [hm.2]
      exact h1
    · right
      exact setupPosition_held hi h1

theorem solvent_new (max : Nat) (o : TOpts) : Solvent (Table.new max o) := by
  intro i p hp
  unfold playerAt Table.new at hp
  simp only [List.getElem?_replicate] at hp
  split at hp <;> cases hp

theorem closed_inPosition (t2 : Table) (finals : List Int) : (t2.closed finals).inPosition = false := rfl

theorem playHand_err_inPosition {t2 : Table} {cfg : List SeatCfg} {finals : List Int} (hok : startRefusal cfg = none)
    (hl : finals.length = cfg.length) (he : (playHand t2 cfg finals).2.err ≠ none) :
    (playHand t2 cfg finals).1.inPosition = false := by
  rw [playHand_played hok hl] at he ⊢
  split
  · rfl
  · rw [if_neg (by assumption)] at he
    exact setupPosition_failed_inPosition rfl he

theorem prepareNextGame_unplayed (t : Table) (finals : List Int) :
    (∃ cfg, (t.step (.hand finals)).2.cfg = some cfg ∧ startRefusal cfg = none ∧ finals.length = cfg.length) ∨
    (t.step (.hand finals)).1.sheetTotal = t.sheetTotal := by
  show _ ∨ (t.prepareNextGame finals).1.sheetTotal = t.sheetTotal
  rcases prepareNextGame_cases t finals with ⟨t1, seats, hcr, he⟩ | ⟨he | he, _⟩
  · have ht2 : (t1.assignGameIdx seats).sheetTotal = t.sheetTotal := by
      rw [assignGameIdx_sheetTotal, hcr.t1_eq, setupPosition_sheetTotal]
    cases hr : startRefusal ((t1.assignGameIdx seats).gameSeats seats) with
    | some e =>
      right
      rw [he, playHand_refused hr]
      exact ht2
    | none =>
      by_cases hl : finals.length = ((t1.assignGameIdx seats).gameSeats seats).length
      · left
        refine ⟨_, ?_, hr, hl⟩
        show (t.prepareNextGame finals).2.cfg = _
        rw [he, playHand_cfg]
      · right
        rw [he, playHand_badInput_or_refused (Or.inr ⟨hr, hl⟩)]
        exact ht2
  · right
    rw [he]
  · right
    rw [he, setupPosition_sheetTotal]

/-- the chips an operation other than a hand brings to the table: an accepted `Join` its bankroll, an accepted `Leave`
minus the bankroll of the player who leaves, everything else nothing -/
def chipsIn (t : Table) : TOp → Int
  | .join seat pid b chose => if (t.step (.join seat pid b chose)).2.err = none then b else 0
  | .leave seat => if (t.step (.leave seat)).2.err = none then - bank (t.playerAt seat.toNat) else 0
  | _ => 0

theorem sheetTotal_sm (t : Table) (sm' : SM) : ({ t with sm := sm' } : Table).sheetTotal = t.sheetTotal := rfl

theorem step_sheetTotal {t : Table} (hi : TInv t) (op : TOp) (hop : ∀ f, op ≠ .hand f) :
    (t.step op).1.sheetTotal = t.sheetTotal + chipsIn t op := by
  cases op with
  | join seat pid b chose =>
    rcases join_cases t seat pid b chose with ⟨e, he⟩ | ⟨i, s, hs, hp, _, he⟩
    · simp only [chipsIn, he]
      simp
    · simp only [chipsIn, he]
      have hil := hi.lt_len hs
      -- the seat manager has nobody on the seat, so the sheet has nobody either
      have hnone : t.playerAt i = none := by
        cases hq : t.playerAt i with
        | none => rfl
        | some q =>
          obtain ⟨s', hs', hq'⟩ := hi.sm_of_player (playerAt_eq_some.mp hq)
          rw [hs] at hs'
          cases hs'
          rw [hp] at hq'
          cases hq'
      refine (sheetTotal_setPl _ i (by exact hil) _).trans ?_
      show t.sheetTotal - bank (t.playerAt i) + bank (some { pid := pid, bankroll := b }) = _
      rw [hnone]
      simp [bank]
  | leave seat =>
    rcases leave_cases t seat with ⟨e, he⟩ | ⟨i, s, hseat, _, _, hl⟩
    · simp only [chipsIn, Table.step, he]
      simp
    · simp only [chipsIn, Table.step, hl]
      rw [sheetTotal_setPl_none]
      subst hseat
      show t.sheetTotal - bank (t.playerAt i) = _
      simp only [Int.toNat_natCast, if_true]
      omega
  | activate seat =>
    simp only [chipsIn, Table.step]
    rw [sheetTotal_sm]
    omega
  | reserve seat =>
    rw [step_reserve, sheetTotal_sm]
    simp only [chipsIn]
    omega
  | setup =>
    simp only [chipsIn, Table.step]
    rw [setupPosition_sheetTotal]
    omega
  | hand f => exact absurd rfl (hop f)

end Table
end Pokerface
