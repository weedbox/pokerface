import Pokerface.Proofs.View
import Pokerface.Proofs.CardsOps
import Pokerface.Proofs.CombosOwn
/-
  C15: a hidden card occurs in NO card field of a view.  Three ingredients:
   * the cards invariant `CCore` (C14): hole cards, board, burned cards and the undealt rest of
     the deck are pairwise disjoint — so a hidden card is on no public place;
   * the reported combination of a player consists of that player's own hole cards and board
     cards only (`CombOwn`, Proofs/CombosOwn.lean: on all histories, for every rule);
   * the redaction functions are `Game.blank (Hidden g v)` (Proofs/View.lean).
-/
namespace Pokerface
open Game

theorem hidden_not_public {g : Game} (hc : CCore g) (v : Viewer) (c : Card)
    (h : c ∈ g.opts.deck.drop g.deckPos ∨ c ∈ g.burned ∨ ∃ p ∈ g.players, Hidden g v p ∧ c ∈ p.hole) :
    c ∉ g.board ∧ ∀ q ∈ g.players, ¬ Hidden g v q → c ∉ q.hole := by
  obtain ⟨_, hpl, _, _, hbb⟩ := hc.places
  rcases h with h | h | ⟨p, hp, hh, hcp⟩
  · refine ⟨fun hb => ?_, fun q hq _ hcq => ?_⟩
    · exact hc.dealt_not_undealt c ((hc.toL.mem_dealt c).mpr (Or.inr (Or.inl hb))) h
    · exact hc.dealt_not_undealt c ((hc.toL.mem_dealt c).mpr (Or.inl (mem_holeCards hq hcq))) h
  · exact ⟨fun hb => hbb c hb h, fun q hq _ hcq => ((hpl q hq).2 c hcq).2 h⟩
  · refine ⟨((hpl p hp).2 c hcp).1, fun q hq hnq hcq => ?_⟩
    have hne : p ≠ q := fun e => hnq (e ▸ hh)
    exact hc.holes_disjoint hp hq hne hcp hcq

theorem hidden_nowhere_in_blank {g : Game} (hc : CCore g)
    (hown : CombOwn g)
    (v : Viewer) (c : Card)
    (h : c ∈ g.opts.deck.drop g.deckPos ∨ c ∈ g.burned ∨ ∃ p ∈ g.players, Hidden g v p ∧ c ∈ p.hole) :
    c ∉ (g.blank (Hidden g v)).opts.deck ∧ c ∉ (g.blank (Hidden g v)).burned ∧
    c ∉ (g.blank (Hidden g v)).board ∧
    ∀ q ∈ (g.blank (Hidden g v)).players, c ∉ q.hole ∧ ∀ cb, q.comb = some cb → c ∉ cb.cards := by
  obtain ⟨hboard, hholes⟩ := hidden_not_public hc v c h
  refine ⟨List.not_mem_nil, List.not_mem_nil, hboard, ?_⟩
  intro q hq
  simp only [Game.blank, List.mem_map] at hq
  obtain ⟨p, hp, rfl⟩ := hq
  by_cases hh : Hidden g v p
  · simp only [hh, if_true]
    exact ⟨List.not_mem_nil, fun cb hcb => by cases hcb⟩
  · simp only [hh, if_false]
    refine ⟨hholes p hp hh, fun cb hcb hx => ?_⟩
    rcases hown p hp cb hcb c hx with h1 | h1
    · exact hholes p hp hh h1
    · exact hboard h1

end Pokerface
