import Pokerface.Proofs.FlowDecr
import Pokerface.Proofs.BetsActs
/-
  Helper lemmas for the statements of C06: the guard of `start`, the round field through
  every operation, refusals in a closed hand, the value of the measure at the start.
-/
namespace Pokerface
open Game

theorem players_map_posDealer (c : Config) : c.players.map (·.posDealer) = c.seats.map (·.dealer) := by
  simp only [Config.players, List.map_map, Function.comp_def]
  exact map_zipIdx_fst (·.dealer) c.seats 0

theorem players_map_bankroll (c : Config) : c.players.map (·.bankroll) = c.seats.map (·.bankroll) := by
  simp only [Config.players, List.map_map, Function.comp_def]
  exact map_zipIdx_fst (·.bankroll) c.seats 0

theorem players_map_stack (c : Config) : c.players.map (·.stack) = c.seats.map (·.bankroll) := by
  simp only [Config.players, List.map_map, Function.comp_def]
  exact map_zipIdx_fst (·.bankroll) c.seats 0

theorem dealerIdx?_isNone (c : Config) :
    (({ opts := c.opts, players := c.players } : Game).dealerIdx?.isNone = true) ↔ ¬ ∃ s ∈ c.seats, s.dealer = true := by
  have h1 : (∃ s ∈ c.seats, s.dealer = true) ↔ true ∈ c.seats.map (·.dealer) := by simp
  have h2 : (∃ p ∈ c.players, p.posDealer = true) ↔ true ∈ c.players.map (·.posDealer) := by simp
  rw [h1, ← players_map_posDealer, ← h2]
  unfold Game.dealerIdx?
  simp

theorem any_bankroll (c : Config) :
    (c.players.any (fun p => decide (p.bankroll ≤ 0)) = true) ↔ ∃ s ∈ c.seats, s.bankroll ≤ 0 := by
  rw [← exists_map (·.bankroll) (· ≤ 0) c.seats, ← players_map_bankroll, exists_map (·.bankroll) (· ≤ 0) c.players]
  simp

/-- the result of `start`, guard by guard (game.go `Start`) -/
theorem start_err (c : Config) : (start c).2 =
    if c.seats.length < 2 then some .insufficientPlayers
    else if ¬ ∃ s ∈ c.seats, s.dealer = true then some .noDealer
    else if ∃ s ∈ c.seats, s.bankroll ≤ 0 then some .notEnoughBankroll
    else if c.opts.deck = [] then some .noDeck
    else none := by
  have hd := dealerIdx?_isNone c
  have hb := any_bankroll c
  have hn : ({ opts := c.opts, players := c.players } : Game).n = c.seats.length := config_players_length c
  unfold start
  -- the error component of the chain of guards, each guard restated on the configured seats
  simp only [apply_ite Prod.snd, hn, hd, hb, List.isEmpty_iff]

/-- which operations move the street, and where to: the second components of the phase table -/
theorem round_step (g : Game) (hi : Inv g) (hf : Flow g) (op : Op) :
    (g.step op).1.round = g.round ∨
    (op = .ready ∧ g.opts.ante = 0 ∧ g.round = .none ∧ (g.step op).1.round = .preflop) ∨
    (op = .payAnte ∧ g.round = .none ∧ (g.step op).1.round = .preflop) ∨
    (op = .next ∧ g.event = .roundClosed ∧ (g.step op).1.round.idx = g.round.idx + 1) := by
  induction op using step_split hi hf with
  | refused op _ e => exact .inl (by rw [e])
  | act s a x => exact .inl (wr_step g _).round
  | table op hop _ hacc =>
    obtain ⟨haw, row, _⟩ := step_phase hi.struct hf op hop hacc
    generalize (g.step op).1.event = e, (g.step op).1.round = r at row
    cases row with
    | ante hrn => exact .inl hrn.symm
    | blinds hop' | noBlinds hop' =>
      rcases hop' with rfl | ⟨rfl, hrn, ha⟩
      · exact .inr (.inr (.inl ⟨rfl, (hf.ante haw).2, rfl⟩))
      · have := hi.opts.ante0
        exact .inr (.inl ⟨rfl, by omega, hrn, rfl⟩)
    | payBlinds => exact .inl (hf.blinds haw).symm
    | skip | opens | close => exact .inl rfl
    | street _ hc | allin _ hc => exact .inr (.inr (.inr ⟨rfl, haw, Round.succ_idx fun h => hc (.inr h)⟩))

theorem closed_refuses (g : Game) (hi : Inv g) (he : g.event = .gameClosed) (op : Op) :
    (g.step op).2 ≠ none ∧ (g.step op).1 = g := by
  -- no operation is awaited at `GameClosed`
  have hr : (g.step op).2 ≠ none := fun hacc => by
    have haw := (accepted_awaited hi op hacc).symm.trans he
    cases op <;> cases haw
  exact ⟨hr, step_refused hr fun _ h => nomatch he.symm.trans h⟩

theorem start_mu (c : Config) (h : (start c).2 = none) :
    (start c).1.mu = (c.seats.length : Int) * (c.seats.map (·.bankroll)).sum + 4 * ((c.seats.length : Int) + 2) + 4 := by
  have m := (wr_start c h).mov
  have hn : c.game0.n = c.seats.length := config_players_length c
  have hs : c.game0.stackSum = (c.seats.map (·.bankroll)).sum := by
    show (c.players.map (·.stack)).sum = _
    rw [players_map_stack]
  have he' : (start c).1.event = .readyRequested := by rw [(start_ok c h).2.2]; rfl
  have hr : (start c).1.round = .none := (wr_start c h).round
  unfold Game.mu
  rw [m.n, m.stackSum, hn, hs, phase_eq, he', hr, m.n, hn]
  simp only [phaseOf, if_true]
  omega

end Pokerface
