import Pokerface.Proofs.CardsOps
import Pokerface.Proofs.CombosReport
import Pokerface.Proofs.CombosEngine
/-
  In every state of every hand with a long enough deck, the reported
  combination of a seat consists of that seat's OWN hole cards and of BOARD cards — for every
  rule (`RequiredHoleCardsCount`), every hole-card count and every ranking table, i.e. without
  the domain restriction of C10 (the enumeration `GetAllPossibleCombinations` only ever picks
  among the cards it is given; that it picks the BEST ones is C10 and needs the domain, that it
  picks no foreign card does not).
-/
namespace Pokerface
open Game

theorem playerPower_cards_own {lvl : Cat → Nat} {pr : List Cat} {board hole : List Card} {req : Nat} {pw : Power}
    (hpw : playerPower lvl pr board hole req = some pw) : ∀ x ∈ pw.cards, x ∈ hole ∨ x ∈ board := by
  obtain ⟨⟨sel, hsel, rfl⟩, _⟩ := playerPower_spec hpw
  intro x hx
  rw [calculatePower_cards_eq] at hx
  exact List.mem_append.mp
    ((allPossibleCombinations_sublist board hole req sel hsel).subset ((sortCards_perm sel).mem_iff.mp hx))

/-- every reported combination consists of its owner's hole cards and of board cards -/
def CombOwn (g : Game) : Prop :=
  ∀ p ∈ g.players, ∀ cb, p.comb = some cb → ∀ x ∈ cb.cards, x ∈ p.hole ∨ x ∈ g.board

theorem combOwn_of_key {g g' : Game} (hk : g'.key = g.key) (h : CombOwn g) : CombOwn g' := by
  intro p hp cb hcb x hx
  obtain ⟨q, hq, hh, hc⟩ := key_mem hk hp
  rw [key_board hk, ← hh]
  exact h q hq cb (hc.trans hcb) x hx

theorem combOwn_updateCombinations (g : Game) (h : CombOwn g) : CombOwn g.updateCombinations := by
  intro p' hp' cb hcb x hx
  obtain ⟨p, hp, rfl⟩ := mem_updateCombinations hp'
  show x ∈ (newComb p _).hole ∨ x ∈ g.board
  rw [Game.hole_newComb]
  cases hpw : playerPower g.opts.lvl g.opts.table g.board p.hole g.opts.required with
  | none =>
    rw [hpw, newComb_none] at hcb
    exact h p hp cb hcb x hx
  | some pw =>
    rw [hpw] at hcb
    cases hc : p.comb with
    | none =>
      rw [newComb_of_comb_none hc, hc] at hcb
      cases hcb
    | some c0 =>
      rw [comb_newComb hc] at hcb
      cases hcb
      exact playerPower_cards_own hpw x hx

/-- entering the next street keeps `CombOwn`: the hole cards are dealt before anything has been evaluated, the later
    streets only append to the board, and the recomputation picks among the owner's cards and the board. -/
theorem combOwn_enterRound {g : Game} {r : Round} (hc : CCoreL g) (h : CombOwn g) (hn : Nxt g.round r) :
    CombOwn (g.enterRound r) := by
  refine combOwn_of_key (keeps_enterRound g r).key (combOwn_updateCombinations _ ?_)
  refine dealStreet_nxt hn (fun h0 _ => ?_) fun k _ _ => ?_
  · -- before the deal there are no hole cards and no board, so `CombOwn g` leaves no card to any combination, and the
    -- dealing of the hole cards writes no combination (`wr_dealHoles`)
    obtain ⟨_, hb, _, hh⟩ := hc.of_none h0
    intro p' hp' cb hcb x hx
    have hm : p'.comb ∈ g.players.map (·.comb) :=
      (wr_dealHoles _ _ (g.setRound r)).map (·.comb) (fun _ => rfl) ▸ List.mem_map_of_mem hp'
    obtain ⟨q, hq, hqc⟩ := List.mem_map.mp hm
    rcases h q hq cb (hqc.trans hcb) x hx with h1 | h1
    · exact absurd (hh q hq ▸ h1) List.not_mem_nil
    · exact absurd (hb ▸ h1) List.not_mem_nil
  · obtain ⟨_, _, hp, hb, _, _⟩ := burn_dealBoard (g.setRound r) k
    refine combOwn_of_key (wr_askDealer_dealt _ k).keeps.key fun p hp' cb hcb x hx => ?_
    rw [hb]
    rw [hp] at hp'
    exact (h p hp' cb hcb x hx).imp_right (List.mem_append_left _)

theorem combOwn_step (g : Game) (hi : CInvL g) (h : CombOwn g) (op : Op) : CombOwn (g.step op).1 := by
  have hs := handStep_step g op
  generalize (g.step op).1 = g' at hs ⊢
  cases hs with
  | keep w => exact combOwn_of_key w.keeps.key h
  | askAnte w _ => exact combOwn_of_key w.keeps.key h
  | enter w hn => exact combOwn_enterRound (w.cf.coreL hi.core) (combOwn_of_key w.keeps.key h) hn
  | antePaid w he =>
    -- the ante is requested before the first street only
    exact combOwn_enterRound (w.cf.coreL hi.core) (combOwn_of_key w.keeps.key h) (.inl ⟨w.round.trans (hi.ante he), rfl⟩)
  | complete w _ => exact combOwn_of_key (w.trans (wr_gameCompleted _)).keeps.key h

theorem combOwn_start (c : Config) : CombOwn (start c).1 := by
  obtain ⟨g1, _, hp, _, _, hk⟩ := start_keeps c
  refine combOwn_of_key hk.key fun p hp' cb hcb x hx => ?_
  rw [hp] at hp'
  rw [(config_players_mem c hp').2.2.2.2.2.2] at hcb
  cases hcb
  exact absurd hx List.not_mem_nil

theorem combOwn_reachableL {g : Game} (h : ReachableL g) : CombOwn g := by
  obtain ⟨c, ops, hl, hs, rfl⟩ := h
  exact (Game.run_induction (P := fun g => CInvL g ∧ CombOwn g)
    (fun g op h => ⟨cinvL_step g h.1 op, combOwn_step g h.1 h.2 op⟩) ⟨cinvL_start c hl hs, combOwn_start c⟩ ops).2

theorem combOwn_reachable {g : Game} (h : ReachableC g) : CombOwn g := combOwn_reachableL h.toL

end Pokerface
