import Pokerface.Model.TableDriver
import Pokerface.Generated.LogicDrv
import Pokerface.Proofs.GeneratedLogicBase
/-
  K1, translated logic (the table's driver of a hand): table/game.go (`handleState` with its three loops over the
  players and the callbacks of the ready group, `updateState`, `Close`, `Start`, the shortcuts `ReadyForAll`, `PayAnte`,
  `PayBlinds` and the nine wrappers `Ready, Pass, Pay, Fold, Check, Call, Allin, Bet, Raise`) (Generated/LogicDrv.lean).

  Two kinds of theorems:
  * `…_prog`: the translated function is a REFERENCE PROGRAM (`DrvRef.*`) for ALL types and ALL primitives (`isNilS`,
    `getPlayer`, `hasAction`, `backendCall`, `updateState`, `rgReady`, …): by parametricity this pins the term — which
    state the backend is called on, the name of the method, the name of the action tested, the order of the tests;
  * `…_eq`: with the primitives read on the model (`DrvM.*`) the translated function IS the corresponding part of
    `Model/TableDriver.lean`: `Drv.call d (.act i a x)` / `Drv.call d (.ready i)` for the wrappers, `Drv.callBackend d
    (Drv.fireOp f)` for the shortcuts, `Drv.startD` for `Start`, and `Drv.update` for `updateState` followed by
    `handleState` — the model composes the two, so `drvUpdateState_eq` states `Drv.update (n+1)` as the translated
    `updateState` followed, for the state it queued, by the reading `handleInterp` of the step list of the translated
    `handleState` (`drvHandleState_eq`: that reading is the branch of `Drv.update`); a step list the model never
    produces reads as `none`, so a reordered, dropped or added step breaks the equality.
  Conventions: header of Proofs/GeneratedLogicBase.lean.
-/
namespace Pokerface.GeneratedLogic
open Pokerface Drv
open Pokerface.Generated.Logic

namespace DrvRef
variable {S P G E : Type}

/-- `gs, err := g.backend.<op>(held, args…)`, the error returned, else `g.updateState(gs)` -/
def callThenUpdate (backendCall : String → S → List Int → S × Option E) (updateState : S → G → G)
    (op : String) (args : List Int) (held : S) (g : G) : G × Option E :=
  let r := backendCall op held args
  if r.2.isSome then (g, r.2) else (updateState r.1 g, none)

/-- what a method of the driver that answers `R` takes besides its own arguments, in the order of the translated
    definitions: the three errors, the nil test of the held state, the player lookup with its nil and nil test,
    `HasAction`, the event, the ready group (nil test, `Ready`), `backend.<op>`, `updateState`, the held state, the driver -/
abbrev Method (S P G E R : Type) :=
  E → E → E → (S → Bool) → (S → Int → P) → P → (P → Bool) → (S → Int → String → Bool) → (S → String) → (G → Bool) →
    (Int → G → G) → (String → S → List Int → S × Option E) → (S → G → G) → S → G → R

/-- `Pass, Fold, Check, Call, Allin`: the action tested, the backend method called, its arguments -/
def wrapper (action op : String) (args : List Int) : Method S P G E (Int → G × Option E) :=
  fun e1 e2 e3 isNilS getPlayer _ isNilP hasAction _ _ _ backendCall updateState held g0 i =>
    if isNilS held then (g0, some e1)
    else if isNilP (getPlayer held i) then (g0, some e2)
    else if !hasAction held i action then (g0, some e3)
    else callThenUpdate backendCall updateState op args held g0

/-- `Bet, Raise`: the amount is the argument of the backend method -/
def wrapper1 (action op : String) : Method S P G E (Int → Int → G × Option E) :=
  fun e1 e2 e3 isNilS getPlayer nilP isNilP hasAction eventOf rgIsNil rgReady backendCall updateState held g0 i x =>
    wrapper action op [x] e1 e2 e3 isNilS getPlayer nilP isNilP hasAction eventOf rgIsNil rgReady backendCall updateState held g0 i

/-- `Pay`: at `AnteRequested` / `BlindsRequested` the payment is a `Ready` of the ready group -/
def pay : Method S P G E (Int → Int → G × Option E) :=
  fun e1 e2 e3 isNilS getPlayer _ isNilP hasAction eventOf _ rgReady backendCall updateState held g0 i chips =>
    if isNilS held then (g0, some e1)
    else if isNilP (getPlayer held i) then (g0, some e2)
    else if !hasAction held i "pay" then (g0, some e3)
    else if eventOf held == "AnteRequested" then (rgReady i g0, none)
    else if eventOf held == "BlindsRequested" then (rgReady i g0, none)
    else callThenUpdate backendCall updateState "Pay" [chips] held g0

/-- `Ready` -/
def ready : Method S P G E (Int → G × Option E) :=
  fun e1 e2 e3 isNilS getPlayer _ isNilP hasAction _ rgIsNil rgReady _ _ held g0 i =>
    if isNilS held then (g0, some e1)
    else if isNilP (getPlayer held i) then (g0, some e2)
    else if !hasAction held i "ready" || rgIsNil g0 then (g0, some e3)
    else (rgReady i g0, none)

/-- `ReadyForAll`, `PayAnte` (with the nil test), `PayBlinds` (without) -/
def shortcut (nilTest : Bool) (op : String) : Method S P G E (G × Option E) :=
  fun e1 _ _ isNilS _ _ _ _ _ _ _ backendCall updateState held g0 =>
    if nilTest && isNilS held then (g0, some e1)
    else callThenUpdate backendCall updateState op [] held g0

end DrvRef

/-! Each translated method IS its reference program, as a function of all types and all primitives: the member of the
family is the name of the action it tests and of the backend method it calls. -/

section prog
variable {S P G E : Type}

theorem drvWrapperPass_prog : @drvWrapperPass S P G E = DrvRef.wrapper "pass" "Pass" [] := rfl
theorem drvWrapperFold_prog : @drvWrapperFold S P G E = DrvRef.wrapper "fold" "Fold" [] := rfl
theorem drvWrapperCheck_prog : @drvWrapperCheck S P G E = DrvRef.wrapper "check" "Check" [] := rfl
theorem drvWrapperCall_prog : @drvWrapperCall S P G E = DrvRef.wrapper "call" "Call" [] := rfl
theorem drvWrapperAllin_prog : @drvWrapperAllin S P G E = DrvRef.wrapper "allin" "Allin" [] := rfl
theorem drvWrapperBet_prog : @drvWrapperBet S P G E = DrvRef.wrapper1 "bet" "Bet" := rfl
theorem drvWrapperRaise_prog : @drvWrapperRaise S P G E = DrvRef.wrapper1 "raise" "Raise" := rfl
theorem drvWrapperPay_prog : @drvWrapperPay S P G E = DrvRef.pay := rfl
theorem drvWrapperReady_prog : @drvWrapperReady S P G E = DrvRef.ready := rfl
theorem drvReadyForAll_prog : @drvReadyForAll S P G E = DrvRef.shortcut true "ReadyForAll" := rfl
theorem drvPayAnte_prog : @drvPayAnte S P G E = DrvRef.shortcut true "PayAnte" := rfl
theorem drvPayBlinds_prog : @drvPayBlinds S P G E = DrvRef.shortcut false "PayBlinds" := rfl

end prog

/-- `Start`: the updater is started FIRST (`createGame` sees the driver it is called on), the game is created from the driver's options, an error is returned, else `updateState` -/
theorem drvStart_prog {S O G E : Type} (runStateUpdater : G → G) (createGame : O → G → S × Option E) (updateState : S → G → G) (opts : O) (g0 : G) :
    drvStart runStateUpdater createGame updateState opts g0 =
      match createGame opts (runStateUpdater g0) with
      | (_, some e) => (runStateUpdater g0, some e)
      | (s, none) => (updateState s (runStateUpdater g0), none) := by
  unfold drvStart
  dsimp only
  rcases createGame opts (runStateUpdater g0) with ⟨s, _ | e⟩ <;> rfl

/-- `updateState`: the CLONE becomes the held state, and is queued unless the driver is closed -/
theorem drvUpdateState_prog {S : Type} (cloneState : S → S) (closed : Bool) (gs0 : S) (queue0 : List S) (gs : S) :
    drvUpdateState cloneState closed gs0 queue0 gs = (cloneState gs, if closed then queue0 else queue0 ++ [cloneState gs]) := by
  unfold drvUpdateState
  cases closed <;> rfl

/-- `Close`: closed afterwards; the channel is closed once -/
theorem drvClose_eq (closed : Bool) : drvClose closed = (true, if closed then [] else ["close(incomingStates)"]) := by
  cases closed <;> rfl

namespace DrvM

/-- what a wrapper tests: the held engine state with the driver's "ready" marks (in Go both live in `AllowedActions`) -/
abbrev St := Game × List Nat

def held (d : D) : St := (d.gs, d.readyMarks)

def actOfName : String → Option Act
  | "pass" => some .pass | "pay" => some .pay | "fold" => some .fold | "check" => some .check
  | "call" => some .call | "allin" => some .allin | "bet" => some .bet | "raise" => some .raise
  | _ => none

/-- `gs.HasAction(idx, name)` -/
def hasAction (s : St) (i : Int) (name : String) : Bool :=
  if name = "ready" then s.2.contains i.toNat
  else match actOfName name with
    | some a => s.1.allows i.toNat a
    | none => false

/-- a method of the backend, by its name -/
def opOf : String → List Int → Option Op
  | "Next", [] => some .next
  | "ReadyForAll", [] => some .ready
  | "PayAnte", [] => some .payAnte
  | "PayBlinds", [] => some .payBlinds
  | "Pass", [] => some (.act none .pass 0)
  | "Fold", [] => some (.act none .fold 0)
  | "Check", [] => some (.act none .check 0)
  | "Call", [] => some (.act none .call 0)
  | "Allin", [] => some (.act none .allin 0)
  | "Pay", [x] => some (.act none .pay x)
  | "Bet", [x] => some (.act none .bet x)
  | "Raise", [x] => some (.act none .raise x)
  | _, _ => none

/-- `g.backend.<name>(state, args…)` -/
def backendCall (name : String) (s : St) (args : List Int) : St × Option DErr :=
  match opOf name args with
  | none => (s, some .invalidAction)          -- not a method of the backend
  | some op =>
    match backend s.1 op with
    | .ok s' => ((s', []), none)
    | .error e => (s, some (.engine e))

/-- `g.updateState(gs)` (and the `handleState` of the clone it queued) -/
def updateState (s : St) (d : D) : D := update fuel d s.1

/-- `gs.GetPlayer(idx) == nil` -/
def noPlayer (s : St) (i : Int) : Bool := decide (s.1.players.length ≤ i.toNat)

def eventOf (s : St) : String := evString s.1.event

/-- `g.rg.Ready(id)` -/
def rgReady (i : Int) (d : D) : D := groupReady d i.toNat

end DrvM

theorem DrvM.callThenUpdate_model (d : D) (opn : String) (args : List Int) (op : Op) (h : DrvM.opOf opn args = some op) :
    DrvRef.callThenUpdate DrvM.backendCall DrvM.updateState opn args (DrvM.held d) d = callBackend d op := by
  unfold DrvRef.callThenUpdate DrvM.backendCall callBackend DrvM.updateState DrvM.held
  simp only [h]
  cases backend d.gs op <;> rfl

theorem DrvM.callBackend_noAmount (d : D) (a : Act) (x : Int) (h : a = .pass ∨ a = .fold ∨ a = .check ∨ a = .call ∨ a = .allin) :
    callBackend d (.act none a x) = callBackend d (.act none a 0) := by
  rcases h with rfl | rfl | rfl | rfl | rfl <;> rfl

/-- a wrapper on the model; `x` is the amount the backend method is called with, `y` the one of the model's call
    (for the operations without amount `hy` is `callBackend_noAmount`) -/
theorem DrvM.wrapper_model (d : D) (i : Nat) (a : Act) (x y : Int) (name opn : String) (args : List Int)
    (hname : DrvM.actOfName name = some a) (hop : DrvM.opOf opn args = some (.act none a x)) (hpay : a ≠ .pay)
    (hy : callBackend d (.act none a x) = callBackend d (.act none a y)) :
    DrvRef.wrapper name opn args DErr.noRunningGame DErr.playerNotInGame DErr.invalidAction (fun _ => false) DrvM.noPlayer false id
      DrvM.hasAction DrvM.eventOf (fun _ => false) DrvM.rgReady DrvM.backendCall DrvM.updateState (DrvM.held d) d (i : Int)
      = call d (.act i a y) := by
  unfold DrvRef.wrapper call
  -- "ready" is the mark of the ready group, not the name of an action
  have hne : name ≠ "ready" := fun e => by simp [e, DrvM.actOfName] at hname
  rw [DrvM.callThenUpdate_model d opn args _ hop, hy]
  by_cases hl : d.gs.players.length ≤ i <;> simp [DrvM.noPlayer, DrvM.hasAction, DrvM.held, hname, hne, hpay, Drv.hasAction, hl]

section model
variable (d : D) (i : Nat) (x : Int)

local notation "RUN" f => f DErr.noRunningGame DErr.playerNotInGame DErr.invalidAction (fun _ => false) DrvM.noPlayer false id DrvM.hasAction
  DrvM.eventOf (fun _ => false) DrvM.rgReady DrvM.backendCall DrvM.updateState (DrvM.held d) d

/-- `Pass`: tests "pass" on the held state, calls `backend.Pass` on the held state, error passed through, else `updateState` -/
theorem drvWrapperPass_eq : (RUN drvWrapperPass) (i : Int) = call d (.act i .pass x) := by
  rw [drvWrapperPass_prog, DrvM.wrapper_model d i .pass 0 x "pass" "Pass" [] rfl rfl (by decide)
    (DrvM.callBackend_noAmount d .pass x (by simp)).symm]

theorem drvWrapperFold_eq : (RUN drvWrapperFold) (i : Int) = call d (.act i .fold x) := by
  rw [drvWrapperFold_prog, DrvM.wrapper_model d i .fold 0 x "fold" "Fold" [] rfl rfl (by decide)
    (DrvM.callBackend_noAmount d .fold x (by simp)).symm]

theorem drvWrapperCheck_eq : (RUN drvWrapperCheck) (i : Int) = call d (.act i .check x) := by
  rw [drvWrapperCheck_prog, DrvM.wrapper_model d i .check 0 x "check" "Check" [] rfl rfl (by decide)
    (DrvM.callBackend_noAmount d .check x (by simp)).symm]

theorem drvWrapperCall_eq : (RUN drvWrapperCall) (i : Int) = call d (.act i .call x) := by
  rw [drvWrapperCall_prog, DrvM.wrapper_model d i .call 0 x "call" "Call" [] rfl rfl (by decide)
    (DrvM.callBackend_noAmount d .call x (by simp)).symm]

theorem drvWrapperAllin_eq : (RUN drvWrapperAllin) (i : Int) = call d (.act i .allin x) := by
  rw [drvWrapperAllin_prog, DrvM.wrapper_model d i .allin 0 x "allin" "Allin" [] rfl rfl (by decide)
    (DrvM.callBackend_noAmount d .allin x (by simp)).symm]

theorem drvWrapperBet_eq : (RUN drvWrapperBet) (i : Int) x = call d (.act i .bet x) := by
  rw [drvWrapperBet_prog]
  exact DrvM.wrapper_model d i .bet x x "bet" "Bet" [x] rfl rfl (by decide) rfl

theorem drvWrapperRaise_eq : (RUN drvWrapperRaise) (i : Int) x = call d (.act i .raise x) := by
  rw [drvWrapperRaise_prog]
  exact DrvM.wrapper_model d i .raise x x "raise" "Raise" [x] rfl rfl (by decide) rfl

/-- `Pay`: at `AnteRequested` / `BlindsRequested` (the `fallthrough`) a `Ready` of the ready group, else `backend.Pay` -/
theorem drvPay_eq : (RUN drvWrapperPay) (i : Int) x = call d (.act i .pay x) := by
  rw [drvWrapperPay_prog]
  unfold DrvRef.pay call
  rw [DrvM.callThenUpdate_model d "Pay" [x] (.act none .pay x) rfl]
  simp only [DrvM.eventOf, DrvM.held, beq_iff_eq, evString_anteRequested, evString_blindsRequested]
  by_cases hl : d.gs.players.length ≤ i <;> by_cases he : d.gs.event = .anteRequested <;>
    simp [DrvM.noPlayer, DrvM.hasAction, DrvM.actOfName, Drv.hasAction, DrvM.rgReady, hl, he]

theorem drvWrapperPay_eq : (RUN drvWrapperPay) (i : Int) x = call d (.act i .pay x) := drvPay_eq d i x

/-- `Ready`: tests the mark "ready" (and the group), then `rg.Ready` -/
theorem drvWrapperReady_eq : (RUN drvWrapperReady) (i : Int) = call d (.ready i) := by
  rw [drvWrapperReady_prog]
  unfold DrvRef.ready call
  by_cases hl : d.gs.players.length ≤ i <;> simp [DrvM.noPlayer, DrvM.hasAction, DrvM.held, DrvM.rgReady, hl]

/-- a shortcut on the model (the held state of the model is never nil, so the nil test of `ReadyForAll` and `PayAnte`
    decides nothing): the backend call the method name stands for -/
theorem DrvM.shortcut_model (nilTest : Bool) (opn : String) (op : Op) (h : DrvM.opOf opn [] = some op) :
    (RUN DrvRef.shortcut nilTest opn) = callBackend d op := by
  unfold DrvRef.shortcut
  rw [DrvM.callThenUpdate_model d opn [] op h, Bool.and_false]
  rfl

/-- the shortcuts: the backend operation of the same name on the held state -/
theorem drvReadyForAll_eq : (RUN drvReadyForAll) = callBackend d (fireOp .readyForAll) := by
  rw [drvReadyForAll_prog]
  exact DrvM.shortcut_model d true "ReadyForAll" .ready rfl

theorem drvPayAnte_eq : (RUN drvPayAnte) = callBackend d (fireOp .payAnte) := by
  rw [drvPayAnte_prog]
  exact DrvM.shortcut_model d true "PayAnte" .payAnte rfl

theorem drvPayBlinds_eq : (RUN drvPayBlinds) = callBackend d (fireOp .payBlinds) := by
  rw [drvPayBlinds_prog]
  exact DrvM.shortcut_model d false "PayBlinds" .payBlinds rfl

end model

/-- `Start` once the backend created the game `g0`: the model's `startD` -/
theorem drvStart_eq (g0 : Game) :
    drvStart (E := DErr) (fun d : D => d) (fun (_ : Unit) _ => (DrvM.held { gs := g0 }, none)) DrvM.updateState () { gs := g0 } = (startD g0, none) := by
  rw [drvStart_prog]
  rfl

/-! ### `handleState`: the callbacks, the loops over the players -/

/-- the shortcut a callback names -/
def DrvM.fireName : Fire → String
  | .readyForAll => "ReadyForAll" | .payAnte => "PayAnte" | .payBlinds => "PayBlinds"

/-- the translated shortcut of that name on the model -/
def DrvM.shortcutNamed (name : String) (d : D) : Option (D × Option DErr) :=
  let run := fun (f : DErr → DErr → DErr → (DrvM.St → Bool) → (DrvM.St → Int → Bool) → Bool → (Bool → Bool) → (DrvM.St → Int → String → Bool) →
      (DrvM.St → String) → (D → Bool) → (Int → D → D) → (String → DrvM.St → List Int → DrvM.St × Option DErr) → (DrvM.St → D → D) → DrvM.St → D → D × Option DErr) =>
    f DErr.noRunningGame DErr.playerNotInGame DErr.invalidAction (fun _ => false) DrvM.noPlayer false id DrvM.hasAction
      DrvM.eventOf (fun _ => false) DrvM.rgReady DrvM.backendCall DrvM.updateState (DrvM.held d) d
  if name = "ReadyForAll" then some (run drvReadyForAll)
  else if name = "PayAnte" then some (run drvPayAnte)
  else if name = "PayBlinds" then some (run drvPayBlinds)
  else none

/-- **which shortcut each event's ready group calls**: the callback `handleState` installs is the one of the group `Drv.arm`
    starts (none where nothing is armed), and the translated shortcut of that name is the backend call `Drv.fireOp` -/
theorem drvFire_eq (g : Game) :
    drvFire (evString g.event) g.opts.ante = (arm g).map (fun r => DrvM.fireName r.2.2.fire) ∧
    ∀ (f : Fire) (d : D), DrvM.shortcutNamed (DrvM.fireName f) d = some (callBackend d (fireOp f)) := by
  constructor
  · simp only [drvFire, arm]
    cases hev : g.event <;> simp [DrvM.fireName]
    by_cases ha : g.opts.ante = 0 <;> simp [ha]
  · intro f d
    cases f
    · exact congrArg some (drvReadyForAll_eq d)
    · exact congrArg some (drvPayAnte_eq d)
    · exact congrArg some (drvPayBlinds_eq d)

/-- **the blinds group**: a player is added (not ready) and marked "pay" exactly when `Drv.owesBlind` -/
theorem drvBlindsParticipant_eq (m : Meta) (p : Player) (idx : Int) :
    drvBlindsStep idx m.blindBB m.blindSB m.blindDealer p.posBB p.posSB p.posDealer =
      if owesBlind m p then (some (idx, false), some "pay") else (none, none) := by
  simp only [drvBlindsStep, owesBlind, Bool.or_eq_true]
  split
  · simp [*]
  · split
    · simp [*]
    · split <;> simp [*]

/-- the ready and the ante group: every player is added, not ready; marked "ready" / "pay" -/
theorem drvReadyStep_eq (idx bb sb dl : Int) (a b c : Bool) : drvReadyStep idx bb sb dl a b c = (some (idx, false), some "ready") := rfl
theorem drvAnteStep_eq (idx bb sb dl : Int) (a b c : Bool) : drvAnteStep idx bb sb dl a b c = (some (idx, false), some "pay") := rfl

abbrev DrvM.StepFn := Int → Int → Int → Int → Bool → Bool → Bool → Option (Int × Bool) × Option String

def DrvM.stepAt (st : DrvM.StepFn) (g : Game) (p : Player) : Option (Int × Bool) × Option String :=
  st p.idx g.opts.blindBB g.opts.blindSB g.opts.blindDealer p.posBB p.posSB p.posDealer

def DrvM.loopParts (st : DrvM.StepFn) (g : Game) : List (Nat × Bool) :=
  g.players.filterMap fun p => (DrvM.stepAt st g p).1.map fun a => (a.1.toNat, a.2)

/-- the players after a loop: the mark "pay" is an engine action -/
def DrvM.loopPlayers (st : DrvM.StepFn) (g : Game) : List Player :=
  g.players.map fun p => if (DrvM.stepAt st g p).2 = some "pay" then allowAction .pay p else p

def DrvM.loopReady (st : DrvM.StepFn) (g : Game) : List Nat :=
  g.players.filterMap fun p => if (DrvM.stepAt st g p).2 = some "ready" then some p.idx else none

def DrvM.stepOfEvent : Ev → Option DrvM.StepFn
  | .readyRequested => some drvReadyStep | .anteRequested => some drvAnteStep | .blindsRequested => some drvBlindsStep
  | _ => none

def DrvM.armSteps (oc : String) : List String :=
  ["rg.Stop", oc, "rg.ResetParticipants", "playersLoop", "rg.Start", "onStateUpdated(gs)"]

/-- a ready group armed with callback `f` by the loop of the event of `q` -/
def DrvM.armed (d1 : D) (q : Game) (f : Fire) : Option D :=
  match DrvM.stepOfEvent q.event with
  | some st => some { d1 with gs := { q with players := DrvM.loopPlayers st q }, readyMarks := DrvM.loopReady st q,
                              group := some { parts := DrvM.loopParts st q, fire := f }, updates := d1.updates + 1 }
  | none => none

/-- the reading of the step list of `handleState(q)` on the model (driver `d1` holding `q`; `n` bounds the chain of streets) -/
def DrvM.handleInterp (n : Nat) (d1 : D) (q : Game) (steps : List String) : Option D :=
  if steps = ["Close", "onStateUpdated(gs)"] then some { d1 with closed := (drvClose d1.closed).1, updates := d1.updates + 1 }
  else if steps = ["backend.Next(gs)", "return"] then
    (match backend q .next with | .error _ => some d1 | .ok _ => none)
  else if steps = ["backend.Next(gs)", "updateState(gs)", "onStateUpdated(gs)"] then
    (match backend q .next with
     | .ok s' => let d2 := update n d1 s'; some { d2 with updates := d2.updates + 1 }
     | .error _ => none)
  else if steps = DrvM.armSteps "rg.OnCompleted(ReadyForAll)" then DrvM.armed d1 q .readyForAll
  else if steps = DrvM.armSteps "rg.OnCompleted(PayAnte)" then DrvM.armed d1 q .payAnte
  else if steps = DrvM.armSteps "rg.OnCompleted(PayBlinds)" then DrvM.armed d1 q .payBlinds
  else if steps = ["onStateUpdated(gs)"] then some { d1 with updates := d1.updates + 1 }
  else none

def DrvM.nextFails (q : Game) : Bool := match backend q .next with | .ok _ => false | .error _ => true

/-- the ready and the ante loop take the same step for every player, so their `filterMap`s are `map`s -/
theorem DrvM.loop_ready (q : Game) :
    DrvM.loopParts drvReadyStep q = allParts q ∧ DrvM.loopPlayers drvReadyStep q = q.players ∧ DrvM.loopReady drvReadyStep q = q.players.map (·.idx) := by
  simp [DrvM.loopParts, DrvM.loopPlayers, DrvM.loopReady, allParts, DrvM.stepAt, drvReadyStep_eq]

theorem DrvM.loop_ante (q : Game) :
    DrvM.loopParts drvAnteStep q = allParts q ∧ DrvM.loopPlayers drvAnteStep q = q.players.map (allowAction .pay) ∧ DrvM.loopReady drvAnteStep q = [] := by
  simp [DrvM.loopParts, DrvM.loopPlayers, DrvM.loopReady, allParts, DrvM.stepAt, drvAnteStep_eq]

theorem DrvM.loop_blinds (q : Game) :
    DrvM.loopParts drvBlindsStep q = blindParts q ∧
    DrvM.loopPlayers drvBlindsStep q = q.players.map (fun p => if owesBlind q.opts p then allowAction .pay p else p) ∧
    DrvM.loopReady drvBlindsStep q = [] := by
  have hstep : ∀ p, DrvM.stepAt drvBlindsStep q p = if owesBlind q.opts p then (some ((p.idx : Int), false), some "pay") else (none, none) :=
    fun p => drvBlindsParticipant_eq q.opts p p.idx
  simp only [DrvM.loopParts, DrvM.loopPlayers, DrvM.loopReady, blindParts, hstep]
  refine ⟨?_, ?_, ?_⟩
  · induction q.players with
    | nil => rfl
    | cons p l ih =>
      by_cases h : owesBlind q.opts p = true <;> simp [h, ih]
  · apply List.map_congr_left
    intro p _
    by_cases h : owesBlind q.opts p = true <;> simp [h]
  · rw [List.filterMap_eq_nil_iff]
    intro p _
    by_cases h : owesBlind q.opts p = true <;> simp [h]

/-- **`handleState`** of the state `updateState` queued (`s.hop`, the driver not closed): the reading of the translated step
    list — `Close` at GameClosed; at RoundClosed `backend.Next` of THAT state, on error `return` without the callback, else
    `updateState` of the answer; at the three request events (with `Ante == 0`: nothing) stop, callback, reset, the loop
    over the players, start; then the callback `onStateUpdated` — is the branch of `Drv.update`. -/
theorem drvHandleState_eq (n : Nat) (d : D) (s : Game) (hc : d.closed = false) :
    DrvM.handleInterp n { d with gs := s.hop, readyMarks := [] } s.hop
      (drvHandleState (evString s.hop.event) s.hop.opts.ante (DrvM.nextFails s.hop)) = some (update (n + 1) d s) := by
  unfold update
  simp only [hc, Bool.false_eq_true, if_false, drvHandleState]
  cases hev : s.hop.event
  case gameClosed =>
    simp [DrvM.handleInterp, drvClose_eq]
  case roundClosed =>
    unfold DrvM.nextFails
    cases hb : backend s.hop .next <;> simp [DrvM.handleInterp, hb]
  case readyRequested =>
    simp [DrvM.handleInterp, DrvM.armSteps, hev, arm, DrvM.armed, DrvM.stepOfEvent, DrvM.loop_ready]
    rw [← hev]
  case anteRequested =>
    by_cases ha : s.hop.opts.ante = 0 <;>
      simp [DrvM.handleInterp, DrvM.armSteps, hev, arm, DrvM.armed, DrvM.stepOfEvent, DrvM.loop_ante, Game.mapP, ha]
  case blindsRequested =>
    simp [DrvM.handleInterp, DrvM.armSteps, hev, arm, DrvM.armed, DrvM.stepOfEvent, DrvM.loop_blinds]
  all_goals simp [DrvM.handleInterp, DrvM.armSteps, hev, arm]

/-- **`updateState`** (then the updater's `handleState` of what it queued) is `Drv.update`: the clone (`Game.hop`) becomes the
    held state and the marks of the old one are gone; a closed driver queues nothing; otherwise the queued clone is handled. -/
theorem drvUpdateState_eq (n : Nat) (d : D) (s : Game) :
    update (n + 1) d s =
      (match drvUpdateState Game.hop d.closed d.gs [] s with
       | (gs', []) => some { d with gs := gs', readyMarks := [] }
       | (gs', q :: _) => DrvM.handleInterp n { d with gs := gs', readyMarks := [] } q
                            (drvHandleState (evString q.event) q.opts.ante (DrvM.nextFails q))).getD d ∧
    update 0 d s = { d with gs := (drvUpdateState Game.hop true d.gs [] s).1, readyMarks := [] } := by
  constructor
  · rw [drvUpdateState_prog]
    cases hc : d.closed
    · simp only [Bool.false_eq_true, if_false, List.nil_append]
      have h := drvHandleState_eq n d s hc
      simp only [hc] at h
      rw [h]
      rfl
    · simp [update, hc]
  · rw [drvUpdateState_prog]
    rfl

end Pokerface.GeneratedLogic
