/-
  Structural lemmas for the regulator model: the (id, count) views of the regulator's and of
  the environment's sheet, the effect of callbacks on them, sheets with distinct keys, and the
  bookkeeping of where the players are.
-/
import Pokerface.Model.RegulatorEnv
import Pokerface.Proofs.RegArith
import Pokerface.Proofs.ListLemmas

namespace Pokerface
namespace Reg

/-- the regulator's (id, PlayerCount) sheet, in creation order -/
def tview (ts : List RTable) : List (Nat × Int) := ts.map fun t => (t.id, t.count)

def sumTV (tv : List (Nat × Int)) : Int := (tv.map (·.2)).sum

def sumCount (ts : List RTable) : Int := (ts.map (·.count)).sum

theorem sumCount_eq (ts : List RTable) : sumCount ts = sumTV (tview ts) := by
  simp [sumCount, sumTV, tview, List.map_map, Function.comp_def]

theorem tview_fst (ts : List RTable) : (tview ts).map (·.1) = ts.map (·.id) := by
  simp [tview, List.map_map, Function.comp_def]

/-- looking a table up by id and reading its count can be done on the sheet -/
theorem find_tview (ts : List RTable) (t : Nat) :
    (ts.find? (fun x => x.id == t)).map (fun x => x.count) =
    ((tview ts).find? (fun e => e.1 == t)).map (fun e => e.2) := by
  rw [tview, List.find?_map, Option.map_map]
  rfl

/-- effect of one callback on the sheet -/
def applyTV (tv : List (Nat × Int)) : RCall → List (Nat × Int)
  | .requestTable id ps => tv ++ [(id, (ps.length : Int))]
  | .assign t ps => tv.map fun e => if e.1 = t then (e.1, e.2 + (ps.length : Int)) else e

def applyTVs (tv : List (Nat × Int)) (cs : List RCall) : List (Nat × Int) := cs.foldl applyTV tv

/-- every `assign` names a table on the sheet, every `requestTable` a fresh id -/
def validCalls : List (Nat × Int) → List RCall → Prop
  | _, [] => True
  | tv, c :: cs =>
    (match c with
      | .assign t _ => t ∈ tv.map (·.1)
      | .requestTable id _ => id ∉ tv.map (·.1)) ∧ validCalls (applyTV tv c) cs

@[simp] theorem applyTVs_nil (tv) : applyTVs tv [] = tv := rfl
@[simp] theorem applyTVs_cons (tv c cs) : applyTVs tv (c :: cs) = applyTVs (applyTV tv c) cs := rfl
theorem applyTVs_append (tv a b) : applyTVs tv (a ++ b) = applyTVs (applyTVs tv a) b := by
  simp [applyTVs, List.foldl_append]

theorem validCalls_append (tv a b) :
    validCalls tv (a ++ b) ↔ validCalls tv a ∧ validCalls (applyTVs tv a) b := by
  induction a generalizing tv with
  | nil => simp [validCalls]
  | cons c cs ih => simp [validCalls, ih, and_assoc]

@[simp] theorem handed_nil : handed [] = [] := rfl
theorem handed_append (a b : List RCall) : handed (a ++ b) = handed a ++ handed b := by
  simp [handed]
@[simp] theorem handed_single (c : RCall) : handed [c] = c.players := by simp [handed]

def bump (id : Nat) (d : Int) (tv : List (Nat × Int)) : List (Nat × Int) :=
  tv.map fun e => if e.1 = id then (e.1, e.2 + d) else e

theorem bump_fst (id d tv) : (bump id d tv).map (·.1) = tv.map (·.1) := by
  induction tv with
  | nil => rfl
  | cons e tv ih =>
    simp only [bump, List.map_cons] at ih ⊢
    rw [ih]
    split <;> rfl

theorem bump_bump (id : Nat) (a b : Int) (tv : List (Nat × Int)) :
    bump id a (bump id b tv) = bump id (b + a) tv := by
  simp only [bump, List.map_map]
  apply List.map_congr_left
  intro e _
  simp only [Function.comp]
  by_cases h : e.1 = id
  · simp [h, Int.add_assoc]
  · simp [h]

theorem bump_zero (id : Nat) (tv : List (Nat × Int)) : bump id 0 tv = tv := by
  simp only [bump]
  conv =>
    rhs
    rw [← List.map_id tv]
  apply List.map_congr_left
  intro e _
  split
  · simp
  · rfl

theorem sumTV_cons (e : Nat × Int) (tv) : sumTV (e :: tv) = e.2 + sumTV tv := by simp [sumTV]

theorem sumTV_append (a b) : sumTV (a ++ b) = sumTV a + sumTV b := by simp [sumTV, List.sum_append]

theorem sumTV_bump (id d) (tv : List (Nat × Int)) (hn : (tv.map (·.1)).Nodup) (hm : id ∈ tv.map (·.1)) :
    sumTV (bump id d tv) = sumTV tv + d := by
  obtain ⟨x, l₁, l₂, rfl, h1, h2⟩ := split_at_key hn hm
  rw [bump, map_ite_split (·.1) _ l₁ l₂ (id, x) h1 h2]
  simp only [sumTV_append, sumTV_cons]
  omega

theorem applyTV_assign (tv t ps) : applyTV tv (.assign t ps) = bump t ps.length tv := rfl

theorem applyTV_spec (tv : List (Nat × Int)) (c : RCall) (hn : (tv.map (·.1)).Nodup)
    (hv : validCalls tv [c]) :
    ((applyTV tv c).map (·.1)).Nodup ∧ sumTV (applyTV tv c) = sumTV tv + (c.players.length : Int) := by
  cases c with
  | requestTable id ps =>
    simp only [validCalls, and_true] at hv
    constructor
    · simp only [applyTV, List.map_append, List.map_cons, List.map_nil]
      rw [List.nodup_append]
      refine ⟨hn, by simp, ?_⟩
      intro a ha b hb
      simp at hb
      subst hb
      intro h
      subst h
      exact hv ha
    · simp [applyTV, sumTV, RCall.players]
  | assign t ps =>
    simp only [validCalls, and_true] at hv
    constructor
    · rw [applyTV_assign, bump_fst]
      exact hn
    · rw [applyTV_assign, sumTV_bump t _ tv hn hv]
      rfl

theorem applyTVs_spec (tv : List (Nat × Int)) (cs : List RCall) (hn : (tv.map (·.1)).Nodup)
    (hv : validCalls tv cs) :
    ((applyTVs tv cs).map (·.1)).Nodup ∧ sumTV (applyTVs tv cs) = sumTV tv + ((handed cs).length : Int) := by
  induction cs generalizing tv with
  | nil => simp [hn]
  | cons c cs ih =>
    have hv1 : validCalls tv [c] := ⟨hv.1, trivial⟩
    obtain ⟨h1, h2⟩ := applyTV_spec tv c hn hv1
    obtain ⟨h3, h4⟩ := ih (applyTV tv c) h1 hv.2
    refine ⟨h3, ?_⟩
    rw [applyTVs_cons, h4, h2]
    simp [handed]
    omega

/-! ### the environment's side of the same callbacks -/

/-- the real (id, number of members) sheet -/
def mview (m : List (Nat × List Nat)) : List (Nat × Int) := m.map fun e => (e.1, (e.2.length : Int))

theorem mview_fst (m) : (mview m).map (·.1) = m.map (·.1) := by
  simp [mview, List.map_map, Function.comp_def]

theorem find_mview (m : List (Nat × List Nat)) (t : Nat) :
    (m.find? (fun e => e.1 == t)).map (fun e => (e.2.length : Int)) =
    ((mview m).find? (fun e => e.1 == t)).map (fun e => e.2) := by
  rw [mview, List.find?_map, Option.map_map]
  rfl

theorem mview_applyCall (m c) : mview (Env.applyCall m c) = applyTV (mview m) c := by
  cases c with
  | requestTable id ps => simp [Env.applyCall, applyTV, mview]
  | assign t ps =>
    simp only [Env.applyCall, applyTV, mview, List.map_map]
    apply List.map_congr_left
    intro e _
    simp only [Function.comp]
    by_cases he : e.1 = t
    · simp [he]
    · simp [he]

theorem mview_applyCalls (m cs) : mview (Env.applyCalls m cs) = applyTVs (mview m) cs := by
  induction cs generalizing m with
  | nil => rfl
  | cons c cs ih =>
    show mview (Env.applyCalls (Env.applyCall m c) cs) = _
    rw [ih, mview_applyCall]
    rfl

/-- all players listed in a sheet of entries `(table, players)`: the seated ones when the sheet is
    the membership sheet (`seated_eq`), those on the way when it is the list of batches released and
    not yet reported (`ASys.flying_eq`) -/
def seatedOf (m : List (Nat × List Nat)) : List Nat := (m.map (·.2)).flatten

theorem mem_seatedOf {m : List (Nat × List Nat)} {p : Nat} : p ∈ seatedOf m ↔ ∃ e ∈ m, p ∈ e.2 := by
  simp only [seatedOf, List.mem_flatten, List.mem_map]
  constructor
  · rintro ⟨l, ⟨e, he, rfl⟩, hp⟩
    exact ⟨e, he, hp⟩
  · rintro ⟨e, he, hp⟩
    exact ⟨e.2, ⟨e, he, rfl⟩, hp⟩

theorem seated_eq (e : Env) : e.seated = seatedOf e.members := rfl

/-- a player who is seated once sits in one entry of the sheet -/
theorem seatedOf_one_entry {m : List (Nat × List Nat)} (hn : (seatedOf m).Nodup)
    {e e' : Nat × List Nat} (he : e ∈ m) (he' : e' ∈ m) {p : Nat} (hp : p ∈ e.2) (hp' : p ∈ e'.2) :
    e = e' := by
  induction m with
  | nil => cases he
  | cons x m ih =>
    have hx : seatedOf (x :: m) = x.2 ++ seatedOf m := rfl
    rw [hx, List.nodup_append] at hn
    obtain ⟨_, hn2, hdis⟩ := hn
    have hin : ∀ {f : Nat × List Nat}, f ∈ m → p ∈ f.2 → p ∈ seatedOf m :=
      fun hf hpf => mem_seatedOf.2 ⟨_, hf, hpf⟩
    rcases List.mem_cons.1 he with rfl | he1 <;> rcases List.mem_cons.1 he' with rfl | he1'
    · rfl
    · exact absurd rfl (hdis p hp p (hin he1' hp'))
    · exact absurd rfl (hdis p hp' p (hin he1 hp))
    · exact ih hn2 he1 he1'

theorem seatedOf_length (m) : ((seatedOf m).length : Int) = sumTV (mview m) := by
  induction m with
  | nil => rfl
  | cons e m ih =>
    simp only [seatedOf, List.map_cons, List.flatten_cons, List.length_append] at ih ⊢
    simp only [mview, List.map_cons, sumTV_cons] at ih ⊢
    omega

theorem seatedOf_append (a b : List (Nat × List Nat)) : seatedOf (a ++ b) = seatedOf a ++ seatedOf b := by
  simp [seatedOf]

theorem seatedOf_cons (e : Nat × List Nat) (m) : seatedOf (e :: m) = e.2 ++ seatedOf m := rfl

/-! ### who is on the way after a sync and after a report -/

/-- an entry is appended only if it names somebody (the batches on the way); the same under the
    filter for its key -/
theorem seatedOf_push (l : List (Nat × List Nat)) (t : Nat) (ps : List Nat) :
    seatedOf (if ps.isEmpty then l else l ++ [(t, ps)]) = seatedOf l ++ ps ∧
    seatedOf ((if ps.isEmpty then l else l ++ [(t, ps)]).filter (·.1 == t)) =
      seatedOf (l.filter (·.1 == t)) ++ ps := by
  cases ps with
  | nil => simp
  | cons p ps => simp [seatedOf, List.filter_append]

/-- the same batch appended as the model's `report` spells it -/
theorem seatedOf_rest (m : List (Nat × List Nat)) (t : Nat) (rest : List Nat) :
    seatedOf (m ++ (if rest.isEmpty then [] else [(t, rest)])) = seatedOf m ++ rest := by
  cases rest with
  | nil => simp
  | cons p ps => simp [seatedOf]

theorem seatedOf_assign (m : List (Nat × List Nat)) (t : Nat) (ps : List Nat)
    (hn : (m.map (·.1)).Nodup) (hm : t ∈ m.map (·.1)) :
    (seatedOf (Env.applyCall m (.assign t ps))).Perm (seatedOf m ++ ps) := by
  obtain ⟨x, l₁, l₂, rfl, h1, h2⟩ := split_at_key hn hm
  rw [Env.applyCall, map_ite_split (·.1) _ l₁ l₂ (t, x) h1 h2]
  simp only [seatedOf_append, seatedOf_cons, List.append_assoc]
  exact List.Perm.append_left _ (List.Perm.append_left _ List.perm_append_comm)

theorem seatedOf_applyCall (m : List (Nat × List Nat)) (c : RCall)
    (hn : (m.map (·.1)).Nodup) (hv : validCalls (mview m) [c]) :
    (seatedOf (Env.applyCall m c)).Perm (seatedOf m ++ c.players) := by
  cases c with
  | requestTable id ps => simp [Env.applyCall, seatedOf, RCall.players]
  | assign t ps =>
    simp only [validCalls, and_true, mview_fst] at hv
    exact seatedOf_assign m t ps hn hv

theorem seatedOf_applyCalls (m : List (Nat × List Nat)) (cs : List RCall)
    (hn : (m.map (·.1)).Nodup) (hv : validCalls (mview m) cs) :
    (seatedOf (Env.applyCalls m cs)).Perm (seatedOf m ++ handed cs) := by
  induction cs generalizing m with
  | nil => simp [Env.applyCalls]
  | cons c cs ih =>
    have hv1 : validCalls (mview m) [c] := ⟨hv.1, trivial⟩
    have h1 := seatedOf_applyCall m c hn hv1
    have hn' : ((Env.applyCall m c).map (·.1)).Nodup := by
      have := (applyTV_spec (mview m) c (by rw [mview_fst]; exact hn) hv1).1
      rwa [← mview_applyCall, mview_fst] at this
    have hv' : validCalls (mview (Env.applyCall m c)) cs := by
      rw [mview_applyCall]
      exact hv.2
    have h2 := ih (Env.applyCall m c) hn' hv'
    show (seatedOf (Env.applyCalls (Env.applyCall m c) cs)).Perm _
    refine h2.trans ?_
    have : handed (c :: cs) = c.players ++ handed cs := by simp [handed]
    rw [this, ← List.append_assoc]
    exact List.Perm.append_right _ h1

/-! ### bookkeeping of the places of the players -/

/-- one operation: players `new` become alive, `inc` enter the queue (from outside or from the way
    back `fl`), `hd` are handed from the queue to tables -/
theorem perm_after_op {alive q q' st st' fl fl' inc new hd : List Nat}
    (hc : alive.Perm (q ++ st ++ fl)) (hq : q ++ inc = hd ++ q') (hs : st'.Perm (st ++ hd))
    (hf : (fl' ++ inc).Perm (fl ++ new)) : (alive ++ new).Perm (q' ++ st' ++ fl') := by
  rw [List.perm_iff_count]
  intro a
  have c1 := hc.count_eq a
  have c2 := hs.count_eq a
  have c3 := congrArg (List.count a) hq
  have c4 := hf.count_eq a
  simp only [List.count_append] at c1 c2 c3 c4 ⊢
  omega

theorem count_filter_elim (alive elim : List Nat) (a : Nat) :
    (alive.filter (fun p => !elim.contains p)).count a = if a ∈ elim then 0 else alive.count a := by
  split
  · rename_i h
    rw [List.count_eq_zero]
    intro hm
    have := (List.mem_filter.1 hm).2
    simp [h] at this
  · rename_i h
    rw [List.count_filter]
    simp [h]

/-- a sync of a table with members `ms`: `elim` are eliminated, the queue hands over `nw`, the
    members split into the released `rel` (from now on on the way) and the staying `keep`; `other`
    counts the players seated elsewhere, `fl` are those already on the way -/
theorem perm_after_sync {alive q q1 nw ms elim stay rel keep st st' fl : List Nat} {other : Nat → Nat}
    (hc : alive.Perm (q ++ st ++ fl)) (hnd : alive.Nodup)
    (hst : ∀ a, st.count a = ms.count a + other a) (hst' : ∀ a, st'.count a = keep.count a + other a)
    (hp1 : ms.Perm (elim ++ stay)) (hp2 : (stay ++ nw).Perm (rel ++ keep)) (hq : q = nw ++ q1) :
    (alive.filter (fun p => !elim.contains p)).Perm (q1 ++ st' ++ (fl ++ rel)) := by
  rw [List.perm_iff_count]
  intro a
  have c1 := hc.count_eq a
  have c2 := hst a
  have c3 := hp1.count_eq a
  have c4 := hp2.count_eq a
  have c5 := congrArg (List.count a) hq
  have c6 := hst' a
  have c7 := List.nodup_iff_count.1 hnd a
  rw [count_filter_elim]
  simp only [List.count_append] at c1 c3 c4 c5 ⊢
  split
  · rename_i hin
    have : 0 < elim.count a := List.count_pos_iff.2 hin
    omega
  · rename_i hnin
    have : elim.count a = 0 := List.count_eq_zero.2 hnin
    omega

end Reg
end Pokerface
