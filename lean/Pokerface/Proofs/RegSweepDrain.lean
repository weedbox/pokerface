/-
  C20, the small bound: the queue-draining half of the regulator against the potential of
  `RegSweepDefs`.  The stages of a drain one by one (the dispatch loops, `updateTableRequirements`,
  the allocation), then the drain walked once: what it, and hence a `ReleasePlayers`, may add to the
  potential (`drainWaitingQueue_cost`).
-/
import Pokerface.Proofs.RegSweepDefs

namespace Pokerface
namespace Reg

/-- what a run of `dispatchLoop` does to the sums over the tables -/
structure DispTot (F : Int) (ts ts' : List RTable) (moved : Nat) : Prop where
  g : tot (gF F) ts' = tot (gF F) ts
  u : tot (uF F) ts' = tot (uF F) ts
  d : tot (dF F) ts' ≤ tot (dF F) ts
  r : tot rF ts' + moved = tot rF ts
  len : ts'.length = ts.length

theorem DispTot.refl (F : Int) (ts : List RTable) : DispTot F ts ts 0 := ⟨rfl, rfl, Nat.le_refl _, rfl, rfl⟩

theorem DispTot.trans {F : Int} {a b c : List RTable} {m n : Nat} (h1 : DispTot F a b m) (h2 : DispTot F b c n) :
    DispTot F a c (m + n) :=
  ⟨h2.g.trans h1.g, h2.u.trans h1.u, Nat.le_trans h2.d h1.d, by have := h1.r; have := h2.r; omega,
    h2.len.trans h1.len⟩

theorem dispatchPlayer_tot {r r' : Reg} {cands rest : List Nat} (hwf : WF r) (hc : cands ≠ [])
    (h : r.dispatchPlayer cands = some (rest, r')) (hb : r'.badChoice = false) (F : Int) :
    DispTot F r.tables r'.tables (cands.length - rest.length) ∧ rest.length ≤ cands.length := by
  obtain ⟨t0, ht0, k, hk1, hk2, hlen, htab⟩ := dispatchPlayer_shape hc h hb
  rw [htab]
  refine ⟨⟨?_, ?_, ?_, ?_, upd_length _ _ _⟩, by omega⟩
  · exact tot_upd_eq _ _ hwf.nodup ht0 rfl _ (gF_give F k t0)
  · exact tot_upd_eq _ _ hwf.nodup ht0 rfl _ (uF_give F k t0)
  · exact tot_upd_le _ _ hwf.nodup ht0 rfl _ (dF_give F k t0 (by omega))
  · have h1 := tot_upd rF r.tables hwf.nodup ht0 rfl (give k)
    have h2 := rF_give k t0 (by omega) hk2
    omega

theorem dispatchLoop_tot (fuel : Nat) {cands rest : List Nat} {r r' : Reg} (hwf : WF r)
    (h : dispatchLoop fuel cands r = (rest, r')) (hb : r'.badChoice = false) (F : Int) :
    DispTot F r.tables r'.tables (cands.length - rest.length) ∧ rest.length ≤ cands.length :=
  (dispatchLoop_induct (I := WF)
    (P := fun c r rest r' => DispTot F r.tables r'.tables (c.length - rest.length) ∧ rest.length ≤ c.length)
    (fun _ _ => ⟨by rw [Nat.sub_self]; exact DispTot.refl _ _, Nat.le_refl _⟩)
    (fun {a b c} _ _ _ h1 h2 => by
      have e : a.length - c.length = (a.length - b.length) + (b.length - c.length) := by omega
      rw [e]
      exact ⟨h1.1.trans h2.1, by omega⟩)
    (fun hwf hc hs hb' =>
      have hsp := dispatchPlayer_spec hwf hc hs hb'
      ⟨hsp.1, dispatchPlayer_tot hwf hc hs hb' F, hsp.2.2.1⟩)
    fuel hwf h hb).2.1

theorem ceilWl_le_flr_succ (r : Reg) (h : 0 ≤ r.requiredTables) : r.ceilWl ≤ flr r + 1 := by
  unfold flr ceilWl
  split
  · rename_i hpos
    have h1 : r.playerCount / r.requiredTables < r.playerCount / r.requiredTables + 1 := by omega
    rw [Int.ediv_lt_iff_lt_mul hpos] at h1
    have e1 : (r.playerCount / r.requiredTables + 1) * r.requiredTables =
        r.playerCount / r.requiredTables * r.requiredTables + r.requiredTables := by
      rw [Int.add_mul, Int.one_mul]
    have e2 : (r.playerCount / r.requiredTables + 1 + 1) * r.requiredTables =
        r.playerCount / r.requiredTables * r.requiredTables + r.requiredTables + r.requiredTables := by
      rw [Int.add_mul, Int.add_mul, Int.one_mul]
    have : (r.playerCount + r.requiredTables - 1) / r.requiredTables < r.playerCount / r.requiredTables + 1 + 1 := by
      rw [Int.ediv_lt_iff_lt_mul hpos, e2]
      omega
    omega
  · have : r.requiredTables = 0 := by omega
    rw [this]
    simp

theorem setReq_tot (F C : Int) (h1 : F ≤ C) (h2 : C ≤ F + 1) (ts : List RTable)
    (hr : ∀ t ∈ ts, 0 ≤ t.required) :
    tot (gF F) (setReq C ts) ≤ tot (gF F) ts + ts.length ∧ tot (uF F) (setReq C ts) = 0 ∧
    tot (dF F) (setReq C ts) = tot (dF F) ts ∧ (setReq C ts).length = ts.length := by
  have hd := dF_setReq F C ts
  simp only [setReq, tot_map, List.length_map] at hd ⊢
  refine ⟨?_, ?_, hd, trivial⟩
  · apply tot_le_tot_add_len
    intro t _
    simp only [Function.comp, gF]
    split
    · simp only
      omega
    · omega
  · apply tot_zero
    intro t ht
    have := hr t ht
    simp only [Function.comp, uF]
    split
    · simp only
      split <;> omega
    · split <;> omega

theorem allocateTables_noop (r : Reg) (hm : 0 < r.max) (h : r.requiredTables ≤ r.tableCount) :
    r.allocateTables.tables = r.tables ∧ r.allocateTables.tableCount = r.tableCount := by
  have ho := allocateTables_opens r hm
  have hsame : r.allocateTables.tableCount = r.tableCount := by
    have h1 := ho.tc.1
    rcases ho.tc.2 with h2 | h2
    · exact h2
    · omega
  exact ⟨ho.same hsame, hsame⟩

/-- the potential only looks at the tables, their number, the player total and `max` -/
structure SameSheet (r r' : Reg) : Prop where
  tables : r'.tables = r.tables
  tc : r'.tableCount = r.tableCount
  pc : r'.playerCount = r.playerCount
  max : r'.max = r.max

theorem SameSheet.needs {r r' : Reg} (h : SameSheet r r') : SameNeeds r r' := ⟨h.pc, h.max⟩

theorem SameSheet.refl (r : Reg) : SameSheet r r := ⟨rfl, rfl, rfl, rfl⟩

section
variable {r r' : Reg} (h : SameSheet r r')
include h

theorem SameSheet.Gs : Gs r' = Gs r := by
  unfold Reg.Gs
  rw [flr_same h.needs, h.tables]
theorem SameSheet.Us : Us r' = Us r := by
  unfold Reg.Us
  rw [flr_same h.needs, h.tables]
theorem SameSheet.Ds : Ds r' = Ds r := by
  unfold Reg.Ds
  rw [flr_same h.needs, h.tables]
theorem SameSheet.calm : calm r' ↔ calm r := by
  unfold Reg.calm
  rw [h.Us, h.tc, h.needs.req]
theorem SameSheet.TP : TP r' = TP r := TP_congr h.calm (by rw [h.tables])
theorem SameSheet.dTR : dTR r' = dTR r := (dTR_dRT_congr h.needs h.tc).1
theorem SameSheet.dRT : dRT r' = dRT r := (dTR_dRT_congr h.needs h.tc).2
theorem SameSheet.psi : psi r' = psi r := by
  unfold Reg.psi
  rw [h.Gs, h.TP, h.dTR, h.dRT, h.max]
theorem SameSheet.psi1 : psi1 r' = psi1 r := by
  unfold Reg.psi1
  rw [h.Gs, h.dTR, h.dRT, h.max, h.tables]

end

theorem gF_le_max {r : Reg} (hwf : WF r) (F : Int) (hF : 0 ≤ F) {t : RTable} (ht : t ∈ r.tables) :
    gF F t ≤ r.max := by
  have := hwf.bnd t ht
  simp only [gF]
  omega

/-- opening `n` of the `u' + n` missing tables: each new table costs at most `m` in `G`, one in the
    table term and one in `D`, and frees `m + 2` -/
theorem open_tables_pays {p G G' T D D' u' n m : Nat} (hp : p ≤ G' + (T + n) + 0 + (m + 2) * u')
    (hG : G' ≤ G + n * m) (hD : D' ≤ D + n) :
    2 * p + D' ≤ 2 * (G + T + 0 + (m + 2) * (u' + n)) + D := by
  have e : (m + 2) * (u' + n) = (m + 2) * u' + n * m + 2 * n := by
    rw [Nat.mul_add, Nat.add_mul m 2 n, Nat.mul_comm m n]
    omega
  rw [e]
  omega

theorem allocateTables_pot (r : Reg) (hwf : WF r) (hpc : 0 ≤ r.playerCount) :
    2 * psi r.allocateTables + Ds r.allocateTables ≤ 2 * psi1 r + Ds r := by
  obtain ⟨hs, h1, h2⟩ := allocateTables_tc r hwf.maxpos
  obtain ⟨hwf', _, _, _⟩ := allocateTables_spec r hwf
  obtain ⟨extra, he, _, _⟩ := (allocateTables_opens r hwf.maxpos).tables
  have hF : flr r.allocateTables = flr r := flr_same hs
  have hF0 : 0 ≤ flr r := (flr_bounds r hwf hpc).1
  have hlen : (r.allocateTables.tableCount : Int) = r.tableCount + extra.length := by
    rw [hwf'.tc, he, List.length_append, hwf.tc]
    omega
  have hle := psi_le_psi1 r.allocateTables
  by_cases hk : extra.length = 0
  · have hnil : extra = [] := List.length_eq_zero_iff.1 hk
    rw [hnil, List.append_nil] at he
    have hsh : SameSheet r r.allocateTables := ⟨he, by omega, hs.pc, hs.max⟩
    rw [hsh.psi1] at hle
    rw [hsh.Ds]
    omega
  · have hR : r.allocateTables.tableCount ≤ r.requiredTables := by
      rcases h2 with h2 | h2
      · omega
      · exact h2
    have hG : Gs r.allocateTables ≤ Gs r + extra.length * r.max := by
      unfold Gs
      rw [hF, he, tot_append]
      have := tot_le (gF (flr r)) extra r.max (fun t ht => by
        have hm : t ∈ r.allocateTables.tables := by
          rw [he]
          exact List.mem_append_right _ ht
        have := gF_le_max hwf' (flr r) hF0 hm
        rw [hs.max] at this
        exact this)
      omega
    have hD : Ds r.allocateTables ≤ Ds r + extra.length := by
      unfold Ds
      rw [hF, he, tot_append]
      have := tot_len (dF (flr r)) extra (fun t _ => by simp only [dF]; omega)
      omega
    have hT : r.allocateTables.tables.length = r.tables.length + extra.length := by
      rw [he, List.length_append]
    have hd1 : dTR r.allocateTables = 0 := by
      unfold dTR
      rw [hs.req]
      omega
    have hd2 : dTR r = 0 := by
      unfold dTR
      omega
    have hd3 : dRT r = dRT r.allocateTables + extra.length := by
      unfold dRT
      rw [hs.req]
      omega
    have hm : r.allocateTables.max = r.max := hs.max
    unfold psi1 at hle ⊢
    rw [hd1, hT, hm] at hle
    rw [hd2, hd3]
    exact open_tables_pays hle hG hD

theorem allocateTables_sheet (r : Reg) (hm : 0 < r.max) (h : r.requiredTables ≤ r.tableCount) :
    SameSheet r r.allocateTables := by
  obtain ⟨h1, h2⟩ := allocateTables_noop r hm h
  obtain ⟨hs, _, _⟩ := allocateTables_tc r hm
  exact ⟨h1, h2, hs.pc, hs.max⟩

theorem dispatchLoop_pot {fuel : Nat} {cands rest : List Nat} {r r' : Reg} (hwf : WF r)
    (h : dispatchLoop fuel cands r = (rest, r')) (hb : r'.badChoice = false) :
    SameNeeds r r' ∧ psi r' = psi r ∧ psi1 r' = psi1 r ∧ Ds r' ≤ Ds r ∧ (calm r' ↔ calm r) ∧
    tot rF r'.tables + (cands.length - rest.length) = tot rF r.tables ∧ rest.length ≤ cands.length := by
  have h1 := dispatchLoop_tc fuel cands r
  rw [h] at h1
  obtain ⟨d, l⟩ := dispatchLoop_tot fuel hwf h hb (flr r)
  have hF : flr r' = flr r := flr_same h1.1
  have hG : Gs r' = Gs r := by
    unfold Gs
    rw [hF]
    exact d.g
  have hcalm : calm r' ↔ calm r := by
    unfold calm Us
    rw [h1.2, h1.1.req, hF, d.u]
  obtain ⟨hT, hR⟩ := dTR_dRT_congr h1.1 h1.2
  refine ⟨h1.1, ?_, ?_, ?_, hcalm, d.r, l⟩
  · unfold psi
    rw [hG, TP_congr hcalm d.len, hT, hR, h1.1.max]
  · unfold psi1
    rw [hG, d.len, hT, hR, h1.1.max]
  · unfold Ds
    rw [hF]
    exact d.d

/-- `updateTableRequirements` does nothing, or (exactly the tables needed) it covers every table:
    the state is calm afterwards, and the fresh `Required`s, at most one per table beyond the
    level, are what `psi1` has in hand over `psi` -/
theorem update_pot (r : Reg) (hwf : WF r) :
    SameNeeds r r.updateTableRequirements ∧ Ds r.updateTableRequirements = Ds r ∧
    ((calm r.updateTableRequirements ∧ psi r.updateTableRequirements ≤ psi1 r) ∨
      r.updateTableRequirements = r) := by
  by_cases hreq : r.requiredTables = (r.tables.length : Int)
  · have hR0 : 0 ≤ r.requiredTables := by omega
    obtain ⟨a, b, c, d⟩ := setReq_tot (flr r) r.ceilWl (flr_le_ceilWl r hR0) (ceilWl_le_flr_succ r hR0) r.tables
      (fun t ht => (hwf.bnd t ht).2.1)
    rw [updateTableRequirements_eq, if_pos hreq]
    have hG : Gs ({ r with tables := setReq r.ceilWl r.tables } : Reg) ≤ Gs r + r.tables.length := a
    have hcalm : calm ({ r with tables := setReq r.ceilWl r.tables } : Reg) :=
      ⟨by show r.tableCount = r.requiredTables; rw [hwf.tc, hreq], b⟩
    refine ⟨⟨rfl, rfl⟩, c, Or.inl ⟨hcalm, ?_⟩⟩
    unfold psi
    rw [TP_calm hcalm]
    show Gs _ + 0 + dTR r + (r.max + 2) * dRT r ≤ psi1 r
    unfold psi1
    omega
  · rw [updateTableRequirements_eq, if_neg hreq]
    exact ⟨SameNeeds.refl r, rfl, Or.inr rfl⟩

theorem tot_rF_zero (ts : List RTable) (h : ∀ t ∈ ts, t.required ≤ 0) : tot rF ts = 0 := by
  apply tot_zero
  intro t ht
  have := h t ht
  simp only [rF]
  omega

/-- what a drain may add to `2·psi + D`: nothing, unless it starts in a calm state with a queue
    longer than the outstanding `Required`s can take; then `updateTableRequirements` hands out
    fresh `Required`s, worth at most two per table (the calm-bonus is cashed) -/
theorem drainWaitingQueue_cost (r : Reg) (hwf : WF r) (hpc : 0 ≤ r.playerCount)
    (hb : r.drainWaitingQueue.badChoice = false) :
    2 * psi r.drainWaitingQueue + Ds r.drainWaitingQueue ≤
      2 * psi r + Ds r +
        (if calm r ∧ tot rF r.tables < r.queue.length then 2 * r.tables.length else 0) := by
  by_cases hpos : r.tableCount > 0
  · obtain ⟨c1, r1, hp1, hb1, hwf1, hcase⟩ := drainWaitingQueue_cases r hwf hpos hb
    obtain ⟨s1, p1, q1, d1, _, hr, hl⟩ := dispatchLoop_pot hwf hp1 hb1
    rcases hcase with ⟨_, he⟩ | ⟨hc1, hall, hwf2, c2, r3, hp3, hb3, hwf3, he⟩
    · have hsh : SameSheet r1 ({ r1 with queue := [] } : Reg) := ⟨rfl, rfl, rfl, rfl⟩
      rw [he, hsh.psi, hsh.Ds, p1]
      omega
    · -- somebody is left and no table wants anybody.  Then a calm state had a queue that did not
      -- fit, so the bonus is there: in every case `2·psi1 r` may be spent
      have hbonus : 2 * psi1 r ≤ 2 * psi r +
          (if calm r ∧ tot rF r.tables < r.queue.length then 2 * r.tables.length else 0) := by
        rw [psi1_eq]
        by_cases hc : calm r
        · have h0 := tot_rF_zero _ hall
          have hlen : 0 < c1.length := List.length_pos_iff.2 hc1
          rw [if_pos hc, if_pos ⟨hc, by omega⟩]
          omega
        · rw [if_neg hc, if_neg fun h => hc h.1]
          omega
      obtain ⟨s2, d2, hfire⟩ := update_pot r1 hwf1
      obtain ⟨s3, p3, q3, d3, c3, _, _⟩ := dispatchLoop_pot hwf2 hp3 hb3
      have hsh4 : SameSheet r3 ({ r3 with queue := c2 } : Reg) := ⟨rfl, rfl, rfl, rfl⟩
      have hwf4 : WF ({ r3 with queue := c2 } : Reg) := hwf3.setQueue c2
      rw [he]
      rcases hfire with ⟨hc2, hp2⟩ | hid
      · -- `updateTableRequirements` fired: calm from now on, nothing to allocate
        have hcalm : calm r3 := c3.2 hc2
        split
        · rw [hsh4.psi, hsh4.Ds]
          omega
        · have hsh5 := allocateTables_sheet ({ r3 with queue := c2 } : Reg) hwf4.maxpos
            (Int.le_of_eq hcalm.1.symm)
          rw [hsh5.psi, hsh5.Ds, hsh4.psi, hsh4.Ds]
          omega
      · rw [hid] at q3 d3
        split
        · rw [hsh4.psi, hsh4.Ds]
          have := psi_le_psi1 r3
          omega
        · have := allocateTables_pot _ hwf4
            (show 0 ≤ r3.playerCount by rw [((s1.trans s2).trans s3).pc]; exact hpc)
          rw [hsh4.psi1, hsh4.Ds] at this
          omega
  · -- no table: `psi1` and `psi` agree
    have hnil : r.tables = [] := tables_nil_of_tc hwf (by have := hwf.tc; omega)
    have e : psi1 r = psi r := by
      rw [psi1_eq, hnil]
      split <;> rfl
    rw [drainWaitingQueue_eq]
    split
    · have := allocateTables_pot r hwf hpc
      omega
    · omega

theorem releasePlayers_cost (r : Reg) (rel ch : List Nat) (hwf : WF r) (hpc : 0 ≤ r.playerCount)
    (hb : (r.releasePlayers rel ch).badChoice = false) :
    2 * psi (r.releasePlayers rel ch) + Ds (r.releasePlayers rel ch) ≤
      2 * psi r + Ds r +
        (if calm r ∧ tot rF r.tables < r.queue.length + rel.length then 2 * r.tables.length else 0) := by
  have hsh : SameSheet r ({ r.beginOp ch with queue := r.queue ++ rel } : Reg) := ⟨rfl, rfl, rfl, rfl⟩
  rcases releasePlayers_cases r rel ch with h | h
  · rw [h, hsh.psi, hsh.Ds]
    omega
  · rw [h] at hb ⊢
    have := drainWaitingQueue_cost _ ((hwf.beginOp ch).setQueue _) hpc hb
    rw [hsh.psi, hsh.Ds, List.length_append] at this
    exact this

theorem releasePlayers_pot (r : Reg) (rel ch : List Nat) (hwf : WF r) (hpc : 0 ≤ r.playerCount)
    (hb : (r.releasePlayers rel ch).badChoice = false) :
    2 * psi (r.releasePlayers rel ch) + Ds (r.releasePlayers rel ch) ≤ 2 * psi1 r + Ds r := by
  have h := releasePlayers_cost r rel ch hwf hpc hb
  rw [psi1_eq]
  split at h
  · rename_i hc
    rw [if_pos hc.1]
    omega
  · omega

end Reg
end Pokerface
