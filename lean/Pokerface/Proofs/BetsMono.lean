import Pokerface.Proofs.BetsActs
import Pokerface.Proofs.FlowPhase
/-
  What a player action cannot do: lower the wager to match, or touch the chips of another seat (C11
  `effect_only_actor`, C12 `cw_monotone`); what the other operations do to the wager to match and to the street;
  and that `requestPlayerAction` keeps the event or closes the round.
-/
namespace Pokerface
open Game

theorem act_cw_mono (g : Game) (i : Nat) (a : Act) (x : Int) : g.cw ≤ (g.act i a x).1.cw :=
  act_steps (R := fun a b => a.cw ≤ b.cw) i (fun _ => Int.le_refl _) Int.le_trans (fun _ => Int.le_refl _)
    (fun _ => Int.le_refl _) (fun _ _ => Int.le_refl _) (fun g c => g.pay_cw_mono i c true)
    (fun g => Int.le_of_eq (wr_resume g).cw.symm) g a x

theorem foldl_payBlind_cw_mono : ∀ (is : List Nat) (g : Game), g.cw ≤ (is.foldl payBlind g).cw :=
  payBlinds_steps (R := fun a b => a.cw ≤ b.cw) (fun _ => Int.le_refl _) Int.le_trans fun g i _ _ => g.pay_cw_mono i _ true

theorem readyForAll_cw (g : Game) : g.readyForAll.1.cw = g.cw := (wr_step g .ready).cw

theorem requestReady_round (g : Game) : g.requestReady.round = g.round := rfl
theorem roundClosed_round (g : Game) : g.roundClosed.round = g.round := rfl

/-- `Next` does nothing, or sweeps the wager to match while it moves to another street or closes the hand -/
theorem next_cw (g : Game) :
    g.next.1 = g ∨ (g.next.1.cw = 0 ∧ (g.next.1.round ≠ g.round ∨ g.next.1.event = .gameClosed)) := by
  refine g.step_cases .next (motive := fun r => r.1 = g ∨ (r.1.cw = 0 ∧ (r.1.round ≠ g.round ∨ r.1.event = .gameClosed)))
    (fun _ => .inl rfl) nofun nofun nofun (fun _ _ hrn => .inr ?_) (fun _ _ _ => .inl rfl) nofun
  unfold Game.nextRound
  refine ⟨(wr_nextRound' _).cw, ?_⟩
  rw [nextRound'_eq _ (show g.sweep.round ≠ .none from hrn), show g.sweep.round = g.round from rfl]
  split
  · exact Or.inr rfl
  · rename_i hc
    left
    rw [enterRound_round]
    exact Round.succ_ne fun h => hc (.inr h)

theorem payAnteLoop_cw : ∀ (is : List Nat) (g : Game), (payAnteLoop is g).1.cw = g.cw :=
  payAnteLoop_steps (R := fun a b => b.cw = a.cw) (fun _ => rfl) (fun h1 h2 => h2.trans h1)
    fun g i _ _ _ => g.pay_false_cw i _

theorem antePaid_cw (g : Game) : g.antePaid.cw = 0 := by
  rw [g.antePaid_eq, (wr_enterRound _ _).cw]
  rfl

/-- `PayAnte` leaves the wager to match alone, or opens the preflop round with it at 0 -/
theorem payAnte_cw (g : Game) :
    g.payAnte.1.cw = g.cw ∨ (g.event = .anteRequested ∧ g.payAnte.1.cw = 0 ∧ g.payAnte.1.round = .preflop) := by
  rcases payAnte_fst g with e | ⟨he, e | e⟩
  · exact .inl (by rw [e])
  · exact .inl (by rw [e, payAnteLoop_cw])
  · exact .inr ⟨he, by rw [e, antePaid_cw], by rw [e]; exact enterRound_round _ _⟩

theorem requestBlinds_event_ne (g : Game) : g.requestBlinds.event ≠ .anteRequested :=
  g.requestBlinds_cases (motive := fun x => x.event ≠ .anteRequested)
    (fun _ => by
      rw [(prepareRound_phase _).1]
      split <;> exact nofun)
    fun _ => nofun

theorem pay_false_round_event (g : Game) (i : Nat) (c : Int) :
    (g.pay i c false).round = g.round ∧ (g.pay i c false).event = g.event :=
  ⟨(wr_pay g i c false).round, (wr_pay g i c false).event⟩

/-- every seat other than `i` keeps its frame (positions and chips) -/
def OnlySeat (i : Nat) (g g' : Game) : Prop :=
  ∀ j, j ≠ i → (g'.players.map Player.frame)[j]? = (g.players.map Player.frame)[j]?

theorem OnlySeat.refl (i : Nat) (g : Game) : OnlySeat i g g := fun _ _ => rfl
theorem OnlySeat.trans {i : Nat} {a b c : Game} (h1 : OnlySeat i a b) (h2 : OnlySeat i b c) : OnlySeat i a c :=
  fun j hj => (h2 j hj).trans (h1 j hj)
theorem OnlySeat.of_noChip {i : Nat} {g g' : Game} (nc : NoChip g g') : OnlySeat i g g' :=
  fun j _ => by rw [nc.frame]
theorem OnlySeat.of_players {i : Nat} {g g' : Game} (h : g'.players = g.players) : OnlySeat i g g' :=
  fun j _ => by rw [h]

theorem onlySeat_pay (g : Game) (i : Nat) (c : Int) (w : Bool) : OnlySeat i g (g.pay i c w) := by
  intro j hj
  cases hp : g.players[i]? with
  | none => rw [g.pay_none hp]
  | some p => exact pay_frame_ne hp c w (fun h => hj h.symm)

theorem onlySeat_resume (i : Nat) (g : Game) : OnlySeat i g g.resume := OnlySeat.of_noChip (wr_resume g).noChip

theorem onlySeat_act (g : Game) (i : Nat) (a : Act) (x : Int) : OnlySeat i g (g.act i a x).1 :=
  act_steps (R := OnlySeat i) i (OnlySeat.refl i) OnlySeat.trans (fun g => .of_noChip (wr_setActed g i).noChip)
    (fun g => .of_noChip (wr_fold g i).noChip) (fun _ _ => .of_players rfl) (fun g c => onlySeat_pay g i c true)
    (onlySeat_resume i) g a x

end Pokerface
