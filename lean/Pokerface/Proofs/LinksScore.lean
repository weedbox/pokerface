import Pokerface.Proofs.CombosReport
import Pokerface.Proofs.EvalOrder
import Pokerface.Generated.Tables
/-
  The strength `CalculatePower` assigns is POSITIVE as soon as at least one
  card is evaluated, all ranks are ≥ 2, and the cards are not five or more deuces.

  This is the bridge between the evaluator and C02, whose theorems need a strictly positive
  strength for every non-folded player (`C02.Valid`): settlement.go treats score 0 as "folded".

  The only way to score 0 is category "high card" (offset 0 in both ranking tables) with all
  kicker values `rank - 2 = 0`, i.e. nothing but deuces.  Two, three, four deuces are a pair, trips,
  quads and get a positive offset.  ONE deuce is — surprisingly — not a high card either:
  `isFlush` has no five-card check, so a single card (and any two..four suited cards) is classed
  "Flush" and gets the flush offset.  Five (or more) deuces in mixed
  suits would be classed "high card" by the chain of `CalculatePower` (no count is 4, 3 or 2)
  with score 0 — no four-suit deck has them, and the statement excludes them explicitly.  The
  empty list scores 0.
-/
namespace Pokerface
open Generated

/-- The ranking table is one of the two tables shipped in combination.go. -/
def ShippedTable (T : List Cat) : Prop := T = powerStandard ∨ T = powerShortDeck

/-- In both shipped tables, with the shipped sizes, every category except high card has a
    positive offset (`decide` on the regenerated constants: a changed constant that makes an
    offset 0 breaks this lemma). -/
theorem powerLevels_pos {T : List Cat} (hT : ShippedTable T) {c : Cat} (hc : c ≠ .highCard) :
    0 < powerLevels combinationLevel T c := by
  have table : ∀ T ∈ [powerStandard, powerShortDeck], ∀ c ∈ Cat.all, c ≠ .highCard →
      0 < powerLevels combinationLevel T c := by decide
  rcases hT with rfl | rfl
  · exact table _ (List.mem_cons_self ..) c (C03.Cat.mem_all c) hc
  · exact table _ (List.mem_cons_of_mem _ (List.mem_cons_self ..)) c (C03.Cat.mem_all c) hc

theorem positional_pos : ∀ {es : List Elem}, (∃ e ∈ es, 2 < e.rank) → 0 < positional es
  | [], h => by
    obtain ⟨e, he, _⟩ := h
    cases he
  | e :: es, h => by
    obtain ⟨x, hx, hr⟩ := h
    unfold positional
    rcases List.mem_cons.mp hx with rfl | hx
    · have h1 : 0 < x.rank - 2 := by omega
      have h2 : 0 < 13 ^ es.length := Nat.pow_pos (by decide)
      have := Nat.mul_pos h1 h2
      omega
    · have := positional_pos ⟨x, hx, hr⟩
      omega

theorem scoreOfRanks_pos {T : List Cat} (hT : ShippedTable T) (rs : List Nat) (fl : Bool)
    (h : (∃ r ∈ rs, 2 < r) ∨ category rs fl ≠ .highCard) :
    0 < (scoreOfRanks combinationLevel T rs fl).2 := by
  show 0 < powerScore (category rs fl) (elements rs) + powerLevels combinationLevel T (category rs fl)
  by_cases hc : category rs fl = .highCard
  · rcases h with ⟨r, hr, h2⟩ | h
    · obtain ⟨e, he, her⟩ := C03.elements_has hr
      have : 0 < positional (elements rs) := positional_pos ⟨e, he, by omega⟩
      rw [hc]
      have hs : powerScore .highCard (elements rs) = positional (elements rs) := by
        simp [powerScore]
      omega
    · exact absurd hc h
  · have := powerLevels_pos hT hc
    omega

/-- two, three or four deuces are a pair, trips, quads -/
theorem category_deuces (n : Nat) (h2 : 2 ≤ n) (h4 : n ≤ 4) (fl : Bool) :
    category (List.replicate n 2) fl ≠ .highCard := by
  have : n = 2 ∨ n = 3 ∨ n = 4 := by omega
  rcases this with rfl | rfl | rfl <;> cases fl <;> decide

/-- one card is a "flush" -/
theorem isFlush_of_length_one {l : List Card} (h : l.length = 1) : isFlush l = true := by
  match l, h with
  | [c], _ => simp [isFlush]

theorem score_pos {T : List Cat} (hT : ShippedTable T) (cards : List Card)
    (h2 : cards ≠ []) (hr : ∀ c ∈ cards, 2 ≤ c.rank)
    (hd : cards.length ≤ 4 ∨ ∃ c ∈ cards, 2 < c.rank) :
    0 < (calculatePower combinationLevel T cards).score := by
  -- rewritten first: left to `refine`, the unifier unfolds `calculatePower` against `scoreOfRanks_pos`'s conclusion
  rw [calculatePower_score]
  refine scoreOfRanks_pos hT _ _ ?_
  have hp := sortCards_perm cards
  by_cases hex : ∃ c ∈ cards, 2 < c.rank
  · obtain ⟨c, hc, h⟩ := hex
    exact Or.inl ⟨c.rank, List.mem_map.mpr ⟨c, hp.mem_iff.mpr hc, rfl⟩, h⟩
  · right
    have hlen : cards.length ≤ 4 := by
      rcases hd with h | h
      · exact h
      · exact absurd h hex
    have hall : ∀ r ∈ (sortCards cards).map (·.rank), r = 2 := by
      intro r hr'
      obtain ⟨c, hc, rfl⟩ := List.mem_map.mp hr'
      have hc' := hp.mem_iff.mp hc
      have h1 := hr c hc'
      have h3 : ¬ 2 < c.rank := fun h => hex ⟨c, hc', h⟩
      omega
    have heq : (sortCards cards).map (·.rank) = List.replicate cards.length 2 := by
      rw [List.eq_replicate_iff]
      exact ⟨by rw [List.length_map, hp.length_eq], hall⟩
    rw [heq]
    have hpos : 0 < cards.length := List.length_pos_iff.mpr h2
    by_cases h1 : cards.length = 1
    · rw [isFlush_of_length_one (by rw [hp.length_eq, h1]), h1]
      decide
    · exact category_deuces _ (by omega) hlen _

/-- The hypotheses are sharp: no card at all scores 0 under both tables, … -/
example : (calculatePower combinationLevel powerStandard []).score = 0 ∧
    (calculatePower combinationLevel powerShortDeck []).score = 0 := by decide
/-- … ONE deuce is classed a flush (`isFlush` does not ask for five cards) and scores the flush
    offset, … -/
example : (calculatePower combinationLevel powerStandard [⟨83, 2⟩]).cat = .flush ∧
    (calculatePower combinationLevel powerStandard [⟨83, 2⟩]).score = 371293 + 28561 + 2197 + 2197 + 13 := by decide
/-- … two deuces get the pair offset, … -/
example : (calculatePower combinationLevel powerStandard [⟨83, 2⟩, ⟨72, 2⟩]).score = 371293 := by decide
/-- … the weakest two-card holding 3-2 scores 13, … -/
example : (calculatePower combinationLevel powerStandard [⟨83, 2⟩, ⟨72, 3⟩]).score = 13 := by decide
/-- … two suited cards are a "flush" and outrank a pair of aces (such short "hands" are published
    before the flop only; a showdown between live hands has a full board, C05), … -/
example : (calculatePower combinationLevel powerStandard [⟨83, 14⟩, ⟨72, 14⟩]).score
    < (calculatePower combinationLevel powerStandard [⟨83, 7⟩, ⟨83, 2⟩]).score := by decide
/-- … and five deuces (not in any deck) would score 0 again. -/
example : (calculatePower combinationLevel powerStandard [⟨83, 2⟩, ⟨72, 2⟩, ⟨68, 2⟩, ⟨67, 2⟩, ⟨1, 2⟩]).score = 0 := by
  decide

end Pokerface
