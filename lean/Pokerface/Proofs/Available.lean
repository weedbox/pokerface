import Pokerface.Model.Game
/-
  The situation table of `GetAvailableActions` (`Game.availableActions`), clause by clause.
  Nothing here needs more than the definition.
-/
namespace Pokerface
open Game

theorem avail_pass_only (g : Game) (p : Player) (h : p.fold = true ∨ p.stack = 0) :
    g.availableActions p = [.pass] := by
  unfold Game.availableActions
  rcases h with h | h
  · simp [h]
  · simp [h]

theorem avail_movable (g : Game) (p : Player) (h1 : p.fold = false) (h2 : p.stack ≠ 0) :
    g.availableActions p =
      .allin :: (if p.wager < g.cw then
          .fold :: (if p.initial > g.cw then .call :: (if p.initial > g.cw + g.prev then [.raise] else []) else [])
        else .check :: (if p.initial ≥ g.miniBet then (if g.cw = 0 then [.bet] else [.raise]) else [])) := by
  unfold Game.availableActions
  simp only [h1, h2, if_false, Bool.false_eq_true]
  split <;> rfl

theorem avail_movable_of_mem {g : Game} {p : Player} {a : Act} (h : a ∈ g.availableActions p) (ha : a ≠ .pass) :
    p.fold = false ∧ p.stack ≠ 0 := by
  by_cases h1 : p.fold = true
  · rw [avail_pass_only g p (Or.inl h1)] at h
    exact absurd (List.mem_singleton.mp h) ha
  · by_cases h2 : p.stack = 0
    · rw [avail_pass_only g p (Or.inr h2)] at h
      exact absurd (List.mem_singleton.mp h) ha
    · exact ⟨by simpa using h1, h2⟩

theorem avail_mem {g : Game} {p : Player} (h1 : p.fold = false) (h2 : p.stack ≠ 0) :
    (Act.allin ∈ g.availableActions p) ∧ (Act.pass ∉ g.availableActions p) ∧ (Act.pay ∉ g.availableActions p) ∧
    (Act.fold ∈ g.availableActions p ↔ p.wager < g.cw) ∧
    (Act.check ∈ g.availableActions p ↔ ¬ p.wager < g.cw) ∧
    (Act.call ∈ g.availableActions p ↔ p.wager < g.cw ∧ p.initial > g.cw) ∧
    (Act.bet ∈ g.availableActions p ↔ ¬ p.wager < g.cw ∧ p.initial ≥ g.miniBet ∧ g.cw = 0) ∧
    (Act.raise ∈ g.availableActions p ↔
      (p.wager < g.cw ∧ p.initial > g.cw + g.prev ∧ p.initial > g.cw) ∨
      (¬ p.wager < g.cw ∧ p.initial ≥ g.miniBet ∧ g.cw ≠ 0)) := by
  rw [avail_movable g p h1 h2]
  by_cases c1 : p.wager < g.cw
  · rw [if_pos c1]
    by_cases c2 : p.initial > g.cw
    · rw [if_pos c2]
      by_cases c3 : p.initial > g.cw + g.prev
      · rw [if_pos c3]
        simp [c1, c2, c3]
      · rw [if_neg c3]
        simp [c1, c2, c3]
    · rw [if_neg c2]
      simp [c1, c2]
  · rw [if_neg c1]
    by_cases c4 : p.initial ≥ g.miniBet
    · rw [if_pos c4]
      by_cases c5 : g.cw = 0
      · rw [if_pos c5]
        simp [c4, c5]
        rw [c5] at c1
        omega
      · rw [if_neg c5]
        simp [c1, c4, c5]
    · rw [if_neg c4]
      simp [c1, c4]

theorem avail_pass {g : Game} {p : Player} (h : Act.pass ∈ g.availableActions p) :
    p.fold = true ∨ p.stack = 0 := by
  by_cases h1 : p.fold = true
  · exact Or.inl h1
  · by_cases h2 : p.stack = 0
    · exact Or.inr h2
    · exact absurd h (avail_mem (by simpa using h1) h2).2.1

theorem avail_check {g : Game} {p : Player} (h : Act.check ∈ g.availableActions p) : ¬ p.wager < g.cw := by
  obtain ⟨h1, h2⟩ := avail_movable_of_mem h (by simp)
  exact (avail_mem h1 h2).2.2.2.2.1.mp h

theorem avail_bet {g : Game} {p : Player} (h : Act.bet ∈ g.availableActions p) : ¬ p.wager < g.cw ∧ g.cw = 0 := by
  obtain ⟨h1, h2⟩ := avail_movable_of_mem h (by simp)
  obtain ⟨hw, _, hc⟩ := (avail_mem h1 h2).2.2.2.2.2.2.1.mp h
  exact ⟨hw, hc⟩

theorem avail_raise {g : Game} {p : Player} (h : Act.raise ∈ g.availableActions p) :
    (p.wager < g.cw ∨ g.cw ≠ 0) ∧ Act.allin ∈ g.availableActions p := by
  obtain ⟨h1, h2⟩ := avail_movable_of_mem h (by simp)
  have hm := avail_mem (g := g) h1 h2
  refine ⟨?_, hm.1⟩
  rcases hm.2.2.2.2.2.2.2.mp h with hr | hr
  · exact Or.inl hr.1
  · exact Or.inr hr.2.2

theorem avail_call {g : Game} {p : Player} (h : Act.call ∈ g.availableActions p) :
    p.wager < g.cw ∧ g.cw < p.initial := by
  obtain ⟨h1, h2⟩ := avail_movable_of_mem h (by simp)
  exact (avail_mem h1 h2).2.2.2.2.2.1.mp h

theorem avail_free (g : Game) (p : Player) : Act.pass ∈ g.availableActions p ∨ Act.allin ∈ g.availableActions p := by
  by_cases h : p.fold = true ∨ p.stack = 0
  · left
    rw [avail_pass_only g p h]
    exact List.mem_singleton.mpr rfl
  · right
    have h' := not_or.mp h
    exact (avail_mem (by simpa using h'.1) h'.2).1

end Pokerface
