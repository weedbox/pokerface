import Pokerface.Proofs.FlowFrames
import Pokerface.Proofs.Seats
/-
  The flow invariant `Flow` (C05/C06): result present exactly when closed, what the round
  field is at each wait point, the seat to act has not acted, later streets only open for
  betting with two stacks, a showdown happens on the river.  With it the ante loop cannot fail (`payAnte_ok`) and a
  closed round has a street; the loop is the one place where an operation can fail after it has begun
  (`step_payAnte_accepted`, `step_refused`), so under `Flow` a refused operation changes nothing (`refused_same`).
  Also here: the index of a street and what `Round.succ` does to it.
-/
namespace Pokerface
open Game

structure Flow (g : Game) : Prop where
  res : g.result.isSome = true ↔ g.event = .gameClosed
  ante : g.event = .anteRequested → 0 < g.opts.ante ∧ g.round = .none
  blinds : g.event = .blindsRequested → g.round = .preflop
  rnd0 : g.round = .none → (g.event = .readyRequested ∨ g.event = .anteRequested) ∧ ∀ p ∈ g.players, p.wager = 0
  acted : g.event = .roundStarted → ∀ p, g.players[g.cur]? = some p → p.acted = false
  ready2 : g.event = .readyRequested → g.round ≠ .none → g.round ≠ .preflop → 2 ≤ g.movableCount
  closed : g.event = .gameClosed → g.aliveCount = 1 ∨ g.round = .river

/-- `Flow` at a known event `e`: with `e` a constructor, the clauses about the other events are void (`nofun`) -/
theorem Flow.of_event {g : Game} {e : Ev} (he : g.event = e)
    (res : g.result.isSome = true ↔ e = .gameClosed)
    (ante : e = .anteRequested → 0 < g.opts.ante ∧ g.round = .none)
    (blinds : e = .blindsRequested → g.round = .preflop)
    (rnd0 : g.round = .none → (e = .readyRequested ∨ e = .anteRequested) ∧ ∀ p ∈ g.players, p.wager = 0)
    (acted : e = .roundStarted → ∀ p, g.players[g.cur]? = some p → p.acted = false)
    (ready2 : e = .readyRequested → g.round ≠ .none → g.round ≠ .preflop → 2 ≤ g.movableCount)
    (closed : e = .gameClosed → g.aliveCount = 1 ∨ g.round = .river) : Flow g := by
  subst he
  exact ⟨res, ante, blinds, rnd0, acted, ready2, closed⟩

theorem wager_zero_of_noChip {g g' : Game} (nc : NoChip g g') (hw : ∀ p ∈ g.players, p.wager = 0) :
    ∀ p ∈ g'.players, p.wager = 0 :=
  fun p hp => forall_of_chips (fun c => c.2.2.2.2 = 0) nc.chips (fun q hq => hw q hq) p hp

theorem res_of_none {r : Option Result} {e : Ev} (h : r = none) (he : e ≠ .gameClosed) :
    r.isSome = true ↔ e = .gameClosed := by
  subst h
  exact ⟨nofun, fun h => absurd h he⟩

def Round.idx : Round → Nat
  | .none => 0 | .preflop => 1 | .flop => 2 | .turn => 3 | .river => 4

theorem Round.succ_idx {r : Round} (h : r ≠ .river) : r.succ.idx = r.idx + 1 := by
  cases r with
  | river => exact absurd rfl h
  | none | preflop | flop | turn => rfl

theorem Round.succ_ne_none (r : Round) : r.succ ≠ .none := by
  cases r <;> exact nofun

theorem Round.succ_ne_preflop {r : Round} (h : r ≠ .none) : r.succ ≠ .preflop := by
  cases r with
  | none => exact absurd rfl h
  | preflop | flop | turn | river => exact nofun

theorem Round.succ_ne {r : Round} (h : r ≠ .river) : r.succ ≠ r := by
  cases r with
  | river => exact absurd rfl h
  | none | preflop | flop | turn => exact nofun

/-- the streets before the river, and the streets after the preflop, as ranges -/
theorem Round.before_river {r : Round} : r = .preflop ∨ r = .flop ∨ r = .turn ↔ r ≠ .none ∧ r ≠ .river := by
  cases r <;> simp

theorem Round.after_preflop {r : Round} : r = .flop ∨ r = .turn ∨ r = .river ↔ r ≠ .none ∧ r ≠ .preflop := by
  cases r <;> simp

theorem Flow.result_none {g : Game} (hf : Flow g) (he : g.event ≠ .gameClosed) : g.result = none := by
  cases h : g.result with
  | none => rfl
  | some r => exact absurd (hf.res.mp (by rw [h]; rfl)) he

theorem Flow.result_closed {g : Game} (hf : Flow g) (he : g.event = .gameClosed) : g.result ≠ none := by
  have := hf.res.mpr he
  intro hn
  rw [hn] at this
  cases this

theorem Flow.round_ne {g : Game} (hf : Flow g) (h1 : g.event ≠ .readyRequested) (h2 : g.event ≠ .anteRequested) :
    g.round ≠ .none := by
  intro h
  rcases (hf.rnd0 h).1 with h' | h'
  · exact h1 h'
  · exact h2 h'

/-- a closed round has a street -/
theorem Flow.round_closed {g : Game} (hf : Flow g) (he : g.event = .roundClosed) : g.round ≠ .none :=
  hf.round_ne (by rw [he]; exact nofun) (by rw [he]; exact nofun)

theorem pay_false_getElem_ne (g : Game) (i j : Nat) (c : Int) (hne : j ≠ i) :
    (g.pay i c false).players[j]? = g.players[j]? := by
  cases hp : g.players[i]? with
  | none => rw [g.pay_none hp]
  | some p =>
    rw [pay_false_eq hp]
    exact List.getElem?_modify_ne _ _ fun h => hne h.symm

theorem payAnteLoop_ok : ∀ (is : List Nat) (g : Game), is.Nodup →
    (∀ i ∈ is, ∀ p, g.players[i]? = some p → p.wager = 0) → (payAnteLoop is g).2 = none
  | [], _, _, _ => rfl
  | i :: is, g, hnd, h0 => by
    have ⟨hi, hnd'⟩ := List.nodup_cons.mp hnd
    unfold Game.payAnteLoop
    split
    · rfl
    · rename_i p hp
      have := h0 i (by simp) p hp
      split
      · omega
      · apply payAnteLoop_ok is _ hnd'
        intro j hj q hq
        have hne : j ≠ i := fun h => hi (h ▸ hj)
        rw [pay_false_getElem_ne g i j _ hne] at hq
        exact h0 j (by simp [hj]) q hq

theorem payAnteLoop_ok' (g : Game) (hf : Flow g) (he : g.event = .anteRequested) :
    (payAnteLoop g.seatsFromDealer g).2 = none := by
  apply payAnteLoop_ok _ _ (Game.nodup_seatsFromDealer g)
  intro i _ p hp
  exact (hf.rnd0 (hf.ante he).2).2 p (List.mem_of_getElem? hp)

/-- `PayAnte` when its loop does not fail: the loop, then `onAntePaid` -/
theorem step_payAnte_ok {g : Game} (he : g.event = .anteRequested) (h0 : g.opts.ante ≠ 0)
    (hl : (payAnteLoop g.seatsFromDealer g).2 = none) :
    g.step .payAnte = ((payAnteLoop g.seatsFromDealer g).1.antePaid, none) := by
  rw [step_payAnte he h0]
  generalize payAnteLoop g.seatsFromDealer g = r at hl
  obtain ⟨g', e⟩ := r
  cases hl
  rfl

theorem payAnte_ok (g : Game) (hf : Flow g) (he : g.event = .anteRequested) : g.payAnte.2 = none := by
  have h1 := (hf.ante he).1
  show (g.step .payAnte).2 = none
  rw [step_payAnte_ok he (by omega) (payAnteLoop_ok' g hf he)]

/-- `PayAnte` is the one operation that can fail at the wait point that awaits it: inside its loop, and then it returns
    the loop's state.  So an ACCEPTED `PayAnte` has run the loop to its end, and then `onAntePaid`. -/
theorem step_payAnte_accepted {g : Game} (hacc : (g.step .payAnte).2 = none) :
    g.event = .anteRequested ∧ g.step .payAnte = ((payAnteLoop g.seatsFromDealer g).1.antePaid, none) := by
  by_cases h : g.opts.ante = 0 ∨ g.event ≠ .anteRequested
  · rw [step_payAnte_refused h] at hacc
    cases hacc
  · have he : g.event = .anteRequested := Decidable.of_not_not fun he => h (.inr he)
    refine ⟨he, ?_⟩
    rw [step_payAnte he fun h0 => h (.inl h0)] at hacc ⊢
    generalize payAnteLoop g.seatsFromDealer g = r at hacc ⊢
    obtain ⟨g', _ | e⟩ := r
    · rfl
    · cases hacc

/-- A refused operation returns the state it was given — provided the loop of `PayAnte` does not fail (a failure there
    would return the state with some antes paid). -/
theorem step_refused {g : Game} {op : Op} (h : (g.step op).2 ≠ none)
    (hl : op = .payAnte → g.event = .anteRequested → (payAnteLoop g.seatsFromDealer g).2 = none) : (g.step op).1 = g := by
  revert h
  refine g.step_cases op (motive := fun r => r.2 ≠ none → r.1 = g) (fun _ _ => rfl) (fun _ _ h => absurd rfl h) ?_
    (fun _ _ h => absurd rfl h) (fun _ _ _ h => absurd rfl h) (fun _ _ _ _ => rfl) fun _ a x _ => g.act_refused _ a x
  intro hop he h0
  rw [← step_payAnte he h0, step_payAnte_ok he h0 (hl hop he)]
  exact fun h => absurd rfl h

/-- under `Flow` the loop of `PayAnte` does not fail (`payAnteLoop_ok'`) -/
theorem refused_same (g : Game) (hf : Flow g) (op : Op) (h : (g.step op).2 ≠ none) : (g.step op).1 = g :=
  step_refused h fun _ he => payAnteLoop_ok' g hf he

end Pokerface
