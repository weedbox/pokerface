import Pokerface.Generated.Facts
/-
  K1 obligation of every property whose histories contain save / restore points (`H_` in /verif/check: C01 C02 C04 C05
  C06 C07 C10 C11 C12 C13 C14 C15): the fields of the Go state that `encoding/json` does not carry — tagged
  `json:"-"` or unexported — are the listed eight: the pots' `Levels`, which `Game.hop` drops, and
  internals of `settlement.Result` that nothing reads after `Calculate`, which `Game.json` drops as well.
  `Generated/Facts.lean` is regenerated from the compiled packages by reflection on every run, so
  a field added to any state struct with `json:"-"` (or unexported), an exported field without a
  tag, or another `omitempty` breaks one of the three theorems.  The theorems compare the regenerated list with a list
  written here; that `Game.hop` / `Game.json` (Model/Game.lean, Proofs/EngineHop.lean) drop exactly the modelled
  counterparts of these fields is read off their definitions, not proved.
-/
namespace Pokerface.HopFields
open Pokerface.Generated

/-- (struct, field) of every field reachable from `GameState` that a JSON round trip loses -/
def droppedFields : List (String × String) :=
  (stateFields.filter fun f => f.2.2.2 == "-" || f.2.2.2 == "<unexported>").map fun f => (f.1, f.2.1)

theorem dropped_fields_exact :
    droppedFields = [("Pot", "Levels"), ("PotResult", "rank"), ("Rank", "contributerCount"), ("Rank", "groups"),
                     ("PotResult", "level"), ("PotLevel", "levels"), ("LevelInfo", "rank"), ("PotResult", "oddChipOffset")] := by decide +kernel

/-- every exported field of the engine's own state structs carries a JSON tag (no field falls
    back to its Go name silently) -/
theorem state_fields_tagged :
    (stateFields.filter fun f => (f.1 == "GameState" || f.1 == "Meta" || f.1 == "Status" || f.1 == "PlayerState"
        || f.1 == "CombinationInfo" || f.1 == "Action" || f.1 == "BlindSetting") && f.2.2.2 == "").length = 0 := by decide +kernel

/-- `omitempty` fields: a JSON round trip turns an empty slice/string/nil pointer of these into
    the zero value (the comparison of states in the correspondence is done on canonical JSON, so
    `[]` and `nil` are not distinguished) -/
theorem omitempty_fields :
    ((stateFields.filter fun f => f.2.2.2.toList.contains ',').map fun f => (f.1, f.2.1)) =
      [("Status", "Round"), ("Status", "Burned"), ("Status", "Board"), ("Status", "LastAction"), ("Action", "Value"),
       ("PlayerState", "DidAction"), ("PlayerState", "AllowedActions"), ("PlayerState", "HoleCards"),
       ("PlayerState", "Combination"), ("GameState", "Result")] := by decide +kernel

end Pokerface.HopFields
