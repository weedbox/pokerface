import Pokerface.Proofs.TableDriverSim
/-
  Progress of the table's driver: the callbacks delivered are bounded, a participant's readying call is accepted, the
  player to act has an accepted action, and the measure (callbacks still possible, participants still waited for) by
  which the players can finish every hand.
-/
namespace Pokerface.Drv
open Pokerface Game C06D

theorem callBackend_cases (d : D) (op : Op) :
    (∃ err, callBackend d op = (d, some err)) ∨
    ∃ s, backend d.gs op = .ok s ∧ callBackend d op = (update fuel d s, none) := by
  unfold callBackend
  cases backend d.gs op with
  | error e => exact Or.inl ⟨_, rfl⟩
  | ok s => exact Or.inr ⟨s, rfl, rfl⟩

theorem runD_append (d : D) (a b : List Call) : runD d (a ++ b) = runD (runD d a) b := by
  simp [runD, List.foldl_append]

/-- the number of callbacks delivered is one more than the number of accepted backend operations, hence bounded -/
theorem updates_le (c : Config) (wf : WFConfig c) (hs : (start c).2 = none) (cs : List Call) :
    (runD (startD (start c).1) cs).updates ≤ C06.bound c + 1 := by
  obtain ⟨ops, e, hh, _, hu, _⟩ := runD_ok ⟨c, wf, hs, rfl⟩ cs
  have := C06.no_infinite_play c wf hs ops hh.accepted_eq
  omega

/-- participants of the pending group that are not ready yet -/
def pending (d : D) : Nat :=
  match d.group with
  | some G => (G.parts.filter fun pr => !pr.2).length
  | none => 0

theorem count_set_le (l : List (Nat × Bool)) (i : Nat) :
    ((l.map fun pr => if pr.1 = i then (pr.1, true) else pr).filter fun pr => !pr.2).length ≤ (l.filter fun pr => !pr.2).length := by
  rw [← List.countP_eq_length_filter, ← List.countP_eq_length_filter, List.countP_map]
  apply List.countP_mono_left
  intro pr _ h
  simp only [Function.comp] at h
  split at h
  · cases h
  · exact h

theorem count_set_lt (l : List (Nat × Bool)) (i : Nat) (h : ∃ pr ∈ l, pr.1 = i ∧ pr.2 = false) :
    ((l.map fun pr => if pr.1 = i then (pr.1, true) else pr).filter fun pr => !pr.2).length < (l.filter fun pr => !pr.2).length := by
  obtain ⟨pr, hpr, h1, h2⟩ := h
  obtain ⟨l1, l2, rfl⟩ := List.append_of_mem hpr
  have a := count_set_le l1 i
  have b := count_set_le l2 i
  simp only [List.map_append, List.map_cons, List.filter_append, List.filter_cons, List.length_append, h1, h2, if_true,
    Bool.not_true, Bool.not_false, Bool.false_eq_true, if_false, List.length_cons]
  omega

/-- the wrapper call by which participant `i` readies itself at the event `ev` -/
def readyCall (ev : Ev) (i : Nat) (x : Int) : Call :=
  if ev = .readyRequested then .ready i else .act i .pay x

section
variable {g0 : Game} (h0 : Start0 g0) {d : D} {ops : List Op} {e : Game} (hh : Hist g0 ops e) (hp : Held d e)
  {g' : Game} {m : List Nat} {grp : Group} (ha : arm e.hop = some (g', m, grp))
include h0 hh hp ha

theorem readyCall_eq (i : Nat) (hi : i ∈ grp.parts.map (·.1)) (x : Int) :
    call d (readyCall e.event i x) = (groupReady d i, none) := by
  obtain ⟨q1, q2, _⟩ := hp.armed ha
  obtain ⟨a1, a2, a3⟩ := arm_part (inv_reachable (hh.reach h0)).struct ha i hi
  obtain ⟨e1, e2⟩ := arm_event ha
  have hev : e.hop.event = e.event := rfl
  rw [hev] at e1 e2
  unfold readyCall
  split
  · rename_i he
    simp only [call, q1, q2, Nat.not_le.mpr a1, a2 he, if_false, Bool.not_true, Bool.false_eq_true]
  · rename_i he
    have hev2 : g'.event = .anteRequested ∨ g'.event = .blindsRequested := by
      rw [e1]
      exact e2.resolve_left he
    simp only [call, hasAction, q1, Nat.not_le.mpr a1, a3 he, hev2, if_false, Bool.not_true, Bool.false_eq_true,
      and_self, if_true]

theorem group_progress (hg : GOK d.group) (hne : grp.parts ≠ []) :
    ∃ i ∈ grp.parts.map (·.1), d.updates < (groupReady d i).updates ∨ pending (groupReady d i) < pending d := by
  have hR := hh.reach h0
  obtain ⟨q1, q2, G, q3, q4, q5, q6⟩ := hp.armed ha
  have hGne : G.parts ≠ [] := by
    intro h
    rw [h] at q6
    exact hne (List.map_eq_nil_iff.mp q6.symm)
  obtain ⟨pr, hpr, h2⟩ := hg G q3 q5 hGne
  have hcl : d.closed = false := hp.open (arm_event_ne ha).2
  have hmem : pr.1 ∈ grp.parts.map (·.1) := by
    rw [← q6]
    exact List.mem_map_of_mem hpr
  refine ⟨pr.1, hmem, ?_⟩
  unfold groupReady
  rw [q3]
  simp only [q5]
  split
  · left
    obtain ⟨f1, f2⟩ := fire_ok hR ha
    unfold callBackend
    simp only [q1, q4, f2]
    refine update_updates_lt h0 (Hist.snoc _ hh f1) ?_ rfl
    exact hcl
  · right
    simp only [pending, q3]
    exact count_set_lt _ _ ⟨pr, hpr, rfl, h2⟩

end

/-- in a betting round the player to act is offered `pass` or `allin` (`avail_free`), which the engine accepts
    whatever the amount: that wrapper call is accepted and a callback is delivered -/
theorem act_progress {g0 : Game} (h0 : Start0 g0) {d : D} {ops : List Op} {e : Game} (hh : Hist g0 ops e)
    (hp : Held d e) (hrs : e.event = .roundStarted) :
    ∃ a x, hasAction d d.gs.cur a = true ∧ (call d (.act d.gs.cur a x)).2 = none ∧
      d.updates < (call d (.act d.gs.cur a x)).1.updates := by
  have hR := hh.reach h0
  have hgs := hp.gs_eq (by simp [hrs]) (by simp [hrs])
  have hcl : d.closed = false := hp.open (by simp [hrs])
  obtain ⟨p, hpc, _, hall⟩ := (C06.expected_step_succeeds hR).2.2.2.2 hrs
  obtain ⟨⟨p', hpc', hav, _⟩, _⟩ := (C04.one_actor hR).1 hrs
  rw [hpc] at hpc'
  cases hpc'
  obtain ⟨a, hmem, hfree⟩ : ∃ a, a ∈ p.allowed ∧ (a = .pass ∨ a = .fold ∨ a = .check ∨ a = .call ∨ a = .allin) := by
    rw [hav]
    rcases avail_free e p with h | h
    · exact ⟨_, h, Or.inl rfl⟩
    · exact ⟨_, h, Or.inr (Or.inr (Or.inr (Or.inr rfl)))⟩
  have hacc : (e.step (.act none a 0)).2 = none := (hall none (Or.inl rfl) a 0 hmem).1 hfree
  have hlen : ¬ d.gs.players.length ≤ d.gs.cur := by
    rw [hgs]
    exact Nat.not_le.mpr (List.getElem?_eq_some_iff.mp hpc).1
  have hal : hasAction d d.gs.cur a = true := by
    unfold hasAction
    rw [hgs]
    exact allows_of_mem (g := e.hop) hpc hmem
  have hnb : ¬(a = .pay ∧ (d.gs.event = .anteRequested ∨ d.gs.event = .blindsRequested)) := by
    rw [hp.event_eq, hrs]
    simp
  refine ⟨a, 0, hal, ?_⟩
  simp only [call, hlen, hal, hnb, if_false, Bool.not_true, Bool.false_eq_true]
  unfold callBackend
  rw [hgs, backend_hop, backend_ok hacc]
  exact ⟨rfl, update_updates_lt h0 (Hist.snoc _ hh hacc) hcl rfl⟩

theorem stuck_of_no_marks (d : D) (h1 : d.readyMarks = []) (h2 : NoneAllowed d.gs) (c : Call) :
    (call d c).1 = d ∧ (call d c).2 ≠ none := by
  have hno : ∀ i a, hasAction d i a = false := allows_false_of_noneAllowed h2
  rcases call_cases d c with ⟨_, e⟩ | ⟨i, _, hm | ⟨hm, _⟩⟩ | ⟨i, a, _, _, hm, _⟩
  · rw [e]
    exact ⟨rfl, by simp⟩
  · rw [h1] at hm
    cases hm
  · rw [hno] at hm
    cases hm
  · rw [hno] at hm
    cases hm

theorem stuck_run (d : D) (h1 : d.readyMarks = []) (h2 : NoneAllowed d.gs) (cs : List Call) :
    runD d cs = d := by
  induction cs with
  | nil => rfl
  | cons c cs ih =>
    show runD (call d c).1 cs = d
    rw [(stuck_of_no_marks d h1 h2 c).1]
    exact ih

/-- `Good`: a set of drivers closed under wrapper calls, along which the callbacks delivered never decrease and stay
    below `B`.  Measure: `B - updates`, then `pending`. -/
theorem finish_of_progress {Good : D → Prop} {B : Nat} (hcall : ∀ d k, Good d → Good (call d k).1)
    (hmono : ∀ d k, Good d → d.updates ≤ (call d k).1.updates) (hB : ∀ d, Good d → d.updates ≤ B)
    (hprog : ∀ d, Good d → d.closed = false →
      ∃ k, d.updates < (call d k).1.updates ∨ pending (call d k).1 < pending d) :
    ∀ d, Good d → ∃ cs, (runD d cs).closed = true := by
  have aux : ∀ A P d, Good d → B - d.updates = A → pending d = P → ∃ cs, (runD d cs).closed = true := by
    intro A
    induction A using Nat.strongRecOn with
    | ind A ihA =>
      intro P
      induction P using Nat.strongRecOn with
      | ind P ihP =>
        intro d hg hA hP
        cases hcl : d.closed with
        | true => exact ⟨[], hcl⟩
        | false =>
          obtain ⟨k, hk⟩ := hprog d hg hcl
          have hg' := hcall d k hg
          have hmono := hmono d k hg
          have hle := hB _ hg'
          have step : (∃ cs, (runD (call d k).1 cs).closed = true) → ∃ cs, (runD d cs).closed = true :=
            fun ⟨cs, h⟩ => ⟨k :: cs, h⟩
          apply step
          by_cases hup : d.updates < (call d k).1.updates
          · exact ihA _ (by omega) _ _ hg' rfl rfl
          · exact ihP _ (by omega) _ hg' (by omega) rfl
  exact fun d hg => aux _ _ d hg rfl rfl

end Pokerface.Drv
