import Pokerface.Proofs.PotsMerge
/-
  Sums over the levels of a level list (every owner's chips lie slice by slice between consecutive
  levels: `slice`, `lastD`, the `mkLevelsFrom_*_sum*` lemmas); `live`, the players still in at a level; `LevelsOK`, the
  closed form `LLInv` with the two side conditions the lemmas on pots ask for; and the published pots in terms of the
  merged ones (`foldedStakes`, `mergedPots`, `getPots_eq`, `mergedPots_spec`).
-/
namespace Pokerface

/-- Chips of an owner who paid `c` that lie between the levels `lo` and `hi`. -/
def slice (c lo hi : Int) : Int := min c hi - min c lo

theorem slice_nonneg {c lo hi : Int} (h : lo ≤ hi) : 0 ≤ slice c lo hi := by
  unfold slice
  omega

theorem slice_le {c lo hi : Int} (h : lo ≤ hi) : slice c lo hi ≤ hi - lo := by
  unfold slice
  omega

theorem slice_eq_zero {c lo hi : Int} (hc : c ≤ lo) (h : lo ≤ hi) : slice c lo hi = 0 := by
  rw [slice, Int.min_eq_left hc, Int.min_eq_left (Int.le_trans hc h), Int.sub_self]

theorem slice_eq_full {c lo hi : Int} (hc : hi ≤ c) (h : lo ≤ hi) : slice c lo hi = hi - lo := by
  rw [slice, Int.min_eq_right hc, Int.min_eq_right (Int.le_trans h hc)]

theorem slice_pos_iff {c lo hi : Int} (h : lo < hi) : 0 < slice c lo hi ↔ lo < c := by
  unfold slice
  omega

theorem lt_of_slice_pos {c lo hi : Int} (hpos : 0 < slice c lo hi) : lo < c := by
  unfold slice at hpos
  omega

theorem min_add_slice_le (c lo hi : Int) : min c lo + slice c lo hi ≤ c := by
  unfold slice
  omega

theorem level_share {v lo hi : Int} (hv : v ≤ lo ∨ hi ≤ v) (h : lo ≤ hi) :
    (if hi ≤ v then hi - lo else 0) = slice v lo hi := by
  by_cases hhi : hi ≤ v
  · rw [if_pos hhi, slice_eq_full hhi h]
  · rw [if_neg hhi, slice_eq_zero (hv.resolve_right hhi) h]

def lastD (p : Int) (X : List Int) : Int := X.getLast?.getD p

@[simp] theorem lastD_nil (p : Int) : lastD p [] = p := rfl
@[simp] theorem lastD_cons (p L : Int) (X : List Int) : lastD p (L :: X) = lastD L X := by
  simp [lastD, List.getLast?_cons]

theorem lastD_append (p : Int) (X Y : List Int) : lastD p (X ++ Y) = lastD (lastD p X) Y := by
  induction X generalizing p with
  | nil => rfl
  | cons x xs ih => simp [ih]

theorem lastD_of_getLast? {p : Int} {X : List Int} {a : Int} (h : X.getLast? = some a) : lastD p X = a := by
  simp [lastD, h]

theorem le_lastD_of_sorted {X : List Int} (hs : X.Pairwise (· < ·)) (p : Int) :
    ∀ x ∈ X, x ≤ lastD p X := by
  rcases List.eq_nil_or_concat X with rfl | ⟨init, y, rfl⟩
  · simp
  · intro x hx
    rw [List.concat_eq_append] at hs hx ⊢
    rw [List.pairwise_append] at hs
    simp only [lastD_append, lastD_cons, lastD_nil]
    rcases List.mem_append.1 hx with hx | hx
    · exact Int.le_of_lt (hs.2.2 x hx y (List.mem_singleton.2 rfl))
    · exact Int.le_of_eq (List.mem_singleton.1 hx)

theorem lastD_mem_or (p : Int) (X : List Int) : lastD p X = p ∨ lastD p X ∈ X := by
  rcases List.eq_nil_or_concat X with rfl | ⟨init, y, rfl⟩
  · exact .inl rfl
  · simp [lastD_append]

theorem forall_le_iff_lastD_le {X : List Int} (hs : X.Pairwise (· < ·)) {p c : Int} (hp : p ≤ c) :
    (∀ x ∈ X, x ≤ c) ↔ lastD p X ≤ c := by
  constructor
  · intro hA
    rcases lastD_mem_or p X with h | h
    · rw [h]
      exact hp
    · exact hA _ h
  · intro hA x hx
    exact Int.le_trans (le_lastD_of_sorted hs p x hx) hA

theorem mkLevelsFrom_length (c : List (Nat × Int)) (p : Int) (X : List Int) :
    (mkLevelsFrom c p X).length = X.length := by
  have := congrArg List.length (mkLevelsFrom_level c p X)
  simpa using this

theorem mkLevelsFrom_append (c : List (Nat × Int)) (p : Int) (X Y : List Int) :
    mkLevelsFrom c p (X ++ Y) = mkLevelsFrom c p X ++ mkLevelsFrom c (lastD p X) Y := by
  induction X generalizing p with
  | nil => rfl
  | cons x xs ih => simp [mkLevelsFrom, ih]

theorem mkLevelsFrom_wager_sum (c : List (Nat × Int)) (p : Int) (X : List Int) :
    ((mkLevelsFrom c p X).map (·.wager)).sum = lastD p X - p := by
  induction X generalizing p with
  | nil => simp [mkLevelsFrom]
  | cons x xs ih =>
    simp only [mkLevelsFrom, List.map_cons, List.sum_cons, ih, lastD_cons]
    omega

theorem mkLevelsFrom_contributors (c : List (Nat × Int)) (p : Int) (X : List Int) :
    ∀ l ∈ mkLevelsFrom c p X, l.contributors = contribsAt c l.level := by
  induction X generalizing p with
  | nil => simp [mkLevelsFrom]
  | cons x xs ih =>
    intro l hl
    simp only [mkLevelsFrom, List.mem_cons] at hl
    rcases hl with rfl | hl
    · rfl
    · exact ih _ l hl

theorem LLInv.contributors_eq {ll : LevelList} (h : LLInv ll) {l : Level} (hl : l ∈ ll.levels) :
    l.contributors = contribsAt ll.contribs l.level := by
  rw [h.levels] at hl
  exact mkLevelsFrom_contributors _ _ _ l hl

/-- A level list as `updatePots` builds it: besides the closed form, every contribution is one of the level values
    (each seat is added once) and no level is negative. -/
structure LevelsOK (ll : LevelList) : Prop extends LLInv ll where
  mem_levels : ∀ kv ∈ ll.contribs, kv.2 ∈ ll.levels.map (·.level)
  nonneg : ∀ L ∈ ll.levels.map (·.level), 0 ≤ L

theorem contribsAt_sorted {c : List (Nat × Int)} (h : KeysSorted c) (L : Int) :
    (contribsAt c L).Pairwise (· < ·) := by
  unfold contribsAt
  rw [List.pairwise_map]
  exact h.sublist List.filter_sublist

theorem contribsAt_sublist (c : List (Nat × Int)) {L₁ L₂ : Int} (h : L₁ ≤ L₂) :
    (contribsAt c L₂).Sublist (contribsAt c L₁) := by
  unfold contribsAt
  apply List.Sublist.map
  have : c.filter (fun kv => decide (L₂ ≤ kv.2))
      = (c.filter (fun kv => decide (L₁ ≤ kv.2))).filter (fun kv => decide (L₂ ≤ kv.2)) := by
    rw [List.filter_filter]
    apply List.filter_congr
    intro a _
    by_cases h2 : L₂ ≤ a.2
    · have : L₁ ≤ a.2 := by omega
      simp [h2, this]
    · simp [h2]
  rw [this]
  exact List.filter_sublist

theorem mem_contribsAt {c : List (Nat × Int)} {L : Int} {i : Nat} :
    i ∈ contribsAt c L ↔ ∃ v, (i, v) ∈ c ∧ L ≤ v := by
  simp only [contribsAt, List.mem_map, List.mem_filter, decide_eq_true_eq]
  constructor
  · rintro ⟨⟨k, v⟩, ⟨h1, h2⟩, rfl⟩
    exact ⟨v, h1, h2⟩
  · rintro ⟨v, h1, h2⟩
    exact ⟨(i, v), ⟨h1, h2⟩, rfl⟩

/-- The players still in at level `L`: contribution at least `L`, not folded; ascending idx. -/
def live (ll : LevelList) (L : Int) : List Nat := (contribsAt ll.contribs L).filter (fun i => !ll.folded.contains i)

theorem mem_live {ll : LevelList} {L : Int} {i : Nat} :
    i ∈ live ll L ↔ i ∉ ll.folded ∧ ∃ v, (i, v) ∈ ll.contribs ∧ L ≤ v := by
  simp only [live, List.mem_filter, mem_contribsAt, List.contains_eq_mem, Bool.not_eq_eq_eq_not, Bool.not_true,
    decide_eq_false_iff_not]
  exact and_comm

theorem live_sorted {ll : LevelList} (h : LLInv ll) (L : Int) : (live ll L).Pairwise (· < ·) :=
  (contribsAt_sorted h.contribs L).sublist List.filter_sublist

theorem live_sublist (ll : LevelList) {L₁ L₂ : Int} (h : L₁ ≤ L₂) : (live ll L₂).Sublist (live ll L₁) :=
  (contribsAt_sublist _ h).filter _

theorem LLInv.nf_eq {ll : LevelList} (h : LLInv ll) {l : Level} (hl : l ∈ ll.levels) :
    nf ll.folded l = live ll l.level := by
  rw [nf, h.contributors_eq hl, live]

/-- A segment `S` of the levels over ascending values from `p` on: it is the levels over its own values from the last
    value `d` before it, its values ascend from `d` on, and every value of the whole list lies at or below `d`, in the
    segment, or above it — which is what the sums over `mkLevelsFrom` below ask of a start and of the contributions. -/
theorem mkLevelsFrom_segment (c : List (Nat × Int)) (p : Int) (Ls : List Int) (A S B : List Level)
    (h : mkLevelsFrom c p Ls = A ++ S ++ B) (hs : Ls.Pairwise (· < ·)) (h0 : ∀ L ∈ Ls, p ≤ L) :
    S = mkLevelsFrom c (lastD p (A.map (·.level))) (S.map (·.level)) ∧
    (S.map (·.level)).Pairwise (· < ·) ∧
    (∀ x ∈ S.map (·.level), lastD p (A.map (·.level)) ≤ x) ∧
    ∀ y ∈ Ls, y ≤ lastD p (A.map (·.level)) ∨ y ∈ S.map (·.level) ∨ ∀ x ∈ S.map (·.level), x ≤ y := by
  have hL : Ls = A.map (·.level) ++ S.map (·.level) ++ B.map (·.level) := by
    have := congrArg (List.map (·.level)) h
    rw [mkLevelsFrom_level] at this
    simpa using this
  subst hL
  rw [List.pairwise_append, List.pairwise_append] at hs
  refine ⟨?_, hs.1.2.1, fun x hx => ?_, fun y hy => ?_⟩
  · rw [mkLevelsFrom_append, mkLevelsFrom_append] at h
    have h1 := (List.append_inj' h (by simp [mkLevelsFrom_length])).1
    exact ((List.append_inj' h1 (by simp [mkLevelsFrom_length])).2).symm
  · rcases lastD_mem_or p (A.map (·.level)) with h1 | hm
    · rw [h1]
      exact h0 x (by simp [hx])
    · exact Int.le_of_lt (hs.1.2.2 _ hm x hx)
  · simp only [List.mem_append] at hy
    rcases hy with (hy | hy) | hy
    · exact .inl (le_lastD_of_sorted hs.1.1 p _ hy)
    · exact .inr (.inl hy)
    · exact .inr (.inr fun x hx => Int.le_of_lt (hs.2.2 x (by simp [hx]) y hy))

/-- Wagers of the levels up to `v` add up to `v` (when `v` respects the gaps of the level values). -/
theorem mkLevelsFrom_wager_sum_upto (c : List (Nat × Int)) (p : Int) (X : List Int) (v : Int)
    (hp : ∀ x ∈ X, p ≤ x) (hs : X.Pairwise (· < ·))
    (hgap : v ≤ p ∨ v ∈ X ∨ ∀ x ∈ X, x ≤ v) :
    ((mkLevelsFrom c p X).map (fun l => if l.level ≤ v then l.wager else 0)).sum
      = min v (lastD p X) - min v p := by
  induction X generalizing p with
  | nil => simp [mkLevelsFrom]
  | cons L X ih =>
    simp only [List.pairwise_cons] at hs
    have hpL : p ≤ L := hp L (by simp)
    -- `v` does not end strictly inside the first level, and respects the gaps of the others
    have hv : (v ≤ p ∨ L ≤ v) ∧ (v ≤ L ∨ v ∈ X ∨ ∀ x ∈ X, x ≤ v) := by
      rcases hgap with h | h | h
      · exact ⟨Or.inl h, Or.inl (by omega)⟩
      · rcases List.mem_cons.1 h with h | h
        · exact ⟨Or.inr (by omega), Or.inl (by omega)⟩
        · exact ⟨Or.inr (by have := hs.1 v h; omega), Or.inr (Or.inl h)⟩
      · exact ⟨Or.inr (h L (by simp)), Or.inr (Or.inr fun x hx => h x (by simp [hx]))⟩
    have ih' := ih L (fun x hx => by have := hs.1 x hx; omega) hs.2 hv.2
    simp only [mkLevelsFrom, List.map_cons, List.sum_cons, ih', lastD_cons, level_share hv.1 hpL]
    unfold slice
    omega

theorem mkLevelsFrom_wager_sum_upto_le (c : List (Nat × Int)) (p : Int) (X : List Int) (v : Int)
    (hp : ∀ x ∈ X, p ≤ x) (hs : X.Pairwise (· < ·)) :
    ((mkLevelsFrom c p X).map (fun l => if l.level ≤ v then l.wager else 0)).sum ≤ max (v - p) 0 := by
  induction X generalizing p with
  | nil =>
    simp [mkLevelsFrom]
    omega
  | cons L X ih =>
    simp only [List.pairwise_cons] at hs
    have hpL : p ≤ L := hp L (by simp)
    have ih' := ih L (fun x hx => by have := hs.1 x hx; omega) hs.2
    simp only [mkLevelsFrom, List.map_cons, List.sum_cons]
    by_cases hLv : L ≤ v
    · rw [if_pos hLv, Int.max_eq_left (by omega)]
      rw [Int.max_eq_left (by omega)] at ih'
      omega
    · rw [if_neg hLv]
      rw [Int.max_eq_right (by omega)] at ih'
      have := Int.le_max_right (v - p) 0
      omega

theorem mkLevelsFrom_total (c : List (Nat × Int)) (p : Int) (X : List Int) :
    ∀ l ∈ mkLevelsFrom c p X,
      l.total = ((c.filter (fun kv => decide (l.level ≤ kv.2))).length : Int) * l.wager := by
  induction X generalizing p with
  | nil => simp [mkLevelsFrom]
  | cons L X ih =>
    intro l hl
    simp only [mkLevelsFrom, List.mem_cons] at hl
    rcases hl with rfl | hl
    · simp [contribsAt]
    · exact ih L l hl

/-- Totals of the levels selected by `P`, contributor by contributor: if for the contributor `kv` the selected
    levels it reached are those up to `t kv`, it put `min (t kv) last − min (t kv) p` into them (double counting
    of the pairs level × contributor, then `mkLevelsFrom_wager_sum_upto`). -/
theorem mkLevelsFrom_total_sum_of (c : List (Nat × Int)) (p : Int) (X : List Int) (P : Level → Bool)
    (t : Nat × Int → Int) (hp : ∀ x ∈ X, p ≤ x) (hs : X.Pairwise (· < ·))
    (ht : ∀ l kv, l.level ≤ t kv ↔ P l = true ∧ l.level ≤ kv.2)
    (hgap : ∀ kv ∈ c, t kv ≤ p ∨ t kv ∈ X ∨ ∀ x ∈ X, x ≤ t kv) :
    ((mkLevelsFrom c p X).map (fun l => if P l then l.total else 0)).sum
      = (c.map (fun kv => min (t kv) (lastD p X) - min (t kv) p)).sum := by
  have h1 : (mkLevelsFrom c p X).map (fun l => if P l then l.total else 0)
      = (mkLevelsFrom c p X).map (fun l =>
          ((c.filter (fun kv => decide (l.level ≤ kv.2))).length : Int) * (if P l then l.wager else 0)) := by
    apply List.map_congr_left
    intro l hl
    rw [mkLevelsFrom_total c p X l hl]
    cases P l
    · simp
    · simp
  rw [h1, sum_length_filter_mul]
  congr 1
  apply List.map_congr_left
  intro kv hkv
  rw [← mkLevelsFrom_wager_sum_upto c p X (t kv) hp hs (hgap kv hkv)]
  congr 1
  apply List.map_congr_left
  intro l _
  by_cases h1 : l.level ≤ kv.2
  · by_cases h2 : P l = true
    · simp [ht, h1, h2]
    · simp [ht, h1, h2]
  · simp [ht, h1]

theorem mkLevelsFrom_total_sum (c : List (Nat × Int)) (p : Int) (X : List Int)
    (hp : ∀ x ∈ X, p ≤ x) (hs : X.Pairwise (· < ·))
    (hgap : ∀ kv ∈ c, kv.2 ≤ p ∨ kv.2 ∈ X ∨ ∀ x ∈ X, x ≤ kv.2) :
    ((mkLevelsFrom c p X).map (·.total)).sum = (c.map (fun kv => min kv.2 (lastD p X) - min kv.2 p)).sum := by
  have := mkLevelsFrom_total_sum_of c p X (fun _ => true) (·.2) hp hs (fun _ _ => by simp) hgap
  simpa using this

theorem mkLevelsFrom_total_sum_upto (c : List (Nat × Int)) (p : Int) (X : List Int) (v : Int)
    (hp : ∀ x ∈ X, p ≤ x) (hs : X.Pairwise (· < ·))
    (hgap : ∀ kv ∈ c, min v kv.2 ≤ p ∨ min v kv.2 ∈ X ∨ ∀ x ∈ X, x ≤ min v kv.2) :
    ((mkLevelsFrom c p X).map (fun l => if l.level ≤ v then l.total else 0)).sum
      = (c.map (fun kv => min (min v kv.2) (lastD p X) - min (min v kv.2) p)).sum := by
  have := mkLevelsFrom_total_sum_of c p X (fun l => decide (l.level ≤ v)) (fun kv => min v kv.2) hp hs
    (fun l kv => by simp only [decide_eq_true_eq]; omega) hgap
  simpa using this

theorem mkLevelsFrom_level_facts (c : List (Nat × Int)) (p : Int) (X : List Int)
    (hp : ∀ x ∈ X, p ≤ x) (hs : X.Pairwise (· < ·)) :
    ∀ l ∈ mkLevelsFrom c p X, 0 ≤ l.wager ∧ l.total = (l.contributors.length : Int) * l.wager := by
  induction X generalizing p with
  | nil => simp [mkLevelsFrom]
  | cons L X ih =>
    simp only [List.pairwise_cons] at hs
    intro l hl
    simp only [mkLevelsFrom, List.mem_cons] at hl
    rcases hl with rfl | hl
    · have := hp L (by simp)
      exact ⟨by simp only; omega, rfl⟩
    · exact ih L (fun x hx => by have := hs.1 x hx; omega) hs.2 l hl

/-- The `(idx, stake)` pairs of the folded players, ascending idx. -/
def foldedStakes (ll : LevelList) : List (Nat × Int) :=
  ll.folded.map (fun idx => (idx, (assocGet? ll.contribs idx).getD 0))

theorem foldedStakes_keys (ll : LevelList) : (foldedStakes ll).map (·.1) = ll.folded := by
  simp [foldedStakes, List.map_map, Function.comp_def]

theorem mem_foldedStakes {ll : LevelList} {x : Nat × Int} :
    x ∈ foldedStakes ll ↔ x.1 ∈ ll.folded ∧ x.2 = (assocGet? ll.contribs x.1).getD 0 := by
  simp only [foldedStakes, List.mem_map]
  constructor
  · rintro ⟨j, hj, rfl⟩
    exact ⟨hj, rfl⟩
  · rintro ⟨h1, h2⟩
    exact ⟨x.1, h1, by rw [← h2]⟩

/-- The pots before the folded players are put back. -/
def mergedPots (ll : LevelList) : List Pot := mergePots none [] (ll.levels.map (origPot ll.folded))

theorem getPots_eq (ll : LevelList) : ll.getPots = putAll (foldedStakes ll) (mergedPots ll) := by
  simp only [LevelList.getPots, putAll, foldedStakes, mergedPots, List.foldl_map]

theorem mergedPots_spec {ll : LevelList} (h : LLInv ll) :
    (∀ q ∈ mergedPots ll, ∃ l, GoodPot ll.folded q l) ∧
    (mergedPots ll).flatMap (·.levels) = ll.levels ∧
    (mergedPots ll).Pairwise (fun a b => b.contributors.length < a.contributors.length) := by
  unfold mergedPots
  cases hl : ll.levels with
  | nil => simp [mergePots]
  | cons l rest =>
    simp only [List.map_cons, mergePots_none_cons]
    have hnf : ∀ x ∈ l :: rest, nf ll.folded x = live ll x.level := fun _ hx => h.nf_eq (hl ▸ hx)
    have hch : (l :: rest).Pairwise (fun a b => (nf ll.folded b).Sublist (nf ll.folded a)) := by
      have hs := h.sorted
      rw [hl, List.pairwise_map] at hs
      refine hs.imp_of_mem fun {a b} ha hb hab => ?_
      rw [hnf a ha, hnf b hb]
      exact live_sublist ll (Int.le_of_lt hab)
    have hs : (nf ll.folded l).Pairwise (· < ·) := hnf l (List.mem_cons_self ..) ▸ live_sorted h _
    obtain ⟨h1, h3, _⟩ := merge1_spec ll.folded rest (origPot ll.folded l) l (goodPot_origPot _ _) hch hs
    refine ⟨h1, ?_, h3⟩
    rw [merge1_flatMap_levels, List.flatMap_map]
    simp [origPot, List.flatMap_singleton']

theorem getPots_split {ll : LevelList} {pre post : List Pot} {p : Pot} (h : ll.getPots = pre ++ p :: post) :
    ∃ preM q postM, mergedPots ll = preM ++ q :: postM ∧ preM.map (·.level) = pre.map (·.level) ∧
      p = { q with contributors := putContribs (foldedStakes ll) (pre.map (·.level)) q.contributors } := by
  rw [getPots_eq] at h
  have hk := putAll_getElem? (foldedStakes ll) (mergedPots ll) pre.length
  rw [h] at hk
  simp only [List.getElem?_append_right (Nat.le_refl _), Nat.sub_self, List.getElem?_cons_zero] at hk
  obtain ⟨q, hq, hk⟩ := Option.map_eq_some_iff.1 hk.symm
  obtain ⟨hlt, hget⟩ := List.getElem?_eq_some_iff.1 hq
  have hlev : ((mergedPots ll).take pre.length).map (·.level) = pre.map (·.level) := by
    have := congrArg (List.take pre.length) (putAll_map (·.level) (fun _ _ => rfl) (foldedStakes ll) (mergedPots ll))
    rw [h, List.map_append, List.take_left' (by simp), ← List.map_take] at this
    exact this.symm
  refine ⟨(mergedPots ll).take pre.length, q, (mergedPots ll).drop (pre.length + 1), ?_, hlev, ?_⟩
  · rw [← hget, ← List.drop_eq_getElem_cons hlt, List.take_append_drop]
  · rw [← hk, hlev]

end Pokerface
