import Pokerface.Model.Game
import Pokerface.Proofs.ListLemmas
/-
  The branching functions of the engine model, analysed once and without hypotheses on the state.

  A function that branches has a case principle `Game.<fn>_cases`: its result is one of a few branches, each handed the
  guards it has passed.  At `motive := R g` this is the closure principle "kept along every branch, so kept by the
  function"; the closure form has a name of its own (`_steps`) only for the loops, `requestPlayerAction` and `act`.
  (`requestPlayerAction_branch` is called so because the name `requestPlayerAction_cases` belongs to its reading under
  `Struct`, in EngineFrame, where the seat asked is known to exist.)  Where the exact result is needed, with the error
  of a refusal, there are equations: `step` operation by operation, `act` on the two sides of its first test, `pay` in
  a normal form with the paying seat rewritten by `payF`, the four paying actions in the one shape `Game.markPay`.
  `act_cases` is read off these and hands out every accepted body in that form; under the invariant it is walked
  once more, by `act_nf` (EngineInv).  `Round.succ` and `Nxt` (the street after a street) stand here because
  `nextRound'_cases` speaks of them.
-/
namespace Pokerface

/-- the street `Next` deals -/
def Round.succ : Round → Round
  | .none => .preflop | .preflop => .flop | .flop => .turn | .turn => .river | .river => .river

/-- `r` is the street after `a`: `a ≠ .river ∧ r = a.succ` written as the four cases (`nxt_iff_succ`) -/
def Nxt (a r : Round) : Prop :=
  (a = .none ∧ r = .preflop) ∨ (a = .preflop ∧ r = .flop) ∨ (a = .flop ∧ r = .turn) ∨ (a = .turn ∧ r = .river)

theorem nxt_iff_succ {a r : Round} : Nxt a r ↔ a ≠ .river ∧ r = a.succ := by
  unfold Nxt
  cases a <;> cases r <;> decide

/-- the function `Fold` applies to the folding seat (`doFold`) -/
def foldMark (p : Player) : Player := { p with fold := true, acted := true }

/-- the function `setActed` applies to the seat: the mark every accepted action sets -/
def markA (p : Player) : Player := { p with acted := true }

theorem Nxt.ne_none {a r : Round} (hn : Nxt a r) : r ≠ .none := by
  rcases hn with ⟨_, rfl⟩ | ⟨_, rfl⟩ | ⟨_, rfl⟩ | ⟨_, rfl⟩
  all_goals decide

/-- the one shape of `Call`, `Allin`, `Bet`, `Raise` before `resume`: seat `i` is marked as having acted, `r` is recorded
    as the minimum raise, `c` chips are paid as a wager -/
def Game.markPay (g : Game) (i : Nat) (r c : Int) : Game := ((g.setActed i).setPrev r).pay i c true

/-- what `Call` pays: up to the wager to match, or to the big blind when that is higher (reading I2) -/
def Game.callPay (g : Game) (p : Player) : Int :=
  if g.cw < g.opts.blindBB then g.opts.blindBB - p.wager else g.cw - p.wager

theorem doCall_eq {g : Game} {i : Nat} {p : Player} (hp : g.players[i]? = some p) :
    g.doCall i = (g.markPay i g.prev (g.callPay p)).resume := by
  unfold Game.doCall
  rw [hp]
  rfl

theorem doAllin_eq {g : Game} {i : Nat} {p : Player} (hp : g.players[i]? = some p) :
    g.doAllin i =
      (g.markPay i (if p.initial - g.cw ≥ g.prev then p.initial - g.cw else g.prev) p.stack).resume := by
  unfold Game.doAllin
  rw [hp]
  simp only
  split
  · rfl
  · rfl

theorem doBet_eq (g : Game) (i : Nat) (x : Int) : g.doBet i x = ((g.markPay i g.prev x).recordBet i).resume := rfl

theorem doRaise_uncapped (g : Game) (i : Nat) (p : Player) (x : Int)
    (h : g.opts.potLimit = false ∨ x - g.cw ≤ g.cw + g.prev) :
    g.doRaise i p x = (g.markPay i (x - g.cw) (x - p.wager)).resume := by
  unfold Game.doRaise
  have : (g.opts.potLimit && decide (x - g.cw > g.cw + g.prev)) = false := by
    rcases h with h | h
    · simp [h]
    · have : ¬ (x - g.cw > g.cw + g.prev) := by omega
      simp [this]
  simp only [this, Bool.false_eq_true, if_false]
  rfl

theorem doRaise_capped (g : Game) (i : Nat) (p : Player) (x : Int)
    (hpl : g.opts.potLimit = true) (h : x - g.cw > g.cw + g.prev) :
    g.doRaise i p x = (g.markPay i (g.cw + g.prev) ((2 * g.cw + g.prev) - p.wager)).resume := by
  unfold Game.doRaise
  have : (g.opts.potLimit && decide (x - g.cw > g.cw + g.prev)) = true := by simp [hpl, h]
  simp only [this, if_true]
  have e : g.cw + g.prev + g.cw - p.wager = (2 * g.cw + g.prev) - p.wager := by omega
  rw [e]
  rfl

theorem act_disallowed (g : Game) (i : Nat) (a : Act) (x : Int) (h : g.allows i a = false) :
    g.act i a x = (g, some .invalidAction) := by
  unfold Game.act
  cases a <;> simp [h]

theorem act_allowed {g : Game} {i : Nat} {a : Act} (x : Int) (h : g.allows i a = true) :
    g.act i a x = match a with
      | .pass | .check => ((g.setActed i).resume, none)
      | .pay => ((g.pay i x true).resume, none)
      | .fold => (g.doFold i, none)
      | .call => (g.doCall i, none)
      | .allin => (g.doAllin i, none)
      | .bet => if x < 0 then (g, some .invalidAction) else (g.doBet i x, none)
      | .raise =>
        if x = 0 ∨ x < g.cw then (g, some .illegalRaise)
        else if x = g.cw then (if !g.allows i .call then (g, some .invalidAction) else (g.doCall i, none))
        else match g.players[i]? with
          | none => (g, none)
          | some p =>
            if x ≥ p.initial ∨ x - g.cw < g.prev then
              (if !g.allows i .allin then (g, some .invalidAction) else (g.doAllin i, none))
            else (g.doRaise i p x, none) := by
  unfold Game.act
  cases a with
  | raise =>
    simp only [h, Bool.not_true, Bool.false_eq_true, if_false]
    rfl
  | pass | pay | fold | check | call | allin | bet => simp only [h, Bool.not_true, Bool.false_eq_true, if_false]

namespace Game

theorem allows_iff {g : Game} {i : Nat} {a : Act} :
    g.allows i a = true ↔ ∃ p, g.players[i]? = some p ∧ a ∈ p.allowed := by
  unfold Game.allows
  cases g.players[i]? with
  | none => simp
  | some p => simp

theorem allows_some {g : Game} {i : Nat} {a : Act} (h : g.allows i a = true) : ∃ p, g.players[i]? = some p :=
  (allows_iff.mp h).imp fun _ h => h.1

theorem guard_cases {motive : Game × Option Err → Prop} {g : Game} {c : Prop} [Decidable c] {e : Err}
    {r : Game × Option Err} (refuse : ∀ e, motive (g, some e)) (pass : ¬ c → motive r) :
    motive (if c then (g, some e) else r) := by
  split
  · exact refuse e
  · rename_i hc
    exact pass hc

theorem not_not_allows {g : Game} {i : Nat} {a : Act} (h : ¬ (!g.allows i a) = true) : g.allows i a = true := by
  simpa using h

/-- `call` and `allin` are also where a `raise` of exactly the wager to match, resp. of the whole stack or below the
    minimum, ends up; `r` is the size a proper raise records. -/
theorem act_cases {motive : Game × Option Err → Prop} (g : Game) (i : Nat) (a : Act) (x : Int)
    (refuse : ∀ e, motive (g, some e))
    (mark : (a = .pass ∨ a = .check) → g.allows i a = true → motive ((g.setActed i).resume, none))
    (pay : a = .pay → g.allows i .pay = true → motive ((g.pay i x true).resume, none))
    (fold : a = .fold → g.allows i .fold = true → motive ((g.modP i foldMark).resume, none))
    (call : ∀ p, g.players[i]? = some p → (a = .call ∨ a = .raise ∧ x = g.cw) → g.allows i a = true →
      g.allows i .call = true → motive ((g.markPay i g.prev (g.callPay p)).resume, none))
    (allin : ∀ p, g.players[i]? = some p →
      (a = .allin ∨ a = .raise ∧ g.cw < x ∧ (p.initial ≤ x ∨ x - g.cw < g.prev)) →
      g.allows i a = true → g.allows i .allin = true →
      motive ((g.markPay i (if p.initial - g.cw ≥ g.prev then p.initial - g.cw else g.prev) p.stack).resume, none))
    (bet : a = .bet → g.allows i .bet = true → 0 ≤ x → motive (((g.markPay i g.prev x).recordBet i).resume, none))
    (raise : ∀ p r, g.players[i]? = some p → a = .raise → g.allows i .raise = true → g.cw < x → x ≠ 0 →
      x < p.initial → g.prev ≤ x - g.cw →
      (r = x - g.cw ∧ (g.opts.potLimit = false ∨ x - g.cw ≤ g.cw + g.prev) ∨
        r = g.cw + g.prev ∧ g.opts.potLimit = true ∧ x - g.cw > g.cw + g.prev) →
      motive ((g.markPay i r (g.cw + r - p.wager)).resume, none)) :
    motive (g.act i a x) := by
  cases hal : g.allows i a with
  | false =>
    rw [act_disallowed g i a x hal]
    exact refuse _
  | true =>
    obtain ⟨p, hp⟩ := allows_some hal
    rw [act_allowed x hal]
    cases a with
    | pass => exact mark (.inl rfl) hal
    | check => exact mark (.inr rfl) hal
    | pay => exact pay rfl hal
    | fold => exact fold rfl hal
    | call => exact doCall_eq hp ▸ call p hp (.inl rfl) hal hal
    | allin => exact doAllin_eq hp ▸ allin p hp (.inl rfl) hal hal
    | bet => exact guard_cases refuse fun hx => bet rfl hal (by omega)
    | raise =>
      refine guard_cases refuse fun hx => ?_
      simp only [hp, doCall_eq hp, doAllin_eq hp]
      split
      · rename_i hc
        exact guard_cases refuse fun h' => call p hp (.inr ⟨rfl, hc⟩) hal (not_not_allows h')
      · split
        · exact guard_cases refuse fun h' => allin p hp (.inr ⟨rfl, by omega, by omega⟩) hal (not_not_allows h')
        · by_cases hcap : g.opts.potLimit = true ∧ x - g.cw > g.cw + g.prev
          · rw [doRaise_capped g i p x hcap.1 hcap.2,
              show 2 * g.cw + g.prev - p.wager = g.cw + (g.cw + g.prev) - p.wager by omega]
            exact raise p _ hp rfl hal (by omega) (by omega) (by omega) (by omega) (.inr ⟨rfl, hcap⟩)
          · have hc' : g.opts.potLimit = false ∨ x - g.cw ≤ g.cw + g.prev := by
              cases hpl : g.opts.potLimit with
              | false => exact .inl rfl
              | true => exact .inr (Int.not_lt.mp fun h => hcap ⟨hpl, h⟩)
            rw [doRaise_uncapped g i p x hc', show x - p.wager = g.cw + (x - g.cw) - p.wager by omega]
            exact raise p _ hp rfl hal (by omega) (by omega) (by omega) (by omega) (.inl ⟨rfl, hc'⟩)

theorem act_refused (g : Game) (i : Nat) (a : Act) (x : Int) (h : (g.act i a x).2 ≠ none) :
    (g.act i a x).1 = g := by
  revert h
  refine g.act_cases i a x (motive := fun r => r.2 ≠ none → r.1 = g) (fun _ _ => rfl) ?_ ?_ ?_ ?_ ?_ ?_ ?_
  all_goals
    intros
    contradiction

theorem step_act (g : Game) (seat : Option Nat) (a : Act) (x : Int) :
    g.step (.act seat a x) = g.act (seat.getD g.cur) a x := by
  cases seat
  · rfl
  · rfl

theorem step_ready {g : Game} (he : g.event = .readyRequested) : g.step .ready = (g.resetAllAllowed.readiness, none) :=
  if_neg fun h => h he

theorem step_ready_refused {g : Game} (he : g.event ≠ .readyRequested) : g.step .ready = (g, some .invalidAction) :=
  if_pos he

/-- `PayAnte` can also fail inside its loop, with the loop's state -/
theorem step_payAnte {g : Game} (he : g.event = .anteRequested) (h0 : g.opts.ante ≠ 0) :
    g.step .payAnte = match payAnteLoop g.seatsFromDealer g with
      | (g', some e) => (g', some e)
      | (g', none) => (g'.antePaid, none) := by
  show g.payAnte = _
  unfold Game.payAnte
  rw [if_neg h0, if_neg fun h => h he]
  rfl

theorem step_payAnte_refused {g : Game} (h : g.opts.ante = 0 ∨ g.event ≠ .anteRequested) :
    g.step .payAnte = (g, some .invalidAction) := by
  show g.payAnte = _
  unfold Game.payAnte
  split
  · rfl
  · next h0 => rw [if_pos (h.resolve_left h0)]

theorem step_payBlinds {g : Game} (he : g.event = .blindsRequested) :
    g.step .payBlinds = ((g.seatsFromDealer.foldl payBlind g).blindsPaid, none) :=
  if_neg fun h => h he

theorem step_payBlinds_refused {g : Game} (he : g.event ≠ .blindsRequested) :
    g.step .payBlinds = (g, some .invalidAction) :=
  if_pos he

theorem step_next {g : Game} (he : g.event = .roundClosed) (hr : g.round ≠ .none) : g.step .next = (g.nextRound, none) := by
  show g.next = _
  unfold Game.next
  rw [if_neg fun h => h he, if_neg hr]

theorem step_next_idle {g : Game} (he : g.event = .roundClosed) (hr : g.round = .none) : g.step .next = (g, none) := by
  show g.next = _
  unfold Game.next
  rw [if_neg fun h => h he, if_pos hr]

theorem step_next_refused {g : Game} (he : g.event ≠ .roundClosed) : g.step .next = (g, some .notClosedRound) :=
  if_pos he

theorem step_cases {motive : Game × Option Err → Prop} (g : Game) (op : Op)
    (refuse : ∀ e, motive (g, some e))
    (ready : op = .ready → g.event = .readyRequested → motive (g.resetAllAllowed.readiness, none))
    (ante : op = .payAnte → g.event = .anteRequested → g.opts.ante ≠ 0 →
      motive (match payAnteLoop g.seatsFromDealer g with
        | (g', some e) => (g', some e)
        | (g', none) => (g'.antePaid, none)))
    (blinds : op = .payBlinds → g.event = .blindsRequested →
      motive ((g.seatsFromDealer.foldl payBlind g).blindsPaid, none))
    (next : op = .next → g.event = .roundClosed → g.round ≠ .none → motive (g.nextRound, none))
    (idle : op = .next → g.event = .roundClosed → g.round = .none → motive (g, none))
    (act : ∀ seat a x, op = .act seat a x → motive (g.act (seat.getD g.cur) a x)) : motive (g.step op) := by
  cases op with
  | ready =>
    by_cases he : g.event = .readyRequested
    · rw [step_ready he]
      exact ready rfl he
    · rw [step_ready_refused he]
      exact refuse _
  | payAnte =>
    by_cases h : g.opts.ante = 0 ∨ g.event ≠ .anteRequested
    · rw [step_payAnte_refused h]
      exact refuse _
    · have he : g.event = .anteRequested := Decidable.of_not_not fun he => h (.inr he)
      have h0 : g.opts.ante ≠ 0 := fun h0 => h (.inl h0)
      rw [step_payAnte he h0]
      exact ante rfl he h0
  | payBlinds =>
    by_cases he : g.event = .blindsRequested
    · rw [step_payBlinds he]
      exact blinds rfl he
    · rw [step_payBlinds_refused he]
      exact refuse _
  | next =>
    by_cases he : g.event = .roundClosed
    · by_cases hr : g.round = .none
      · rw [step_next_idle he hr]
        exact idle rfl he hr
      · rw [step_next he hr]
        exact next rfl he hr
    · rw [step_next_refused he]
      exact refuse _
  | act seat a x =>
    rw [step_act]
    exact act seat a x rfl

theorem run_induction {P : Game → Prop} (step : ∀ g op, P g → P (g.step op).1) {g : Game} (h : P g) (ops : List Op) :
    P (g.run ops) := by
  induction ops generalizing g with
  | nil => exact h
  | cons op ops ih => exact ih (step g op h)

section Cases
variable {motive : Game → Prop}

theorem requestPlayerAction_branch (g : Game)
    (closed : (g.aliveCount = 1 ∨ g.movableCount = 0 ∨ ∃ p, g.players[g.nextIdx]? = some p ∧ p.acted = true) →
      motive g.roundClosed)
    (stay : g.players[g.nextIdx]? = none → motive g)
    (ask : g.aliveCount ≠ 1 → g.movableCount ≠ 0 → ∀ p, g.players[g.nextIdx]? = some p → p.acted = false →
      motive (g.setCurrentPlayer g.nextIdx)) : motive g.requestPlayerAction := by
  unfold Game.requestPlayerAction
  split
  · next h1 => exact closed (.inl h1)
  · next h1 =>
    split
    · next h2 => exact closed (.inr (.inl h2))
    · next h2 =>
      split
      · next hp => exact stay hp
      · next p hp =>
        split
        · next ha => exact closed (.inr (.inr ⟨p, hp, ha⟩))
        · next ha => exact ask h1 h2 p hp (Bool.eq_false_iff.mpr ha)

theorem prepareRound_cases (g : Game) (ready : (g.round = .preflop ∨ 1 < g.movableCount) → motive g.requestReady)
    (closed : g.round ≠ .preflop → g.movableCount ≤ 1 → motive g.roundClosed) : motive g.prepareRound := by
  unfold Game.prepareRound
  split
  · next h => exact ready (.inl h)
  · next h =>
    split
    · next hm => exact closed h hm
    · next hm => exact ready (.inr (Nat.lt_of_not_le hm))

theorem requestBlinds_cases (g : Game)
    (paid : g.opts.blindDealer = 0 ∧ g.opts.blindSB = 0 ∧ g.opts.blindBB = 0 → motive (g.setEvent .blindsPaid).prepareRound)
    (asked : ¬ (g.opts.blindDealer = 0 ∧ g.opts.blindSB = 0 ∧ g.opts.blindBB = 0) → motive (g.setEvent .blindsRequested)) :
    motive g.requestBlinds := by
  unfold Game.requestBlinds
  split
  · next h => exact paid h
  · next h => exact asked h

theorem afterRoundInitialized_cases (g : Game) (blinds : g.round = .preflop → motive g.requestBlinds)
    (prepare : g.round ≠ .preflop → motive g.prepareRound) : motive g.afterRoundInitialized := by
  unfold Game.afterRoundInitialized
  split
  · next h => exact blinds h
  · next h => exact prepare h

theorem dealBoard_burn_dealerIdx (g : Game) (k : Nat) : ((g.burn 1).dealBoard k).dealerIdx = g.dealerIdx := rfl

theorem burn_dealBoard (g : Game) (k : Nat) :
    ((g.burn 1).dealBoard k).opts = g.opts ∧ ((g.burn 1).dealBoard k).round = g.round ∧
    ((g.burn 1).dealBoard k).players = g.players ∧
    ((g.burn 1).dealBoard k).board = g.board ++ (g.burn 1).dealt k ∧
    ((g.burn 1).dealBoard k).result = g.result ∧ ((g.burn 1).dealBoard k).event = g.event := by
  -- on a constructor the six projections reduce at once; through the record updates of a variable `rfl` is slow
  cases g
  exact ⟨rfl, rfl, rfl, rfl, rfl, rfl⟩

/-- The board case names the dealer of the state the cards were dealt in, which is the dealer of `g`
    (`dealBoard_burn_dealerIdx`): in that spelling a lemma about "a state asks its own dealer" applies as it stands, and
    the comparison of the two dealers, which is slow to check, is made once. -/
theorem dealStreet_cases (g : Game) (holes : g.round = .preflop → motive (dealHoles g.n 0 g))
    (idle : g.round = .none → motive g)
    (board : ∀ k, g.round ≠ .none → g.round ≠ .preflop →
      motive (((g.burn 1).dealBoard k).setCurrentPlayer ((g.burn 1).dealBoard k).dealerIdx)) : motive g.dealStreet := by
  simp only [dealBoard_burn_dealerIdx] at board
  unfold Game.dealStreet
  split
  · next h => exact holes h
  · next h => exact board 3 (h ▸ nofun) (h ▸ nofun)
  · next h => exact board 1 (h ▸ nofun) (h ▸ nofun)
  · next h => exact board 1 (h ▸ nofun) (h ▸ nofun)
  · next h => exact idle h

theorem startRound'_cases (g : Game) (closed : g.round = .preflop → g.movableCount = 0 → motive g.roundClosed)
    (preflop : g.round = .preflop → g.movableCount ≠ 0 →
      motive (seekBB g.n (g.setCurrentPlayer g.dealerIdx)).openRound)
    (later : g.round ≠ .preflop → motive (g.setCurrentPlayer g.dealerIdx).openRound) : motive g.startRound' := by
  unfold Game.startRound'
  split
  · next hr =>
    split
    · next hm => exact closed hr hm
    · next hm => exact preflop hr hm
  · next hr => exact later hr

theorem nextRound'_cases (g : Game) (completed : (g.aliveCount = 1 ∨ g.round = .river) → motive g.gameCompleted)
    (enter : g.aliveCount ≠ 1 → g.round ≠ .none → g.round ≠ .river → motive (g.enterRound g.round.succ))
    (idle : g.aliveCount ≠ 1 → g.round = .none → motive g) : motive g.nextRound' := by
  unfold Game.nextRound'
  split
  · next h1 => exact completed (.inl h1)
  · next h1 =>
    split
    · next h =>
      have e := enter h1 (h ▸ nofun) (h ▸ nofun)
      rw [h] at e
      exact e
    · next h =>
      have e := enter h1 (h ▸ nofun) (h ▸ nofun)
      rw [h] at e
      exact e
    · next h =>
      have e := enter h1 (h ▸ nofun) (h ▸ nofun)
      rw [h] at e
      exact e
    · next h => exact completed (.inr h)
    · next h => exact idle h1 h

theorem resume_cases (g : Game) (ask : g.event = .roundStarted → motive g.requestPlayerAction)
    (closed : g.event = .roundClosed → motive g.roundClosed)
    (idle : g.event ≠ .roundStarted → g.event ≠ .roundClosed → motive g) : motive g.resume := by
  unfold Game.resume
  split
  · next h => exact ask h
  · next h => exact closed h
  · next h1 h2 => exact idle h1 h2

theorem readiness_cases (g : Game) (ante : g.round = .none → g.opts.ante > 0 → motive (g.setEvent .anteRequested))
    (enter : g.round = .none → ¬ g.opts.ante > 0 → motive (g.enterRound .preflop))
    (start : g.round ≠ .none → motive g.startRound) : motive g.readiness := by
  unfold Game.readiness
  split
  · next hr =>
    split
    · next ha => exact ante hr ha
    · next ha => exact enter hr ha
  · next hr => exact start hr

end Cases

theorem resume_started {g : Game} (h : g.event = .roundStarted) : g.resume = g.requestPlayerAction :=
  g.resume_cases (motive := fun x => x = g.requestPlayerAction) (fun _ => rfl) (fun h' => nomatch h.symm.trans h')
    (fun h' _ => absurd h h')

theorem resume_closed {g : Game} (h : g.event = .roundClosed) : g.resume = g.roundClosed :=
  g.resume_cases (motive := fun x => x = g.roundClosed) (fun h' => nomatch h.symm.trans h') (fun _ => rfl)
    (fun _ h' => absurd h h')

section Steps
variable {R : Game → Game → Prop}

theorem requestPlayerAction_steps {g : Game} (refl : R g g) (closed : R g g.roundClosed)
    (ask : R g (g.setCurrentPlayer g.nextIdx)) : R g g.requestPlayerAction :=
  g.requestPlayerAction_branch (fun _ => closed) (fun _ => refl) (fun _ _ _ _ _ => ask)

theorem dealHoles_steps (refl : ∀ g, R g g) (trans : ∀ {a b c}, R a b → R b c → R a c)
    (hole : ∀ g i, R g (g.dealHole i)) : ∀ (k i : Nat) (g : Game), R g (dealHoles k i g)
  | 0, _, g => refl g
  | k + 1, i, g => trans (hole g i) (dealHoles_steps refl trans hole k (i + 1) _)

theorem seekBB_steps (refl : ∀ g, R g g) (trans : ∀ {a b c}, R a b → R b c → R a c)
    (ask : ∀ g, R g (g.setCurrentPlayer g.nextIdx)) : ∀ (k : Nat) (g : Game), R g (seekBB k g)
  | 0, g => refl g
  | k + 1, g => by
    unfold Game.seekBB
    split
    · split
      · exact ask g
      · exact trans (ask g) (seekBB_steps refl trans ask k _)
    · exact ask g

theorem act_resume (i : Nat) (trans : ∀ {a b c}, R a b → R b c → R a c)
    (acted : ∀ g, R g (g.setActed i)) (fold : ∀ g, R g (g.modP i foldMark))
    (setPrev : ∀ g v, R g (g.setPrev v)) (pay : ∀ g c, R g (g.pay i c true))
    (g : Game) (a : Act) (x : Int) : (g.act i a x).1 = g ∨ ∃ g1, R g g1 ∧ (g.act i a x).1 = g1.resume := by
  have body : ∀ g1, R g g1 → g1.resume = g ∨ ∃ g2, R g g2 ∧ g1.resume = g2.resume := fun g1 h => .inr ⟨g1, h, rfl⟩
  have paid : ∀ r c, R g (g.markPay i r c) := fun r c => trans (trans (acted g) (setPrev _ r)) (pay _ c)
  refine g.act_cases i a x (motive := fun r => r.1 = g ∨ ∃ g1, R g g1 ∧ r.1 = g1.resume) (fun _ => .inl rfl)
    ?_ ?_ ?_ ?_ ?_ ?_ ?_
  · exact fun _ _ => body _ (acted g)
  · exact fun _ _ => body _ (pay g x)
  · exact fun _ _ => body _ (fold g)
  · exact fun _ _ _ _ _ => body _ (paid _ _)
  · exact fun _ _ _ _ _ => body _ (paid _ _)
  · exact fun _ _ _ => body _ (trans (paid _ x) (setPrev _ _))
  · exact fun _ _ _ _ _ _ _ _ _ _ => body _ (paid _ _)

theorem act_steps (i : Nat) (refl : ∀ g, R g g) (trans : ∀ {a b c}, R a b → R b c → R a c)
    (acted : ∀ g, R g (g.setActed i)) (fold : ∀ g, R g (g.modP i foldMark))
    (setPrev : ∀ g v, R g (g.setPrev v)) (pay : ∀ g c, R g (g.pay i c true)) (resume : ∀ g, R g g.resume)
    (g : Game) (a : Act) (x : Int) : R g (g.act i a x).1 := by
  rcases act_resume (R := R) i trans acted fold setPrev pay g a x with h | ⟨g1, k, h⟩
  · rw [h]
    exact refl g
  · rw [h]
    exact trans k (resume g1)

theorem payBlind_steps (refl : ∀ g, R g g)
    (pay : ∀ g i p, g.players[i]? = some p →
      R g (g.pay i (if p.stack < blindOf g.opts p then p.stack else blindOf g.opts p) true))
    (g : Game) (i : Nat) : R g (g.payBlind i) := by
  unfold payBlind
  split
  · exact refl g
  · next p hp => exact pay g i p hp

theorem payBlinds_steps (refl : ∀ g, R g g) (trans : ∀ {a b c}, R a b → R b c → R a c)
    (pay : ∀ g i p, g.players[i]? = some p →
      R g (g.pay i (if p.stack < blindOf g.opts p then p.stack else blindOf g.opts p) true)) :
    ∀ (is : List Nat) (g : Game), R g (is.foldl payBlind g)
  | [], g => refl g
  | i :: is, g => trans (payBlind_steps refl pay g i) (payBlinds_steps refl trans pay is _)

theorem payAnteLoop_steps (refl : ∀ g, R g g) (trans : ∀ {a b c}, R a b → R b c → R a c)
    (pay : ∀ g i p, g.players[i]? = some p → ¬ p.wager > 0 → R g (g.pay i g.opts.ante false)) :
    ∀ (is : List Nat) (g : Game), R g (payAnteLoop is g).1
  | [], g => refl g
  | i :: is, g => by
    unfold payAnteLoop
    split
    · exact refl g
    · next p hp =>
      split
      · exact refl g
      · next hw => exact trans (pay g i p hp hw) (payAnteLoop_steps refl trans pay is _)

end Steps

end Game
open Game

theorem act_accepted_allows {g : Game} {i : Nat} {a : Act} {x : Int} (h : (g.act i a x).2 = none) :
    g.allows i a = true := by
  cases hal : g.allows i a with
  | true => rfl
  | false =>
    rw [act_disallowed g i a x hal] at h
    cases h

/-- what `pay` does to the paying player: all-in when the stack does not exceed the amount -/
def payF (c : Int) (p : Player) : Player :=
  if p.stack ≤ c then goAllin p else putWager (p.wager + c) p

theorem Game.pay_none {g : Game} {i : Nat} (hp : g.players[i]? = none) (c : Int) (w : Bool) : g.pay i c w = g := by
  unfold Game.pay
  rw [hp]

theorem pay_false_eq {g : Game} {i : Nat} {p : Player} (hp : g.players[i]? = some p) (c : Int) :
    g.pay i c false = (g.modP i (payF c)).addRoundPot ((payF c p).wager - p.wager) := by
  unfold Game.pay
  rw [hp]
  dsimp only
  by_cases h : p.stack ≤ c
  · have e : payF c p = goAllin p := if_pos h
    rw [if_pos h, e]
    simp only [Game.payAllin, Bool.false_eq_true, if_false, Game.modP, Game.addRoundPot, modify_congr_at hp _ _ e.symm]
    rfl
  · have e : payF c p = putWager (p.wager + c) p := if_neg h
    rw [if_neg h, e]
    simp only [Game.payPart, Bool.false_and, Bool.false_eq_true, if_false, Game.modP, Game.addRoundPot,
      modify_congr_at hp _ _ e.symm]
    exact congrArg (fun x => ({ g with players := g.players.modify i (payF c), roundPot := g.roundPot + x } : Game))
      (show c = p.wager + c - p.wager by omega)

theorem pay_wager_eq {g : Game} {i : Nat} {p : Player} (hp : g.players[i]? = some p) (c : Int) :
    g.pay i c true =
      let g1 := ((g.modP i (payF c)).addRoundPot ((payF c p).wager - p.wager)).setCw (max g.cw (payF c p).wager)
      if p.stack ≤ c then (if p.initial - g.cw ≥ g.cw + g.prev then g1.becomeRaiser i else g1.resetActed)
      else if g.cw < p.wager + c then g1.becomeRaiser i else g1 := by
  unfold Game.pay
  rw [hp]
  dsimp only
  by_cases h : p.stack ≤ c
  · have e : payF c p = goAllin p := if_pos h
    rw [if_pos h, if_pos h, e]
    unfold Game.payAllin
    simp only [if_true]
    have hpl := modify_congr_at hp _ _ e.symm
    by_cases h2 : p.initial > g.cw
    · rw [if_pos h2, show max g.cw (goAllin p).wager = p.initial from Int.max_eq_right (Int.le_of_lt h2)]
      simp only [Game.modP, Game.addRoundPot, Game.setCw, hpl]
      rfl
    · rw [if_neg h2, show max g.cw (goAllin p).wager = g.cw from Int.max_eq_left (Int.not_lt.mp h2)]
      simp only [Game.modP, Game.addRoundPot, Game.setCw, hpl]
      rfl
  · have e : payF c p = putWager (p.wager + c) p := if_neg h
    rw [if_neg h, if_neg h, e]
    unfold Game.payPart
    have hpl := modify_congr_at hp _ _ e.symm
    have hw : (putWager (p.wager + c) p).wager - p.wager = c := by
      show p.wager + c - p.wager = c
      omega
    by_cases h2 : g.cw < p.wager + c
    · rw [if_pos h2, hw, show max g.cw (putWager (p.wager + c) p).wager = p.wager + c from
        Int.max_eq_right (Int.le_of_lt h2)]
      simp only [Bool.true_and, h2, decide_true, if_true, Game.modP, Game.addRoundPot, Game.setCw, hpl]
    · rw [if_neg h2, hw, show max g.cw (putWager (p.wager + c) p).wager = g.cw from Int.max_eq_left (Int.not_lt.mp h2)]
      simp only [Bool.true_and, h2, decide_false, Bool.false_eq_true, if_false, Game.modP, Game.addRoundPot, Game.setCw, hpl]

theorem nextRound'_eq (g : Game) (hr : g.round ≠ .none) :
    g.nextRound' = if g.aliveCount = 1 ∨ g.round = .river then g.gameCompleted else g.enterRound g.round.succ :=
  g.nextRound'_cases (motive := fun x => x = if g.aliveCount = 1 ∨ g.round = .river then g.gameCompleted
      else g.enterRound g.round.succ)
    (fun h => (if_pos h).symm) (fun h1 _ h2 => (if_neg (not_or.mpr ⟨h1, h2⟩)).symm) (fun _ h => absurd h hr)

theorem Game.step_ready_street {g : Game} (he : g.event = .readyRequested) (hr : g.round ≠ .none) :
    g.step .ready = (g.resetAllAllowed.startRound, none) := by
  rw [step_ready he]
  exact congrArg (·, none) (g.resetAllAllowed.readiness_cases (motive := fun x => x = g.resetAllAllowed.startRound)
    (fun h _ => absurd h hr) (fun h _ => absurd h hr) fun _ => rfl)

theorem Game.step_ready_fresh {g : Game} (he : g.event = .readyRequested) (hr : g.round = .none) :
    g.step .ready = (if g.opts.ante > 0 then g.resetAllAllowed.setEvent .anteRequested
      else g.resetAllAllowed.enterRound .preflop, none) := by
  rw [step_ready he]
  exact congrArg (·, none) (g.resetAllAllowed.readiness_cases
    (motive := fun x => x = if g.opts.ante > 0 then g.resetAllAllowed.setEvent .anteRequested
      else g.resetAllAllowed.enterRound .preflop)
    (fun _ ha => (if_pos ha).symm) (fun _ ha => (if_neg ha).symm) fun h => absurd hr h)

theorem payAnte_fst (g : Game) : g.payAnte.1 = g ∨ (g.event = .anteRequested ∧
    (g.payAnte.1 = (payAnteLoop g.seatsFromDealer g).1 ∨
      g.payAnte.1 = (payAnteLoop g.seatsFromDealer g).1.antePaid)) := by
  show (g.step .payAnte).1 = g ∨ (_ ∧ ((g.step .payAnte).1 = _ ∨ (g.step .payAnte).1 = _))
  by_cases h : g.opts.ante = 0 ∨ g.event ≠ .anteRequested
  · rw [step_payAnte_refused h]
    exact .inl rfl
  · have he : g.event = .anteRequested := Decidable.of_not_not fun he => h (.inr he)
    rw [step_payAnte he fun h0 => h (.inl h0)]
    refine .inr ⟨he, ?_⟩
    cases payAnteLoop g.seatsFromDealer g with
    | mk g' e =>
      cases e with
      | none => exact .inr rfl
      | some e => exact .inl rfl

theorem start_cases (c : Config) :
    ((start c).2 ≠ none ∧ (start c).1 = { opts := c.opts, players := c.players }) ∨
    ((start c).2 = none ∧ 2 ≤ c.players.length ∧ (∀ p ∈ c.players, 0 < p.bankroll) ∧
      (start c).1 = ({ opts := c.opts, players := c.players, miniBet :=
        if c.opts.blindDealer > c.opts.blindBB then c.opts.blindDealer else c.opts.blindBB } : Game).resetRoundStatus.requestReady) := by
  unfold start
  dsimp only
  split
  · exact .inl ⟨nofun, rfl⟩
  · next h1 =>
    split
    · exact .inl ⟨nofun, rfl⟩
    · split
      · exact .inl ⟨nofun, rfl⟩
      · next h3 =>
        split
        · exact .inl ⟨nofun, rfl⟩
        · refine .inr ⟨rfl, Nat.le_of_not_lt h1, fun p hp => ?_, rfl⟩
          exact Int.lt_of_not_ge fun hb => h3 (List.any_eq_true.mpr ⟨p, hp, decide_eq_true hb⟩)

end Pokerface
