/-
  What the description `NextOk` (SMStep) of a successful `next` means for `playable` and for the layout of the
  positions; `next` from at least two playable seats, whole (`next_of_count`).
-/
import Pokerface.Proofs.SMButton

namespace Pokerface
namespace SM

/-- `e` is the first playable seat clockwise strictly after seat `d` (and before coming back to `d`). -/
def IsNextAfter (sm : SM) (d e : Nat) : Prop :=
  ∃ k, 1 ≤ k ∧ k < sm.max ∧ e = (d + k) % sm.max ∧ sm.playable e = true ∧
    ∀ j, 1 ≤ j → j < k → sm.playable ((d + j) % sm.max) = false

def IsFirstPlayable (sm : SM) (e : Nat) : Prop :=
  sm.playable e = true ∧ ∀ j, j < e → sm.playable j = false

/-- occupied and not reserved (whatever the `active` flag). -/
def occ (sm : SM) (i : Nat) : Bool :=
  match sm.seats[i]? with
  | some s => !s.reserved && s.player.isSome
  | none => false

theorem occ_iff {sm : SM} {i : Nat} :
    sm.occ i = true ↔ ∃ s, sm.seats[i]? = some s ∧ s.reserved = false ∧ s.player.isSome = true := by
  unfold occ
  cases sm.seats[i]? with
  | none => simp
  | some s => simp

theorem playable_le_occ (sm : SM) (i : Nat) (h : sm.playable i = true) : sm.occ i = true := by
  obtain ⟨s, hs, _, hr, ho⟩ := playable_iff.mp h
  exact occ_iff.mpr ⟨s, hs, hr, ho⟩

theorem step_max {sm : SM} (h : Inv sm) (op : SMOp) : (sm.step op).1.max = sm.max := by
  by_cases hop : op = .next
  · subst hop
    rcases step_next_cases h with ⟨he, _⟩ | ⟨_, d, ks, kb, hn⟩
    · rw [he]
      exact (nextDealer_actUp sm).max
    · exact hn.max_eq
  · obtain ⟨i, f, _, he⟩ := step_eq_modSeat sm hop
    rw [he]
    rfl

theorem NextOk.playable_post {sm sm' : SM} {d ks kb : Nat} (h : NextOk sm sm' d ks kb) {j : Nat} (hj : j < sm.max) :
    sm'.playable ((d + j) % sm.max) =
      if j ≤ kb then sm.nextDealer.1.playable ((d + j) % sm.max) else sm.nextDealer.1.occ ((d + j) % sm.max) := by
  unfold playable occ
  rw [h.seats j hj]
  cases hs : sm.nextDealer.1.seats[(d + j) % sm.max]? with
  | none => simp
  | some s =>
    simp only [Option.map_some]
    unfold renewF
    by_cases h1 : j < kb
    · have : j ≤ kb := by omega
      simp only [h1, this, if_true]
      unfold deact
      split
      · next hn =>
          simp at hn
          simp [hn]
      · rfl
    · by_cases h2 : j = kb
      · simp [h2]
      · have : ¬ j ≤ kb := by omega
        simp [h1, h2, this, actv]

theorem NextOk.offset_zero {sm sm' : SM} {d ks kb : Nat} (h : NextOk sm sm' d ks kb) : (d + 0) % sm.max = d :=
  Nat.mod_eq_of_lt h.d_lt

theorem NextOk.ks_zero {sm sm' : SM} {d ks kb : Nat} (h : NextOk sm sm' d ks kb)
    (h2 : sm.nextDealer.1.playableCount = 2) : ks = 0 := by
  rcases h.branch with ⟨_, h0⟩ | ⟨hne, _⟩
  · exact h0
  · exact absurd h2 hne

theorem NextOk.bb_ne_dealer {sm sm' : SM} {d ks kb : Nat} (h : NextOk sm sm' d ks kb) : (d + kb) % sm.max ≠ d := by
  have := h.ks_lt
  exact offset_ne_self h.d_lt h.kb_lt (by omega)

theorem NextOk.playable_dealer {sm sm' : SM} {d ks kb : Nat} (h : NextOk sm sm' d ks kb) : sm'.playable d = true := by
  have := h.playable_post (j := 0) (by have := h.kb_lt; omega)
  rw [h.offset_zero] at this
  rw [this, if_pos (by omega)]
  exact h.mid_playable_d

theorem NextOk.mid_playable_sb {sm sm' : SM} {d ks kb : Nat} (h : NextOk sm sm' d ks kb) :
    sm.nextDealer.1.playable ((d + ks) % sm.max) = true := by
  rcases h.branch with ⟨_, h0⟩ | ⟨_, _, hp, _⟩
  · rw [h0, h.offset_zero]
    exact h.mid_playable_d
  · exact hp

theorem NextOk.playable_sb {sm sm' : SM} {d ks kb : Nat} (h : NextOk sm sm' d ks kb) :
    sm'.playable ((d + ks) % sm.max) = true := by
  rw [h.playable_post (by have := h.kb_lt; have := h.ks_lt; omega), if_pos (by have := h.ks_lt; omega)]
  exact h.mid_playable_sb

theorem NextOk.playable_bb {sm sm' : SM} {d ks kb : Nat} (h : NextOk sm sm' d ks kb) :
    sm'.playable ((d + kb) % sm.max) = true := by
  rw [h.playable_post h.kb_lt, if_pos (by omega)]
  exact h.bb_playable

theorem NextOk.front {sm sm' : SM} {d ks kb : Nat} (h : NextOk sm sm' d ks kb) {j : Nat} (h0 : 0 < j) (hj : j < kb)
    (hne : j ≠ ks) : sm'.playable ((d + j) % sm.max) = false := by
  have hkb := h.kb_lt
  rw [h.playable_post (by omega), if_pos (by omega)]
  rcases Nat.lt_or_gt_of_ne hne with hlt | hgt
  · rcases h.branch with ⟨_, hz⟩ | ⟨_, _, _, hall⟩
    · omega
    · exact hall j h0 hlt
  · exact h.between j hgt hj

theorem NextOk.bb_next_after_sb {sm sm' : SM} {d ks kb : Nat} (h : NextOk sm sm' d ks kb) :
    IsNextAfter sm' ((d + ks) % sm.max) ((d + kb) % sm.max) := by
  have h1 := h.ks_lt
  have h2 := h.kb_lt
  have hmod := offset_offset sm.max d ks
  refine ⟨kb - ks, by omega, by rw [h.max_eq]; omega, ?_, h.playable_bb, ?_⟩
  · rw [h.max_eq, hmod]
    congr 2
    omega
  · intro j hj1 hj2
    rw [h.max_eq, hmod]
    exact h.front (by omega) (by omega) (by omega)

theorem NextOk.sb_next_after_dealer {sm sm' : SM} {d ks kb : Nat} (h : NextOk sm sm' d ks kb)
    (h3 : sm.nextDealer.1.playableCount ≠ 2) : IsNextAfter sm' d ((d + ks) % sm.max) := by
  have h1 := h.ks_lt
  have h2 := h.kb_lt
  rcases h.branch with ⟨h', _⟩ | ⟨_, hpos, _⟩
  · exact absurd h' h3
  · refine ⟨ks, hpos, by rw [h.max_eq]; omega, by rw [h.max_eq], h.playable_sb, ?_⟩
    intro j hj1 hj2
    rw [h.max_eq]
    exact h.front hj1 (by omega) (by omega)

theorem IsNextAfter.unique {sm : SM} {x y y' : Nat} (h : IsNextAfter sm x y)
    (h' : IsNextAfter sm x y') : y = y' := by
  obtain ⟨k, hk1, _, rfl, hp, hall⟩ := h
  obtain ⟨k', hk1', _, rfl, hp', hall'⟩ := h'
  rcases Nat.lt_trichotomy k k' with hlt | heq | hgt
  · rw [hall' k hk1 hlt] at hp
    cases hp
  · rw [heq]
  · rw [hall k' hk1' hgt] at hp'
    cases hp'

theorem IsNextAfter.ne {sm : SM} {d e : Nat} (h : IsNextAfter sm d e) (hd : d < sm.max) : e ≠ d := by
  obtain ⟨k, h1, h2, rfl, _⟩ := h
  exact offset_ne_self hd h2 h1


theorem NextOk.playable_mono {sm sm' : SM} {d ks kb : Nat} (h : NextOk sm sm' d ks kb) (hinv : Inv sm) {i : Nat}
    (hp : sm.nextDealer.1.playable i = true) : sm'.playable i = true := by
  have hi : i < sm.max := by
    have := playable_lt (nextDealer_inv hinv).wf hp
    rwa [(nextDealer_actUp sm).max] at this
  obtain ⟨j, hj, rfl⟩ := exists_offset d hi
  rw [h.playable_post hj]
  split
  · exact hp
  · exact playable_le_occ _ _ hp

theorem NextOk.count_le {sm sm' : SM} {d ks kb : Nat} (h : NextOk sm sm' d ks kb) (hinv : Inv sm) :
    sm.nextDealer.1.playableCount ≤ sm'.playableCount :=
  playableCount_le_of (h.max_eq.trans (nextDealer_actUp sm).max.symm) fun _ _ hp => h.playable_mono hinv hp

theorem NextOk.count_ge {sm sm' : SM} {d ks kb : Nat} (h : NextOk sm sm' d ks kb) (hinv : Inv sm) :
    2 ≤ sm'.playableCount :=
  Nat.le_trans h.mid_count (h.count_le hinv)


theorem playable_two {sm : SM} (hw : sm.WF) (hc : sm.playableCount = 2) {d b i : Nat}
    (hd : sm.playable d = true) (hb : sm.playable b = true) (hdb : d ≠ b) (hi : sm.playable i = true) :
    i = d ∨ i = b := by
  unfold playableCount at hc
  obtain ⟨x, y, hxy⟩ : ∃ x y, (List.range sm.max).filter sm.playable = [x, y] := by
    match (List.range sm.max).filter sm.playable, hc with
    | [x, y], _ => exact ⟨x, y, rfl⟩
  have hnd : ((List.range sm.max).filter sm.playable).Nodup := List.nodup_range.filter _
  have hmem : ∀ {z}, sm.playable z = true → z = x ∨ z = y := by
    intro z hz
    have : z ∈ (List.range sm.max).filter sm.playable :=
      List.mem_filter.mpr ⟨List.mem_range.mpr (playable_lt hw hz), hz⟩
    rw [hxy] at this
    simpa using this
  rw [hxy] at hnd
  have hne : x ≠ y := by simpa using hnd
  have h1 := hmem hd
  have h2 := hmem hb
  have h3 := hmem hi
  omega

/-- No seat is occupied, not reserved and inactive ("nobody is waiting to be let in"). -/
def NoWaiting (sm : SM) : Prop :=
  ∀ (i : Nat) (s : Seat), sm.seats[i]? = some s → s.player.isSome = true → s.reserved = false → s.active = true

theorem ActUp.noWaiting {sm sm' : SM} (h : ActUp sm sm') (hn : NoWaiting sm) : NoWaiting sm' := by
  intro i s hs hp hr
  rcases h.seat i with h' | h'
  · rw [h'] at hs
    exact hn i s hs hp hr
  · rw [h'] at hs
    cases hq : sm.seats[i]? with
    | none =>
      rw [hq] at hs
      cases hs
    | some q =>
      rw [hq] at hs
      simp at hs
      subst hs
      rfl

theorem NoWaiting.occ_eq {sm : SM} (hn : NoWaiting sm) (i : Nat) : sm.occ i = sm.playable i := by
  unfold occ playable
  cases hs : sm.seats[i]? with
  | none => rfl
  | some s =>
    simp only
    cases hp : s.player.isSome <;> cases hr : s.reserved <;> simp
    exact hn i s hs hp hr

theorem NextOk.playable_eq_of_noWaiting {sm sm' : SM} {d ks kb : Nat} (h : NextOk sm sm' d ks kb)
    (hn : NoWaiting sm.nextDealer.1) {j : Nat} (hj : j < sm.max) :
    sm'.playable ((d + j) % sm.max) = sm.nextDealer.1.playable ((d + j) % sm.max) := by
  rw [h.playable_post hj]
  split
  · rfl
  · exact hn.occ_eq _

theorem NextOk.count_eq_of_noWaiting {sm sm' : SM} {d ks kb : Nat} (h : NextOk sm sm' d ks kb)
    (hn : NoWaiting sm.nextDealer.1) : sm'.playableCount = sm.nextDealer.1.playableCount := by
  have hm := (nextDealer_actUp sm).max
  refine playableCount_congr (h.max_eq.trans hm.symm) fun i hi => ?_
  obtain ⟨j, hj, rfl⟩ := exists_offset d (hm ▸ hi)
  exact h.playable_eq_of_noWaiting hn hj

theorem next_succeeds_of_found {T : SM} (h : Inv T) (hf : T.nextDealer.2 = true) (hc : 2 ≤ T.nextDealer.1.playableCount) :
    (T.step .next).2.1 = none := by
  rcases step_next_cases h with ⟨_, hbad | hbad⟩ | ⟨hok, _⟩
  · rw [hf] at hbad
    cases hbad
  · omega
  · exact hok

theorem next_of_count {T : SM} (h : Inv T) (hc : 2 ≤ T.playableCount) {b a : Nat} (hb : T.scanBase = (b, a)) :
    (T.step .next).2.1 = none ∧
    ∃ k ks kb, DealerOk T b a k ∧ NextOk T (T.step .next).1 ((b + k) % T.max) ks kb := by
  obtain ⟨k, hk⟩ := nextDealer_spec T hc hb
  have hok := next_succeeds_of_found h hk.found (Nat.le_trans hc (nextDealer_actUp T).playableCount_le)
  obtain ⟨d', ks, kb, hn⟩ := next_ok h hok
  -- the dealer `NextOk` speaks of is the one `nextDealer` has set
  cases Option.some.inj (hn.mid_dealer.symm.trans hk.dealer)
  exact ⟨hok, k, ks, kb, hk, hn⟩

theorem next_succeeds_of_count {T : SM} (h : Inv T) (hc : 2 ≤ T.playableCount) : (T.step .next).2.1 = none :=
  (next_of_count h hc rfl).1

end SM
end Pokerface
