import Pokerface.Model.Eval
import Pokerface.Properties.C03Spec
/-!
  C03: the base-13 value of a tiebreak.  For rank lists of equal length with entries
  in 2..14, the lexicographic order coincides with the numeric order of the value.
-/
namespace Pokerface.C03

/-- Base-13 positional value of a list of ranks (digit = rank − 2; the `Nat`
    subtraction is exact on ranks ≥ 2). -/
def enc : List Nat → Nat
  | [] => 0
  | r :: rs => (r - 2) * 13 ^ rs.length + enc rs

/-- Straights are scored `top − 5`, i.e. 3 less than the one-digit value `top − 2`. -/
def shift : Cat → Nat
  | .straight | .straightFlush => 3
  | _ => 0

/-- Number of tiebreak entries of a category. -/
def tbLen : Cat → Nat
  | .highCard | .flush => 5
  | .pair => 4
  | .twoPair | .trips => 3
  | .fullHouse | .quads => 2
  | .straight | .straightFlush => 1

def InRange (l : List Nat) : Prop := ∀ r ∈ l, 2 ≤ r ∧ r ≤ 14

theorem InRange.tail {r : Nat} {l : List Nat} (h : InRange (r :: l)) : InRange l :=
  fun x hx => h x (List.mem_cons_of_mem _ hx)

theorem InRange.head {r : Nat} {l : List Nat} (h : InRange (r :: l)) : 2 ≤ r ∧ r ≤ 14 :=
  h r (List.mem_cons_self ..)

theorem enc_lt_pow (l : List Nat) (h : InRange l) : enc l < 13 ^ l.length := by
  induction l with
  | nil => simp [enc]
  | cons r rs ih =>
    have ih := ih h.tail
    have hr := h.head
    simp only [enc, List.length_cons, Nat.pow_succ]
    have h1 : (r - 2) * 13 ^ rs.length ≤ 12 * 13 ^ rs.length :=
      Nat.mul_le_mul_right _ (by omega)
    omega

theorem enc_lt_iff (l₁ l₂ : List Nat) (hlen : l₁.length = l₂.length)
    (h₁ : InRange l₁) (h₂ : InRange l₂) : enc l₁ < enc l₂ ↔ l₁ < l₂ := by
  induction l₁ generalizing l₂ with
  | nil =>
    cases l₂ with
    | nil => simp [enc]
    | cons _ _ => simp at hlen
  | cons r₁ t₁ ih =>
    cases l₂ with
    | nil => simp at hlen
    | cons r₂ t₂ =>
      have hlen' : t₁.length = t₂.length := by simpa using hlen
      have ih := ih t₂ hlen' h₁.tail h₂.tail
      have b₁ := enc_lt_pow t₁ h₁.tail
      have b₂ := enc_lt_pow t₂ h₂.tail
      have hr₁ := h₁.head
      have hr₂ := h₂.head
      rw [List.cons_lt_cons_iff, ← ih]
      simp only [enc]
      rw [hlen'] at b₁ ⊢
      -- the heads decide unless equal: both tails are worth less than one unit `P` of the head's digit
      -- (`enc_lt_pow`); with `P` a variable the rest is linear
      generalize 13 ^ t₂.length = P at b₁ b₂ ⊢
      rcases Nat.lt_trichotomy r₁ r₂ with hlt | heq | hgt
      · have : (r₁ - 2 + 1) * P ≤ (r₂ - 2) * P := Nat.mul_le_mul_right _ (by omega)
        rw [Nat.add_mul, Nat.one_mul] at this
        constructor
        · intro _
          exact Or.inl hlt
        · intro _
          omega
      · subst heq
        constructor
        · intro h
          exact Or.inr ⟨rfl, by omega⟩
        · rintro (h | ⟨_, h⟩)
          · omega
          · omega
      · have : (r₂ - 2 + 1) * P ≤ (r₁ - 2) * P := Nat.mul_le_mul_right _ (by omega)
        rw [Nat.add_mul, Nat.one_mul] at this
        constructor
        · intro h
          omega
        · rintro (h | ⟨h, _⟩)
          · omega
          · omega

end Pokerface.C03
