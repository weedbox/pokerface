import Pokerface.Proofs.CombosEngine
import Pokerface.Proofs.Cards
/-
  Domain bounds over all histories: in every state of every run from `start c`, for any configuration, the board
  has at most five cards, every player at most `holeCount` hole cards and a combination object (`BoundInv`,
  `bounds_on_all_histories`).  Needed to discharge the size hypotheses of the `gospersHack` table (C10).  The clause
  "`AnteRequested` only before the first street" is part of the invariant because `PayAnte` enters the pre-flop.
  The file opens with the equations of the event field under each setter: the facts that characterise the setters
  for this field; no proof here or elsewhere goes through them (the frames come from the footprints).
-/
namespace Pokerface
namespace Game

@[simp] theorem event_modP (g : Game) (i : Nat) (f : Player → Player) : (g.modP i f).event = g.event := rfl
@[simp] theorem event_mapP (g : Game) (f : Player → Player) : (g.mapP f).event = g.event := rfl
@[simp] theorem event_setEvent (g : Game) (e : Ev) : (g.setEvent e).event = e := rfl
@[simp] theorem event_setRound (g : Game) (e : Round) : (g.setRound e).event = g.event := rfl
@[simp] theorem event_setCur (g : Game) (i : Nat) : (g.setCur i).event = g.event := rfl
@[simp] theorem event_setRaiser (g : Game) (i : Nat) : (g.setRaiser i).event = g.event := rfl
@[simp] theorem event_setCw (g : Game) (x : Int) : (g.setCw x).event = g.event := rfl
@[simp] theorem event_setPrev (g : Game) (x : Int) : (g.setPrev x).event = g.event := rfl
@[simp] theorem event_recordBet (g : Game) (i : Nat) : (g.recordBet i).event = g.event := rfl
@[simp] theorem event_addRoundPot (g : Game) (x : Int) : (g.addRoundPot x).event = g.event := rfl
@[simp] theorem event_setCurrentPlayer (g : Game) (i : Nat) : (g.setCurrentPlayer i).event = g.event := rfl
@[simp] theorem event_resetAllAllowed (g : Game) : g.resetAllAllowed.event = g.event := rfl
@[simp] theorem event_resetAllPlayerStatus (g : Game) : g.resetAllPlayerStatus.event = g.event := rfl
@[simp] theorem event_resetRoundStatus (g : Game) : g.resetRoundStatus.event = g.event := rfl
@[simp] theorem event_resetActed (g : Game) : g.resetActed.event = g.event := rfl
@[simp] theorem event_setActed (g : Game) (i : Nat) : (g.setActed i).event = g.event := rfl
@[simp] theorem event_updatePots (g : Game) : g.updatePots.event = g.event := rfl
@[simp] theorem event_becomeRaiser (g : Game) (i : Nat) : (g.becomeRaiser i).event = g.event := rfl

@[simp] theorem event_roundClosed (g : Game) : g.roundClosed.event = .roundClosed := rfl
@[simp] theorem event_requestReady (g : Game) : g.requestReady.event = .readyRequested := rfl
@[simp] theorem event_gameCompleted (g : Game) : g.gameCompleted.event = .gameClosed := rfl

@[simp] theorem event_payBlind (g : Game) (i : Nat) : (g.payBlind i).event = g.event := (wr_payBlind g i).event

/-- At most `holeCount` hole cards, and a combination object exists (Go: `Combination != nil`). -/
def HandOK (m : Meta) (h : List Card × Option Comb) : Prop := h.1.length ≤ m.holeCount ∧ h.2.isSome

/-- upper bounds only, so that no hypothesis on the deck or the forced bets is needed (`CInvL` has the exact counts,
    for a deck that is long enough) -/
structure BoundInv (g : Game) : Prop where
  board : g.board.length ≤ g.round.boardCount
  holes : ∀ h ∈ g.players.map handOf, HandOK g.opts h
  ante : g.event = .anteRequested → g.round = .none


theorem BoundInv.of_keeps {g g' : Game} (h : Keeps g g') (hi : BoundInv g) : BoundInv g' := by
  refine ⟨?_, ?_, fun he => ?_⟩
  · rw [key_board h.key, key_round h.key]
    exact hi.board
  · rw [key_hands h.key, key_opts h.key]
    exact hi.holes
  · rw [key_round h.key]
    exact hi.ante (h.ante he)

theorem length_dealt_le (g : Game) (k : Nat) : (g.dealt k).length ≤ k := by
  simp only [dealt, List.length_take]
  omega

theorem holes_dealHole (g : Game) (i : Nat)
    (h : ∀ h ∈ g.players.map handOf, HandOK g.opts h) :
    ∀ h ∈ (g.dealHole i).players.map handOf, HandOK (g.dealHole i).opts h := by
  intro x hx
  rw [players_dealHole] at hx
  obtain ⟨p, hp, rfl⟩ := List.mem_map.mp hx
  have hall := forall_mem_modify_at (fun q : Player => HandOK g.opts (handOf q))
    (fun p => { p with hole := g.dealt g.opts.holeCount }) g.players i
    (fun q hq => h _ (List.mem_map_of_mem hq))
    (fun q hq => ⟨length_dealt_le g _, (h (handOf q) (List.mem_map_of_mem (List.mem_of_getElem? hq))).2⟩)
  exact hall p hp

theorem holes_dealHoles (k i : Nat) (g : Game) (h : ∀ h ∈ g.players.map handOf, HandOK g.opts h) :
    ∀ h ∈ (dealHoles k i g).players.map handOf, HandOK (dealHoles k i g).opts h :=
  dealHoles_steps (R := fun g g' => (∀ h ∈ g.players.map handOf, HandOK g.opts h) →
      ∀ h ∈ g'.players.map handOf, HandOK g'.opts h)
    (fun _ h => h) (fun h1 h2 h => h2 (h1 h)) holes_dealHole k i g h

theorem holes_updateCombinations (g : Game) (m : Meta)
    (hg : ∀ h ∈ g.players.map handOf, HandOK m h) :
    ∀ h ∈ g.updateCombinations.players.map handOf, HandOK m h := by
  intro x hx
  obtain ⟨p', hp', rfl⟩ := List.mem_map.1 hx
  obtain ⟨p, hp, rfl⟩ := mem_updateCombinations hp'
  have := hg (handOf p) (List.mem_map_of_mem hp)
  refine ⟨by rw [handOf, hole_newComb]; exact this.1, ?_⟩
  have h2 : p.comb.isSome := this.2
  show (newComb p _).comb.isSome
  unfold newComb
  split
  · rfl
  · exact h2

theorem BoundInv.enter {g : Game} {r : Round} (hi : BoundInv g) (hn : Nxt g.round r) :
    BoundInv (g.enterRound r) := by
  have hk := (keeps_enterRound g r).key
  -- after the dealing, street by street: the board is within the count of the new street, the hands are within theirs
  have hd : (g.setRound r).dealStreet.board.length ≤ r.boardCount ∧
      ∀ h ∈ (g.setRound r).dealStreet.players.map handOf, HandOK g.opts h := by
    have hb := hi.board
    refine dealStreet_nxt (motive := fun d => d.board.length ≤ _ ∧ ∀ h ∈ d.players.map handOf, HandOK _ h) hn
      (fun h0 _ => ?_) fun k _ hc => ?_
    · have w := wr_dealHoles g.n 0 (g.setRound r)
      refine ⟨?_, w.opts ▸ holes_dealHoles g.n 0 (g.setRound r) hi.holes⟩
      rw [w.board]
      rw [h0] at hb
      exact Nat.le_trans hb (Nat.zero_le _)
    · have hw := (wr_askDealer_dealt (g.setRound r) k).keeps.key
      obtain ⟨_, _, hp', hb', _, _⟩ := burn_dealBoard (g.setRound r) k
      rw [key_board hw, key_hands hw, hb', hp', List.length_append]
      have := length_dealt_le ((g.setRound r).burn 1) k
      exact ⟨show g.board.length + _ ≤ _ by omega, hi.holes⟩
  refine ⟨?_, ?_, fun he => absurd he (enterRound_not_ante g r)⟩
  · rw [key_board hk, key_round hk]
    exact (dealStreet_round _).symm ▸ hd.1
  · rw [key_hands hk, key_opts hk]
    exact holes_updateCombinations _ _ ((opts_dealStreet _).symm ▸ hd.2)

theorem boundInv_step (g : Game) (op : Op) (hi : BoundInv g) : BoundInv (g.step op).1 := by
  have h := handStep_step g op
  generalize (g.step op).1 = g' at h ⊢
  cases h with
  | keep h => exact hi.of_keeps h.keeps
  | askAnte h hr =>
    have h0 := hi.of_keeps h.keeps
    exact ⟨h0.board, h0.holes, fun _ => hr⟩
  | enter h hn => exact (hi.of_keeps h.keeps).enter hn
  | antePaid h he =>
    -- the ante is requested before the first street only
    exact (hi.of_keeps h.keeps).enter (.inl ⟨h.round.trans (hi.ante he), rfl⟩)
  | complete h _ => exact hi.of_keeps (h.trans (wr_gameCompleted _)).keeps

theorem boundInv_start (c : Config) : BoundInv (start c).1 := by
  obtain ⟨g1, ho, hp, hr, hb, hk⟩ := start_keeps c
  refine BoundInv.of_keeps hk ⟨by rw [hb]; exact Nat.zero_le _, ?_, fun _ => hr⟩
  intro h hh
  rw [hp] at hh
  obtain ⟨p, hpc, rfl⟩ := List.mem_map.mp hh
  obtain ⟨_, _, _, _, _, hh0, hc0⟩ := config_players_mem c hpc
  rw [handOf, hh0, hc0]
  exact ⟨Nat.zero_le _, rfl⟩

theorem bounds_on_all_histories (c : Config) (ops : List Op) :
    ((start c).1.run ops).board.length ≤ 5 ∧
    ∀ p ∈ ((start c).1.run ops).players,
      p.hole.length ≤ ((start c).1.run ops).opts.holeCount ∧ p.comb.isSome := by
  have hi := run_induction boundInv_step (boundInv_start c) ops
  refine ⟨Nat.le_trans hi.board (Round.boardCount_le _), ?_⟩
  intro p hp
  exact hi.holes (handOf p) (List.mem_map_of_mem hp)

theorem opts_run (c : Config) (ops : List Op) : ((start c).1.run ops).opts = c.opts := by
  obtain ⟨g1, ho, _, _, _, hk⟩ := start_keeps c
  exact ((run_opts _ ops).trans hk.opts).trans ho

end Game
end Pokerface
