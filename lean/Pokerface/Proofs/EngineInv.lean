import Pokerface.Proofs.EngineCtl
import Pokerface.Proofs.Available
/-
  The engine invariant `Inv` and its preservation by every operation of the
  alphabet (`step`), hence by every reachable state.

  What an accepted action looks like under `Inv` is said once: `act_nf` walks `Game.act_cases` (EngineActCases) under
  the invariant and adds what the invariant and the offer say about the acting seat (`ActNF`).  Who needs only the
  shape of the state handed to `resume`, without the amounts, reads its coarse view `ActShape`.
-/
namespace Pokerface
open Game

/-- the forced bets of the options are not negative (`Start()` does not check this) -/
structure OptsOK (m : Meta) : Prop where
  ante0 : 0 ≤ m.ante
  bd0 : 0 ≤ m.blindDealer
  sb0 : 0 ≤ m.blindSB
  bb0 : 0 ≤ m.blindBB

structure Inv (g : Game) : Prop where
  opts : OptsOK g.opts
  struct : Struct g
  chips0 : ChipsOK0 g
  wle : g.event ≠ .anteRequested → WLe g
  post : Post g

theorem Inv.chips {g : Game} (h : Inv g) (he : g.event ≠ .anteRequested) : ChipsOK g :=
  h.chips0.full (h.wle he)

theorem becomeRaiser_event (g : Game) (i : Nat) : (g.becomeRaiser i).event = g.event := rfl
theorem resetActed_event (g : Game) : g.resetActed.event = g.event := rfl

theorem optsOK_pay {g : Game} {i : Nat} {c : Int} {w : Bool} (h : OptsOK g.opts) : OptsOK (g.pay i c w).opts :=
  (wr_pay g i c w).opts ▸ h

/-- how every operation re-establishes the invariant: the chip part is carried along a `NoChip` chain
    from a state where it holds in full, the control part is shown for the final state -/
theorem Inv.of_parts {g g' : Game} (ho : OptsOK g.opts) (hs : Struct g) (ok : ChipsOK g) (h : NoChip g g')
    (hp : Post g') : Inv g' :=
  let ok' := ChipsOK.of_noChip h ok
  ⟨(h.opts ▸ ho), h.struct hs, ok'.zero, fun _ => ok'.wle, hp⟩

theorem post_readiness (g : Game) (hs : Struct g) (h : NoneAllowed g) : Post g.readiness :=
  g.readiness_cases (fun _ _ => .of_noneAllowed rfl (fun h => by cases h) h) (fun _ _ => post_enterRound g _ fun _ => h)
    fun _ => post_startRound g hs

theorem inv_readyForAll (g : Game) (hi : Inv g) (he : g.event = .readyRequested) :
    Inv g.resetAllAllowed.readiness := by
  exact .of_parts hi.opts hi.struct (hi.chips (he ▸ nofun)) ((wr_resetAllAllowed g).trans (wr_readiness _)).noChip
    (post_readiness _ ((wr_resetAllAllowed g).struct hi.struct) (noneAllowed_resetAllAllowed g))

/-- state of the ante loop: everything of `Inv` that survives a non-wager payment -/
structure AnteInv (g : Game) : Prop where
  opts : OptsOK g.opts
  struct : Struct g
  chips0 : ChipsOK0 g
  none : NoneAllowed g
  ev : g.event = .anteRequested

theorem Inv.anteInv {g : Game} (hi : Inv g) (he : g.event = .anteRequested) : AnteInv g :=
  ⟨hi.opts, hi.struct, hi.chips0, hi.post.noneAllowed (he ▸ nofun), he⟩

theorem anteInv_pay {g : Game} (h : AnteInv g) (i : Nat) : AnteInv (g.pay i g.opts.ante false) :=
  ⟨optsOK_pay h.opts, (wr_pay g i _ false).struct h.struct, chipsOK0_pay g i _ false h.chips0 h.opts.ante0,
    (wr_pay g i _ false).soft.noneAllowed h.none, (wr_pay g i _ false).event.trans h.ev⟩

theorem anteInv_loop (is : List Nat) (g : Game) : AnteInv g → AnteInv (payAnteLoop is g).1 :=
  payAnteLoop_steps (R := fun a b => AnteInv a → AnteInv b) (fun _ h => h) (fun h1 h2 h => h2 (h1 h))
    (fun _ i _ _ _ h => anteInv_pay h i) is g

theorem AnteInv.inv {g : Game} (h : AnteInv g) : Inv g :=
  ⟨h.opts, h.struct, h.chips0, fun he => absurd h.ev he,
    .of_noneAllowed (h.ev ▸ rfl) (h.ev ▸ by decide) h.none⟩

theorem inv_antePaid (g : Game) (h : AnteInv g) : Inv g.antePaid := by
  rw [antePaid_eq]
  -- `g1`: the state whose wagers `anteSwept` sweeps
  let g1 := (g.resetAllAllowed.setEvent .antePaid).updatePots
  have n1 : NoChip g g1 := (((wr_resetAllAllowed g).trans (wr_setEvent _ _)).trans (wr_updatePots _)).noChip
  have ok2 : ChipsOK g.anteSwept := chipsOK_resets (g := g1) rfl rfl rfl rfl (.of_noChip n1 h.chips0)
  exact .of_parts ((wr_anteSwept g).opts ▸ h.opts) ((wr_anteSwept g).struct h.struct) ok2
    (wr_enterRound _ .preflop).noChip (post_enterRound _ _ fun _ => noneAllowed_resetAllPlayerStatus g1)

theorem inv_payAnte (g : Game) (hi : Inv g) (he : g.event = .anteRequested) :
    Inv (match payAnteLoop g.seatsFromDealer g with
      | (g', some e) => (g', some e)
      | (g', none) => (g'.antePaid, none)).1 := by
  have hl := anteInv_loop g.seatsFromDealer g (hi.anteInv he)
  revert hl
  generalize payAnteLoop g.seatsFromDealer g = r
  obtain ⟨g', e⟩ := r
  intro hl
  cases e with
  | none => exact inv_antePaid _ hl
  | some e => exact hl.inv

/-- state of the blinds loop: what of `Inv` every `payBlind` keeps, the event aside -/
structure BInv (g : Game) : Prop where
  opts : OptsOK g.opts
  struct : Struct g
  chips : ChipsOK g
  none : NoneAllowed g

theorem blindOf_nonneg {m : Meta} (h : OptsOK m) (p : Player) : 0 ≤ blindOf m p := by
  unfold Game.blindOf
  have := h.bd0
  have := h.sb0
  have := h.bb0
  split
  · omega
  · split
    · omega
    · split
      · omega
      · omega

theorem Inv.bInv {g : Game} (hi : Inv g) (he : g.event = .blindsRequested) : BInv g :=
  ⟨hi.opts, hi.struct, hi.chips (he ▸ nofun), hi.post.noneAllowed (he ▸ nofun)⟩

theorem blindPaid_nonneg {g : Game} (h : BInv g) {i : Nat} {p : Player} (hp : g.players[i]? = some p) :
    0 ≤ (if p.stack < blindOf g.opts p then p.stack else blindOf g.opts p) := by
  have := (h.chips.pinv p (List.mem_of_getElem? hp)).stack0
  have := blindOf_nonneg h.opts p
  split
  · omega
  · omega

theorem bInv_pay {g : Game} (h : BInv g) (i : Nat) {c : Int} (hc : 0 ≤ c) : BInv (g.pay i c true) :=
  ⟨optsOK_pay h.opts, (wr_pay g i c true).struct h.struct, chipsOK_pay g i c h.chips hc,
    (wr_pay g i c true).soft.noneAllowed h.none⟩

theorem bInv_foldl (is : List Nat) (g : Game) : BInv g → BInv (is.foldl payBlind g) :=
  payBlinds_steps (R := fun a b => BInv a → BInv b) (fun _ h => h) (fun h1 h2 h => h2 (h1 h))
    (fun _ i _ hp h => bInv_pay h i (blindPaid_nonneg h hp)) is g

theorem bInv_foldl_keeps {P : Game → Prop}
    (pay : ∀ g i p, BInv g → g.players[i]? = some p → P g →
      P (g.pay i (if p.stack < blindOf g.opts p then p.stack else blindOf g.opts p) true))
    (is : List Nat) (g : Game) (hb : BInv g) (h : P g) : P (is.foldl payBlind g) :=
  (payBlinds_steps (R := fun a b => BInv a → P a → BInv b ∧ P b) (fun _ hb h => ⟨hb, h⟩)
    (fun h1 h2 hb h => h2 (h1 hb h).1 (h1 hb h).2)
    (fun g i p hp hb h => ⟨bInv_pay hb i (blindPaid_nonneg hb hp), pay g i p hb hp h⟩) is g hb h).2

theorem chipsOK_setPrev (g : Game) (x : Int) (hx : 0 ≤ x) (ok : ChipsOK g) : ChipsOK (g.setPrev x) :=
  ⟨ok.pinv, ok.rp, ok.cw0, hx, ok.wle⟩

theorem openBlind_nonneg {m : Meta} (h : OptsOK m) : 0 ≤ m.openBlind := by
  unfold Meta.openBlind
  have hbb0 := h.bb0
  have := h.bd0
  split
  · omega
  · omega

theorem inv_blindsPaid (g : Game) (h : BInv g) : Inv g.blindsPaid :=
  .of_parts (g := g.setPrev g.opts.openBlind) h.opts ((wr_setPrev g _).struct h.struct)
    (chipsOK_setPrev g _ (openBlind_nonneg h.opts) h.chips) (wr_blindsPaid_rest g).noChip (post_prepareRound _)

theorem inv_payBlinds (g : Game) (hi : Inv g) (he : g.event = .blindsRequested) :
    Inv (g.seatsFromDealer.foldl payBlind g).blindsPaid := by
  exact inv_blindsPaid _ (bInv_foldl _ g (hi.bInv he))

theorem inv_nextRound (g : Game) (hi : Inv g) (hr : g.round ≠ .none) : Inv g.nextRound := by
  have ok1 : ChipsOK g.sweep := chipsOK_resets (g := g) rfl rfl rfl rfl hi.chips0
  exact .of_parts ((wr_sweep g).opts ▸ hi.opts) ((wr_sweep g).struct hi.struct) ok1 (wr_nextRound' g.sweep).noChip
    (post_nextRound' g.sweep (noneAllowed_resetAllPlayerStatus _) hr)

theorem allows_spec {g : Game} (hi : Inv g) {i : Nat} {a : Act} (h : g.allows i a = true) :
    ∃ p, g.players[i]? = some p ∧ g.event = .roundStarted ∧ i = g.cur ∧ a ∈ g.availableActions p := by
  obtain ⟨p, hp, hmem⟩ := allows_iff.mp h
  refine ⟨p, hp, ?_⟩
  by_cases he : g.event = .roundStarted
  · rw [hi.post.offered he i p hp] at hmem
    by_cases hc : i = g.cur
    · rw [if_pos hc] at hmem
      exact ⟨he, hc, hmem⟩
    · rw [if_neg hc] at hmem
      cases hmem
  · rw [hi.post.noneAllowed he p (List.mem_of_getElem? hp)] at hmem
    cases hmem

/-- the state handed to `resume` by an accepted action: chips fine, still RoundStarted, and
    only the seat that has just acted can still carry an allowed list.  (A predicate of one state; the relation
    `ActMid g g1` further down adds how that state sits to the state `g` the action was applied to.) -/
structure MidAct (g : Game) : Prop where
  opts : OptsOK g.opts
  struct : Struct g
  chips : ChipsOK g
  ev : g.event = .roundStarted
  only : OnlyCur g

theorem inv_resume (g : Game) (h : MidAct g) : Inv g.resume := by
  rw [resume_started h.ev]
  exact .of_parts h.opts h.struct h.chips (wr_requestPlayerAction g).noChip
    (post_requestPlayerAction g h.struct h.ev h.only)

theorem Inv.midAct {g : Game} (hi : Inv g) (he : g.event = .roundStarted) : MidAct g :=
  ⟨hi.opts, hi.struct, hi.chips (he ▸ by decide), he, (hi.post.offered he).onlyCur⟩

theorem midAct_noChip {g g' : Game} (h : MidAct g) (nc : NoChip g g') (so : Soft g g') (he : g'.event = g.event) :
    MidAct g' :=
  ⟨(nc.opts ▸ h.opts), nc.struct h.struct, ChipsOK.of_noChip nc h.chips, (he ▸ h.ev),
    so.onlyCur h.only⟩

theorem midAct_setActed {g : Game} (h : MidAct g) (i : Nat) : MidAct (g.setActed i) :=
  midAct_noChip h (wr_setActed g i).noChip (wr_setActed g i).soft rfl

theorem midAct_pay {g : Game} (h : MidAct g) (i : Nat) (c : Int) (hc : 0 ≤ c) : MidAct (g.pay i c true) :=
  ⟨optsOK_pay h.opts, (wr_pay g i c true).struct h.struct,
    chipsOK_pay g i c h.chips hc, (wr_pay g i c true).event.trans h.ev, (wr_pay g i c true).soft.onlyCur h.only⟩

theorem midAct_setPrev {g : Game} (h : MidAct g) (x : Int) (hx : 0 ≤ x) : MidAct (g.setPrev x) :=
  ⟨h.opts, (wr_setPrev g x).struct h.struct, chipsOK_setPrev g x hx h.chips, h.ev,
    (wr_setPrev g x).soft.onlyCur h.only⟩

theorem wagerOf_nonneg {g : Game} (ok : ChipsOK g) (i : Nat) : 0 ≤ g.wagerOf i := by
  unfold Game.wagerOf
  cases hp : g.players[i]? with
  | none => simp
  | some p => simpa using (ok.pinv p (List.mem_of_getElem? hp)).wager0

theorem not_available_pay (g : Game) (p : Player) : Act.pay ∉ g.availableActions p := by
  intro h
  obtain ⟨h1, h2⟩ := avail_movable_of_mem h (by decide)
  obtain ⟨_, _, hpay, _⟩ := avail_mem (g := g) h1 h2
  exact hpay h

theorem setPrev_self (g : Game) : g.setPrev g.prev = g := rfl

/-- the seat has not folded and has chips -/
def Player.live (p : Player) : Prop := p.fold = false ∧ 0 < p.stack

/-- `ActNF g i p a x g1`: the accepted request `a x` of seat `i`, holding `p`, hands `g1` to `resume`.  One constructor
    per body of `act`, each with the exact mid-action state and what the invariant and the offer say about the seat. -/
inductive ActNF (g : Game) (i : Nat) (p : Player) : Act → Int → Game → Prop
  | pass (x : Int) (h : p.fold = true ∨ p.stack = 0) : ActNF g i p .pass x (g.setActed i)
  | check (x : Int) (hl : p.live) (hw : p.wager = g.cw) : ActNF g i p .check x (g.setActed i)
  | fold (x : Int) (hl : p.live) (hw : p.wager < g.cw) : ActNF g i p .fold x (g.modP i foldMark)
  /-- `Call`, and `Raise(x)` with `x` the wager to match -/
  | call {a : Act} {x : Int} (ha : a = .call ∨ a = .raise ∧ x = g.cw) (hl : p.live) (hw : p.wager < g.cw)
      (hi : g.cw < p.initial) : ActNF g i p a x (g.markPay i g.prev (g.callPay p))
  /-- `Allin`, and `Raise(x)` to the whole stack or by less than the minimum -/
  | allin {a : Act} {x : Int} (ha : a = .allin ∨ a = .raise ∧ g.cw < x ∧ (p.initial ≤ x ∨ x - g.cw < g.prev))
      (hl : p.live) :
      ActNF g i p a x (g.markPay i (if p.initial - g.cw ≥ g.prev then p.initial - g.cw else g.prev) p.stack)
  | bet (x : Int) (hx : 0 ≤ x) (hl : p.live) (hcw : g.cw = 0) (hw : p.wager = 0) :
      ActNF g i p .bet x ((g.markPay i g.prev x).recordBet i)
  /-- a proper raise; `r` is the size recorded: `x - cw`, or the pot-limit cap -/
  | raise (x r : Int) (hcw : 0 < g.cw) (hx1 : g.cw < x) (hx2 : x < p.initial) (hx3 : g.prev ≤ x - g.cw) (hl : p.live)
      (hr : r = x - g.cw ∧ (g.opts.potLimit = false ∨ x - g.cw ≤ g.cw + g.prev) ∨
        r = g.cw + g.prev ∧ g.opts.potLimit = true ∧ x - g.cw > g.cw + g.prev) :
      ActNF g i p .raise x (g.markPay i r (g.cw + r - p.wager))

theorem stack_pos_of_avail {g : Game} (ok : ChipsOK g) {i : Nat} {p : Player} (hp : g.players[i]? = some p)
    {a : Act} (h : a ∈ g.availableActions p) (ha : a ≠ .pass) : p.live := by
  have h1 := avail_movable_of_mem h ha
  have := (ok.pinv p (List.mem_of_getElem? hp)).stack0
  exact ⟨h1.1, by have := h1.2; omega⟩

theorem act_nf {g : Game} (hi : Inv g) {i : Nat} {a : Act} {x : Int} (hacc : (g.act i a x).2 = none) :
    ∃ p g1, g.players[i]? = some p ∧ g.event = .roundStarted ∧ i = g.cur ∧ ChipsOK g ∧
      (g.act i a x).1 = g1.resume ∧ ActNF g i p a x g1 := by
  -- who acts is settled before the walk: the request has passed the guard `allows i a`
  obtain ⟨p, hp, he, hc, _⟩ := allows_spec hi (act_accepted_allows hacc)
  have ok := hi.chips (he ▸ nofun)
  have hpi := ok.pinv p (List.mem_of_getElem? hp)
  have hwle := ok.wle p (List.mem_of_getElem? hp)
  have hw0 := hpi.wager0
  have hcw0 := ok.cw0
  -- whatever the seat is allowed it has been offered; the offer of anything but `pass` says that the seat is live
  have offer : ∀ {b : Act}, g.allows i b = true → b ∈ g.availableActions p := fun h => by
    obtain ⟨q, hq, _, _, hm⟩ := allows_spec hi h
    cases hp.symm.trans hq
    exact hm
  have live : ∀ {b : Act}, g.allows i b = true → b ≠ .pass → p.live := fun h hb => stack_pos_of_avail ok hp (offer h) hb
  suffices h : ∃ g1, (g.act i a x).1 = g1.resume ∧ ActNF g i p a x g1 from h.elim fun g1 h => ⟨p, g1, hp, he, hc, ok, h⟩
  revert hacc
  refine g.act_cases i a x (motive := fun r => r.2 = none → ∃ g1, r.1 = g1.resume ∧ ActNF g i p a x g1)
    (fun _ h => nomatch h) ?_ ?_ ?_ ?_ ?_ ?_ ?_
  · rintro (rfl | rfl) hal _
    · exact ⟨_, rfl, .pass x (avail_pass (offer hal))⟩
    · have := avail_check (offer hal)
      exact ⟨_, rfl, .check x (live hal nofun) (by omega)⟩
  · intro _ hal _
    exact absurd (offer hal) (not_available_pay g p)
  · rintro rfl hal _
    obtain ⟨h1, h2⟩ := avail_movable_of_mem (offer hal) nofun
    exact ⟨_, rfl, .fold x (live hal nofun) ((avail_mem h1 h2).2.2.2.1.mp (offer hal))⟩
  · intro q hq ha _ hal _
    cases hp.symm.trans hq
    obtain ⟨hw, hin⟩ := avail_call (offer hal)
    exact ⟨_, rfl, .call ha (live hal nofun) hw hin⟩
  · intro q hq ha _ hal _
    cases hp.symm.trans hq
    exact ⟨_, rfl, .allin ha (live hal nofun)⟩
  · rintro rfl hal hx _
    obtain ⟨_, hb⟩ := avail_bet (offer hal)
    exact ⟨_, rfl, .bet x hx (live hal nofun) hb (by omega)⟩
  · rintro q r hq rfl hal hcw _ hlt hmin hr _
    cases hp.symm.trans hq
    have := (avail_raise (offer hal)).1
    exact ⟨_, rfl, .raise x r (by omega) hcw hlt hmin (live hal nofun) hr⟩

/-- the coarse view of `ActNF`: how the state handed to `resume` is built, without the amounts -/
inductive ActShape (g : Game) (i : Nat) (p : Player) : Game → Prop
  /-- `Pass`, `Check`: only the `acted` mark -/
  | mark (h : p.fold = true ∨ p.stack = 0 ∨ p.wager = g.cw) : ActShape g i p (g.setActed i)
  /-- `Fold` -/
  | fold (hl : p.live) (hw : p.wager < g.cw) : ActShape g i p (g.modP i foldMark)
  /-- `Call`, `Allin`, `Bet`, `Raise`: mark, then a wager payment of `c ≥ 0` chips that is all-in or at
      least matches the wager to match; the minimal raise size is set before and/or after -/
  | pay (a b c : Int) (ha : 0 ≤ a) (hb : 0 ≤ b) (hc : 0 ≤ c) (hl : p.live) (hw : p.stack ≤ c ∨ g.cw ≤ p.wager + c) :
      ActShape g i p ((((g.setActed i).setPrev a).pay i c true).setPrev b)

theorem ActShape.pay1 {g : Game} {i : Nat} {p : Player} (a c : Int) (ha : 0 ≤ a) (hc : 0 ≤ c) (hl : p.live)
    (hw : p.stack ≤ c ∨ g.cw ≤ p.wager + c) : ActShape g i p (g.markPay i a c) :=
  ActShape.pay (g := g) (i := i) (p := p) a (g.markPay i a c).prev c ha (by rw [Game.markPay, Game.pay_prev]; exact ha) hc
    hl hw

theorem ActNF.shape {g : Game} (ok : ChipsOK g) {i : Nat} {p : Player} (hp : g.players[i]? = some p) {a : Act} {x : Int}
    {g1 : Game} (h : ActNF g i p a x g1) : ActShape g i p g1 := by
  have hpi := ok.pinv p (List.mem_of_getElem? hp)
  have hw := ok.wle p (List.mem_of_getElem? hp)
  have hreb := hpi.rebase
  have hs0 := hpi.stack0
  have hprev := ok.prev0
  have hcw0 := ok.cw0
  cases h with
  | pass x h => exact .mark (h.imp_right .inl)
  | check x hl hw => exact .mark (.inr (.inr hw))
  | fold x hl hw' => exact .fold hl hw'
  | call ha hl hw' hin =>
    refine .pay1 g.prev _ hprev ?_ hl (.inr ?_)
    · unfold Game.callPay
      split <;> omega
    · unfold Game.callPay
      split <;> omega
  | allin ha hl =>
    refine .pay1 _ _ ?_ hs0 hl (.inl (Int.le_refl _))
    split <;> omega
  | bet x hx hl hcw hw0 =>
    have hm : ChipsOK (g.markPay i g.prev x) := chipsOK_pay _ i x (ChipsOK.of_noChip (wr_setActed g i).noChip ok) hx
    exact .pay g.prev _ x hprev (wagerOf_nonneg hm i) hx hl (.inr (by omega))
  | raise x r hcw hx1 hx2 hx3 hl hr =>
    have hr0 : 0 ≤ r ∧ 0 ≤ g.cw + r - p.wager ∧ g.cw ≤ p.wager + (g.cw + r - p.wager) := by
      rcases hr with ⟨rfl, _⟩ | ⟨rfl, _⟩ <;> omega
    exact .pay1 r _ hr0.1 hr0.2.1 hl (.inr hr0.2.2)

theorem ActShape.wr {g : Game} {i : Nat} {p : Player} {g1 : Game} (h : ActShape g i p g1) :
    Wr .body g g1 := by
  cases h with
  | mark _ => exact (wr_setActed g i).mono
  | fold _ _ => exact (wr_fold g i).mono
  | pay a b c _ _ _ _ _ =>
    exact ((((wr_setActed g i).trans (wr_setPrev _ a)).trans (wr_pay _ i c true)).trans (wr_setPrev _ b)).mono

theorem ActShape.midAct {g : Game} (hm : MidAct g) {i : Nat} {p : Player} {g1 : Game} (h : ActShape g i p g1) :
    MidAct g1 := by
  cases h with
  | mark _ => exact midAct_setActed hm i
  | fold _ _ => exact midAct_noChip hm (wr_fold g i).noChip (wr_fold g i).soft rfl
  | pay a b c ha hb hc _ _ => exact midAct_setPrev (midAct_pay (midAct_setPrev (midAct_setActed hm i) a ha) i c hc) b hb

/-- the mid-action state `g1` of an accepted action on `g`: `MidAct g1` (the predicate above) and how `g1` sits to `g` -/
structure ActMid (g g1 : Game) : Prop where
  mid : MidAct g1
  soft : Soft g g1
  stat : Static g g1

theorem ActMid.n {g g1 : Game} (h : ActMid g g1) : g1.n = g.n := h.stat.length

theorem act_shape (g : Game) (hi : Inv g) (i : Nat) (a : Act) (x : Int) (hacc : (g.act i a x).2 = none) :
    ∃ g1, (g.act i a x).1 = g1.resume ∧ ActMid g g1 := by
  obtain ⟨p, g1, hp, he, _, ok, e, nf⟩ := act_nf hi hacc
  have sh := nf.shape ok hp
  exact ⟨g1, e, sh.midAct (hi.midAct he), sh.wr.soft, sh.wr.static⟩

theorem inv_act (g : Game) (hi : Inv g) (i : Nat) (a : Act) (x : Int) : Inv (g.act i a x).1 := by
  cases h : (g.act i a x).2 with
  | some e =>
    rw [g.act_refused i a x ((h ▸ Option.some_ne_none e))]
    exact hi
  | none =>
    obtain ⟨g1, he, hm⟩ := act_shape g hi i a x h
    rw [he]
    exact inv_resume g1 hm.mid

theorem inv_step (g : Game) (hi : Inv g) (op : Op) : Inv (g.step op).1 :=
  g.step_cases op (motive := fun r => Inv r.1) (fun _ => hi) (fun _ => inv_readyForAll g hi)
    (fun _ he _ => inv_payAnte g hi he) (fun _ => inv_payBlinds g hi) (fun _ _ => inv_nextRound g hi)
    (fun _ _ _ => hi) (fun _ a x _ => inv_act g hi _ a x)

theorem inv_run (g : Game) (hi : Inv g) (ops : List Op) : Inv (g.run ops) :=
  Game.run_induction (fun g op h => inv_step g h op) hi ops

end Pokerface
