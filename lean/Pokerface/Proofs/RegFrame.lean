/-
  The answers of `SyncState(t, 0)` do not depend on the `Required` fields (C20):
  two regulator states that agree on everything but `Required` ask every table
  for the same thing (`frame_answer`), and a `SyncState(t, 0)` that asks for nothing leaves such
  a pair (`frame_of_quiet`).
-/
import Pokerface.Proofs.RegTableCount

namespace Pokerface
namespace Reg

/-- agreement on everything `SyncState` looks at -/
structure Frame (r r' : Reg) : Prop where
  max : r'.max = r.max
  pc : r'.playerCount = r.playerCount
  tc : r'.tableCount = r.tableCount
  status : r'.status = r.status
  queue : r'.queue = r.queue
  tv : tview r'.tables = tview r.tables

theorem Frame.refl (r : Reg) : Frame r r := ⟨rfl, rfl, rfl, rfl, rfl, rfl⟩
theorem Frame.symm {r r' : Reg} (h : Frame r r') : Frame r' r :=
  ⟨h.max.symm, h.pc.symm, h.tc.symm, h.status.symm, h.queue.symm, h.tv.symm⟩
theorem Frame.trans {a b c : Reg} (h1 : Frame a b) (h2 : Frame b c) : Frame a c :=
  ⟨h2.max.trans h1.max, h2.pc.trans h1.pc, h2.tc.trans h1.tc, h2.status.trans h1.status,
   h2.queue.trans h1.queue, h2.tv.trans h1.tv⟩

theorem Frame.needs {r r' : Reg} (h : Frame r r') : SameNeeds r r' := ⟨h.pc, h.max⟩

theorem tview_find (ts ts' : List RTable) (t : Nat) (h : tview ts' = tview ts) :
    (ts'.find? (fun x => x.id == t)).map (fun x => x.count) =
    (ts.find? (fun x => x.id == t)).map (fun x => x.count) := by
  rw [find_tview, find_tview, h]

theorem filter_count_len (ts : List RTable) (p : Int → Bool) :
    (ts.filter fun t => p t.count).length = ((tview ts).filter fun e => p e.2).length := by
  induction ts with
  | nil => rfl
  | cons t ts ih =>
    simp only [tview, List.map_cons, List.filter_cons] at ih ⊢
    split <;> simp [ih]

theorem filter_count_sum (ts : List RTable) (p : Int → Bool) :
    ((ts.filter fun t => p t.count).map (·.count)).sum = (((tview ts).filter fun e => p e.2).map (·.2)).sum := by
  induction ts with
  | nil => rfl
  | cons t ts ih =>
    simp only [tview, List.map_cons, List.filter_cons] at ih ⊢
    split <;> simp [ih]

theorem frame_lowCount {r r' : Reg} (h : Frame r r') :
    r'.lowWaterLevelTableCount = r.lowWaterLevelTableCount := by
  unfold lowWaterLevelTableCount
  simp only
  rw [h.pc, h.needs.req]
  rw [filter_count_len r'.tables (fun c => decide (c < r.playerCount / r.requiredTables)),
      filter_count_len r.tables (fun c => decide (c < r.playerCount / r.requiredTables)), h.tv]

theorem frame_reached {r r' : Reg} (h : Frame r r') (fl : Int) :
    r'.lowerWaterLevelReached fl = r.lowerWaterLevelReached fl := by
  unfold lowerWaterLevelReached
  simp only
  rw [h.pc, h.needs.req]
  rw [filter_count_len r'.tables (fun c => decide (c ≤ r.playerCount / r.requiredTables)),
      filter_count_len r.tables (fun c => decide (c ≤ r.playerCount / r.requiredTables)),
      filter_count_sum r'.tables (fun c => !decide (c ≤ r.playerCount / r.requiredTables)),
      filter_count_sum r.tables (fun c => !decide (c ≤ r.playerCount / r.requiredTables)), h.tv]

theorem frame_releaseLoop (k : Nat) : ∀ (id : Nat) (fl : Int) (r r' : Reg) (p : Nat), Frame r r' →
    (releaseLoop k id fl r' p).1 = (releaseLoop k id fl r p).1 := by
  induction k with
  | zero =>
    intro _ _ _ _ _ _
    rfl
  | succ n ih =>
    intro id fl r r' p h
    rw [releaseLoop, releaseLoop, frame_reached h fl]
    split
    · rfl
    · apply ih
      refine ⟨h.max, h.pc, h.tc, h.status, h.queue, ?_⟩
      simp only [setTable_eq, fun_sub]
      rw [tview_upd id _ _ (-1) (adj_id _ _) (adj_count _ _), tview_upd id _ _ (-1) (adj_id _ _) (adj_count _ _), h.tv]

theorem frame_ids {r r' : Reg} (h : Frame r r') : r'.tables.map (·.id) = r.tables.map (·.id) := by
  rw [← tview_fst, ← tview_fst, h.tv]

/-- the three things a table is told by `SyncState(t, 0)` -/
def answer0 (r : Reg) (t : Nat) : Int × List Nat × Bool :=
  ((r.syncState t 0).2.2.1, (r.syncState t 0).2.2.2, ((r.syncState t 0).1.findTable t).isNone)

theorem findTable_isNone_eq (x : Reg) (t : Nat) :
    (x.findTable t).isNone = decide (t ∉ x.tables.map (·.id)) := by
  cases hf : x.findTable t with
  | none => exact (decide_eq_true (findTable_none hf)).symm
  | some y =>
    have hm : t ∈ x.tables.map (·.id) := List.mem_map.2 ⟨y, (findTable_some hf).1, (findTable_some hf).2⟩
    exact (decide_eq_false (fun hn => hn hm)).symm

/-- the outcome of `SyncState` after the booking, for a table that exists, reads nothing but what
    a `Frame` keeps: the tests compare counts, totals and the queue, never a `Required` -/
theorem syncStep_frame {b b' : Reg} (h : Frame b b') (t : Nat) (tc : Int)
    (hm : ((b.findTable t).isNone) = false) (hm' : ((b'.findTable t).isNone) = false) :
    ((syncStep b' t tc).2.2.1, (syncStep b' t tc).2.2.2, ((syncStep b' t tc).1.findTable t).isNone) =
    ((syncStep b t tc).2.2.1, (syncStep b t tc).2.2.2, ((syncStep b t tc).1.findTable t).isNone) := by
  have hids : b'.tables.map (·.id) = b.tables.map (·.id) := frame_ids h
  unfold syncStep
  simp only
  rw [h.needs.req, h.status, h.pc, h.max, h.tc, frame_lowCount h, h.queue]
  by_cases h1 : b.status = .afterRegDeadline ∧ b.playerCount ≤ (b.max : Int) ∧ b.requiredTables < b.tableCount
  · rw [if_pos h1, if_pos h1]
    simp only [breakTable_find]
  · rw [if_neg h1, if_neg h1]
    by_cases h2 : b.requiredTables ≤ 0
    · rw [if_pos h2, if_pos h2]
      simp only [hm, hm']
    · rw [if_neg h2, if_neg h2]
      by_cases h3 : tc * b.requiredTables < b.playerCount
      · rw [if_pos h3, if_pos h3]
        by_cases h4 : b.lowWaterLevelTableCount ≥ 2 ∧ b.requiredTables < b.tableCount
        · rw [if_pos h4, if_pos h4]
          simp only [breakTable_find]
        · rw [if_neg h4, if_neg h4, take_norm, take_norm]
          simp only [findTable_isNone_eq, upd_ids _ _ _ (adj_id _ _), hids]
      · rw [if_neg h3, if_neg h3]
        by_cases h5 : tc * b.requiredTables > b.playerCount
        · rw [if_pos h5, if_pos h5]
          obtain ⟨j, _, he⟩ := releaseLoop_spec (tc - b.playerCount / b.requiredTables).toNat t
            (b.playerCount / b.requiredTables) b 0
          obtain ⟨j', _, he'⟩ := releaseLoop_spec (tc - b.playerCount / b.requiredTables).toNat t
            (b.playerCount / b.requiredTables) b' 0
          have hj := frame_releaseLoop (tc - b.playerCount / b.requiredTables).toNat t
            (b.playerCount / b.requiredTables) b b' 0 h
          rw [he, he'] at hj ⊢
          simp only at hj ⊢
          have : j' = j := by omega
          subst this
          simp only [findTable_isNone_eq, upd_ids _ _ _ (adj_id _ _), hids]
        · rw [if_neg h5, if_neg h5]
          simp only [hm, hm']

theorem frame_answer {r r' : Reg} (h : Frame r r') (t : Nat) : answer0 r' t = answer0 r t := by
  have hfind := tview_find r.tables r'.tables t h.tv
  unfold answer0
  rw [syncState_eq, syncState_eq]
  cases hf : r.findTable t with
  | none =>
    have hf' : r'.findTable t = none := by
      unfold findTable at hf ⊢
      rw [hf] at hfind
      cases hx : r'.tables.find? (fun x => x.id == t) with
      | none => rfl
      | some x =>
        rw [hx] at hfind
        cases hfind
    rw [hf']
    simp only
    have e1 : (r.beginOp []).findTable t = none := hf
    have e2 : (r'.beginOp []).findTable t = none := hf'
    rw [e1, e2]
  | some t0 =>
    have hf' : ∃ t0', r'.findTable t = some t0' ∧ t0'.count = t0.count := by
      unfold findTable at hf ⊢
      rw [hf] at hfind
      cases hx : r'.tables.find? (fun x => x.id == t) with
      | none =>
        rw [hx] at hfind
        cases hfind
      | some x =>
        rw [hx] at hfind
        simp only [Option.map_some, Option.some.injEq] at hfind
        exact ⟨x, rfl, hfind⟩
    obtain ⟨t0', hf', hc⟩ := hf'
    rw [hf']
    simp only
    rw [syncBase_zero, syncBase_zero, hc]
    have hb : Frame (r.beginOp []) (r'.beginOp []) := ⟨h.max, h.pc, h.tc, h.status, h.queue, h.tv⟩
    have hsome : ((r.beginOp []).findTable t).isNone = false := by
      have : (r.beginOp []).findTable t = some t0 := hf
      rw [this]
      rfl
    have hsome' : ((r'.beginOp []).findTable t).isNone = false := by
      have : (r'.beginOp []).findTable t = some t0' := hf'
      rw [this]
      rfl
    exact syncStep_frame hb t _ hsome hsome'

theorem quiet_answer_iff (a : Int) (l : List Nat) (b : Bool) :
    (decide (a ≠ 0) || !l.isEmpty || b) = false ↔ (a, l, b) = ((0 : Int), ([] : List Nat), false) := by
  simp only [Bool.or_eq_false_iff, decide_eq_false_iff_not, Decidable.not_not, Bool.not_eq_false',
    List.isEmpty_iff, Prod.mk.injEq, and_assoc]

/-- "asks nothing" as both systems compute it, from whether the table exists (`ex`) and the answer:
    the table, if it exists, is told `(0, [], not broken)` -/
theorem asked_false_iff (ex : Bool) (r : Reg) (t : Nat) :
    (ex && (decide ((r.syncState t 0).2.2.1 ≠ 0) || !(r.syncState t 0).2.2.2.isEmpty ||
      ((r.syncState t 0).1.findTable t).isNone)) = false ↔ (ex = true → answer0 r t = (0, [], false)) := by
  cases ex
  · exact ⟨fun _ h => Bool.noConfusion h, fun _ => rfl⟩
  · rw [Bool.true_and]
    exact (quiet_answer_iff _ _ _).trans ⟨fun h _ => h, fun h => h rfl⟩

theorem asked_cases {r r1 : Reg} {t : Nat} {e : Option RErr} {relc : Int} {nw : List Nat}
    (hss : r.syncState t 0 = (r1, e, relc, nw)) (h : answer0 r t ≠ (0, [], false)) :
    relc ≠ 0 ∨ nw ≠ [] ∨ r1.findTable t = none := by
  by_cases h1 : relc = 0
  · by_cases h2 : nw = []
    · cases hf : r1.findTable t with
      | none => exact Or.inr (Or.inr rfl)
      | some x =>
        refine absurd ?_ h
        unfold answer0
        rw [hss, h1, h2, hf]
        rfl
    · exact Or.inr (Or.inl h2)
  · exact Or.inl h1

theorem frame_of_quiet (r : Reg) (t : Nat) (h : answer0 r t = (0, [], false)) : Frame r (r.syncState t 0).1 := by
  have h0 : (r.syncState t 0).2.2.1 = 0 := congrArg (·.1) h
  have hnw : (r.syncState t 0).2.2.2 = [] := congrArg (·.2.1) h
  have hk : ((r.syncState t 0).1.findTable t).isNone = false := congrArg (·.2.2) h
  cases hf : r.findTable t with
  | none =>
    rw [syncState_unknown r t 0 hf]
    exact ⟨rfl, rfl, rfl, rfl, rfl, rfl⟩
  | some t0 =>
    obtain ⟨r1, rel, nw, he, hc⟩ := syncState_zero_cases r t t0 hf
    rw [he] at h0 hnw hk ⊢
    simp only at h0 hnw hk ⊢
    cases hc with
    | brk _ =>
      rw [breakTable_find] at hk
      cases hk
    | same => exact ⟨rfl, rfl, rfl, rfl, rfl, rfl⟩
    | take n rq _ _ _ _ =>
      -- nobody came: the queue is as it was, the count of the table too
      have hq : (r.beginOp []).queue.drop n = r.queue := by
        have := List.take_append_drop n (r.beginOp []).queue
        rw [hnw] at this
        exact this
      refine ⟨rfl, rfl, rfl, rfl, hq, ?_⟩
      show tview (upd t (adj _ rq) r.tables) = tview r.tables
      rw [tview_upd t _ _ _ (adj_id _ _) (adj_count _ _), hnw]
      exact bump_zero t _
    | release j _ _ _ _ _ =>
      have hj : j = 0 := by omega
      subst hj
      refine ⟨rfl, rfl, rfl, rfl, rfl, ?_⟩
      show tview (upd t (adj (-((0 : Nat) : Int)) none) r.tables) = tview r.tables
      simp only [Int.natCast_zero, Int.neg_zero, upd_adj_zero]

end Reg
end Pokerface
