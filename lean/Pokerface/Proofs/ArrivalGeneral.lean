/-
  The newcomer's history in full generality: after his `Join` on `x`, ANY interleaving of other players' operations
  (asides), `next`s and his own `Seat(x)`.
  The phase `PhF` (SMNewcomer) says nothing about the two exclusions: other players may break them between two `next`s,
  so they are assumed (`ExclN`) only in the states where `next` is called (`QuietRun`); `track_of_phase`: along such a
  history the timing statement `Track` holds.
-/
import Pokerface.Proofs.ArrivalFrame

namespace Pokerface
namespace SM

theorem PhF.aside {T : SM} {x : Nat} {r : Bool} {p : Prop} (h : PhF T x r p) {op : SMOp} (ha : Aside x T op) :
    PhF (T.step op).1 x r p := by
  rcases h with ⟨h1, d, a, w⟩ | ⟨h1, w⟩
  · exact Or.inl ⟨h1, d, a, w.asideRun (ops := [op]) ⟨ha, trivial⟩⟩
  · exact Or.inr ⟨h1, step_inv w.inv op, ha.2 ▸ w.seat⟩

/-- One operation of a quiet history for `x`: a `next` called in a state satisfying the exclusions, the newcomer's own
`Seat(x)`, or an aside (other players' operation leaving seat `x` alone). -/
def Quiet (x : Nat) (U : SM) (op : SMOp) : Prop :=
  (op = .next ∧ ExclN U x) ∨ op = .seat (x : Int) ∨ Aside x U op

def QuietRun (x : Nat) : SM → List SMOp → Prop
  | _, [] => True
  | U, op :: ops => Quiet x U op ∧ QuietRun x (U.step op).1 ops

/-- The timing statement along a history, with ghost state `sat` (the newcomer has sat in) and `passed` (the button has
passed his seat in some `next` so far): at every point of the history seat `x` is playable iff both have happened; every
`next` succeeds; the newcomer's `Seat(x)` is accepted. -/
def Track (x : Nat) : SM → Bool → Prop → List SMOp → Prop
  | U, sat, passed, [] => (U.playable x = true ↔ (sat = true ∧ passed))
  | U, sat, passed, op :: ops =>
    (U.playable x = true ↔ (sat = true ∧ passed)) ∧
    (op = .next → (U.step op).2.1 = none) ∧
    (op = .seat (x : Int) → (U.step op).2.1 = none) ∧
    Track x (U.step op).1 (sat || decide (op = .seat (x : Int))) (passed ∨ (op = .next ∧ PassedStep U x)) ops

theorem track_head {x : Nat} {U : SM} {sat : Bool} {passed : Prop} {ops : List SMOp} (h : Track x U sat passed ops) :
    U.playable x = true ↔ (sat = true ∧ passed) := by
  cases ops with
  | nil => exact h
  | cons _ _ => exact h.1

theorem PhF.cast {T : SM} {x : Nat} {r r' : Bool} {p q : Prop} (h : PhF T x r p) (hs : r = r')
    (hpq : p ↔ q) : PhF T x r' q :=
  hs ▸ h.congr hpq

/-- in the terms of `Track`: `sat` = he has sat in = the reservation flag is off -/
theorem PhF.playable_iff_sat {T : SM} {x : Nat} {sat : Bool} {p : Prop} (h : PhF T x (!sat) p) :
    T.playable x = true ↔ (sat = true ∧ p) := by
  simpa using h.playable_iff

theorem track_of_phase {x : Nat} : ∀ {ops : List SMOp} {U : SM} {sat : Bool} {passed : Prop},
    PhF U x (!sat) passed → QuietRun x U ops → Track x U sat passed ops
  | [], _, _, _, h, _ => h.playable_iff_sat
  | op :: ops, U, sat, passed, h, hq => by
    obtain ⟨hq1, hq2⟩ := hq
    by_cases hseat : op = .seat (x : Int)
    · subst hseat
      obtain ⟨hok, h'⟩ := h.sit
      refine ⟨h.playable_iff_sat, fun hc => (by cases hc), fun _ => hok, track_of_phase (h'.cast (by simp) ?_) hq2⟩
      exact ⟨Or.inl, fun hc => hc.elim id (fun hc => by cases hc.1)⟩
    · by_cases hnext : op = .next
      · subst hnext
        have he : ExclN U x := by
          rcases hq1 with ⟨_, he⟩ | hc | ⟨hc, _⟩
          · exact he
          · cases hc
          · exact absurd rfl hc
        obtain ⟨hok, h'⟩ := h.next he
        refine ⟨h.playable_iff_sat, fun _ => hok, fun hc => (by cases hc), track_of_phase (h'.cast (by simp) ?_) hq2⟩
        exact ⟨fun hc => hc.elim Or.inl (fun hp => Or.inr ⟨rfl, hp⟩), fun hc => hc.elim Or.inl (fun hp => Or.inr hp.2)⟩
      · have ha : Aside x U op := by
          rcases hq1 with ⟨hc, _⟩ | hc | ha
          · exact absurd hc hnext
          · exact absurd hc hseat
          · exact ha
        refine ⟨h.playable_iff_sat, fun hc => absurd hc hnext, fun hc => absurd hc hseat,
          track_of_phase ((h.aside ha).cast (by simp [hseat]) ?_) hq2⟩
        exact ⟨Or.inl, fun hc => hc.elim id (fun hc => absurd hc.1 hnext)⟩

theorem phase_after_join {A : SM} (hA : Inv A) {d a x : Nat} {s : Seat}
    (hd : A.dealer = some d) (ha0 : 0 < a) (ha : a < A.max) (hx : x = (d + a) % A.max)
    (hs : A.seats[x]? = some s) (hina : s.active = false) (seat : Int) (pid : Nat) (c : Option Nat)
    (hj : (A.step (.join seat pid c)).2 = (none, some x)) :
    PhF (A.step (.join seat pid c)).1 x true False :=
  Or.inl ⟨id, d, a, (PendF.of_join hA hd ha0 ha hx hs hina hj).1⟩

end SM
end Pokerface
