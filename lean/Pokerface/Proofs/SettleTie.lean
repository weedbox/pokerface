import Pokerface.Proofs.SettleTotal
/-
  Winners of a level in terms of rows, the per-pot decomposition of `changed`, and fairness of ties:
  all levels of one published pot have the same winner list, so the round robin of `pot_tie_fair` applies.
-/
namespace Pokerface

variable {es : List (Nat × Int × Bool)} {rows : List Row}

theorem level_winners_rows (g : GameIn es rows) {l : Level} (hl : l ∈ (llOf es).levels)
    (hex : ∃ r ∈ rows, r.1 ∈ l.contributors ∧ r.2.2.1 = false) (i : Nat) :
    i ∈ levelWinners (toInfo rows l) ↔
      ∃ r ∈ rows, r.1 = i ∧ i ∈ l.contributors ∧ r.2.2.1 = false ∧
        ∀ r' ∈ rows, r'.1 ∈ l.contributors → r'.2.2.1 = false → r'.2.2.2 ≤ r.2.2.2 := by
  obtain ⟨M, h1, ⟨r0, hr0, hc0, hM0⟩, hW⟩ := g.toGameIn0.mem_levelWinners hl
  obtain ⟨rn, hrn, hcn, hfn⟩ := hex
  have hMpos : 0 < M := by
    have := h1 rn hrn hcn
    have := g.eff_pos hrn hfn
    omega
  have hf0 : r0.2.2.1 = false := not_folded_of_eff_pos (by omega)
  rw [hW]
  simp only [List.mem_map, List.mem_filter, Bool.and_eq_true, List.contains_eq_mem, decide_eq_true_eq]
  constructor
  · rintro ⟨r, ⟨hr, hc, he⟩, rfl⟩
    have hf : r.2.2.1 = false := not_folded_of_eff_pos (by omega)
    refine ⟨r, hr, rfl, hc, hf, ?_⟩
    intro r' hr' hc' hf'
    have := h1 r' hr' hc'
    rw [eff_of_not_folded hf'] at this
    rw [eff_of_not_folded hf] at he
    omega
  · rintro ⟨r, hr, rfl, hc, hf, hmax⟩
    refine ⟨r, ⟨hr, hc, ?_⟩, rfl⟩
    have h2 := h1 r hr hc
    have h3 := hmax r0 hr0 hc0 hf0
    rw [eff_of_not_folded hf] at h2 ⊢
    rw [eff_of_not_folded hf0] at hM0
    omega

theorem level_payout_rows (g : GameIn0 es rows) {l : Level} (hl : l ∈ (llOf es).levels) (o : Int) (i : Nat) :
    (i ∉ l.contributors → net (levelUpdates (toInfo rows l) o) i = 0) ∧
    (i ∈ l.contributors → i ∉ levelWinners (toInfo rows l) →
      net (levelUpdates (toInfo rows l) o) i = -l.wager) ∧
    (i ∈ levelWinners (toInfo rows l) →
      Int.tdiv l.total (levelWinners (toInfo rows l)).length - l.wager ≤ net (levelUpdates (toInfo rows l) o) i ∧
      net (levelUpdates (toInfo rows l) o) i ≤ Int.tdiv l.total (levelWinners (toInfo rows l)).length + 1 - l.wager) :=
  have f := g.facts hl
  ⟨fun hi => f.net_out o hi, fun hi hnw => f.net_nonwinner o hi hnw, fun hw => f.net_winner_near o hw⟩

/-- Net amount player `i` gets out of one pot: `settlePot` run on a fresh entry for `i`. -/
def potNetOf (pr : PotResult) (i : Nat) : Int :=
  chg (settlePot [({ idx := i, finalStack := 0, changed := 0 } : PlayerResult)] { pr with winners := [] }).1 i

theorem potNetOf_eq (pr : PotResult) (i : Nat) : potNetOf pr i = net (potUpdates 0 pr.levels) i := by
  unfold potNetOf settlePot
  simp only []
  rw [foldl_settleLevel_players, chg_bumpAll _ _ _ (by simp)]
  simp [chg]

theorem chg_eq_sum_potNet (g : GameIn0 es rows) {i : Nat} {c : Int} {b : Bool} (he : (i, c, b) ∈ es) :
    chg (gameResults (potsOf es) rows).players i
      = ((gameResults (potsOf es) rows).pots.map (fun pr => potNetOf pr i)).sum := by
  rw [g.chg_eq_net he, allUpdates, net_flatMap, ← gameResults_pots_levels, List.map_map]
  congr 1
  apply List.map_congr_left
  intro pr _
  simp only [Function.comp, potNetOf_eq]

theorem mem_levels_of_pot {pre post : List Pot} {p : Pot} (hp : potsOf es = pre ++ p :: post)
    {l : Level} (hlp : l ∈ p.levels) : l ∈ (llOf es).levels := by
  rw [← getPots_flatMap_levels (llOf_inv es)]
  show l ∈ List.flatMap (·.levels) (potsOf es)
  rw [hp]
  simp only [List.flatMap_append, List.flatMap_cons, List.mem_append]
  exact Or.inr (Or.inl hlp)

theorem pot_level_live (g : GameIn0 es rows) {pre post : List Pot} {p : Pot}
    (hp : potsOf es = pre ++ p :: post) {l : Level} (hlp : l ∈ p.levels) (j : Nat) :
    (j ∈ l.contributors ∧ j ∉ (llOf es).folded) ↔ j ∈ live (llOf es) p.level := by
  rw [← (getPots_at g.levelsOK hp).nf l hlp]
  simp only [nf, List.mem_filter, List.contains_eq_mem, Bool.not_eq_eq_eq_not, Bool.not_true, decide_eq_false_iff_not]

theorem pot_level_mem (g : GameIn0 es rows) {pre post : List Pot} {p : Pot}
    (hp : potsOf es = pre ++ p :: post) {j : Nat} (hj : j ∈ live (llOf es) p.level) :
    ∀ l ∈ p.levels, j ∈ l.contributors :=
  fun _ hlp => ((pot_level_live g hp hlp j).2 hj).1

theorem row_folded_iff (g : GameIn0 es rows) {r : Row} (hr : r ∈ rows) :
    r.1 ∈ (llOf es).folded ↔ r.2.2.1 = true := by
  obtain ⟨c, hc⟩ := g.entry_of_row hr
  rw [llOf_folded]
  constructor
  · rintro ⟨c', hc'⟩
    exact (g.entry_unique hc hc').2
  · intro hf
    rw [hf] at hc
    exact ⟨c, hc⟩

theorem pot_winners_common (g : GameIn es rows) {pre post : List Pot} {p : Pot}
    (hp : potsOf es = pre ++ p :: post) (S : Int)
    (hmax : ∀ r ∈ rows, r.1 ∈ live (llOf es) p.level → r.2.2.2 ≤ S)
    (hatt : ∃ r ∈ rows, r.1 ∈ live (llOf es) p.level ∧ r.2.2.2 = S) :
    ∀ l ∈ p.levels, levelWinners (toInfo rows l)
      = (rows.filter (fun r => (live (llOf es) p.level).contains r.1 && decide (r.2.2.2 = S))).map (·.1) := by
  have g0 := g.toGameIn0
  intro l hlp
  have hN := pot_level_live g0 hp hlp
  -- a seat is still in exactly if its row has not folded and it contributes to the level
  have hin : ∀ r ∈ rows, r.2.2.1 = false → r.1 ∈ l.contributors → r.1 ∈ live (llOf es) p.level := by
    intro r hr hf hc
    refine (hN r.1).1 ⟨hc, ?_⟩
    rw [row_folded_iff g0 hr, hf]
    exact Bool.noConfusion
  have hout : ∀ r ∈ rows, r.1 ∈ live (llOf es) p.level → r.2.2.1 = false := by
    intro r hr hl
    have := (mem_live.1 hl).1
    rw [row_folded_iff g0 hr] at this
    exact Bool.eq_false_iff.2 this
  obtain ⟨M, h1, ⟨r0, hr0, hc0, hM0⟩, hW⟩ := g0.mem_levelWinners (mem_levels_of_pot hp hlp)
  obtain ⟨ra, hra, hla, hSa⟩ := hatt
  have hfa := hout ra hra hla
  have hSpos : 0 < S := by
    rw [← hSa]
    exact g.pos ra hra hfa
  -- the best effective score of the level is `S`: it is positive, so its holder has not folded
  have hMS : M = S := by
    have h2 := h1 ra hra ((hN ra.1).2 hla).1
    rw [eff_of_not_folded hfa, hSa] at h2
    have hf0 : r0.2.2.1 = false := not_folded_of_eff_pos (by omega)
    have h3 := hmax r0 hr0 (hin r0 hr0 hf0 hc0)
    rw [eff_of_not_folded hf0] at hM0
    omega
  rw [hW, hMS]
  congr 1
  apply List.filter_congr
  intro r hr
  rw [Bool.eq_iff_iff]
  simp only [Bool.and_eq_true, List.contains_eq_mem, decide_eq_true_eq]
  constructor
  · rintro ⟨hc, he⟩
    have hf : r.2.2.1 = false := not_folded_of_eff_pos (by omega)
    rw [eff_of_not_folded hf] at he
    exact ⟨hin r hr hf hc, he⟩
  · rintro ⟨hl, he⟩
    refine ⟨((hN r.1).2 hl).1, ?_⟩
    rw [eff_of_not_folded (hout r hr hl)]
    exact he

theorem pot_tie (g : GameIn es rows) {pre post : List Pot} {p : Pot}
    (hp : potsOf es = pre ++ p :: post) (S : Int)
    (hmax : ∀ r ∈ rows, r.1 ∈ live (llOf es) p.level → r.2.2.2 ≤ S)
    {ri rj : Row} (hri : ri ∈ rows) (hrj : rj ∈ rows)
    (hei : ri.1 ∈ live (llOf es) p.level) (hej : rj.1 ∈ live (llOf es) p.level)
    (hsi : ri.2.2.2 = S) (hsj : rj.2.2.2 = S) :
    net (potUpdates 0 (p.levels.map (toInfo rows))) ri.1
      - net (potUpdates 0 (p.levels.map (toInfo rows))) rj.1 ≤ 1 := by
  have hcommon := pot_winners_common g hp S hmax ⟨ri, hri, hei, hsi⟩
  have hmem : ∀ r ∈ rows, r.1 ∈ live (llOf es) p.level → r.2.2.2 = S →
      r.1 ∈ (rows.filter (fun r => (live (llOf es) p.level).contains r.1 && decide (r.2.2.2 = S))).map (·.1) := by
    intro r hr hl hs
    refine List.mem_map.2 ⟨r, List.mem_filter.2 ⟨hr, ?_⟩, rfl⟩
    simp only [Bool.and_eq_true, List.contains_eq_mem, decide_eq_true_eq]
    exact ⟨hl, hs⟩
  apply pot_tie_fair (W := (rows.filter (fun r => (live (llOf es) p.level).contains r.1 &&
      decide (r.2.2.2 = S))).map (·.1))
  · intro li hli
    obtain ⟨l, hl, rfl⟩ := List.mem_map.1 hli
    exact hcommon l hl
  · intro li hli
    obtain ⟨l, hl, rfl⟩ := List.mem_map.1 hli
    exact g.toGameIn0.facts (mem_levels_of_pot hp hl)
  · exact hmem ri hri hei hsi
  · exact hmem rj hrj hej hsj

end Pokerface
