import Pokerface.Model.View
/-
  The redaction functions of Model/View.lean as one function: `g.view v` (`asPlayer i` for `v = some i`, `asObserver`
  for `none`) is `g.blank (Hidden g v)` — deck and burned cards emptied, hole cards and evaluation blanked in exactly the
  records `Hidden g v` selects (`view_eq_blank`).  C15 is proved from this form.  Everything here holds for all `Game`
  values; no reachability is involved.
-/
namespace Pokerface
open Game

/-- Who is looking at the state: `some i` = the player whose `Idx` is `i` (`AsPlayer(i)`),
    `none` = an observer (`AsObserver()`). -/
abbrev Viewer := Option Nat

def Game.view (g : Game) : Viewer → Game
  | some i => g.asPlayer i
  | none => g.asObserver

/-- The player record `p` of state `g` must be hidden from viewer `v`: it is not the
    viewer's own record, and either the hand is not closed yet or the player folded. -/
def Hidden (g : Game) (v : Viewer) (p : Player) : Prop :=
  v ≠ some p.idx ∧ (g.event ≠ .gameClosed ∨ p.fold = true)

instance (g : Game) (v : Viewer) (p : Player) : Decidable (Hidden g v p) := by
  unfold Hidden
  infer_instance

/-- Specification-level redaction: blank the deck, the burned cards, and the hole cards and
    hand evaluation of exactly the players selected by `hid`. -/
def Game.blank (g : Game) (hid : Player → Prop) [DecidablePred hid] : Game :=
  { g with opts := { g.opts with deck := [] }, burned := [],
           players := g.players.map fun p => if hid p then hidePlayer p else p }

theorem stripSecrets_event (g : Game) : g.stripSecrets.event = g.event := rfl
theorem stripSecrets_players (g : Game) : g.stripSecrets.players = g.players := rfl

theorem hidden_iff (g : Game) (v : Viewer) (p : Player) :
    Hidden g v p ↔ v ≠ some p.idx ∧ (g.event = .gameClosed → p.fold = true) := by
  unfold Hidden
  by_cases he : g.event = .gameClosed
  · simp [he]
  · simp [he]

theorem mapP_eq_blank (g : Game) (hid : Player → Prop) [DecidablePred hid] (f : Player → Player)
    (hf : ∀ p, f p = if hid p then hidePlayer p else p) : g.stripSecrets.mapP f = g.blank hid := by
  rw [funext hf]
  rfl

theorem asPlayer_eq_blank (g : Game) (i : Nat) : g.asPlayer i = g.blank (Hidden g (some i)) := by
  unfold Game.asPlayer
  simp only
  split
  · rename_i he
    apply mapP_eq_blank
    intro p
    have he' : g.event = .gameClosed := he
    by_cases hi : p.idx = i
    · simp [hidden_iff, hi]
    · by_cases hf : p.fold = true
      · simp [hidden_iff, hi, hf, Ne.symm hi]
      · simp [hidden_iff, hi, hf, he']
  · rename_i he
    apply mapP_eq_blank
    intro p
    have he' : ¬ g.event = .gameClosed := he
    by_cases hi : p.idx = i
    · simp [hidden_iff, hi]
    · simp [hidden_iff, hi, he', Ne.symm hi]

theorem asObserver_eq_blank (g : Game) : g.asObserver = g.blank (Hidden g none) := by
  unfold Game.asObserver
  simp only
  split
  · rename_i he
    apply mapP_eq_blank
    intro p
    have he' : g.event = .gameClosed := he
    by_cases hf : p.fold = true
    · simp [hidden_iff, hf]
    · simp [hidden_iff, hf, he']
  · rename_i he
    apply mapP_eq_blank
    intro p
    have he' : ¬ g.event = .gameClosed := he
    simp [hidden_iff, he']

theorem view_eq_blank (g : Game) (v : Viewer) : g.view v = g.blank (Hidden g v) := by
  cases v with
  | none => exact asObserver_eq_blank g
  | some i => exact asPlayer_eq_blank g i

theorem blank_getElem? (g : Game) (hid : Player → Prop) [DecidablePred hid] (k : Nat) :
    (g.blank hid).players[k]? = (g.players[k]?).map fun p => if hid p then hidePlayer p else p := by
  simp [Game.blank]

end Pokerface
