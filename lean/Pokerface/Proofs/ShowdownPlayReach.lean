import Pokerface.Proofs.ShowdownPlayEngine
/-
  `Covered g` for every reachable state: before the forced bets are complete nobody has folded; after them
  `Lvl` holds and is carried along the run.
-/
namespace Pokerface
open Game

theorem covered_of_lvl {g : Game} (ok : ChipsOK g) (h : Lvl g.lvs g.cw) : Covered g := by
  obtain ⟨j, a, ha, hf, hmax⟩ := h.cover (lvOK_of_chips ok)
  obtain ⟨q, hq, rfl⟩ := lvs_getElem ha
  refine ⟨q, List.mem_of_getElem? hq, hf, ?_⟩
  intro p hp
  obtain ⟨k, hk⟩ := List.getElem?_of_mem hp
  exact hmax k p.lv (by simp [Game.lvs, hk])

/-- the `holder` clause of `Lvl` on the players: the wager to match, when positive, is the wager of a seat that has
    not folded -/
theorem Lvl.holder_seat {g : Game} (h : Lvl g.lvs g.cw) (hc : 0 < g.cw) :
    ∃ q ∈ g.players, q.fold = false ∧ q.wager = g.cw := by
  obtain ⟨j, a, ha, hf, hw⟩ := h.holder hc
  obtain ⟨q, hq, rfl⟩ := lvs_getElem ha
  exact ⟨q, List.mem_of_getElem? hq, hf, hw⟩

theorem Struct.players_ne {g : Game} (hs : Struct g) : g.players ≠ [] := by
  intro e
  have := hs.pos
  simp [Game.n, e] at this

theorem covered_of_noFold {g : Game} (hs : Struct g) (hn : NoFold g) : Covered g := by
  obtain ⟨q, hm, hmax⟩ := exists_argmax (fun p : Player => p.pot + p.wager) g.players hs.players_ne
  exact ⟨q, hm, hn q hm, hmax⟩

theorem noFold_afterReady (c : Config) (hs : (start c).2 = none) : NoFold (afterReady c) :=
  (folds_step_table _ .ready (fun _ _ _ h => nomatch h)).noFold (noFold_start c hs)

theorem noFold_afterAnte (c : Config) (hs : (start c).2 = none) : NoFold (afterAnte c) := by
  have h1 := noFold_afterReady c hs
  unfold afterAnte
  split
  · exact (folds_step_table _ .payAnte (fun _ _ _ h => nomatch h)).noFold h1
  · exact h1

/-- after the ante: the seats that still have chips have all paid the full ante -/
theorem lvl_afterAnte (c : Config) (wf : WFConfig c) (hs : (start c).2 = none) :
    Lvl (afterAnte c).lvs (afterAnte c).cw := by
  have sp := forcedSpec c hs
  have hR := reachable_afterAnte c wf hs
  have hst := (inv_reachable hR).struct
  have hnf := noFold_afterAnte c hs
  rw [sp.anteCw]
  refine ⟨?_, fun h => absurd h (by omega)⟩
  obtain ⟨q, hqm, hmax⟩ := exists_argmax (fun p : Player => p.pot) _ hst.players_ne
  obtain ⟨j, hq⟩ := List.getElem?_of_mem hqm
  refine ⟨j, q.lv, by simp [Game.lvs, hq], hnf q hqm, ?_, ?_⟩
  · intro k a ha
    obtain ⟨p, hp, rfl⟩ := lvs_getElem ha
    exact hmax p (List.mem_of_getElem? hp)
  · intro k a ha _ hi
    obtain ⟨p, hp, rfl⟩ := lvs_getElem ha
    obtain ⟨s, _, e1, e2, e3, e4, e5⟩ := ante_seat c wf hs hp
    obtain ⟨s2, _, f1, f2, f3, f4, f5⟩ := ante_seat c wf hs hq
    have h1 := hmax p (List.mem_of_getElem? hp)
    have hi' : 0 < p.initial := hi
    show p.pot = q.pot
    omega

theorem lvl_foldl_payBlind (is : List Nat) (g : Game) (hb : BInv g) (hn : NoFold g) (h : Lvl g.lvs g.cw) :
    Lvl (is.foldl payBlind g).lvs (is.foldl payBlind g).cw :=
  (bInv_foldl_keeps (P := fun g => NoFold g ∧ Lvl g.lvs g.cw)
    (fun g i _ hb hp ⟨hn, h⟩ => ⟨(wr_pay g i _ true).folds.noFold hn,
      lvl_pay_game hb.chips h i _ (blindPaid_nonneg hb hp) fun q hq => hn q (List.mem_of_getElem? hq)⟩) is g hb ⟨hn, h⟩).2

theorem lvl_blindsPaid (g : Game) (h : Lvl g.lvs g.cw) : Lvl g.blindsPaid.lvs g.blindsPaid.cw :=
  (wr_blindsPaid g).lvSame.lvl h

theorem linv_afterForcedBets (c : Config) (wf : WFConfig c) (hs : (start c).2 = none) : LInv (afterForcedBets c) := by
  have sp := forcedSpec c hs
  refine ⟨by rw [sp.round]; exact nofun, ?_, by rw [sp.ev]; exact nofun⟩
  have hA := lvl_afterAnte c wf hs
  have hfb : afterForcedBets c = if c.opts.noBlinds then afterAnte c else ((afterAnte c).step .payBlinds).1 := rfl
  by_cases hb : c.opts.noBlinds
  · rw [hfb, if_pos hb]
    exact hA
  · rw [hfb, if_neg hb, step_payBlinds (sp.blinds_ev hb)]
    exact lvl_blindsPaid _ (lvl_foldl_payBlind _ _ (bInv_afterAnte c wf hs hb) (noFold_afterAnte c hs) hA)

/-- In every reachable state some non-folded player has put in at least as
    much as every player (in particular as every folded player). -/
theorem covered_reachable {g : Game} (h : Reachable g) : Covered g := by
  obtain ⟨c, ops, wf, hs, rfl⟩ := h
  have hR := reachable_run wf hs ops
  rcases run_through_forced c wf hs ops (start c).1 (Or.inl rfl) with hb | ⟨o1, o2, e, h1⟩
  · apply covered_of_noFold (inv_reachable hR).struct
    rcases hb with e | ⟨_, e⟩ | ⟨_, e⟩
    · rw [e]
      exact noFold_start c hs
    · rw [e]
      exact noFold_afterReady c hs
    · rw [e]
      exact noFold_afterAnte c hs
  · rw [e, run_append, h1]
    obtain ⟨hR2, hl⟩ := Game.run_induction (P := fun g => Reachable g ∧ LInv g)
      (fun g op h => ⟨h.1.step op, linv_step h.1 h.2 op⟩)
      ⟨reachable_afterForcedBets c wf hs, linv_afterForcedBets c wf hs⟩ o2
    have hev : ((afterForcedBets c).run o2).event ≠ .anteRequested :=
      fun e => hl.rnd ((flow_reachable hR2).ante e).2
    exact covered_of_lvl ((inv_reachable hR2).chips hev) hl.good.lvl

end Pokerface
