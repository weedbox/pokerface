import Pokerface.Proofs.Assoc
import Pokerface.Properties.C03Spec
/-!
  C03: Go's insertion sort yields a sorted permutation; the flush test
  and the specification do not depend on the order of the cards.
-/
namespace Pokerface

theorem sortCards_perm (h : List Card) : (sortCards h).Perm h := isort_perm _ h

theorem sortCards_sorted (h : List Card) : (sortCards h).Pairwise (fun a b => a.rank ≥ b.rank) :=
  isort_pairwise (fun a b : Card => a.rank ≥ b.rank) (fun _ _ _ h1 h2 => Nat.le_trans h2 h1)
    (fun _ _ h => Nat.le_of_lt (of_decide_eq_true h)) (fun _ _ h => Nat.not_lt.1 (of_decide_eq_false h)) h

theorem calculatePower_cards_eq (lvl : Cat → Nat) (pr : List Cat) (cards : List Card) :
    (calculatePower lvl pr cards).cards = sortCards cards := rfl

theorem calculatePower_cat (lvl : Cat → Nat) (pr : List Cat) (cards : List Card) :
    (calculatePower lvl pr cards).cat = category ((sortCards cards).map (·.rank)) (isFlush (sortCards cards)) := rfl

theorem calculatePower_score (lvl : Cat → Nat) (pr : List Cat) (cards : List Card) :
    (calculatePower lvl pr cards).score =
      (scoreOfRanks lvl pr ((sortCards cards).map (·.rank)) (isFlush (sortCards cards))).2 := rfl

end Pokerface

namespace Pokerface.C03
open List

theorem sameSuit_iff (h : List Card) :
    sameSuit h = true ↔ ∀ c ∈ h, ∀ d ∈ h, c.suit = d.suit := by
  simp [sameSuit, List.all_eq_true]

theorem sameSuit_perm {h h' : List Card} (p : h.Perm h') : sameSuit h = sameSuit h' := by
  rw [Bool.eq_iff_iff, sameSuit_iff, sameSuit_iff]
  constructor
  · intro H c hc d hd
    exact H c (p.mem_iff.2 hc) d (p.mem_iff.2 hd)
  · intro H c hc d hd
    exact H c (p.mem_iff.1 hc) d (p.mem_iff.1 hd)

theorem isFlush_eq_sameSuit (h : List Card) (hne : h ≠ []) : isFlush h = sameSuit h := by
  cases h with
  | nil => exact absurd rfl hne
  | cons c t =>
    rw [Bool.eq_iff_iff, sameSuit_iff]
    simp only [isFlush, List.all_eq_true, beq_iff_eq]
    constructor
    · intro H x hx y hy
      rw [H x hx, H y hy]
    · intro H d hd
      exact H d hd c (List.mem_cons_self ..)

theorem ranksWith_perm {rs rs' : List Nat} (p : rs.Perm rs') (k : Nat) :
    ranksWith rs k = ranksWith rs' k := by
  simp only [ranksWith, p.count_eq]

theorem straightTop_perm {rs rs' : List Nat} (p : rs.Perm rs') :
    straightTop rs = straightTop rs' := by
  simp only [straightTop, p.count_eq]

theorem specCat_perm {rs rs' : List Nat} (p : rs.Perm rs') (fl : Bool) :
    specCat rs fl = specCat rs' fl := by
  simp only [specCat, ranksWith_perm p, straightTop_perm p]

theorem specTiebreak_perm {rs rs' : List Nat} (p : rs.Perm rs') :
    specTiebreak rs = specTiebreak rs' := by
  simp only [specTiebreak, ranksWith_perm p, straightTop_perm p]

end Pokerface.C03
