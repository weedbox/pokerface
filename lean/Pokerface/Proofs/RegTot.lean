/-
  What the two potentials of C20 share: sums of a per-table quantity over the table list (`tot`),
  the deficit indicator `dF`, and what is needed of the floor of the water level `Reg.flr`.
-/
import Pokerface.Proofs.RegTableCount

namespace Pokerface
namespace Reg

def tot (g : RTable → Nat) (ts : List RTable) : Nat := (ts.map g).sum

def dF (F : Int) (t : RTable) : Nat := Min.min 1 (F - t.count).toNat

theorem tot_cons (g : RTable → Nat) (t : RTable) (ts : List RTable) : tot g (t :: ts) = g t + tot g ts := by
  simp [tot]

theorem tot_append (g : RTable → Nat) (a b : List RTable) : tot g (a ++ b) = tot g a + tot g b := by
  simp [tot, List.sum_append]

theorem tot_congr (g g' : RTable → Nat) (ts : List RTable) (h : ∀ t ∈ ts, g t = g' t) : tot g ts = tot g' ts := by
  induction ts with
  | nil => rfl
  | cons t ts ih =>
    rw [tot_cons, tot_cons, h t (List.mem_cons_self ..), ih (fun t' ht' => h t' (List.mem_cons_of_mem _ ht'))]

theorem tot_zero (g : RTable → Nat) (ts : List RTable) (h : ∀ t ∈ ts, g t = 0) : tot g ts = 0 := by
  induction ts with
  | nil => rfl
  | cons t ts ih =>
    rw [tot_cons, h t (List.mem_cons_self ..), ih (fun t' ht' => h t' (List.mem_cons_of_mem _ ht'))]

theorem tot_map (g : RTable → Nat) (f : RTable → RTable) (ts : List RTable) : tot g (ts.map f) = tot (g ∘ f) ts := by
  simp [tot, List.map_map]

theorem dF_setReq (F C : Int) (ts : List RTable) : tot (dF F) (setReq C ts) = tot (dF F) ts := by
  simp only [setReq, tot_map]
  apply tot_congr
  intro t _
  simp only [Function.comp, dF]
  split <;> rfl

theorem le_tot (g : RTable → Nat) {ts : List RTable} {t : RTable} (h : t ∈ ts) : g t ≤ tot g ts := by
  induction ts with
  | nil => cases h
  | cons x ts ih =>
    rw [tot_cons]
    rcases List.mem_cons.1 h with rfl | h'
    · omega
    · have := ih h'
      omega

theorem tot_eq_zero {g : RTable → Nat} {ts : List RTable} (h : tot g ts = 0) : ∀ t ∈ ts, g t = 0 := by
  intro t ht
  have := le_tot g ht
  omega

theorem tot_le (g : RTable → Nat) (ts : List RTable) (c : Nat) (h : ∀ t ∈ ts, g t ≤ c) :
    tot g ts ≤ ts.length * c := by
  induction ts with
  | nil => simp [tot]
  | cons t ts ih =>
    rw [tot_cons, List.length_cons, Nat.add_mul, Nat.one_mul]
    have := h t (List.mem_cons_self ..)
    have := ih (fun t' ht' => h t' (List.mem_cons_of_mem _ ht'))
    omega

theorem tot_len (g : RTable → Nat) (ts : List RTable) (h : ∀ t ∈ ts, g t ≤ 1) : tot g ts ≤ ts.length := by
  have := tot_le g ts 1 h
  omega

theorem tot_le_tot (g g' : RTable → Nat) (ts : List RTable) (h : ∀ t ∈ ts, g t ≤ g' t) : tot g ts ≤ tot g' ts := by
  induction ts with
  | nil => exact Nat.le_refl _
  | cons t ts ih =>
    rw [tot_cons, tot_cons]
    have := h t (List.mem_cons_self ..)
    have := ih (fun t' ht' => h t' (List.mem_cons_of_mem _ ht'))
    omega

theorem tot_le_tot_add_len (g g' : RTable → Nat) (ts : List RTable) (h : ∀ t ∈ ts, g t ≤ g' t + 1) :
    tot g ts ≤ tot g' ts + ts.length := by
  induction ts with
  | nil => exact Nat.le_refl _
  | cons t ts ih =>
    rw [tot_cons, tot_cons, List.length_cons]
    have := h t (List.mem_cons_self ..)
    have := ih (fun t' ht' => h t' (List.mem_cons_of_mem _ ht'))
    omega

theorem tot_upd (g : RTable → Nat) (ts : List RTable) (hn : (ts.map (·.id)).Nodup) {t0 : RTable}
    (ht0 : t0 ∈ ts) {id : Nat} (hid : t0.id = id) (f : RTable → RTable) :
    tot g (upd id f ts) + g t0 = tot g ts + g (f t0) := by
  subst hid
  obtain ⟨l₁, l₂, rfl, h1, h2⟩ := split_at_entry (·.id) hn ht0
  rw [upd, map_ite_split (·.id) f l₁ l₂ t0 h1 h2]
  simp only [tot_append, tot_cons]
  omega

theorem tot_upd_eq (g : RTable → Nat) (ts : List RTable) (hn : (ts.map (·.id)).Nodup) {t0 : RTable}
    (ht0 : t0 ∈ ts) {id : Nat} (hid : t0.id = id) (f : RTable → RTable) (h : g (f t0) = g t0) :
    tot g (upd id f ts) = tot g ts := by
  have := tot_upd g ts hn ht0 hid f
  omega

theorem tot_upd_le (g : RTable → Nat) (ts : List RTable) (hn : (ts.map (·.id)).Nodup) {t0 : RTable}
    (ht0 : t0 ∈ ts) {id : Nat} (hid : t0.id = id) (f : RTable → RTable) (h : g (f t0) ≤ g t0) :
    tot g (upd id f ts) ≤ tot g ts := by
  have := tot_upd g ts hn ht0 hid f
  omega

theorem tot_filter_ne (g : RTable → Nat) (ts : List RTable) (hn : (ts.map (·.id)).Nodup) {t0 : RTable}
    (ht0 : t0 ∈ ts) {id : Nat} (hid : t0.id = id) :
    tot g (ts.filter (fun t => t.id != id)) + g t0 = tot g ts := by
  subst hid
  obtain ⟨l₁, l₂, rfl, h1, h2⟩ := split_at_entry (·.id) hn ht0
  rw [filter_ne_split (·.id) l₁ l₂ t0 h1 h2]
  simp only [tot_append, tot_cons]
  omega

theorem flr_same {r r' : Reg} (h : SameNeeds r r') : flr r' = flr r := by
  unfold flr
  rw [h.req, h.pc]

theorem flr_le_ceilWl (r : Reg) (h : 0 ≤ r.requiredTables) : flr r ≤ r.ceilWl := by
  unfold flr ceilWl
  split
  · rename_i hpos
    exact Int.ediv_le_ediv hpos (by omega)
  · have : r.requiredTables = 0 := by omega
    rw [this]
    simp

theorem flr_bounds (r : Reg) (hwf : WF r) (hpc : 0 ≤ r.playerCount) : 0 ≤ flr r ∧ flr r ≤ r.max := by
  unfold flr
  by_cases hR : 0 < r.requiredTables
  · exact ⟨Int.ediv_nonneg hpc (Int.le_of_lt hR), Int.ediv_le_of_le_mul hR (Int.mul_comm .. ▸ le_ceilDiv_mul r.playerCount r.max hwf.maxpos)⟩
  · have h0 := ceilDiv_nonneg r.playerCount r.max hwf.maxpos hpc
    have : r.requiredTables = 0 := by
      unfold requiredTables at hR ⊢
      omega
    rw [this]
    simp

end Reg
end Pokerface
