import Pokerface.Proofs.TableDriverProgress
import Pokerface.Proofs.FlowStatic
/-
  The blinds group of the driver is not empty: positions and options are static, so a configured seat that owes a
  blind is a player that owes one in every state; and the engine requests blinds only when some blind is not zero.
-/
namespace Pokerface.Drv
open Pokerface Game

/-- `owesBlind` (`handleState`'s condition for the blinds group) read off the configured seat instead of the player -/
def seatOwes (m : Meta) (s : SeatCfg) : Bool :=
  (decide (m.blindBB > 0) && s.bb) || (decide (m.blindSB > 0) && s.sb) || (decide (m.blindDealer > 0) && s.dealer)

theorem owes_of_seat (c : Config) (hs : (start c).2 = none) (ops : List Op)
    (h : ∃ s ∈ c.seats, seatOwes c.opts s = true) :
    ∃ p ∈ ((start c).1.run ops).players, owesBlind ((start c).1.run ops).opts p = true := by
  obtain ⟨s, hsm, how⟩ := h
  obtain ⟨i, hi⟩ := List.mem_iff_getElem?.mp hsm
  have hst := seat_static_of_config c hs ops i
  rw [hi] at hst
  cases hq : ((start c).1.run ops).players[i]? with
  | none =>
    rw [hq] at hst
    cases hst
  | some q =>
    rw [hq] at hst
    simp only [Option.map_some, Option.some.injEq, Player.static, Prod.mk.injEq] at hst
    obtain ⟨_, h1, h2, h3, _⟩ := hst
    refine ⟨q, List.mem_of_getElem? hq, ?_⟩
    unfold owesBlind
    unfold seatOwes at how
    rw [(Game.run_opts _ ops).trans (wr_start c hs).opts, h1, h2, h3]
    exact how

/-- owing a blind depends on positions and options only, which the marks do not touch -/
theorem owes_transfer {a b : Game} (h : clr a = clr b) (hx : ∃ p ∈ a.players, owesBlind a.opts p = true) :
    ∃ p ∈ b.players, owesBlind b.opts p = true := by
  obtain ⟨p, hp, how⟩ := hx
  obtain ⟨q, hq, hqp⟩ := mem_of_clr_eq h hp
  have ho : (clr a).opts = (clr b).opts := by rw [h]
  simp only [clr_opts] at ho
  refine ⟨q, hq, ?_⟩
  have e1 : q.posBB = p.posBB := (congrArg Player.posBB hqp :)
  have e2 : q.posSB = p.posSB := (congrArg Player.posSB hqp :)
  have e3 : q.posDealer = p.posDealer := (congrArg Player.posDealer hqp :)
  unfold owesBlind at how ⊢
  rw [e1, e2, e3, ← ho]
  exact how

/-- blinds are requested only when some blind is not zero -/
def BlindsNonzero (g : Game) : Prop := g.event = .blindsRequested → ¬ g.opts.noBlinds

theorem nz_step (g : Game) (hi : Inv g) (hf : Flow g) (hn : BlindsNonzero g) (op : Op) : BlindsNonzero (g.step op).1 := by
  refine step_split hi hf (motive := fun op => BlindsNonzero (g.step op).1) (fun op _ e => e.symm ▸ hn) (fun s a x _ hacc hb => ?_)
    (fun op hop _ hacc hb => ?_) op
  · rw [g.step_act] at hacc hb
    rcases act_event g hi _ a x hacc with h | h
    · exact nomatch h.symm.trans hb
    · exact nomatch h.symm.trans hb
  · obtain ⟨_, row, _⟩ := step_phase hi.struct hf op hop hacc
    rw [hb] at row
    rw [(wr_step g op).opts]
    generalize (g.step op).1.round = r at row
    cases row with
    | blinds _ hnb => exact hnb

theorem nz_reachable {g : Game} (h : Reachable g) : BlindsNonzero g := by
  refine h.induct (fun c _ hs he => ?_) fun g hR hn op => nz_step g (inv_reachable hR) (flow_reachable hR) hn op
  rw [(start_ok c hs).2.2] at he
  cases he

end Pokerface.Drv
