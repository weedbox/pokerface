import Pokerface.Proofs.TableDriverUpdate
import Pokerface.Properties.C04
/-
  The simulation: the table's driver (table/game.go) stays in step with the engine.  Behind the state the driver
  holds there is an engine history `ops` of accepted operations (`Hist`), related to it by `C06D.Held`, and the number
  of callbacks delivered is one more than the length of that history: `Sim g0 d ops` (`Tracks` = for some `ops`);
  `update`, `groupReady`, `callBackend` and every wrapper call preserve this (`call_sim`).  Read off the simulation: a
  wrapper that reaches the backend acts for its caller, and what the backend answers to the operations the driver
  performs in a state (`Performs`).
-/
namespace Pokerface.C06D
open Pokerface Game Drv

/-- every operation of the history was accepted by the engine -/
def AllAccepted (g0 : Game) (ops : List Op) : Prop := ∀ x ∈ C07.errs g0 ops, x = none

/-- How the driver `d` relates to the engine state `e` behind the state it holds:
    the engine is not at `RoundClosed` (the driver has already called `Next`); the driver is closed exactly at
    `GameClosed`; at the three request events (`arm e.hop = some …`, i.e. not `AnteRequested` with `ante = 0`)
    the held state is the serialised engine state with the marks `handleState` wrote, the "ready" marks are
    what `handleState` wrote, and a started, NOT completed ready group exists with the callback and exactly
    the participants `handleState` gave it; at every other event the held state is the serialised engine state
    itself and nobody is marked "ready" (a stale, completed or not, group may still be there: no wrapper
    reaches it — with no "ready" mark `Ready` is refused, and `Pay` goes to the group only at an ante / blinds event,
    which `arm` covers; the `none` branch of `call_sim`).  Not to be confused with the seat manager's `SM.Held` (a seat that
    is reserved or empty). -/
def Held (d : D) (e : Game) : Prop :=
  e.event ≠ .roundClosed ∧ (d.closed = true ↔ e.event = .gameClosed) ∧
  match arm e.hop with
  | some (g', marks, grp) => d.gs = g' ∧ d.readyMarks = marks ∧
      ∃ G, d.group = some G ∧ G.fire = grp.fire ∧ G.completed = false ∧ G.parts.map (·.1) = grp.parts.map (·.1)
  | none => d.gs = e.hop ∧ d.readyMarks = []

variable {d : D} {e : Game}

theorem Held.not_roundClosed (hp : Held d e) : e.event ≠ .roundClosed := hp.1

theorem Held.closed_iff (hp : Held d e) : d.closed = true ↔ e.event = .gameClosed := hp.2.1

theorem Held.armed {g' : Game} {m : List Nat} {grp : Group} (hp : Held d e) (ha : arm e.hop = some (g', m, grp)) :
    d.gs = g' ∧ d.readyMarks = m ∧
      ∃ G, d.group = some G ∧ G.fire = grp.fire ∧ G.completed = false ∧ G.parts.map (·.1) = grp.parts.map (·.1) := by
  have := hp.2.2
  simp only [ha] at this
  exact this

theorem Held.idle (hp : Held d e) (ha : arm e.hop = none) : d.gs = e.hop ∧ d.readyMarks = [] := by
  have := hp.2.2
  simp only [ha] at this
  exact this

theorem Held.of_armed {g' : Game} {m : List Nat} {grp : Group} (h1 : e.event ≠ .roundClosed)
    (h2 : d.closed = true ↔ e.event = .gameClosed) (ha : arm e.hop = some (g', m, grp))
    (h3 : d.gs = g' ∧ d.readyMarks = m ∧
      ∃ G, d.group = some G ∧ G.fire = grp.fire ∧ G.completed = false ∧ G.parts.map (·.1) = grp.parts.map (·.1)) :
    Held d e := by
  refine ⟨h1, h2, ?_⟩
  rw [ha]
  exact h3

theorem Held.of_idle (h1 : e.event ≠ .roundClosed) (h2 : d.closed = true ↔ e.event = .gameClosed)
    (ha : arm e.hop = none) (h3 : d.gs = e.hop ∧ d.readyMarks = []) : Held d e := by
  refine ⟨h1, h2, ?_⟩
  rw [ha]
  exact h3

theorem Held.open (hp : Held d e) (h : e.event ≠ .gameClosed) : d.closed = false := by
  cases hc : d.closed with
  | false => rfl
  | true => exact absurd (hp.closed_iff.mp hc) h

theorem Held.clr_eq (hp : Held d e) : clr d.gs = clr e.hop := by
  cases ha : arm e.hop with
  | none => rw [(hp.idle ha).1]
  | some t =>
    obtain ⟨g', m, grp⟩ := t
    rw [(hp.armed ha).1]
    exact arm_clr ha

theorem Held.gs_eq (hp : Held d e) (h2 : e.event ≠ .anteRequested) (h3 : e.event ≠ .blindsRequested) :
    d.gs = e.hop := by
  cases ha : arm e.hop with
  | none => exact (hp.idle ha).1
  | some t =>
    obtain ⟨g', m, grp⟩ := t
    rw [(hp.armed ha).1]
    exact arm_ready ha h2 h3

theorem Held.event_eq (hp : Held d e) : d.gs.event = e.event :=
  show (clr d.gs).event = (clr e.hop).event from congrArg Game.event hp.clr_eq

theorem Held.opts_eq (hp : Held d e) : d.gs.opts = e.opts :=
  show (clr d.gs).opts = (clr e.hop).opts from congrArg Game.opts hp.clr_eq

end Pokerface.C06D

namespace Pokerface.Drv
open Pokerface Game C06D

/-- an engine history in which every operation was accepted, and where it leads -/
inductive Hist (g0 : Game) : List Op → Game → Prop
  | nil : Hist g0 [] g0
  | snoc {ops : List Op} {e : Game} (op : Op) : Hist g0 ops e → (e.step op).2 = none → Hist g0 (ops ++ [op]) (e.step op).1

theorem accepted_append (g : Game) (a b : List Op) : g.accepted (a ++ b) = g.accepted a + (g.run a).accepted b := by
  induction a generalizing g with
  | nil => simp [Game.accepted, Game.run]
  | cons x a ih =>
    simp only [List.cons_append, Game.accepted, ih, Game.run, List.foldl_cons]
    omega

theorem Hist.run_eq {g0 : Game} {ops : List Op} {e : Game} (h : Hist g0 ops e) : e = g0.run ops := by
  induction h with
  | nil => rfl
  | snoc op _ _ ih =>
    rw [run_append, ← ih]
    rfl

theorem Hist.accepted_eq {g0 : Game} {ops : List Op} {e : Game} (h : Hist g0 ops e) : g0.accepted ops = ops.length := by
  induction h with
  | nil => rfl
  | snoc op hh ha ih =>
    rw [accepted_append, ih, ← hh.run_eq]
    simp [Game.accepted, ha]

theorem Hist.allAccepted {g0 : Game} {ops : List Op} {e : Game} (h : Hist g0 ops e) : AllAccepted g0 ops := by
  induction h with
  | nil =>
    intro x hx
    cases hx
  | snoc op hh ha ih =>
    intro x hx
    rw [C07.errs_append, ← hh.run_eq, List.mem_append] at hx
    rcases hx with hx | hx
    · exact ih x hx
    · simp only [C07.errs, List.mem_singleton] at hx
      rw [hx, ha]

/-- `g0` is the engine state right after an accepted `start` of a well-formed configuration: where every history
    the driver stands behind begins -/
def Start0 (g0 : Game) : Prop := ∃ c, WFConfig c ∧ (start c).2 = none ∧ g0 = (start c).1

theorem Hist.reach {g0 : Game} {ops : List Op} {e : Game} (h0 : Start0 g0) (h : Hist g0 ops e) : Reachable e := by
  obtain ⟨c, wf, hs, rfl⟩ := h0
  exact ⟨c, ops, wf, hs, h.run_eq⟩

/-- the simulation invariant with the history named: behind the state the driver `d` holds stands the engine history
    `ops` of accepted operations, one callback was delivered per operation and one for the start, and the pending
    group waits for somebody -/
def Sim (g0 : Game) (d : D) (ops : List Op) : Prop :=
  ∃ e, Hist g0 ops e ∧ Held d e ∧ d.updates = ops.length + 1 ∧ GOK d.group

/-- the invariant of the simulation: the driver `d` of a hand that started in `g0` tracks some engine history -/
def Tracks (g0 : Game) (d : D) : Prop := ∃ ops, Sim g0 d ops

theorem held_update_one {d : D} {e : Game} (hc : d.closed = false) (h : e.event ≠ .roundClosed) :
    Held (update 1 d e.hop) e ∧ (update 1 d e.hop).updates = d.updates + 1 ∧
      (GOK d.group → GOK (update 1 d e.hop).group) := by
  have hev : e.hop.event = e.event := rfl
  rw [update]
  simp only [hc, C07.hop_idempotent, hev, Bool.false_eq_true, if_false]
  split
  · rename_i hgc
    have ha : arm e.hop = none := arm_none_of (by simp [hev, hgc]) (by simp [hev, hgc]) (by simp [hev, hgc])
    exact ⟨Held.of_idle h ⟨fun _ => hgc, fun _ => rfl⟩ ha ⟨rfl, rfl⟩, rfl, id⟩
  · rename_i h'
    exact absurd h' h
  · rename_i hng _
    have hopen : false = true ↔ e.event = .gameClosed := ⟨fun hc => Bool.noConfusion hc, fun hgc => absurd hgc hng⟩
    split
    · rename_i g' mk grp ha
      exact ⟨Held.of_armed h hopen ha ⟨rfl, rfl, _, rfl, rfl, arm_completed ha, rfl⟩, rfl, fun _ => arm_gok ha⟩
    · rename_i ha
      exact ⟨Held.of_idle h hopen ha ⟨rfl, rfl⟩, rfl, id⟩

theorem update_ok {g0 : Game} (h0 : Start0 g0) : ∀ (k : Nat) (d : D) (ops : List Op) (e : Game), Hist g0 ops e →
    d.closed = false → Fuelled k e →
    ∃ m e', Hist g0 (ops ++ List.replicate m .next) e' ∧ Held (update k d e.hop) e' ∧
      (update k d e.hop).updates = d.updates + m + 1 ∧ (GOK d.group → GOK (update k d e.hop).group) := by
  intro k
  induction k with
  | zero =>
    intro _ _ _ _ _ hk
    exact absurd hk.1 (by omega)
  | succ k ih =>
    intro d ops e hh hc hk
    have hR := hh.reach h0
    by_cases h : e.event = .roundClosed
    · have hacc := (next_of_roundClosed hR h).1
      obtain ⟨m, e', hm, hp, hu, hg'⟩ := ih d _ _ (Hist.snoc .next hh hacc) hc (hk.next hR h)
      rw [(update_of_next k d e hc h hacc).1]
      refine ⟨m + 1, e', ?_, hp, ?_, hg'⟩
      · rw [List.replicate_succ, ← List.singleton_append, ← List.append_assoc]
        exact hm
      · simp only [hu]
        omega
    · rw [(update_of_final k d e hc h).1]
      exact ⟨0, e, by simpa using hh, held_update_one hc h⟩

theorem update_sim {g0 : Game} (h0 : Start0 g0) {d : D} {ops : List Op} {e : Game} (hh : Hist g0 ops e) {op : Op}
    (hacc : (e.step op).2 = none) (hc : d.closed = false) (hu : d.updates = ops.length + 1) (hg : GOK d.group) :
    ∃ more, Sim g0 (update fuel d (e.step op).1.hop) (ops ++ more) := by
  have hh1 := Hist.snoc op hh hacc
  obtain ⟨m, e', hm, hp, hu', hg'⟩ := update_ok h0 fuel d _ _ hh1 hc (fuelled_of_le (hh1.reach h0) (by decide))
  refine ⟨op :: List.replicate m .next, e', by simpa using hm, hp, ?_, hg' hg⟩
  simp only [hu', hu, List.length_append, List.length_cons, List.length_replicate]
  omega

/-- `n` rather than `d.updates`, so that the lemma applies to a record update of `d` as it stands -/
theorem update_updates_lt {g0 : Game} (h0 : Start0 g0) {d : D} {ops : List Op} {e : Game} (hh : Hist g0 ops e)
    (hc : d.closed = false) {n : Nat} (hn : d.updates = n) : n < (update fuel d e.hop).updates := by
  obtain ⟨m, _, _, _, hu, _⟩ := update_ok h0 fuel d ops e hh hc (fuelled_of_le (hh.reach h0) (by decide))
  omega

section
variable {g0 : Game} (h0 : Start0 g0) {d : D} {ops : List Op} {e : Game} (hh : Hist g0 ops e) (hp : Held d e)
  (hu : d.updates = ops.length + 1)
include h0 hh hp hu

theorem groupReady_sim (i : Nat) {g' : Game} {m : List Nat} {grp : Group} (ha : arm e.hop = some (g', m, grp)) :
    ∃ more, Sim g0 (groupReady d i) (ops ++ more) := by
  have hR := hh.reach h0
  obtain ⟨q1, q2, G, q3, q4, q5, q6⟩ := hp.armed ha
  have hcl : d.closed = false := hp.open (arm_event_ne ha).2
  unfold groupReady
  rw [q3]
  simp only [q5]
  split
  · obtain ⟨f1, f2⟩ := fire_ok hR ha
    unfold callBackend
    simp only [q1, q4, f2]
    exact update_sim h0 hh f1 hcl hu (gok_completed _ rfl)
  · next hc =>
    refine ⟨[], e, by simpa using hh, Held.of_armed hp.not_roundClosed hp.closed_iff ha ⟨q1, q2, _, rfl, q4, rfl, ?_⟩, by simpa using hu, ?_⟩
    · rw [← q6]
      simp only [List.map_map]
      apply List.map_congr_left
      intro pr _
      simp only [Function.comp]
      split <;> rfl
    · -- not every flag is set: `validate` did not complete the group
      intro G' hG _ _
      cases hG
      simp only [Bool.not_false, Bool.and_true, Bool.not_eq_true] at hc
      have : ¬ (∀ pr ∈ (G.parts.map fun pr => if pr.1 = i then (pr.1, true) else pr), pr.2 = true) := by
        intro hall
        rw [List.all_eq_true.mpr hall] at hc
        cases hc
      simp only [Classical.not_forall] at this
      obtain ⟨pr, hpr, hne⟩ := this
      exact ⟨pr, hpr, by simpa using hne⟩

theorem callBackend_sim (hg : GOK d.group) (op : Op) (ha : arm e.hop = none) :
    ∃ more, Sim g0 (callBackend d op).1 (ops ++ more) := by
  have hR := hh.reach h0
  unfold callBackend
  rw [(hp.idle ha).1, backend_hop]
  cases hacc : (e.step op).2 with
  | some err =>
    rw [backend_error hacc]
    exact ⟨[], e, by simpa using hh, hp, by simpa using hu, hg⟩
  | none =>
    rw [backend_ok hacc]
    have hcl : d.closed = false := hp.open fun hgc => ((C06.closed_final hR hgc).2 op).1 hacc
    exact update_sim h0 hh hacc hcl hu hg

end

theorem act_for_caller {g0 : Game} (h0 : Start0 g0) {d : D} {ops : List Op} {e : Game} (hh : Hist g0 ops e)
    (hp : Held d e) (i : Nat) (a : Act) (hal : hasAction d i a = true)
    (hc : ¬(a = .pay ∧ (d.gs.event = .anteRequested ∨ d.gs.event = .blindsRequested))) :
    i = d.gs.cur ∧ d.gs.event = .roundStarted := by
  have hR := hh.reach h0
  unfold hasAction at hal
  cases ha : arm e.hop with
  | some t =>
    obtain ⟨g', m, grp⟩ := t
    exfalso
    rw [(hp.armed ha).1] at hal hc
    exact hc (arm_allows (g := e.hop) ((C04.one_actor hR).2 (arm_event_ne ha).1) ha i a hal)
  | none =>
    rw [(hp.idle ha).1] at hal ⊢
    have hal' : e.allows i a = true := hal
    by_cases hrs : e.event = .roundStarted
    · refine ⟨?_, hrs⟩
      unfold Game.allows at hal'
      cases hpi : e.players[i]? with
      | none => simp [hpi] at hal'
      | some p =>
        by_cases hi : i = e.cur
        · exact hi
        · have hn := ((C04.one_actor hR).1 hrs).2 i p hpi hi
          simp [hpi, hn] at hal'
    · rw [allows_false_of_noneAllowed ((C04.one_actor hR).2 hrs)] at hal'
      cases hal'

theorem call_cases (d : D) (c : Call) :
    (∃ err, call d c = (d, some err)) ∨
    (∃ i, call d c = (groupReady d i, none) ∧ (d.readyMarks.contains i = true ∨
      hasAction d i .pay = true ∧ (d.gs.event = .anteRequested ∨ d.gs.event = .blindsRequested))) ∨
    ∃ i a x, call d c = callBackend d (.act none a x) ∧ hasAction d i a = true ∧
      ¬(a = .pay ∧ (d.gs.event = .anteRequested ∨ d.gs.event = .blindsRequested)) := by
  cases c with
  | ready i =>
    by_cases h1 : d.gs.players.length ≤ i
    · exact Or.inl ⟨_, if_pos h1⟩
    · by_cases h2 : (!d.readyMarks.contains i) = true
      · exact Or.inl ⟨_, (if_neg h1).trans (if_pos h2)⟩
      · exact Or.inr (Or.inl ⟨i, (if_neg h1).trans (if_neg h2), Or.inl (by simpa using h2)⟩)
  | act i a x =>
    by_cases h1 : d.gs.players.length ≤ i
    · exact Or.inl ⟨_, if_pos h1⟩
    · by_cases h2 : (!hasAction d i a) = true
      · exact Or.inl ⟨_, (if_neg h1).trans (if_pos h2)⟩
      · have h2' : hasAction d i a = true := by simpa using h2
        by_cases h3 : a = .pay ∧ (d.gs.event = .anteRequested ∨ d.gs.event = .blindsRequested)
        · refine Or.inr (Or.inl ⟨i, (if_neg h1).trans ((if_neg h2).trans (if_pos h3)), Or.inr ⟨?_, h3.2⟩⟩)
          rw [← h3.1]
          exact h2'
        · exact Or.inr (Or.inr ⟨i, a, x, (if_neg h1).trans ((if_neg h2).trans (if_neg h3)), h2', h3⟩)

/-- **Every wrapper call extends the engine history behind the held state**: by nothing when it is refused or only
    readies a participant, by the operation it performs and the `Next`s the driver adds otherwise. -/
theorem call_sim {g0 : Game} (h0 : Start0 g0) {d : D} {ops : List Op} (ht : Sim g0 d ops) (c : Call) :
    ∃ more, Sim g0 (call d c).1 (ops ++ more) := by
  obtain ⟨e, hh, hp, hu, hg⟩ := ht
  have hf := flow_reachable (hh.reach h0)
  rcases call_cases d c with ⟨_, hc⟩ | ⟨i, hc, hm⟩ | ⟨i, a, x, hc, hal, hnp⟩
  · rw [hc]
    exact ⟨[], e, by simpa using hh, hp, by simpa using hu, hg⟩
  · rw [hc]
    cases ha : arm e.hop with
    | some t => exact groupReady_sim h0 hh hp hu i ha
    | none =>
      exfalso
      rcases hm with hm | ⟨_, hev⟩
      · rw [(hp.idle ha).2] at hm
        cases hm
      · rw [hp.event_eq] at hev
        exact arm_isSome hf (Or.inr hev) ha
  · rw [hc]
    have hrs := (act_for_caller h0 hh hp i a hal hnp).2
    rw [hp.event_eq] at hrs
    have hev : e.hop.event = .roundStarted := hrs
    exact callBackend_sim h0 hh hp hu hg _ (arm_none_of (by simp [hev]) (by simp [hev]) (by simp [hev]))

theorem start_hop {g0 : Game} (h0 : Start0 g0) : g0.hop = g0 := by
  obtain ⟨c, _, hs, rfl⟩ := h0
  rw [(start_ok c hs).2.2]
  rfl

theorem startD_sim {g0 : Game} (h0 : Start0 g0) : ∃ m, Sim g0 (startD g0) (List.replicate m .next) := by
  obtain ⟨m, e', hm, hp, hu, hg⟩ := update_ok h0 fuel { gs := g0 } [] g0 Hist.nil rfl
    (fuelled_of_le (Hist.nil.reach h0) (by decide))
  rw [start_hop h0] at hp hu hg
  exact ⟨m, e', hm, hp, hu.trans (by simp), hg (fun _ h => by cases h)⟩

theorem runD_sim {g0 : Game} (h0 : Start0 g0) {d : D} {ops : List Op} (ht : Sim g0 d ops) (cs : List Call) :
    ∃ more, Sim g0 (runD d cs) (ops ++ more) := by
  induction cs generalizing d ops with
  | nil =>
    refine ⟨[], ?_⟩
    rw [List.append_nil]
    exact ht
  | cons c cs ih =>
    obtain ⟨m1, h1⟩ := call_sim h0 ht c
    obtain ⟨m2, h2⟩ := ih h1
    refine ⟨m1 ++ m2, ?_⟩
    rw [← List.append_assoc]
    exact h2

theorem runD_ok {g0 : Game} (h0 : Start0 g0) (cs : List Call) : Tracks g0 (runD (startD g0) cs) := by
  obtain ⟨m, hs⟩ := startD_sim h0
  obtain ⟨more, hr⟩ := runD_sim h0 hs cs
  exact ⟨_, hr⟩

theorem Sim.updates_mono {g0 : Game} (h0 : Start0 g0) {d : D} {ops : List Op} (ht : Sim g0 d ops) (c : Call) :
    d.updates ≤ (call d c).1.updates := by
  obtain ⟨more, _, _, _, hu', _⟩ := call_sim h0 ht c
  obtain ⟨_, _, _, hu, _⟩ := ht
  rw [hu, hu', List.length_append]
  omega

/-- the backend operations the driver performs in state `d`: the callback of its pending group at a request
    event, or a player action at `RoundStarted` -/
def Performs (d : D) (op : Op) : Prop :=
  (∃ G, d.group = some G ∧ G.completed = false ∧ op = fireOp G.fire ∧
    (d.gs.event = .readyRequested ∨ d.gs.event = .anteRequested ∨ d.gs.event = .blindsRequested)) ∨
  (d.gs.event = .roundStarted ∧ ∃ a x, op = .act none a x)

theorem backend_answer {g0 : Game} (h0 : Start0 g0) {d : D} {ops : List Op} {e : Game} (hh : Hist g0 ops e)
    (hp : Held d e) (op : Op) (hperf : Performs d op) :
    (∀ s, backend d.gs op = .ok s → ∃ e1, Hist g0 (ops ++ [op]) e1 ∧ s = e1.hop) ∧
    backend d.gs op = backend e.hop op ∧
    ((∀ a x, op ≠ .act none a x) → ∃ s, backend d.gs op = .ok s) := by
  have hR := hh.reach h0
  have hev := hp.event_eq
  rcases hperf with ⟨G, hG, hGc, rfl, hreq⟩ | ⟨hrs, a, x, rfl⟩
  · rw [hev] at hreq
    cases ha : arm e.hop with
    | none => exact absurd ha (arm_isSome (flow_reachable hR) hreq)
    | some t =>
      obtain ⟨g', m, grp⟩ := t
      obtain ⟨q1, _, G', q3, q4, _⟩ := hp.armed ha
      rw [hG] at q3
      cases q3
      obtain ⟨f1, f2⟩ := fire_ok hR ha
      rw [q1, q4, f2, backend_hop, backend_ok f1]
      refine ⟨?_, rfl, fun _ => ⟨_, rfl⟩⟩
      intro s hs
      cases hs
      exact ⟨_, Hist.snoc _ hh f1, rfl⟩
  · rw [hev] at hrs
    rw [hp.gs_eq (by simp [hrs]) (by simp [hrs])]
    refine ⟨?_, rfl, fun h => absurd rfl (h a x)⟩
    intro s hs
    rw [backend_hop] at hs
    cases hacc : (e.step (.act none a x)).2 with
    | some err =>
      rw [backend_error hacc] at hs
      cases hs
    | none =>
      rw [backend_ok hacc] at hs
      cases hs
      exact ⟨_, Hist.snoc _ hh hacc, rfl⟩

end Pokerface.Drv
