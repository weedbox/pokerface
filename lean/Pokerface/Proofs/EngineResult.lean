import Pokerface.Proofs.EnginePots
import Pokerface.Proofs.SettleTotal
import Pokerface.Properties.C02Spec
/-
  The settlement result written at `GameClosed`, in terms of the players of the closed hand
  (used by C01).  Positivity of `Combination.Power` is NOT needed here (`GameIn0`): the
  closing identities hold whatever strengths the players hold.
-/
namespace Pokerface
open Game

/-- the players of a hand as the `Seat` records of C02 -/
def Game.seats (g : Game) : List C02.Seat :=
  g.players.map fun p => ⟨p.idx, p.bankroll, p.pot + p.wager, p.fold, ((p.comb.map (·.power)).getD 0 : Nat)⟩

theorem entriesOf_seats (g : Game) : C02.entriesOf g.seats = g.entries := by
  simp [C02.entriesOf, Game.seats, Game.entries, List.map_map, Function.comp_def]

theorem rowsOf_seats (g : Game) : C02.rowsOf g.seats = g.rows := by
  simp [C02.rowsOf, Game.seats, Game.rows, List.map_map, Function.comp_def]

theorem ResultGood.settle {g : Game} (h : ResultGood g) : g.result = some (C02.settle g.seats) := by
  rw [h.res, h.fresh]
  unfold C02.settle
  rw [entriesOf_seats, rowsOf_seats]

theorem gameIn0_engine {g : Game} (hs : Struct g) (hp : ∀ p ∈ g.players, PInv p) : GameIn0 g.entries g.rows := by
  have hv := entries_valid hs hp
  refine ⟨hv.1, hv.2, ?_⟩
  simp [Game.entries, Game.rows, List.map_map, Function.comp_def]

theorem resultGood_spec {g : Game} (hs : Struct g) (hp : ∀ p ∈ g.players, PInv p) (h : ResultGood g) :
    ∃ r, g.result = some r ∧ (r.players.map (·.changed)).sum = 0 ∧ r.players.length = g.n ∧
      ∀ (i : Nat) (p : Player), g.players[i]? = some p → ∃ pr : PlayerResult, r.players[i]? = some pr ∧ pr.idx = i ∧
        pr.finalStack = p.bankroll + pr.changed ∧ 0 ≤ pr.finalStack ∧ -p.pot ≤ pr.changed := by
  have gi := gameIn0_engine hs hp
  refine ⟨gameResults g.pots g.rows, h.res, ?_, ?_, ?_⟩
  · rw [h.fresh]
    exact gameResults_zero_sum gi
  · have := congrArg List.length (gameResults_players_idx g.entries g.rows)
    rw [h.fresh]
    simpa [Game.rows, Game.n] using this
  · intro i p hip
    rw [h.fresh]
    have hidx := gameResults_players_idx g.entries g.rows
    have hrow : g.rows[i]? = some (p.idx, p.bankroll, p.fold, (((p.comb.map (·.power)).getD 0 : Nat) : Int)) := by
      rw [Game.rows, List.getElem?_map, hip]
      rfl
    obtain ⟨pr, hpr, hb⟩ := getElem?_of_map_eq (gameResults_players_base g.entries g.rows).symm hrow
    simp only [Prod.mk.injEq] at hb
    have hmem : p ∈ g.players := List.mem_of_getElem? hip
    have hi := hs.idx i p hip
    have hnd : ((gameResults (potsOf g.entries) g.rows).players.map (·.idx)).Nodup := hidx ▸ gi.rows_nodup
    have hc := chg_self _ hnd (List.mem_of_getElem? hpr)
    have hl := gameResults_lower gi (i := p.idx) (c := p.pot + p.wager) (f := p.fold)
      (List.mem_map.mpr ⟨p, hmem, rfl⟩)
    rw [← hb.1, hc] at hl
    have hw := h.w0 p hmem
    have hpi := hp p hmem
    have := hpi.split
    have := hpi.stack0
    exact ⟨pr, hpr, by omega, by omega, by omega, by omega⟩

theorem result_ne_none_of_closed {g : Game} (h : Reachable g) (he : g.event = .gameClosed) : g.result ≠ none := by
  have := (flow_reachable h).res.mpr he
  intro hn
  rw [hn] at this
  cases this

theorem resultGood_reachable {g : Game} (h : Reachable g) (he : g.event = .gameClosed) : ResultGood g :=
  (potsOK_reachable h).res (result_ne_none_of_closed h he)

end Pokerface
