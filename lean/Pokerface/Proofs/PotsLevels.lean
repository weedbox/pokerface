import Pokerface.Proofs.Assoc
/-
  Closed form of the `LevelList` reached by any sequence of `AddContributor` calls: key-sorted maps,
  ascending distinct level values, each level computed from the contributions (`LLInv`, `llOf_*`).
-/
namespace Pokerface

def contribsAt (contribs : List (Nat × Int)) (L : Int) : List Nat :=
  (contribs.filter (fun kv => decide (L ≤ kv.2))).map (·.1)

/-- The levels with level values `Ls` (ascending), previous level `prev`, as `AddContributor` leaves them. -/
def mkLevelsFrom (contribs : List (Nat × Int)) : Int → List Int → List Level
  | _, [] => []
  | prev, L :: Ls =>
    { level := L, wager := L - prev,
      total := ((contribsAt contribs L).length : Int) * (L - prev),
      contributors := contribsAt contribs L } :: mkLevelsFrom contribs L Ls

theorem mkLevelsFrom_level (contribs : List (Nat × Int)) (prev : Int) (Ls : List Int) :
    (mkLevelsFrom contribs prev Ls).map (·.level) = Ls := by
  induction Ls generalizing prev with
  | nil => rfl
  | cons L Ls ih => simp [mkLevelsFrom, ih]

theorem retotal_map (contribs : List (Nat × Int)) (prev : Int) (lv : List Level) :
    retotal prev (lv.map fun l =>
      { l with contributors := (contribs.filter (fun kv => decide (l.level ≤ kv.2))).map (·.1) })
    = mkLevelsFrom contribs prev (lv.map (·.level)) := by
  induction lv generalizing prev with
  | nil => rfl
  | cons l ls ih => simp [retotal, mkLevelsFrom, contribsAt, ih]

/-- Insert a new level value (Go: `AssertLevel` then `sort.Slice`). -/
def insLevel (w : Int) (Ls : List Int) : List Int :=
  if w ∈ Ls then Ls else insertBy (fun a b => decide (a < b)) w Ls

theorem insertBy_map_level (x : Level) (l : List Level) :
    (insertBy (fun a b => decide (a.level < b.level)) x l).map (·.level)
      = insertBy (fun a b => decide (a < b)) x.level (l.map (·.level)) := by
  induction l with
  | nil => rfl
  | cons y ys ih =>
    by_cases h : x.level < y.level
    · simp [insertBy, h]
    · simp [insertBy, h, ih]

theorem insertBy_int_sorted (w : Int) (Ls : List Int) (h : Ls.Pairwise (· < ·)) (hw : w ∉ Ls) :
    (insertBy (fun a b => decide (a < b)) w Ls).Pairwise (· < ·) :=
  insertBy_pairwise (· < ·) (fun _ _ _ => Int.lt_trans) h (fun _ _ h => of_decide_eq_true h) fun y hy h => by
    have : y ≠ w := fun e => hw (e ▸ hy)
    have := of_decide_eq_false h
    omega

theorem insLevel_sorted (w : Int) (Ls : List Int) (h : Ls.Pairwise (· < ·)) :
    (insLevel w Ls).Pairwise (· < ·) := by
  unfold insLevel
  split
  · exact h
  · exact insertBy_int_sorted w Ls h ‹_›

theorem insLevel_mem (w : Int) (Ls : List Int) (x : Int) : x ∈ insLevel w Ls ↔ x = w ∨ x ∈ Ls := by
  unfold insLevel
  split
  · rename_i h
    constructor
    · exact Or.inr
    · rintro (h1 | h1)
      · exact h1 ▸ h
      · exact h1
  · exact insertBy_mem _ _ _ _

/-- Invariant of a `LevelList`: canonical association lists, ascending levels, each level
    holding everyone at or above it. -/
structure LLInv (ll : LevelList) : Prop where
  contribs : KeysSorted ll.contribs
  folded : ll.folded.Pairwise (· < ·)
  sorted : (ll.levels.map (·.level)).Pairwise (· < ·)
  levels : ll.levels = mkLevelsFrom ll.contribs 0 (ll.levels.map (·.level))

theorem addContributor_levels (ll : LevelList) (h : (ll.levels.map (·.level)).Pairwise (· < ·))
    (w : Int) (i : Nat) (f : Bool) :
    (ll.addContributor w i f).levels
      = mkLevelsFrom (assocSet ll.contribs i w) 0 (insLevel w (ll.levels.map (·.level))) := by
  have hs : ll.levels.Pairwise (fun a b => decide (b.level < a.level) = false) := by
    rw [List.pairwise_map] at h
    exact h.imp (fun {a b} hab => by simp only [decide_eq_false_iff_not]; omega)
  unfold LevelList.addContributor
  simp only
  rw [retotal_map]
  congr 1
  unfold insLevel
  by_cases hm : w ∈ ll.levels.map (·.level)
  · have : ll.levels.any (fun l => l.level == w) = true := by
      simp only [List.any_eq_true, beq_iff_eq]
      simpa using hm
    simp only [this, if_true, hm]
    rw [isort_of_sorted _ _ hs]
  · have : ll.levels.any (fun l => l.level == w) = false := by
      simp only [List.any_eq_false, beq_iff_eq]
      simpa using hm
    simp only [this, hm, if_false, Bool.false_eq_true]
    rw [isort_append_singleton, isort_of_sorted _ _ hs, insertBy_map_level]

theorem LLInv.empty : LLInv {} := ⟨keysSorted_nil, List.Pairwise.nil, List.Pairwise.nil, rfl⟩

theorem LLInv.add {ll : LevelList} (h : LLInv ll) (w : Int) (i : Nat) (f : Bool) :
    LLInv (ll.addContributor w i f) := by
  have hl := addContributor_levels ll h.sorted w i f
  have hc : (ll.addContributor w i f).contribs = assocSet ll.contribs i w := rfl
  refine ⟨?_, ?_, ?_, ?_⟩
  · rw [hc]
    exact assocSet_sorted h.contribs _ _
  · show (if f then setInsert ll.folded i else ll.folded).Pairwise (· < ·)
    split
    · exact setInsert_sorted h.folded _
    · exact h.folded
  · rw [hl, mkLevelsFrom_level]
    exact insLevel_sorted _ _ h.sorted
  · rw [hl, mkLevelsFrom_level, hc]

def llOf (entries : List (Nat × Int × Bool)) : LevelList :=
  entries.foldl (fun ll e => ll.addContributor e.2.1 e.1 e.2.2) ({} : LevelList)

theorem llOf_concat (es : List (Nat × Int × Bool)) (e : Nat × Int × Bool) :
    llOf (es ++ [e]) = (llOf es).addContributor e.2.1 e.1 e.2.2 := by
  simp [llOf, List.foldl_append]

theorem llOf_inv (entries : List (Nat × Int × Bool)) : LLInv (llOf entries) := by
  induction entries using snoc_induction with
  | nil => exact LLInv.empty
  | snoc es e ih =>
    rw [llOf_concat]
    exact ih.add _ _ _

theorem llOf_contribs (entries : List (Nat × Int × Bool)) (hn : (entries.map (·.1)).Nodup) (x : Nat × Int) :
    x ∈ (llOf entries).contribs ↔ ∃ f, (x.1, x.2, f) ∈ entries := by
  induction entries using snoc_induction with
  | nil => simp [llOf]
  | snoc es e ih =>
    obtain ⟨ei, ec, ef⟩ := e
    obtain ⟨xi, xc⟩ := x
    rw [List.map_append, List.nodup_append] at hn
    have hfresh : ∀ c f, (ei, c, f) ∉ es := fun c f hm =>
      hn.2.2 ei (List.mem_map.2 ⟨_, hm, rfl⟩) ei (by simp) rfl
    rw [llOf_concat]
    show (xi, xc) ∈ assocSet (llOf es).contribs ei ec ↔ _
    rw [assocSet_mem (llOf_inv es).contribs, ih hn.1]
    simp only [List.mem_append, List.mem_singleton, Prod.mk.injEq]
    constructor
    · rintro (⟨h1, h2⟩ | ⟨_, f, hf⟩)
      · exact ⟨ef, Or.inr ⟨h1, h2, rfl⟩⟩
      · exact ⟨f, Or.inl hf⟩
    · rintro ⟨f, hf | ⟨h1, h2, _⟩⟩
      · refine Or.inr ⟨?_, f, hf⟩
        rintro rfl
        exact hfresh _ _ hf
      · exact Or.inl ⟨h1, h2⟩

theorem llOf_folded (entries : List (Nat × Int × Bool)) (y : Nat) :
    y ∈ (llOf entries).folded ↔ ∃ c, (y, c, true) ∈ entries := by
  induction entries using snoc_induction with
  | nil => simp [llOf]
  | snoc es e ih =>
    obtain ⟨ei, ec, ef⟩ := e
    rw [llOf_concat]
    show y ∈ (if ef then setInsert (llOf es).folded ei else (llOf es).folded) ↔ _
    cases ef with
    | false => simp [ih]
    | true =>
      simp only [if_true, setInsert_mem, ih, List.mem_append, List.mem_singleton, Prod.mk.injEq, and_true]
      constructor
      · rintro (h1 | ⟨c, hc⟩)
        · exact ⟨ec, Or.inr ⟨h1, rfl⟩⟩
        · exact ⟨c, Or.inl hc⟩
      · rintro ⟨c, h1 | h1⟩
        · exact Or.inr ⟨c, h1⟩
        · exact Or.inl h1.1

theorem llOf_levels (entries : List (Nat × Int × Bool)) (L : Int) :
    L ∈ (llOf entries).levels.map (·.level) ↔ ∃ e ∈ entries, e.2.1 = L := by
  induction entries using snoc_induction with
  | nil => simp [llOf]
  | snoc es e ih =>
    rw [llOf_concat, addContributor_levels _ (llOf_inv es).sorted, mkLevelsFrom_level, insLevel_mem, ih]
    simp only [List.mem_append, List.mem_singleton]
    constructor
    · rintro (h1 | ⟨e', h1, h2⟩)
      · exact ⟨e, Or.inr rfl, h1.symm⟩
      · exact ⟨e', Or.inl h1, h2⟩
    · rintro ⟨e', h1 | h1, h2⟩
      · exact Or.inr ⟨e', h1, h2⟩
      · exact Or.inl (h1 ▸ h2.symm)

theorem llOf_perm {e₁ e₂ : List (Nat × Int × Bool)} (hp : e₁.Perm e₂) (hn : (e₁.map (·.1)).Nodup) :
    llOf e₁ = llOf e₂ := by
  have hn2 : (e₂.map (·.1)).Nodup := (hp.map _).nodup_iff.1 hn
  have i1 := llOf_inv e₁
  have i2 := llOf_inv e₂
  have hc : (llOf e₁).contribs = (llOf e₂).contribs := by
    apply KeysSorted.eq_of_mem_iff i1.contribs i2.contribs
    intro x
    rw [llOf_contribs e₁ hn, llOf_contribs e₂ hn2]
    exact exists_congr fun f => hp.mem_iff
  have hf : (llOf e₁).folded = (llOf e₂).folded := by
    apply eq_of_pairwise_of_mem_iff (fun a b hab hba => by omega) i1.folded i2.folded
    intro y
    rw [llOf_folded, llOf_folded]
    exact exists_congr fun c => hp.mem_iff
  have hL : (llOf e₁).levels.map (·.level) = (llOf e₂).levels.map (·.level) := by
    apply eq_of_pairwise_of_mem_iff (fun a b hab hba => by omega) i1.sorted i2.sorted
    intro L
    rw [llOf_levels, llOf_levels]
    exact exists_congr fun e => and_congr_left fun _ => hp.mem_iff
  have hl : (llOf e₁).levels = (llOf e₂).levels := by
    rw [i1.levels, i2.levels, hc, hL]
  cases h1 : llOf e₁
  cases h2 : llOf e₂
  simp only [h1, h2] at hc hf hl
  simp [hc, hf, hl]

end Pokerface
