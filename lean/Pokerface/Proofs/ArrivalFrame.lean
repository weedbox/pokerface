/-
  The newcomer's arrival in ANY state (not only as the first operation after a successful `next`), with other
  players' operations on other seats before, between and after his `Join` and `Seat`, and between the `next`s.
  Such an operation is an `Aside`: it leaves seat `x` as it is, so it keeps the frame form `PendF` of the pending newcomer
  but may break the two exclusions; these therefore come back as hypotheses on the states in which `next` is called
  (`waiting_arrival` for the arrival history `pre; Join; mid; Seat(x); post`, `Calm` / `waiting_timing_hist` between the `next`s).
-/
import Pokerface.Proofs.SMNewcomer

namespace Pokerface
namespace SM

/-- `Aside x T op`: the operation `op`, applied in `T`, is not `next` and leaves seat `x` exactly as it is
(somebody else's operation on another seat, or an operation that is refused). -/
def Aside (x : Nat) (T : SM) (op : SMOp) : Prop :=
  op ≠ .next ∧ (T.step op).1.seats[x]? = T.seats[x]?

/-- A sufficient condition for `Aside` that looks only at the operation and at the seat a `Join` returns: a `Seat`/`Reserve`/`Leave` on another seat id, or a `Join` that did
not land on `x`. -/
def Other (x : Nat) (T : SM) : SMOp → Prop
  | .join seat pid c => (T.step (.join seat pid c)).2.2 ≠ some x
  | .seat id => id ≠ (x : Int)
  | .reserve id => id ≠ (x : Int)
  | .leave id => id ≠ (x : Int)
  | .next => False

theorem Other.aside {x : Nat} {T : SM} {op : SMOp} (h : Other x T op) : Aside x T op := by
  have hn : op ≠ .next := by
    rintro rfl
    exact h
  refine ⟨hn, ?_⟩
  rcases step_local T hn with ⟨e, he⟩ | ⟨i, _, hi, he, _⟩
  · rw [he]
  · -- the seat that is rewritten is not `x`: it is the one the operation names, or the one the `join` returns
    have hix : i ≠ x := by
      rintro rfl
      cases op with
      | join seat pid c =>
        apply h
        rw [he]
        rfl
      | next => exact h
      | _ =>
        rcases hi with hi | ⟨_, hi, _⟩
        · exact h hi
        · cases hi
    rw [he]
    exact (modSeat_seats T i _ x).trans (if_neg hix)

def AsideRun (x : Nat) : SM → List SMOp → Prop
  | _, [] => True
  | T, op :: ops => Aside x T op ∧ AsideRun x (T.step op).1 ops

theorem AsideRun.frame {x : Nat} : ∀ {ops : List SMOp} {T : SM}, AsideRun x T ops →
    (T.run ops).dealer = T.dealer ∧ (T.run ops).max = T.max ∧ (T.run ops).seats[x]? = T.seats[x]?
  | [], _, _ => ⟨rfl, rfl, rfl⟩
  | op :: ops, T, h => by
    obtain ⟨⟨hne, hx⟩, hrest⟩ := h
    obtain ⟨h1, h2, h3⟩ := AsideRun.frame hrest
    obtain ⟨g1, g2⟩ := step_dealer_max T hne
    rw [run_cons]
    exact ⟨h1.trans g1, h2.trans g2, h3.trans hx⟩

theorem PendF.asideRun {T : SM} {x d a : Nat} {r : Bool} (w : PendF T x d a r) {ops : List SMOp} (h : AsideRun x T ops) :
    PendF (T.run ops) x d a r := by
  obtain ⟨h1, h2, h3⟩ := h.frame
  exact ⟨run_inv w.inv ops, h1.trans w.dealer, w.a_pos, h2 ▸ w.a_lt, h2 ▸ w.x_eq, h3 ▸ w.seat⟩

def OtherRun (x : Nat) : SM → List SMOp → Prop
  | _, [] => True
  | T, op :: ops => Other x T op ∧ OtherRun x (T.step op).1 ops

theorem OtherRun.asideRun {x : Nat} : ∀ {ops : List SMOp} {T : SM}, OtherRun x T ops → AsideRun x T ops
  | [], _, _ => trivial
  | _ :: _, _, h => ⟨h.1.aside, OtherRun.asideRun h.2⟩

/-- State right after the newcomer's `Join`: `pre; Join(seat, pid)`. -/
def arriveJ (A : SM) (pre : List SMOp) (seat : Int) (pid : Nat) (c : Option Nat) : SM :=
  ((A.run pre).step (.join seat pid c)).1

/-- State in which the newcomer's `Seat(x)` is called: `pre; Join; mid`. -/
def arriveM (A : SM) (pre : List SMOp) (seat : Int) (pid : Nat) (c : Option Nat) (mid : List SMOp) : SM :=
  (arriveJ A pre seat pid c).run mid

/-- State at the end of the arrival history `pre; Join(seat, pid); mid; Seat(x); post`. -/
def arrive (A : SM) (x : Nat) (pre : List SMOp) (seat : Int) (pid : Nat) (c : Option Nat) (mid post : List SMOp) : SM :=
  (((arriveM A pre seat pid c mid).step (.seat (x : Int))).1).run post

theorem arrive_eq_run (A : SM) (x : Nat) (pre : List SMOp) (seat : Int) (pid : Nat) (c : Option Nat)
    (mid post : List SMOp) :
    arrive A x pre seat pid c mid post =
      A.run (pre ++ .join seat pid c :: (mid ++ .seat (x : Int) :: post)) := by
  simp only [arrive, arriveM, arriveJ, run_append, run_cons]

theorem waiting_arrival {A : SM} (hA : Inv A) {d a x : Nat} {s : Seat}
    (hd : A.dealer = some d) (ha0 : 0 < a) (ha : a < A.max) (hx : x = (d + a) % A.max)
    (hs : A.seats[x]? = some s) (hina : s.active = false)
    (seat : Int) (pid : Nat) (c : Option Nat) (pre mid post : List SMOp)
    (hpre : AsideRun x A pre)
    (hj : ((A.run pre).step (.join seat pid c)).2 = (none, some x))
    (hmid : AsideRun x (arriveJ A pre seat pid c) mid)
    (hpost : AsideRun x ((arriveM A pre seat pid c mid).step (.seat (x : Int))).1 post)
    (hD10 : 2 ≤ (arrive A x pre seat pid c mid post).playableCount)
    (hD4 : FewBetween (arrive A x pre seat pid c mid post) d a) :
    s.player = none ∧
    (arriveJ A pre seat pid c).seats[x]? = some { player := some pid, active := false, reserved := true } ∧
    ((arriveM A pre seat pid c mid).step (.seat (x : Int))).2.1 = none ∧
    (arrive A x pre seat pid c mid post).seats[x]? = some { player := some pid, active := false, reserved := false } ∧
    Waiting (arrive A x pre seat pid c mid post) x d a := by
  simp only [arrive, arriveM, arriveJ] at hmid hpost hD10 hD4 ⊢
  -- pending after the `Join`, and from there through the asides and the `Seat`; seat `x` is followed by the frames
  obtain ⟨p1, p2, p3⟩ := hpre.frame
  obtain ⟨wJ, hJx, hemp⟩ :=
    PendF.of_join (run_inv hA pre) (p1.trans hd) ha0 (p2 ▸ ha) (p2 ▸ hx) (p3.trans hs) hina hj
  have wM := wJ.asideRun hmid
  obtain ⟨hok, hSx⟩ := sit_seat wM.x_lt
  have wT := wM.sit.asideRun hpost
  rw [hmid.frame.2.2, hJx] at hSx
  have hTx := hpost.frame.2.2.trans hSx
  exact ⟨hemp, hJx, hok, hTx, (wT.pending_of hD10 hD4).waiting⟩

/-- The exclusions D10 / D4 as a predicate of the state in which `next` is called: at least two playable seats, and at
most one playable seat strictly between the dealer and `x`.  This is `ExclN` (SMNewcomer) without its guard "while seat `x`
is still inactive", hence the stronger of the two (`Excl.exclN`). -/
def Excl (U : SM) (x : Nat) : Prop :=
  2 ≤ U.playableCount ∧
  ∀ d a, U.dealer = some d → 0 < a → a < U.max → x = (d + a) % U.max → FewBetween U d a

theorem Excl.exclN {U : SM} {x : Nat} (h : Excl U x) : ExclN U x :=
  ⟨h.1, fun d a _ hd h0 hlt hx _ _ => h.2 d a hd h0 hlt hx⟩

/-- A history `seg₁; next; seg₂; next; …` (each `segᵢ` a list of asides) is *calm* for `x`: every segment consists of
asides, and every `next` up to and including the one in which the button passes `x` is called in a state satisfying
the exclusions. -/
def Calm (x : Nat) : SM → List (List SMOp) → Prop
  | _, [] => True
  | T, seg :: segs =>
    AsideRun x T seg ∧ Excl (T.run seg) x ∧
    (¬ PassedStep (T.run seg) x → Calm x ((T.run seg).step .next).1 segs)

/-- Newcomer timing along such a history: in every segment before the button passes, `x` is not playable when `next` is
called, that `next` succeeds, and `x` is playable in the new hand iff the button passed `x` in that `next`. -/
def Timing (x : Nat) : SM → List (List SMOp) → Prop
  | _, [] => True
  | T, seg :: segs =>
    (T.run seg).playable x = false ∧ ((T.run seg).step .next).2.1 = none ∧
    (PassedStep (T.run seg) x → ((T.run seg).step .next).1.playable x = true) ∧
    (¬ PassedStep (T.run seg) x →
      ((T.run seg).step .next).1.playable x = false ∧ Timing x ((T.run seg).step .next).1 segs)

theorem waiting_timing_hist {x : Nat} : ∀ {segs : List (List SMOp)} {T : SM} {d a : Nat},
    Waiting T x d a → Calm x T segs → Timing x T segs
  | [], _, _, _, _, _ => trivial
  | seg :: segs, T, d, a, w, hc => by
    obtain ⟨has, he, hrest⟩ := hc
    have w' := ((Pending.of_waiting w).pendF.asideRun has).pending he.exclN
    obtain ⟨k, s⟩ := w'.step
    refine ⟨w'.pendF.not_playable, s.ok, fun hp => (s.arrived (s.passed_iff.mp hp)).1.playable_iff.mpr rfl, fun hnp => ?_⟩
    obtain ⟨w1, _⟩ := s.pending (s.lt_of_not_lt fun h => hnp (s.passed_iff.mpr h))
    exact ⟨w1.pendF.not_playable, waiting_timing_hist w1.waiting (hrest hnp)⟩

theorem arrive_max_dealer {A : SM} {x : Nat} {pre mid post : List SMOp} {seat : Int} {pid : Nat} {c : Option Nat}
    (hpre : AsideRun x A pre) (hmid : AsideRun x (arriveJ A pre seat pid c) mid)
    (hpost : AsideRun x ((arriveM A pre seat pid c mid).step (.seat (x : Int))).1 post) :
    (arrive A x pre seat pid c mid post).max = A.max ∧ (arrive A x pre seat pid c mid post).dealer = A.dealer := by
  obtain ⟨p1, p2, _⟩ := hpre.frame
  obtain ⟨m1, m2, _⟩ := hmid.frame
  obtain ⟨q1, q2, _⟩ := hpost.frame
  obtain ⟨j1, j2⟩ := step_dealer_max (A.run pre) (op := .join seat pid c) (by simp)
  obtain ⟨s1, s2⟩ := step_dealer_max (arriveM A pre seat pid c mid) (op := .seat (x : Int)) (by simp)
  simp only [arrive, arriveM, arriveJ] at m1 m2 s1 s2 q1 q2 ⊢
  exact ⟨by rw [q2, s2, m2, j2, p2], by rw [q1, s1, m1, j1, p1]⟩

end SM
end Pokerface
