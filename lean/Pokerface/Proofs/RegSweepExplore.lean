/-
  Scripts of syncs for C20 (sweep counts), core-only.  Properties/C20.lean builds its witness
  histories with `mkSync` and `scriptOps` and shows their tables with `sheet`; the rest
  (`runScript`, the adversarial sweeps `advSync`, `advSweep`, `advSettle`) computes settle phases
  with unlucky choices, to be run by hand; nothing in the library calls or evaluates it.

  `mkSync s t k ch` builds a VALID sync operation of table `t` with `k` eliminations
  (the first `k` members), releasing the first members asked for, dispatch choices `ch`.
  `runScript` folds a list of `(table, eliminations, choices)` and counts the asking syncs.
-/
import Pokerface.Model.RegulatorEnv

namespace Pokerface
namespace RSys

/-- a valid sync operation: eliminate the first `k` members, release the first `relCount` of the rest -/
def mkSync (s : RSys) (t : Nat) (k : Nat) (ch : List Nat) : EOp :=
  match s.env.membersOf t with
  | none => .sync t [] [] [] [] ch
  | some ms =>
    let elim := ms.take k
    let stay := ms.drop k
    let ans := s.syncAnswer t elim
    let all := stay ++ ans.2.2.2
    let n := ans.2.2.1.toNat
    .sync t elim stay (all.take n) (all.drop n) ch

/-- run a script of `(table, eliminations, choices)`; returns the final state, whether every
    operation was valid, and the number of asking operations -/
def runScript : RSys → List (Nat × Nat × List Nat) → RSys × Bool × Nat
  | s, [] => (s, true, 0)
  | s, (t, k, ch) :: rest =>
    let op := s.mkSync t k ch
    let (s', ok', n) := runScript (s.step op) rest
    (s', decide (s.ok op) && ok', (if s.asks op then 1 else 0) + n)

/-- the operations of a script (for `allOk` / `askCount` statements) -/
def scriptOps : RSys → List (Nat × Nat × List Nat) → List EOp
  | _, [] => []
  | s, (t, k, ch) :: rest => s.mkSync t k ch :: scriptOps (s.step (s.mkSync t k ch)) rest

/-- (count, required) of every table, in creation order -/
def sheet (s : RSys) : List (Nat × Int × Int) := s.r.tables.map fun t => (t.id, t.count, t.required)

/-! an adversarial settle phase: in every sweep the tables are synced in ascending order of their
    count (so that a table which receives released players has already been synced), and released
    players are dispatched, when possible, to tables that are NOT in deficit (stale `Required`). -/

/-- candidate sequences of dispatch choices, preferred first -/
def choiceSeqs (pref : List Nat) : Nat → List (List Nat)
  | 0 => [[]]
  | n + 1 => [] :: (pref.flatMap fun c => (choiceSeqs pref n).map fun cs => c :: cs)

/-- ids of the tables, those at or above the level `F` first (and among them the emptier first) -/
def prefOrder (s : RSys) : List Nat :=
  let F := s.r.playerCount / s.r.requiredTables
  let hi := s.r.tables.filter fun t => decide (F ≤ t.count)
  let lo := s.r.tables.filter fun t => !decide (F ≤ t.count)
  (hi.map (·.id)) ++ (lo.map (·.id))

/-- a valid elimination-free sync of table `t` with the most adversarial choices found -/
def advSync (s : RSys) (t : Nat) : EOp :=
  let cands := choiceSeqs (prefOrder s) 3
  match cands.find? (fun ch => decide (s.ok (s.mkSync t 0 ch))) with
  | some ch => s.mkSync t 0 ch
  | none => s.mkSync t 0 []

def insertBy (c : Int) (id : Nat) : List (Int × Nat) → List (Int × Nat)
  | [] => [(c, id)]
  | (c', id') :: rest => if c ≤ c' then (c, id) :: (c', id') :: rest else (c', id') :: insertBy c id rest

/-- one sweep: every table open at the start once, ascending count; returns the new state, validity,
    and whether some sync asked -/
def advSweep (s : RSys) (desc : Bool := false) : RSys × Bool × Bool :=
  let order0 := (s.r.tables.foldl (fun acc t => insertBy t.count t.id acc) []).map (·.2)
  let order := if desc then order0.reverse else order0
  order.foldl (fun (acc : RSys × Bool × Bool) t =>
    let (s', ok', asked) := acc
    if (s'.env.membersOf t).isNone then acc
    else
      let op := s'.advSync t
      (s'.step op, ok' && decide (s'.ok op), asked || s'.asks op)) (s, true, false)

/-- number of asking sweeps until a sweep asks nothing (at most `fuel`), with overall validity;
    `desc` orders the FIRST sweep only, the recursive call leaves it at its default -/
def advSettle (fuel : Nat) (s : RSys) (desc : Bool := false) : Nat × Bool :=
  match fuel with
  | 0 => (0, true)
  | fuel + 1 =>
    let (s', ok', asked) := s.advSweep desc
    if asked then let (n, ok2) := advSettle fuel s'; (n + 1, ok' && ok2) else (0, ok')

end RSys
end Pokerface
