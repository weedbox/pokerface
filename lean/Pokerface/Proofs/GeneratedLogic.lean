import Pokerface.Generated.Logic
import Pokerface.Proofs.ListLemmas
import Pokerface.Proofs.GeneratedLogicBase
/-
  K1, translated logic (hand evaluation and betting): player.go, the betting part of game.go, the category chain of
  combination/power.go (Generated/Logic.lean).  Conventions: header of Proofs/GeneratedLogicBase.lean.

  Player actions are translated as `(error, effects in order)`: every state-changing statement of the Go
  method is recorded, in order, as a named effect (`("acted", 0)`, `("pay", delta)`, `("prev", raised)`,
  `("Call", 0)` for `return p.Call()`, …); `effect`/`interp` below read the names on the model, and the
  theorems `act…_eq` say that `Game.act` is that reading of the translated method.
-/
namespace Pokerface.GeneratedLogic
open Pokerface Game

/-- the strings of game.go for the actions -/
def actString : Act → String
  | .pass => "pass" | .fold => "fold" | .check => "check" | .call => "call" | .allin => "allin"
  | .bet => "bet" | .raise => "raise" | .pay => "pay"

/-- game.go `GetAvailableActions` -/
theorem availableActions_eq (g : Game) (p : Player) :
    Generated.Logic.availableActions p.fold p.stack p.wager p.initial g.cw g.prev g.miniBet
      = (g.availableActions p).map actString := by
  unfold Generated.Logic.availableActions Game.availableActions
  by_cases h1 : p.fold = true
  · simp [h1, actString]
  · by_cases h2 : p.stack = 0
    · simp [h1, h2, actString]
    · by_cases h3 : p.wager < g.cw
      · by_cases h4 : p.initial > g.cw
        · by_cases h5 : p.initial > g.cw + g.prev <;> simp [h1, h2, h3, h4, h5, actString]
        · simp [h1, h2, h3, h4, actString]
      · simp only [h1, h2, h3, Bool.false_eq_true, if_false, decide_false, beq_iff_eq]
        by_cases h4 : p.initial ≥ g.miniBet
        · by_cases h5 : g.cw = 0 <;> simp [h4, h5, actString]
        · simp [h4, actString]

/-- player.go `PayBlinds`, the amount posted, as translated from the source = the model's
    `blindOf` capped at the stack (what `payBlind` pays). -/
theorem blindChips_eq (m : Meta) (p : Player) :
    Generated.Logic.blindChips m.blindBB m.blindSB m.blindDealer p.posBB p.posSB p.posDealer p.stack
      = (if p.stack < blindOf m p then p.stack else blindOf m p) := by
  unfold Generated.Logic.blindChips Game.blindOf
  by_cases h1 : m.blindBB > 0 ∧ p.posBB = true
  · simp [h1]
  · by_cases h2 : m.blindSB > 0 ∧ p.posSB = true
    · simp [h1, h2]
    · by_cases h3 : m.blindDealer > 0 ∧ p.posDealer = true
      · simp [h1, h2, h3]
      · simp [h1, h2, h3]

/-- game.go `RequestBlinds` -/
theorem requestBlinds_eq (g : Game) :
    g.requestBlinds = (if Generated.Logic.skipBlinds g.opts.blindDealer g.opts.blindSB g.opts.blindBB
      then (g.setEvent .blindsPaid).prepareRound else g.setEvent .blindsRequested) := by
  simp [Generated.Logic.skipBlinds, Game.requestBlinds, and_assoc]

/-- combination/power.go `CalculatePower`, the category chain, as translated from the source =
    the model's `category`. -/
theorem categoryChain_eq (ranks : List Nat) (flush : Bool) :
    Generated.Logic.categoryChain flush (isStraight ranks) (hasCount (elements ranks) 4)
      (hasCount (elements ranks) 3 && hasCount (elements ranks) 2) (hasCount (elements ranks) 3)
      (pairCount (elements ranks) == 2) (pairCount (elements ranks) == 1)
      = category ranks flush := by
  unfold Generated.Logic.categoryChain category
  cases flush <;> cases isStraight ranks <;> rfl

/-! ### player.go `pay` -/

/-- what the tuple computed by the translated `pay` says about the state -/
def applyPay (g : Game) (i : Nat) (r : Int × Int × Int × Int × String) : Game :=
  let g1 : Game := { g with players := g.players.modify i (fun p => { p with stack := r.1, wager := r.2.1 }),
                            roundPot := r.2.2.1, cw := r.2.2.2.1 }
  if r.2.2.2.2 = "raiser" then g1.becomeRaiser i
  else if r.2.2.2.2 = "reset" then g1.resetActed else g1

theorem pay_eq {g : Game} {i : Nat} {p : Player} (hp : g.players[i]? = some p) (chips : Int) (w : Bool) :
    g.pay i chips w = applyPay g i (Generated.Logic.pay p.stack p.initial p.wager g.roundPot g.cw g.prev chips w) := by
  unfold Game.pay
  rw [hp]
  simp only
  unfold Generated.Logic.pay applyPay
  -- the model updates seat `i` by a function (`goAllin`, `putWager`), the tuple gives field values: on the player `p` that
  -- sits there the two are the same update (`modify_congr_at`); the rest is the same tests on both sides
  by_cases h1 : p.stack ≤ chips
  · have hm := modify_congr_at hp goAllin (fun q => { q with stack := 0, wager := p.initial }) rfl
    cases w
    · simp [h1, Game.payAllin, Game.addRoundPot, Game.modP, hm]
    · by_cases h2 : p.initial > g.cw <;> by_cases h3 : p.initial - g.cw ≥ g.cw + g.prev <;>
        simp [h1, h2, h3, Game.payAllin, Game.addRoundPot, Game.modP, Game.setCw, hm]
  · have hm := modify_congr_at hp (putWager (p.wager + chips))
      (fun q => { q with stack := p.initial - (p.wager + chips), wager := p.wager + chips }) rfl
    cases w
    · simp [h1, Game.payPart, Game.addRoundPot, Game.modP, hm]
    · by_cases h2 : g.cw < p.wager + chips <;>
        simp [h1, h2, Game.payPart, Game.addRoundPot, Game.modP, Game.setCw, hm]

theorem pay_mark_eq (s ini w rp cw prev chips : Int) (isW : Bool) :
    (Generated.Logic.pay s ini w rp cw prev chips isW).2.2.2.2 =
      if s ≤ chips then (if isW then (if ini - cw ≥ cw + prev then "raiser" else "reset") else "")
      else if isW then (if cw < w + chips then "raiser" else "") else "" := by
  simp only [Generated.Logic.pay, apply_ite (fun r : Int × Int × Int × Int × String => r.2.2.2.2), ite_self,
    decide_eq_true_eq]

theorem pay_mark (a b c d e f x : Int) (w : Bool) :
    (Generated.Logic.pay a b c d e f x w).2.2.2.2 = "raiser" ∨ (Generated.Logic.pay a b c d e f x w).2.2.2.2 = "reset" ∨
      (Generated.Logic.pay a b c d e f x w).2.2.2.2 = "" := by
  rw [pay_mark_eq]
  cases w
  · simp
  · simp only [↓reduceIte]
    split
    · split <;> simp
    · split <;> simp

theorem pay_fields {g : Game} {i : Nat} {p : Player} (hp : g.players[i]? = some p) (chips : Int) (w : Bool) :
    let r := Generated.Logic.pay p.stack p.initial p.wager g.roundPot g.cw g.prev chips w
    let g' := g.pay i chips w
    (∃ q, g'.players[i]? = some q ∧ q.stack = r.1 ∧ q.wager = r.2.1 ∧
        { q with stack := p.stack, wager := p.wager, acted := p.acted } = p) ∧
    g'.roundPot = r.2.2.1 ∧ g'.cw = r.2.2.2.1 ∧ g'.prev = g.prev ∧
    g'.players.length = g.players.length ∧
    (∀ (j : Nat) (q : Player), j ≠ i → g.players[j]? = some q → ∃ q', g'.players[j]? = some q' ∧ { q' with acted := q.acted } = q) ∧
    (r.2.2.2.2 = "raiser" ∨ r.2.2.2.2 = "reset" ∨ r.2.2.2.2 = "") ∧
    (r.2.2.2.2 = "raiser" → g'.raiser = i ∧ ∀ (j : Nat) (q : Player), g'.players[j]? = some q → q.acted = decide (j = i)) ∧
    (r.2.2.2.2 = "reset" → g'.raiser = g.raiser ∧ ∀ (j : Nat) (q : Player), g'.players[j]? = some q → q.acted = false) ∧
    (r.2.2.2.2 = "" → g'.raiser = g.raiser ∧ g'.players.map Player.acted = g.players.map Player.acted) := by
  intro r g'
  -- through `pay_eq`: everything is read off `applyPay` for the three marks the translated `pay` can leave
  have hg : g' = applyPay g i r := pay_eq hp chips w
  have hmark : r.2.2.2.2 = "raiser" ∨ r.2.2.2.2 = "reset" ∨ r.2.2.2.2 = "" := pay_mark ..
  clear_value r g'
  subst hg
  obtain ⟨a, b, c, d, m⟩ := r
  simp only at hmark
  refine ⟨?_, ?_, ?_, ?_, ?_, ?_, hmark, ?_, ?_, ?_⟩
  · rcases hmark with rfl | rfl | rfl <;>
      simp [applyPay, Game.becomeRaiser, Game.resetActed, Game.setActed, Game.setRaiser, Game.modP, Game.mapP, hp]
  -- `becomeRaiser` and `resetActed` leave these four alone, whatever the mark
  · simp [applyPay, apply_ite Game.roundPot, Game.becomeRaiser, Game.resetActed, Game.setActed, Game.setRaiser, Game.modP, Game.mapP]
  · simp [applyPay, apply_ite Game.cw, Game.becomeRaiser, Game.resetActed, Game.setActed, Game.setRaiser, Game.modP, Game.mapP]
  · simp [applyPay, apply_ite Game.prev, Game.becomeRaiser, Game.resetActed, Game.setActed, Game.setRaiser, Game.modP, Game.mapP]
  · simp [applyPay, apply_ite Game.players, apply_ite List.length, Game.becomeRaiser, Game.resetActed, Game.setActed, Game.setRaiser, Game.modP, Game.mapP]
  · intro j q hj hq
    have hj' : ¬ i = j := fun h => hj h.symm
    rcases hmark with rfl | rfl | rfl <;>
      simp [applyPay, Game.becomeRaiser, Game.resetActed, Game.setActed, Game.setRaiser, Game.modP, Game.mapP, hq, hj']
  · intro hm
    simp only at hm
    subst hm
    refine ⟨by simp [applyPay, Game.becomeRaiser, Game.resetActed, Game.setActed, Game.setRaiser, Game.modP, Game.mapP], ?_⟩
    intro j q
    simp only [applyPay, Game.becomeRaiser, Game.resetActed, Game.setActed, Game.setRaiser, Game.modP, Game.mapP, if_true, List.getElem?_modify, List.getElem?_map]
    by_cases hij : i = j
    · subst hij
      simp [hp]
      rintro rfl
      rfl
    · have hji : ¬ j = i := fun h => hij h.symm
      cases hq : g.players[j]? <;> simp [hij, hji]
      rintro rfl
      rfl
  · intro hm
    simp only at hm
    subst hm
    refine ⟨by simp [applyPay, Game.resetActed, Game.mapP], ?_⟩
    intro j q
    simp only [applyPay, Game.resetActed, Game.mapP]
    simp
    rintro x - rfl
    rfl
  · intro hm
    simp only at hm
    subst hm
    refine ⟨by simp [applyPay], ?_⟩
    have : (applyPay g i (a, b, c, d, "")).players
        = g.players.modify i (fun p => { p with stack := a, wager := b }) := by simp [applyPay]
    rw [this]
    exact map_modify_of_proj Player.acted (fun p => { p with stack := a, wager := b }) (fun _ => rfl) _ _

/-! ### player.go: the player actions, translated as (error, effects in order) -/

/-- the errors of player.go by name -/
def errOf (s : String) : Err :=
  if s = "ErrInvalidAction" then .invalidAction
  else if s = "ErrIllegalRaise" then .illegalRaise
  else .unknownRound

/-- the reading of one recorded effect of a player action on seat `i` -/
def effect (i : Nat) (g : Game) (e : String × Int) : Game × Option Err :=
  if e.1 = "acted" then (g.setActed i, none)
  else if e.1 = "fold" then (g.modP i fun p => { p with fold := true }, none)
  else if e.1 = "pay" then (g.pay i e.2 true, none)
  else if e.1 = "payNoWager" then (g.pay i e.2 false, none)
  else if e.1 = "setRaiser" then (g.setRaiser i, none)
  else if e.1 = "resetActed" then (g.resetActed, none)
  else if e.1 = "prev" then (g.setPrev e.2, none)
  else if e.1 = "recordBet" then (g.recordBet i, none)
  else if e.1 = "resume" then (g.resume, none)
  else if e.1 = "Call" then g.act i .call 0
  else if e.1 = "Allin" then g.act i .allin 0
  else (g, some .unknownRound)

def runEffects (i : Nat) : List (String × Int) → Game → Game × Option Err
  | [], g => (g, none)
  | e :: es, g =>
    match effect i g e with
    | (g', none) => runEffects i es g'
    | (g', some err) => (g', some err)

/-- what a translated player action (error, effects) says about the state -/
def interp (g : Game) (i : Nat) (r : Option String × List (String × Int)) : Game × Option Err :=
  match r.1 with
  | some s => ((runEffects i r.2 g).1, some (errOf s))
  | none => runEffects i r.2 g

theorem actPass_eq (g : Game) (i : Nat) (x : Int) :
    g.act i .pass x = interp g i (Generated.Logic.actPass (g.allows i .pass)) := by
  unfold Generated.Logic.actPass Game.act
  cases h : g.allows i .pass <;> simp [interp, runEffects, effect, errOf]

theorem actCheck_eq (g : Game) (i : Nat) (x : Int) :
    g.act i .check x = interp g i (Generated.Logic.actCheck (g.allows i .check)) := by
  unfold Generated.Logic.actCheck Game.act
  cases h : g.allows i .check <;> simp [interp, runEffects, effect, errOf]

theorem actFold_eq (g : Game) (i : Nat) (x : Int) :
    g.act i .fold x = interp g i (Generated.Logic.actFold (g.allows i .fold)) := by
  unfold Generated.Logic.actFold Game.act
  cases h : g.allows i .fold <;> simp [interp, runEffects, effect, errOf, Game.doFold, Game.setActed, Game.modP, List.modify_modify_eq]
  rfl

theorem actPay_eq (g : Game) (i : Nat) (x : Int) (ri bb sb : Bool) :
    g.act i .pay x = interp g i (Generated.Logic.actPay (g.allows i .pay) x ri bb sb) := by
  unfold Generated.Logic.actPay Game.act
  cases h : g.allows i .pay <;> simp [interp, runEffects, effect, errOf]

theorem actCall_eq {g : Game} {i : Nat} {p : Player} (hp : g.players[i]? = some p) (x : Int) :
    g.act i .call x = interp g i (Generated.Logic.actCall (g.allows i .call) g.cw p.wager g.opts.blindBB) := by
  unfold Generated.Logic.actCall Game.act
  cases h : g.allows i .call
  · simp [interp, runEffects, errOf]
  · by_cases h2 : g.cw < g.opts.blindBB <;>
      simp [interp, runEffects, effect, Game.doCall, hp, h2]

theorem actAllin_eq {g : Game} {i : Nat} {p : Player} (hp : g.players[i]? = some p) (x : Int) :
    g.act i .allin x = interp g i (Generated.Logic.actAllin (g.allows i .allin) p.stack p.initial g.cw g.prev) := by
  unfold Generated.Logic.actAllin Game.act
  cases h : g.allows i .allin
  · simp [interp, runEffects, errOf]
  · by_cases h2 : p.initial - g.cw ≥ g.prev <;>
      simp [interp, runEffects, effect, Game.doAllin, hp, h2]

theorem actBet_eq (g : Game) (i : Nat) (x : Int) :
    g.act i .bet x = interp g i (Generated.Logic.actBet (g.allows i .bet) x) := by
  unfold Generated.Logic.actBet Game.act
  cases h : g.allows i .bet
  · simp [interp, runEffects, errOf]
  · by_cases h2 : x < 0 <;>
      simp [interp, runEffects, effect, errOf, Game.doBet, h2]

theorem actRaise_eq {g : Game} {i : Nat} {p : Player} (hp : g.players[i]? = some p) (x : Int) :
    g.act i .raise x = interp g i
      (Generated.Logic.actRaise (g.allows i .raise) x g.cw p.wager p.initial g.prev g.opts.potLimit) := by
  unfold Generated.Logic.actRaise
  conv =>
    lhs
    unfold Game.act
  simp only [Bool.or_eq_true, beq_iff_eq, decide_eq_true_eq, List.nil_append]
  cases h : g.allows i .raise
  · simp [interp, runEffects, errOf]
  simp only [Bool.not_true, Bool.false_eq_true, if_false]
  by_cases h2 : x = 0 ∨ x < g.cw
  · simp [h2, interp, runEffects, errOf]
  simp only [if_neg h2, hp]
  -- `return p.Call()` / `return p.Allin()`: the answer of that action is the answer
  have hact : ∀ r : Game × Option Err, (match r with | (g', none) => (g', none) | (g', some err) => (g', some err)) = r := by
    rintro ⟨g', _ | e⟩ <;> rfl
  by_cases h3 : x = g.cw
  · simp [h3, interp, runEffects, effect, hact, Game.act]
  simp only [if_neg h3]
  by_cases h4 : x ≥ p.initial ∨ x - g.cw < g.prev
  · simp [h4, interp, runEffects, effect, hact, Game.act]
  simp only [if_neg h4]
  cases hpl : g.opts.potLimit
  · simp [interp, runEffects, effect, Game.doRaise, hpl]
  · by_cases h5 : x - g.cw > g.cw + g.prev <;>
      simp [interp, runEffects, effect, Game.doRaise, hpl, h5]

/-- game.go `BecomeRaiser` -/
theorem becomeRaiser_eq (g : Game) (i : Nat) (wager : Int) :
    (g.becomeRaiser i, none) = interp g i (Generated.Logic.becomeRaiser wager) := by
  simp [Generated.Logic.becomeRaiser, Game.becomeRaiser, interp, runEffects, effect]

/-- player.go `PayAnte`, one turn of the loop of action.go `PayAnte` (whose guards make the first two
    guards of the player's method pass) -/
theorem playerPayAnte_eq {g : Game} {i : Nat} {p : Player} (hp : g.players[i]? = some p)
    (ha : g.opts.ante ≠ 0) (he : g.event = .anteRequested) (is : List Nat) :
    payAnteLoop (i :: is) g =
      match interp g i (Generated.Logic.playerPayAnte g.opts.ante (evString g.event) p.wager) with
      | (g', none) => payAnteLoop is g'
      | (g', some e) => (g', some e) := by
  unfold Generated.Logic.playerPayAnte
  rw [Game.payAnteLoop, hp]
  by_cases hw : p.wager > 0 <;> simp [ha, he, hw, evString, interp, runEffects, effect, errOf]

theorem playerPayBlinds_chips (ev : String) (bb sb dl : Int) (pb ps pd : Bool) (stack : Int) :
    Generated.Logic.playerPayBlinds ev bb sb dl pb ps pd stack =
      if ev != "BlindsRequested" then (some "ErrInvalidAction", [])
      else (none, [("pay", Generated.Logic.blindChips bb sb dl pb ps pd stack)]) := by
  simp only [Generated.Logic.playerPayBlinds, Generated.Logic.blindChips, List.nil_append,
    apply_ite (fun c : Int => ((none : Option String), [(("pay" : String), c)]))]

/-- player.go `PayBlinds` for one seat (the guard on the event passes inside action.go `PayBlinds`) -/
theorem playerPayBlinds_eq {g : Game} {i : Nat} {p : Player} (hp : g.players[i]? = some p)
    (he : g.event = .blindsRequested) :
    (g.payBlind i, none) = interp g i (Generated.Logic.playerPayBlinds (evString g.event) g.opts.blindBB g.opts.blindSB
      g.opts.blindDealer p.posBB p.posSB p.posDealer p.stack) := by
  rw [playerPayBlinds_chips, blindChips_eq, Game.payBlind, hp, he]
  simp [evString, interp, runEffects, effect]

/-! ### what the translated definitions compute, on concrete inputs (non-vacuity) -/

-- a raise to 10 over a wager of 4 (own wager 2, 100 behind, last raise 2, no limit)
example : Generated.Logic.actRaise true 10 4 2 100 2 false
    = (none, [("acted", 0), ("prev", 6), ("pay", 8), ("resume", 0)]) := rfl

-- the same under pot limit with a request far above the cap: raised = cw + prev = 6, required = 6 + 4 - 2
example : Generated.Logic.actRaise true 50 4 2 100 2 true
    = (none, [("acted", 0), ("prev", 6), ("pay", 8), ("resume", 0)]) := rfl

example : Generated.Logic.actRaise true 4 4 2 100 2 false = (none, [("Call", 0)]) := rfl

example : Generated.Logic.actRaise true 5 4 2 100 2 false = (none, [("Allin", 0)]) := rfl

example : Generated.Logic.actRaise true 3 4 2 100 2 false = (some "ErrIllegalRaise", []) := rfl

example : Generated.Logic.actRaise false 10 4 2 100 2 false = (some "ErrInvalidAction", []) := rfl

-- a call below the big blind completes to the big blind
example : Generated.Logic.actCall true 0 0 10 = (none, [("acted", 0), ("pay", 10), ("resume", 0)]) := rfl

example : Generated.Logic.actBet true (-1) = (some "ErrInvalidAction", []) := rfl

example : Generated.Logic.pay 100 100 0 0 0 0 100 true = (0, 100, 100, 100, "raiser") := rfl

example : Generated.Logic.pay 5 100 95 200 100 10 5 true = (0, 100, 205, 100, "reset") := rfl

end Pokerface.GeneratedLogic
