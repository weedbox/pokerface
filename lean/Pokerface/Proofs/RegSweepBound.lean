/-
  C20, the small bound: a closed form for the potential `phi`.
  With `T` tables, `R` tables needed, `e = (T − R)⁺` spare and `u = (R − T)⁺` missing tables:

      phi ≤ 2·(e + 1)·max + 5·T + 2·e + 2·(max + 3)·u + 1

  (`2·max + 5·T + 1` when there are exactly the tables needed).
-/
import Pokerface.Proofs.RegSweepDefs

namespace Pokerface
namespace Reg

/-- `R·(max − F) ≤ max + R − 2` for `R ≥ 1`: the level is close to `max` when every needed table is needed -/
theorem req_mul_gap (r : Reg) (hm : 0 < r.max) (hR : 0 < r.requiredTables) :
    r.requiredTables * ((r.max : Int) - flr r) ≤ (r.max : Int) + r.requiredTables - 2 := by
  -- N < (F + 1)·R
  have h1 : flr r < flr r + 1 := by omega
  unfold flr at h1
  rw [Int.ediv_lt_iff_lt_mul hR] at h1
  have e1 : (r.playerCount / r.requiredTables + 1) * r.requiredTables =
      r.requiredTables * (r.playerCount / r.requiredTables) + r.requiredTables := by
    rw [Int.add_mul, Int.one_mul, Int.mul_comm]
  -- R·max ≤ N + max − 1
  have h2 : r.requiredTables ≤ (r.playerCount + (r.max : Int) - 1) / (r.max : Int) := Int.le_refl _
  rw [Int.le_ediv_iff_mul_le (by omega)] at h2
  have e2 : r.requiredTables * ((r.max : Int) - flr r) =
      r.requiredTables * (r.max : Int) - r.requiredTables * (r.playerCount / r.requiredTables) := by
    unfold flr
    rw [Int.mul_sub]
  rw [e2]
  omega

theorem Gs_le (r : Reg) (hwf : WF r) (hpc : 0 ≤ r.playerCount) :
    (Gs r : Int) ≤ ((dTR r : Int) + 1) * (r.max : Int) + r.requiredTables := by
  obtain ⟨f0, f1⟩ := flr_bounds r hwf hpc
  have hR0 := ceilDiv_nonneg r.playerCount r.max hwf.maxpos hpc
  have hR0' : 0 ≤ r.requiredTables := hR0
  -- every table contributes at most `max − F`
  have hG : Gs r ≤ r.tables.length * ((r.max : Int) - flr r).toNat :=
    tot_le (gF (flr r)) r.tables _ (fun t ht => by
      have := hwf.bnd t ht
      simp only [gF]
      omega)
  have hG' : (Gs r : Int) ≤ (r.tables.length : Int) * ((r.max : Int) - flr r) := by
    have h1 := Int.ofNat_le.2 hG
    rw [Int.natCast_mul, Int.toNat_of_nonneg (by omega)] at h1
    exact h1
  have hx0 : 0 ≤ (r.max : Int) - flr r := by omega
  have hxM : (r.max : Int) - flr r ≤ (r.max : Int) := by omega
  have hT : (r.tables.length : Int) = r.tableCount := hwf.tc.symm
  rw [hT] at hG'
  by_cases hR : 0 < r.requiredTables
  · have hkey := req_mul_gap r hwf.maxpos hR
    by_cases hTR : r.requiredTables ≤ r.tableCount
    · have hd : (dTR r : Int) = r.tableCount - r.requiredTables := by
        unfold dTR
        omega
      have hsplit : r.tableCount * ((r.max : Int) - flr r) =
          r.requiredTables * ((r.max : Int) - flr r) + (dTR r : Int) * ((r.max : Int) - flr r) := by
        rw [hd, ← Int.add_mul]
        congr 1
        omega
      have h3 : (dTR r : Int) * ((r.max : Int) - flr r) ≤ (dTR r : Int) * (r.max : Int) :=
        Int.mul_le_mul_of_nonneg_left hxM (by omega)
      have e4 : ((dTR r : Int) + 1) * (r.max : Int) = (dTR r : Int) * (r.max : Int) + (r.max : Int) := by
        rw [Int.add_mul, Int.one_mul]
      rw [e4]
      omega
    · have h3 : r.tableCount * ((r.max : Int) - flr r) ≤ r.requiredTables * ((r.max : Int) - flr r) :=
        Int.mul_le_mul_of_nonneg_right (by omega) hx0
      have hd : (dTR r : Int) = 0 := by
        unfold dTR
        omega
      rw [hd]
      omega
  · -- nobody is left: `F = 0`
    have hR' : r.requiredTables = 0 := by omega
    have hF : flr r = 0 := by
      unfold flr
      rw [hR']
      simp
    have htc0 : 0 ≤ r.tableCount := by
      rw [hwf.tc]
      omega
    have hd : (dTR r : Int) = r.tableCount := by
      unfold dTR
      rw [hR']
      omega
    rw [hF, Int.sub_zero] at hG'
    rw [hd, hR', Int.add_mul, Int.one_mul]
    omega

def smallBound (r : Reg) : Nat :=
  2 * (dTR r + 1) * r.max + 5 * r.tables.length + 2 * dTR r + 2 * (r.max + 3) * dRT r + 1

theorem phi_le_smallBound (r : Reg) (hwf : WF r) (hpc : 0 ≤ r.playerCount) :
    phi r ≤ smallBound r := by
  have hG := Gs_le r hwf hpc
  have hD : Ds r ≤ r.tables.length := tot_len _ _ (fun t _ => by simp only [dF]; omega)
  have hq := qind_le r
  have hTP := TP_le r
  have hRu : r.requiredTables ≤ (r.tables.length : Int) + (dRT r : Int) := by
    unfold dRT
    rw [hwf.tc]
    omega
  have hG2 : Gs r ≤ (dTR r + 1) * r.max + (r.tables.length + dRT r) := by
    have : (Gs r : Int) ≤ (((dTR r + 1) * r.max + (r.tables.length + dRT r) : Nat) : Int) := by
      rw [Int.natCast_add, Int.natCast_mul, Int.natCast_add, Int.natCast_add]
      simp only [Int.natCast_one]
      omega
    exact Int.ofNat_le.1 this
  unfold phi psi smallBound
  have e1 : 2 * (dTR r + 1) * r.max = 2 * ((dTR r + 1) * r.max) := by rw [Nat.mul_assoc]
  have e2 : 2 * (r.max + 3) * dRT r = 2 * ((r.max + 2) * dRT r) + 2 * dRT r := by
    rw [Nat.mul_assoc, ← Nat.mul_add]
    congr 1
    rw [Nat.add_mul (r.max) 3, Nat.add_mul (r.max) 2]
    omega
  -- term by term: `G` by `hG2`, the table term by `hTP`, `D` by `hD`, the queue indicator by `hq`
  rw [e1, e2]
  omega

end Reg
end Pokerface
