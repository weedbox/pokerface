import Pokerface.Model.Game
import Pokerface.Generated.LogicGlue
/-
  K1, translated logic (glue between the engine and the pots / the settlement / the evaluator): settlement.go
  `CalculateGameResults`, pot.go `updatePots`, power.go `UpdateCombinationOfAllPlayers` (Generated/LogicGlue.lean).  Each
  is one loop over the players (`CalculateGameResults` has a second one over the pots); the iteration is translated as
  the calls it makes on the result / the level list, in order, with their arguments (`calcResultsStep`,
  `calcResultsPotStep`, `updatePotsStep`), or as the fields of `p.Combination` after it (`updateCombStep`).
  Conventions: header of Proofs/GeneratedLogicBase.lean.
-/
namespace Pokerface.GeneratedLogic
open Pokerface Game

/-! ### pot.go: `updatePots` -/

/-- the reading of one recorded call on the level list (`ll.AddContributor(wager, idx, fold)`) -/
def llStep (ll : LevelList) (e : String × Int × Nat × Bool) : LevelList :=
  if e.1 = "AddContributor" then ll.addContributor e.2.1 e.2.2.1 e.2.2.2 else ll

/-- closed form of the translated iteration, a function of all the numeric and boolean fields of the player
    state: one `AddContributor(p.Pot+p.Wager, p.Idx, p.Fold)`, whatever the other fields are -/
theorem updatePotsStep_eq (idx : Nat) (bankroll initial stack pot wager : Int) (fold acted : Bool) :
    Generated.Logic.updatePotsStep idx bankroll initial stack pot wager fold acted
      = [("AddContributor", pot + wager, idx, fold)] := by rfl

def updatePotsOn (p : Player) : List (String × Int × Nat × Bool) :=
  Generated.Logic.updatePotsStep p.idx p.bankroll p.initial p.stack p.pot p.wager p.fold p.acted

/-- pot.go `updatePots`: `ll := pot.NewLevelList()` (pinned), the translated iteration for every player in
    seat order, `Status.Pots = ll.GetPots()` (pinned) -/
theorem updatePots_eq (g : Game) :
    g.updatePots =
      { g with pots := (g.players.foldl
          (fun ll p => (updatePotsOn p).foldl llStep ll) ({} : LevelList)).getPots } := by
  simp [Game.updatePots, potsOf, List.foldl_map, updatePotsOn, updatePotsStep_eq, llStep]

/-! ### settlement.go: `CalculateGameResults` -/

/-- the reading of one recorded call of the pot loop (`r.AddPot(total, levels)`) -/
def resPotStep (r : Result) (e : String × Int × List Level) : Result :=
  if e.1 = "AddPot" then r.addPot e.2.1 e.2.2 else r

/-- the reading of one recorded call of the player loop (`r.AddPlayer(idx, bankroll)`, `r.UpdateScore(idx, score)`) -/
def resStep (r : Result) (e : String × Nat × Int) : Result :=
  if e.1 = "AddPlayer" then r.addPlayer e.2.1 e.2.2
  else if e.1 = "UpdateScore" then r.updateScore e.2.1 e.2.2
  else r

/-- `p.Combination.Power` (the model reads 0 where the Go code would dereference a nil `Combination`) -/
def combPower (p : Player) : Int := ((p.comb.map (·.power)).getD 0 : Nat)

/-- closed form of the translated iterations (functions of all the fields of the pot / of the player state):
    every pot is added with its total and its levels; every player is added with `(Idx, Bankroll)` and scored
    0 when folded, `Combination.Power` otherwise, whatever the other fields are -/
theorem calcResultsStep_eq (idx : Nat) (bankroll initial stack pot wager : Int) (fold acted : Bool) (power : Int) :
    Generated.Logic.calcResultsStep idx bankroll initial stack pot wager fold acted power
      = [("AddPlayer", idx, bankroll), ("UpdateScore", idx, if fold then 0 else power)] ∧
    ∀ (level wager total : Int) (levels : List Level),
      Generated.Logic.calcResultsPotStep level wager total levels = [("AddPot", total, levels)] := by
  refine ⟨?_, fun _ _ _ _ => rfl⟩
  cases fold <;> rfl

def calcResultsOnPot (p : Pot) : List (String × Int × List Level) :=
  Generated.Logic.calcResultsPotStep p.level p.wager p.total p.levels

def calcResultsOn (p : Player) : List (String × Nat × Int) :=
  Generated.Logic.calcResultsStep p.idx p.bankroll p.initial p.stack p.pot p.wager p.fold p.acted (combPower p)

/-- settlement.go `CalculateGameResults`: `r := settlement.NewResult()` (pinned), the translated pot
    iteration for every pot, the translated player iteration for every player in seat order,
    `r.Calculate()` and `g.gs.Result = r` (pinned) -/
theorem calculateGameResults_eq (g : Game) :
    g.calculateGameResults =
      (let r0 : Result := {}
       let r1 := g.pots.foldl (fun r p => (calcResultsOnPot p).foldl resPotStep r) r0
       let r2 := g.players.foldl (fun r p => (calcResultsOn p).foldl resStep r) r1
       { g with result := some r2.calculate }) := by
  unfold Game.calculateGameResults gameResults
  simp only [List.foldl_map]
  congr 4
  · funext r p
    cases h : p.fold <;>
      simp [calcResultsOn, (calcResultsStep_eq ..).1, resStep, combPower, h]

/-! ### power.go: `UpdateCombinationOfAllPlayers` -/

/-- closed form of the translated iteration (for any types of symbol, card and score): the power state
    comes from `CalculatePlayerPower(p)`; a player without `Combination` is skipped (nothing assigned);
    otherwise `Type` := the symbol of the category of the power state, `Cards` := a fresh slice holding
    the cards of the power state, `Power` := its score -/
theorem updateCombStep_eq {T C W : Type} (hasComb : Bool) (t t' : T) (c c' : List C) (w w' k : W) :
    Generated.Logic.updateCombStep hasComb t c w t' c' w' k
      = ("CalculatePlayerPower(p)", if hasComb then (t', c', w') else (t, c, w)) := by
  cases hasComb <;> simp [Generated.Logic.updateCombStep]

/-- one translated iteration applied to a player of the model, given the power state `pw` of that player
    (`k`: the category of `pw` as a number, which the iteration may read but does not):
    the three fields of `p.comb` are what the translated body leaves in `p.Combination` -/
def applyCombStep (p : Player) (pw : Power) (k : Nat) : Player :=
  let c := p.comb.getD {}
  let r := Generated.Logic.updateCombStep p.comb.isSome c.cat c.cards c.power (some pw.cat) pw.cards pw.score k
  { p with comb := p.comb.map fun _ => { cat := r.2.1, cards := r.2.2.1, power := r.2.2.2 } }

/-- power.go `UpdateCombinationOfAllPlayers`: for every player the translated iteration on the power state
    `CalculatePlayerPower(p)` (`playerPower`; a player without candidate hand — `powers[0]` panics in Go —
    is left as is); the iteration without `Combination` assigns nothing -/
theorem updateCombinations_eq (g : Game) (k : Nat) :
    (∀ {T C W : Type} (t t' : T) (c c' : List C) (w w' k : W),
      Generated.Logic.updateCombStep false t c w t' c' w' k = ("CalculatePlayerPower(p)", t, c, w)) ∧
    g.updateCombinations = g.mapP fun p =>
      match playerPower g.opts.lvl g.opts.table g.board p.hole g.opts.required with
      | none => p
      | some pw => applyCombStep p pw k := by
  refine ⟨fun t t' c c' w w' k => updateCombStep_eq false t t' c c' w w' k, ?_⟩
  unfold Game.updateCombinations
  congr 1
  funext p
  cases hpw : playerPower g.opts.lvl g.opts.table g.board p.hole g.opts.required with
  | none => cases hc : p.comb <;> simp [newComb, hc]
  | some pw =>
    cases hc : p.comb with
    | none =>
      simp [newComb, applyCombStep, hc]
      rw [← hc]
    | some c => simp [newComb, applyCombStep, hc, updateCombStep_eq]

/-! ### what the translated definitions compute, on concrete inputs (non-vacuity) -/

example : Generated.Logic.calcResultsStep 2 1000 400 300 60 40 true false 77 = [("AddPlayer", 2, 1000), ("UpdateScore", 2, 0)] := rfl

example : Generated.Logic.calcResultsStep 2 1000 400 300 60 40 false false 77 = [("AddPlayer", 2, 1000), ("UpdateScore", 2, 77)] := rfl

example : Generated.Logic.updatePotsStep 1 1000 400 300 30 20 true false = [("AddContributor", 50, 1, true)] := rfl

example : Generated.Logic.updateCombStep true "" ["S2"] 0 "Pair" ["HA", "SA"] 5 1 = ("CalculatePlayerPower(p)", "Pair", ["HA", "SA"], 5) := rfl

end Pokerface.GeneratedLogic
