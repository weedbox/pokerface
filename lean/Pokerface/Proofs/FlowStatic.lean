import Pokerface.Proofs.FlowStep
/-
  The static fields of every seat (`idx`, positions, `bankroll`), the options and the number of seats are those
  of the configuration in every reachable state: `Static` (Proofs/EnginePay.lean) through every operation,
  every run, and from `start`.
-/
namespace Pokerface
open Game

theorem static_start (c : Config) (hs : (start c).2 = none) : Static c.game0 (start c).1 := (wr_start c hs).static

/-- In every state of every run from an accepted configuration, seat `i` holds the index, the
    positions and the bankroll of the `i`-th configured seat. -/
theorem static_of_config (c : Config) (hs : (start c).2 = none) (ops : List Op) :
    ((start c).1.run ops).players.map Player.static = c.players.map Player.static :=
  ((static_start c hs).trans (wr_run _ ops).static).ids

theorem config_players_static (c : Config) (i : Nat) :
    (c.players[i]?).map Player.static = (c.seats[i]?).map fun s => (i, s.dealer, s.sb, s.bb, s.bankroll) := by
  rw [config_players_getElem?, Option.map_map]
  rfl

theorem seat_static_of_config (c : Config) (hs : (start c).2 = none) (ops : List Op) (i : Nat) :
    (((start c).1.run ops).players[i]?).map Player.static =
      (c.seats[i]?).map fun s => (i, s.dealer, s.sb, s.bb, s.bankroll) := by
  have h := congrArg (fun l => l[i]?) (static_of_config c hs ops)
  simp only [List.getElem?_map] at h
  rw [h, config_players_static]

end Pokerface
