import Pokerface.Proofs.RegEq
import Pokerface.Generated.LogicReg
import Pokerface.Proofs.GeneratedLogicLoops
/-
  K1, translated logic (tournament regulator): regulator/regulator.go (Generated/LogicReg.lean; the float readings are
  listed at its head), against Model/Regulator.lean through Proofs/RegEq.lean (table updates `upd` / `adj`, what
  `releaseLoop` does to the sheet).  Conventions: header of Proofs/GeneratedLogicBase.lean.
-/
namespace Pokerface.GeneratedLogic
open Pokerface Reg
open Pokerface.Generated.Logic

/-- regulator.go `SetStatus`: unchanged status ⇒ nothing; else the status is stored and the queue is drained
    exactly on the move pending → normal, with the new status already in force (`g.2.1`, the status recorded at the
    call, is the final one) -/
theorem regSetStatus_eq (r : Reg) (s : RStatus) (ch : List Nat) :
    r.setStatus s ch =
      (let b := r.beginOp ch
       let g := regSetStatus RStatus.pending RStatus.normal RStatus.afterRegDeadline b.status s
       if g.2.2 = ["drainWaitingQueue"] ∧ g.2.1 = g.1 then ({ b with status := g.2.1 }).drainWaitingQueue
       else { b with status := g.1 }) := by
  unfold Reg.setStatus regSetStatus
  cases h : (r.beginOp ch).status <;> cases s <;> simp [h]
  all_goals rw [← h]

/-- regulator.go `AddPlayers`: refused after the registration deadline with the count untouched; else the count
    grows by `len(players)`, then `updateTableRequirements` — which sees the new count (`g.2.1`, the count recorded
    at that call, is the final one) — then `enterWaitingQueue` -/
theorem regAddPlayers_eq (r : Reg) (ps ch : List Nat) :
    r.addPlayers ps ch =
      (let b := r.beginOp ch
       let g := regAddPlayers RStatus.pending RStatus.normal RStatus.afterRegDeadline b.status b.playerCount ps.length
       if g.2.2 = ["ErrAfterRegDealline"] then ({ b with playerCount := g.1 }, some .afterRegDeadline)
       else if g.2.2 = ["updateTableRequirements", "enterWaitingQueue(players)"] ∧ g.2.1 = g.1 then
         (({ b with playerCount := g.2.1 }).updateTableRequirements.enterWaitingQueue ps, none)
       else (b, some .badChoice)) := by
  unfold Reg.addPlayers regAddPlayers
  generalize r.beginOp ch = b
  rcases b with ⟨mx, mn, pc, tc, st, q, ts, nid, calls, chs, bad⟩
  cases st <;> simp

/-- the reading of the steps of `enterWaitingQueue` -/
def enterStep (r : Reg) (e : String) : Reg :=
  if e = "drainWaitingQueue" then r.drainWaitingQueue else r

/-- regulator.go `enterWaitingQueue`: the players are appended to the queue; pending ⇒ nothing else, otherwise
    the queue is drained -/
theorem regEnterWaitingQueue_eq (r : Reg) (ps : List Nat) :
    r.enterWaitingQueue ps =
      (let g := regEnterWaitingQueue RStatus.pending RStatus.normal RStatus.afterRegDeadline r.status r.queue ps
       g.2.foldl enterStep { r with queue := g.1 }) := by
  unfold Reg.enterWaitingQueue regEnterWaitingQueue
  cases r.status <;> simp [enterStep]

/-- regulator.go `ReleasePlayers`: `enterWaitingQueue(players)` and nothing else -/
theorem regReleasePlayers_eq (r : Reg) (ps ch : List Nat) :
    regReleasePlayers = ["enterWaitingQueue(players)"] ∧
    r.releasePlayers ps ch = (r.beginOp ch).enterWaitingQueue ps := ⟨rfl, rfl⟩

/-- regulator.go `breakTable` (on a table that exists, the only use `SyncState` makes of it): the table is
    deleted and the table count decremented; an unknown table is refused with the count untouched -/
theorem regBreakTable_eq (r : Reg) (id : Nat) :
    regBreakTable false r.tableCount = (r.tableCount, ["ErrNotFoundTable"]) ∧
    r.breakTable id =
      (let g := regBreakTable true r.tableCount
       { r with tables := if "delete" ∈ g.2 then r.tables.filter (·.id != id) else r.tables, tableCount := g.1 }) := by
  constructor
  · simp [regBreakTable]
  · simp [Reg.breakTable, regBreakTable]

/-- regulator.go `getAvailableTable`, one iteration: a table is returned iff it still requires players -/
theorem regAvailableStep_eq (required : Int) : regAvailableStep required = decide (required > 0) := by
  unfold regAvailableStep
  by_cases h : required > 0 <;> simp [h]

/-- closed form of the translated iteration: the requirement is raised to `waterLevel - PlayerCount` on a table
    below the water level and kept otherwise, whatever `remains` and `playerRemains` are (the loop updates them
    but never reads them again) -/
theorem regUpdateReqStep_eq (wl c q rem prem : Int) :
    regUpdateReqStep wl c q rem prem = (if c < wl then wl - c else q, rem - 1, prem - wl) := by
  unfold regUpdateReqStep
  by_cases h : c < wl <;> simp [h]

/-- regulator.go `updateTableRequirements`: the loop runs iff `ceil(playerCount / max) = len(tables)`, with the
    water level `ceil(playerCount / requiredTables)`; every table gets the translated iteration -/
theorem regUpdateReq_eq (r : Reg) :
    r.updateTableRequirements =
      (let g := regUpdateReq r.playerCount r.max r.tables.length
       if g.1 then
         { r with tables := r.tables.map fun t =>
             { t with required := (regUpdateReqStep g.2.1 t.count t.required g.2.2.1 g.2.2.2).1 } }
       else r) := by
  unfold Reg.updateTableRequirements regUpdateReq
  simp only [regUpdateReqStep_eq, Reg.requiredTables, Reg.ceilDiv, regCeilDiv]
  by_cases h : (r.playerCount + (r.max : Int) - 1) / (r.max : Int) = (r.tables.length : Int)
  · have hwl : (if (r.tables.length : Int) > 0 then (r.playerCount + (r.tables.length : Int) - 1) / (r.tables.length : Int) else 0)
        = (r.playerCount + (r.tables.length : Int) - 1) / (r.tables.length : Int) := by
      by_cases h0 : (r.tables.length : Int) > 0
      · rw [if_pos h0]
      · have : (r.tables.length : Int) = 0 := by omega
        rw [if_neg h0, this]
        simp
    simp only [h, hwl, if_true, beq_self_eq_true]
    congr 1
    apply List.map_congr_left
    intro t _
    by_cases hc : t.count < (r.playerCount + (r.tables.length : Int) - 1) / (r.tables.length : Int) <;> simp [hc]
  · simp [h]

theorem regLowCountStep_eq (wl n c : Int) : regLowCountStep wl n c = if c < wl then n + 1 else n := by
  unfold regLowCountStep
  by_cases h : c < wl <;> simp [h]

theorem foldl_lowCount (wl : Int) (ts : List RTable) (n : Int) :
    ts.foldl (fun n t => regLowCountStep wl n t.count) n = n + ((ts.filter fun t => decide (t.count < wl)).length : Int) := by
  simpa [regLowCountStep_eq] using foldl_count (fun t : RTable => decide (t.count < wl)) ts n

/-- regulator.go `getLowWaterLevelTableCount`: the water level is `floor(playerCount / ceil(playerCount / max))`, the
    count starts at 0 and the translated iteration runs over every table -/
theorem regLowCount_eq (r : Reg) :
    (r.lowWaterLevelTableCount : Int) =
      (let g := regLowCountInit r.playerCount r.max
       r.tables.foldl (fun n t => regLowCountStep g.1 n t.count) g.2) := by
  simp only [foldl_lowCount, Reg.lowWaterLevelTableCount, regLowCountInit, Reg.requiredTables, Reg.ceilDiv, regCeilDiv, regFloorDiv]
  simp
  rfl

theorem regLowerStep_eq (wl n pc c : Int) : regLowerStep wl n pc c = if c ≤ wl then (n + 1, pc) else (n, pc - c) := by
  unfold regLowerStep
  by_cases h : c ≤ wl <;> simp [h]

theorem foldl_lower (wl : Int) (ts : List RTable) (n pc : Int) :
    ts.foldl (fun a t => regLowerStep wl a.1 a.2 t.count) (n, pc) =
      (n + ((ts.filter fun t => decide (t.count ≤ wl)).length : Int),
       pc - ((ts.filter fun t => !decide (t.count ≤ wl)).map (·.count)).sum) := by
  induction ts generalizing n pc with
  | nil => simp
  | cons t ts ih =>
    rw [List.foldl_cons, regLowerStep_eq, List.filter_cons, List.filter_cons]
    by_cases h : t.count ≤ wl
    · simp only [h, if_true, ih, decide_true, Bool.not_true, Bool.false_eq_true, if_false, List.length_cons]
      congr 1
      push_cast
      omega
    · simp only [h, if_false, ih, decide_false, Bool.not_false, if_true, List.map_cons, List.sum_cons, Bool.false_eq_true]
      congr 1
      omega

/-- what `calculateLowerWaterLevel` returns, as the pair (denominator, numerator) = (`tableCount`, `playerCount`)
    of its float quotient: the translated start values, then the translated iteration over every table -/
def lowerWL (r : Reg) : Int × Int :=
  let g := regLowerInit r.playerCount r.max
  r.tables.foldl (fun a t => regLowerStep g.1 a.1 a.2 t.count) (g.2.1, g.2.2)

/-- regulator.go `calculateLowerWaterLevel` and the test `lwl >= math.Floor(waterLevel)` of `SyncState`: the model's
    `lowerWaterLevelReached` is the translated test on the translated quotient (`regReleaseStep` stops, i.e. its first
    component is `false`, exactly when the lower water level is reached) -/
theorem regLower_eq (r : Reg) (f p c : Int) :
    r.lowerWaterLevelReached f = !(regReleaseStep (lowerWL r).2 (lowerWL r).1 f p c).1 := by
  unfold Reg.lowerWaterLevelReached lowerWL regLowerInit
  -- the translated water level is the model's; with it a variable both sides are the same test on the same two sums
  have hwl : regFloorDiv r.playerCount (regCeilDiv r.playerCount r.max) = r.playerCount / r.requiredTables := rfl
  simp only [hwl, foldl_lower, regReleaseStep, Int.zero_add]
  generalize r.playerCount / r.requiredTables = wl
  generalize ((r.tables.filter fun t => decide (t.count ≤ wl)).length : Int) = tc
  generalize r.playerCount - ((r.tables.filter fun t => !decide (t.count ≤ wl)).map (·.count)).sum = pc
  by_cases h0 : tc = 0
  · by_cases h1 : pc > 0 <;> simp [h0, h1]
  · by_cases h1 : pc ≥ f * tc <;> simp [h0, h1]

/-- `for i := 0; i < count; i++ { … }` (header pinned) with a translated body that may `break`: at most `k`
    iterations on the pair (waiting queue, players) -/
def runTake (step : List Nat → List Nat → Bool × List Nat × List Nat) : Nat → List Nat × List Nat → List Nat × List Nat
  | 0, s => s
  | k + 1, s => let g := step s.1 s.2; if g.1 then runTake step k g.2 else g.2

theorem regTakeStep_eq (q p : List Nat) :
    regRequestPlayersStep q p = (!q.isEmpty, q.drop 1, p ++ q.take 1) ∧
    regGetPlayersStep q p = (!q.isEmpty, q.drop 1, p ++ q.take 1) := by
  cases q <;> simp [regRequestPlayersStep, regGetPlayersStep] <;> omega

theorem runTake_eq (step : List Nat → List Nat → Bool × List Nat × List Nat)
    (hstep : ∀ q p, step q p = (!q.isEmpty, q.drop 1, p ++ q.take 1)) (k : Nat) (q p : List Nat) :
    runTake step k (q, p) = (q.drop k, p ++ q.take k) := by
  induction k generalizing q p with
  | zero => simp [runTake]
  | succ k ih =>
    cases q with
    | nil => simp [runTake, hstep]
    | cons a q => simp [runTake, hstep, ih]

/-- regulator.go `requestPlayers` and `getPlayersFromWaitingQueue` (the model's `takeQueue`): `players` starts
    empty, the translated iteration runs at most `count` times, moving the head of the queue to `players` -/
theorem regTakeQueue_eq (r : Reg) (count : Int) :
    r.takeQueue count =
      (let s := runTake regRequestPlayersStep count.toNat (r.queue, [])
       (s.2, { r with queue := s.1 })) ∧
    r.takeQueue count =
      (let s := runTake regGetPlayersStep count.toNat (r.queue, [])
       (s.2, { r with queue := s.1 })) := by
  constructor
  · rw [runTake_eq _ fun q p => (regTakeStep_eq q p).1]
    simp [Reg.takeQueue]
  · rw [runTake_eq _ fun q p => (regTakeStep_eq q p).2]
    simp [Reg.takeQueue]

theorem regReleaseStep_eq (n d f p c : Int) :
    regReleaseStep n d f p c =
      if (if d = 0 then decide (n > 0) else decide (n ≥ f * d)) = true then (false, p, c, c) else (true, p + 1, c - 1, c) := by
  unfold regReleaseStep
  by_cases h : d = 0 <;> simp [h]

/-- regulator.go `SyncState`, one iteration of the release loop, for any value `c` of `t.PlayerCount`: the loop
    stops when the translated test on `calculateLowerWaterLevel()` holds (a call made while `t.PlayerCount` still is
    `c`: fourth component); otherwise `picked++` and `t.PlayerCount--` -/
theorem regReleaseStep_loop (k id : Nat) (f : Int) (r : Reg) (p : Nat) (c : Int) :
    releaseLoop (k + 1) id f r p =
      (let s := regReleaseStep (lowerWL r).2 (lowerWL r).1 f p c
       if s.1 = true ∧ s.2.2.2 = c then
         releaseLoop k id f (r.setTable id fun t => { t with count := t.count + (s.2.2.1 - c) }) s.2.1.toNat
       else (p, r)) := by
  rw [releaseLoop, regLower_eq r f p c]
  rw [regReleaseStep_eq]
  generalize (if (lowerWL r).1 = 0 then decide ((lowerWL r).2 > 0) else decide ((lowerWL r).2 ≥ f * (lowerWL r).1)) = b
  have h1 : (((p : Int) + 1).toNat) = p + 1 := by omega
  have h2 : ∀ x : Int, x + (c - 1 - c) = x - 1 := fun x => by omega
  cases b <;> simp [h1, h2]

/-- closed form of the translated `dispatchPlayer`: no table (or a table that requires nobody) ⇒
    `ErrNoAvailableTable`; else the first `Required` candidates are picked and assigned, the others are left,
    `Required` decreases and `PlayerCount` increases by the number picked -/
theorem regDispatchPlayerClosed_eq (tNil : Bool) (req cnt : Int) (cands : List Nat) :
    regDispatchPlayer tNil req cnt cands =
      if tNil = true ∨ req = 0 then none
      else some (cands.drop req.toNat, cands.take req.toNat, req - (cands.take req.toNat).length,
                 cnt + (cands.take req.toNat).length) := by
  unfold regDispatchPlayer
  cases tNil
  · by_cases h0 : req = 0
    · simp [h0]
    · by_cases h1 : req ≥ (cands.length : Int)
      · have ht : cands.take req.toNat = cands := List.take_of_length_le (by omega)
        have hd : cands.drop req.toNat = [] := List.drop_of_length_le (by omega)
        simp [h0, h1, ht, hd]
      · have h2 : req < (cands.length : Int) := by omega
        simp [h0, h1, h2]
  · simp

/-- what the model does when the choice input is not a table that requires players (artefact of the model:
    the Go code takes the table from its own map iteration) -/
def badChoiceOf (r : Reg) (cands : List Nat) : Option (List Nat × Reg) :=
  some (cands, { r with badChoice := true, choices := [] })

/-- regulator.go `dispatchPlayer` (with `getAvailableTable`): no table requires players (translated test of
    `getAvailableTable` on every table) ⇒ the translated function on `t == nil`; otherwise on the chosen table
    `t` (validated by the same translated test): candidates left, players assigned through the callback, and the
    changes of `t.Required` and `t.PlayerCount` -/
theorem regDispatchPlayer_eq (r : Reg) (cands : List Nat) :
    r.dispatchPlayer cands =
      (if !(r.tables.any fun t => regAvailableStep t.required) then
         (regDispatchPlayer true 0 0 cands).map fun g => (g.1, r)
       else
         match r.choices with
         | [] => badChoiceOf r cands
         | c :: cs =>
           match r.findTable c with
           | none => badChoiceOf r cands
           | some t =>
             if !regAvailableStep t.required then badChoiceOf r cands
             else
               (regDispatchPlayer false t.required t.count cands).map fun g =>
                 (g.1, ({ r with choices := cs, calls := r.calls ++ [RCall.assign t.id g.2.1] }).setTable t.id fun t' =>
                    { t' with required := t'.required + (g.2.2.1 - t.required), count := t'.count + (g.2.2.2 - t.count) })) := by
  unfold Reg.dispatchPlayer
  simp only [regAvailableStep_eq, regDispatchPlayerClosed_eq, badChoiceOf]
  by_cases hany : (r.tables.any fun t => decide (t.required > 0)) = true
  · simp only [hany, Bool.not_true, Bool.false_eq_true, if_false]
    cases r.choices with
    | nil => rfl
    | cons c cs =>
      simp only
      cases r.findTable c with
      | none => rfl
      | some t =>
        simp only
        by_cases hr : t.required ≤ 0
        · have : ¬ t.required > 0 := by omega
          simp [hr, this]
        · have h1 : t.required > 0 := by omega
          have h2 : ¬ t.required = 0 := by omega
          have e1 : ∀ x n : Int, x + (t.required - n - t.required) = x - n := fun x n => by omega
          have e2 : ∀ x n : Int, x + (t.count + n - t.count) = x + n := fun x n => by omega
          simp [hr, h1, h2, e1, e2]
  · simp [hany]

/-- the reading of one step of `drainWaitingQueue` on the pair (`candidates`, regulator); the two dispatch loops
    (pinned by their printed form) are the model's `dispatchLoop`, whose iteration is `regDispatchPlayer_eq` -/
def drainStep (s : List Nat × Reg) (e : String) : List Nat × Reg :=
  if e = "allocateTables" then (s.1, s.2.allocateTables)
  else if e = "candidates := r.waitingQueue" then (s.2.queue, s.2)
  else if e = "dispatchLoop" then dispatchLoop (s.1.length + 1) s.1 s.2
  else if e = "updateTableRequirements" then (s.1, s.2.updateTableRequirements)
  else if e = "r.waitingQueue = candidates" then (s.1, { s.2 with queue := s.1 })
  else s

/-- regulator.go `drainWaitingQueue`: with `lenAfter k` the length of `candidates` after the `k`-th dispatch
    loop, the model's function is the translated list of steps, read by `drainStep` -/
theorem regDrain_eq (r : Reg) :
    r.drainWaitingQueue =
      (let d1 := dispatchLoop (r.queue.length + 1) r.queue r
       let u := if !d1.1.isEmpty then d1.2.updateTableRequirements else d1.2
       let d2 := dispatchLoop (d1.1.length + 1) d1.1 u
       let lenAfter := fun k : Int => if k = 1 then (d1.1.length : Int) else (d2.1.length : Int)
       ((regDrain r.tableCount r.queue.length r.min lenAfter).foldl drainStep ([], r)).2) := by
  unfold Reg.drainWaitingQueue regDrain
  simp only [Bool.and_eq_true, beq_iff_eq, decide_eq_true_eq]
  by_cases h0 : r.tableCount = 0 ∧ (r.queue.length : Int) ≥ (r.min : Int)
  · simp only [if_pos h0]
    simp [drainStep]
  · simp only [if_neg h0]
    by_cases h1 : r.tableCount > 0
    · simp only [h1, if_true]
      generalize hd1 : dispatchLoop (r.queue.length + 1) r.queue r = d1
      obtain ⟨c1, r1⟩ := d1
      cases c1 with
      | nil =>
        have hnil : ∀ x : Reg, dispatchLoop (0 + 1) [] x = ([], x) := fun x => by simp [dispatchLoop]
        simp [drainStep, hd1, hnil]
      | cons a c1 =>
        simp only [List.isEmpty_cons, Bool.not_false, if_true]
        generalize hd2 : dispatchLoop ((a :: c1).length + 1) (a :: c1) r1.updateTableRequirements = d2
        obtain ⟨c2, r2⟩ := d2
        simp only [List.length_cons] at hd2
        cases c2 with
        | nil => simp [drainStep, hd1, hd2]
        | cons b c2 => simp [drainStep, hd1, hd2]
    · simp [h1, drainStep]

theorem allocateLoop_stop (fuel : Nat) (wl req : Int) (r : Reg) (h : ¬ (wl ≥ (r.min : Int) ∧ r.tableCount < req)) :
    allocateLoop fuel wl req r = r := by
  cases fuel with
  | zero => rfl
  | succ fuel => rw [allocateLoop, if_neg h]

/-- regulator.go `allocateTables`, up to its loop: nothing happens without a table and with fewer players than
    `minInitialPlayers`; otherwise the loop starts with the translated water level and number of tables -/
theorem regAllocInit_eq (r : Reg) :
    r.allocateTables =
      (match regAllocInit r.playerCount r.max r.min r.tableCount with
       | none => r
       | some g => allocateLoop (r.queue.length + 1) g.1 g.2 r) := by
  unfold Reg.allocateTables regAllocInit
  have hreq : regCeilDiv r.playerCount r.max = r.requiredTables := rfl
  have hreq0 : r.playerCount ≥ 0 → r.requiredTables ≥ 0 := by
    intro hp
    show (r.playerCount + (r.max : Int) - 1) / (r.max : Int) ≥ 0
    by_cases hm : r.max = 0
    · simp [hm]
    · exact Int.ediv_nonneg (by omega) (by omega)
  simp only [hreq, regFloorDiv, beq_iff_eq, decide_eq_true_eq]
  generalize r.requiredTables = req at *
  by_cases h0 : r.tableCount = 0
  · simp only [h0, if_true]
    by_cases h1 : r.playerCount < (r.min : Int)
    · simp [h1]
    · have hwl : (if req > 0 then r.playerCount / req else 0) = r.playerCount / req := by
        by_cases h : req > 0
        · rw [if_pos h]
        · have : req = 0 := by
            have := hreq0 (by omega)
            omega
          simp [this]
      simp only [h1, if_false, hwl]
      by_cases h2 : r.playerCount / req ≥ (r.min : Int) <;> simp [h2]
  · simp only [h0, if_false]
    by_cases h1 : r.tableCount > 0
    · simp only [h1, if_true]
      by_cases h : req > 0
      · rw [if_pos h]
      · by_cases h' : req = 0
        · simp [h']
        · -- `req < 0` with tables there: the two sides are `allocateLoop` with different water levels, and equal
          -- because neither loop runs
          rw [allocateLoop_stop _ _ _ _ (by omega), allocateLoop_stop _ _ _ _ (by omega)]
    · simp [h1]

/-- closed form of the translated iteration of the loop of `allocateTables`: the water level is capped at the table
    size; the table asks for `waterLevel` players, or for the whole queue when that is more but less than a full
    table; no players ⇒ stop; else a table is requested and stored with `Required = waterLevel - len(players)` when
    positive, and the next water level is `floor(len(queue) / (requiredTables - tableCount))` -/
theorem regAllocStepClosed_eq (wl0 req tc qlen mx : Int) (got : Int → Int) :
    regAllocStep wl0 req tc qlen mx got =
      (let wl := if wl0 > mx then mx else wl0
       let rp := if qlen > wl ∧ qlen < mx then qlen else wl
       let n := got rp
       if n = 0 then (false, wl, tc, rp, 0, 0, [])
       else (true, (qlen - n) / (req - (tc + 1)), tc + 1, rp, (if n < wl then wl - n else 0), n, ["requestTable", "store"])) := by
  unfold regAllocStep
  simp only [regFloorDiv, Bool.and_eq_true, decide_eq_true_eq]
  by_cases h1 : wl0 > mx
  · by_cases h2 : qlen > mx ∧ qlen < mx
    · omega
    · simp only [h1, h2, if_true, if_false]
      by_cases h3 : got mx = 0
      · simp [h3]
      · by_cases h4 : got mx < mx <;> simp [h3, h4]
  · by_cases h2 : qlen > wl0 ∧ qlen < mx
    · simp only [h1, h2, if_false]
      by_cases h3 : got qlen = 0
      · simp [h3]
      · by_cases h4 : got qlen < wl0 <;> simp [h3, h4]
    · simp only [h1, h2, if_false]
      by_cases h3 : got wl0 = 0
      · simp [h3]
      · by_cases h4 : got wl0 < wl0 <;> simp [h3, h4]

/-- regulator.go `allocateTables`, one iteration of its loop (header pinned: `waterLevel >= minInitialPlayers &&
    tableCount < requiredTables`): with `got a` the number of players the queue yields when `a` are asked, the
    model's recursion is the translated iteration -/
theorem regAllocStep_eq (fuel : Nat) (wl req : Int) (r : Reg) :
    allocateLoop (fuel + 1) wl req r =
      (if wl ≥ (r.min : Int) ∧ r.tableCount < req then
         let g := regAllocStep wl req r.tableCount r.queue.length r.max fun a => ((r.queue.take a.toNat).length : Int)
         let players := r.queue.take g.2.2.2.1.toNat
         let r1 := { r with queue := r.queue.drop g.2.2.2.1.toNat }
         if g.1 = false then r1
         else if g.2.2.2.2.2.2 = ["requestTable", "store"] then
           allocateLoop fuel g.2.1 req
             { r1 with nextId := r.nextId + 1, calls := r.calls ++ [RCall.requestTable r.nextId players],
                       tableCount := g.2.2.1,
                       tables := r.tables ++ [{ id := r.nextId, required := g.2.2.2.2.1, count := g.2.2.2.2.2.1 }] }
         else r1
       else r) := by
  rw [allocateLoop, regAllocStepClosed_eq]
  by_cases hh : wl ≥ (r.min : Int) ∧ r.tableCount < req
  · rw [if_pos hh, if_pos hh]
    dsimp only [Reg.takeQueue]
    generalize (if wl > (r.max : Int) then (r.max : Int) else wl) = w
    generalize (if (r.queue.length : Int) > w ∧ (r.queue.length : Int) < (r.max : Int) then (r.queue.length : Int) else w) = rp
    have hlen : ((r.queue.drop rp.toNat).length : Int) = (r.queue.length : Int) - ((r.queue.take rp.toNat).length : Int) := by
      simp
      omega
    simp only [isEmpty_eq_length, hlen]
    generalize ((r.queue.take rp.toNat).length : Int) = n
    by_cases hn : n = 0
    · simp [hn]
    · simp only [hn, decide_false, Bool.false_eq_true, if_false]
      by_cases hexp : req - (r.tableCount + 1) ≤ 0
      · simp only [hexp, if_true]
        -- no table is left to open: the model returns here; the translated step has no such exit, its next water
        -- level divides by `req - (tableCount + 1) ≤ 0`, and the loop run on it stops at once, `tableCount + 1 < req`
        -- being false whatever the level
        rw [allocateLoop_stop]
        · simp
        · simp only
          omega
      · simp only [hexp, if_false]
        simp
  · simp [hh]

/-- closed form of the translated `SyncState` (`got a`: players obtained from the queue when `a` are asked;
    `released c f`: players released by the release loop run for at most `c` rounds against the floor `f`) -/
theorem regSyncStateClosed_eq {S : Type} [BEq S] (pending normal after : S) (found : Bool) (status : S)
    (pc tcount treq out mx tableCount : Int) (lowCount : Int → Int → Int) (got : Int → Int)
    (released : Int → Int → Int → Int → Int) :
    regSyncState pending normal after found status pc tcount treq out mx tableCount lowCount got released =
      (let pc' := pc - out
       let tc := tcount - out
       let req := regCeilDiv pc' mx
       if found = false then ("ErrNotFoundTable", 0, 0, pc, tcount, treq, [])
       else if (status == after) = true ∧ pc' ≤ mx ∧ req < tableCount then ("ok", tc, 0, pc', tc, treq, ["breakTable"])
       else if req > 0 ∧ tc * req < pc' then
         if lowCount pc' tc ≥ 2 ∧ req < tableCount then ("ok", tc, 0, pc', tc, treq, ["breakTable"])
         else
           let count := pc' / req - tc
           if count - got count > 0 then ("players", 0, count, pc', tc + got count, count - got count, ["setRequired"])
           else ("players", 0, count, pc', tc + got count, treq, [])
       else if req > 0 ∧ tc * req > pc' then
         ("ok", 0 + released pc' tc (tc - pc' / req) (pc' / req), 0, pc', tc - released pc' tc (tc - pc' / req) (pc' / req), treq, [])
       else ("ok", 0, 0, pc', tc, treq, [])) := by
  unfold regSyncState
  cases found
  · rfl
  · simp only [Bool.not_true, Bool.false_eq_true, if_false, Bool.true_eq_false, Bool.and_eq_true, decide_eq_true_eq,
      List.nil_append]
    -- the translated text repeats what follows the test of the deadline under both of its branches
    by_cases hs : (status == after) = true
    · simp only [hs, if_true, true_and]
    · simp only [hs, Bool.false_eq_true, if_false, false_and]

theorem fun_add_req (a x : Int) : (fun t : RTable => { t with required := x, count := t.count + a }) = adj a (some x) := by
  funext t
  simp [adj]

theorem setTable_count_zero (r : Reg) (id : Nat) : (r.setTable id fun t => { t with count := t.count - 0 }) = r := by
  simp [Reg.setTable]

/-- regulator.go `SyncState`: the model's function is the translated decision, read on the model state.
    `getLowWaterLevelTableCount` and the release loop see the state with the values of `r.playerCount` and
    `t.PlayerCount` current at their call (`at_`); the queue yields `min a len` players when `a` are asked; the
    release loop is the model's `releaseLoop`, whose iteration is `regReleaseStep_loop`.  The result gives the error, the returned count, the players asked from the queue,
    the new `playerCount`, the change of `t.PlayerCount`, `Required` when it was set, and whether the table was broken. -/
theorem regSyncState_eq (r : Reg) (id : Nat) (out : Int) :
    r.syncState id out =
      (let b := r.beginOp []
       let t0 := b.findTable id
       let tcnt := (t0.map (·.count)).getD 0
       let treq := (t0.map (·.required)).getD 0
       -- the state when `r.playerCount` is `pc` and `t.PlayerCount` is `tc` (what the calls made by the decision read)
       let at_ := fun (pc tc : Int) =>
         ({ b with playerCount := pc }).setTable id fun t => { t with count := t.count + (tc - tcnt) }
       let g := regSyncState RStatus.pending RStatus.normal RStatus.afterRegDeadline t0.isSome b.status b.playerCount tcnt treq out
                  b.max b.tableCount (fun pc tc => ((at_ pc tc).lowWaterLevelTableCount : Int))
                  (fun a => ((b.queue.take a.toNat).length : Int))
                  (fun pc tc c f => ((releaseLoop c.toNat id f (at_ pc tc) 0).1 : Int))
       if g.1 = "ErrNotFoundTable" then (b, some .notFoundTable, 0, [])
       else
         let asked := g.2.2.1
         let b2 := { b with playerCount := g.2.2.2.1, queue := b.queue.drop asked.toNat }
         let b3 := b2.setTable id fun t =>
           { t with count := t.count + (g.2.2.2.2.1 - tcnt),
                    required := if "setRequired" ∈ g.2.2.2.2.2.2 then g.2.2.2.2.2.1 else t.required }
         let b4 := if "breakTable" ∈ g.2.2.2.2.2.2 then b3.breakTable id else b3
         (b4, none, g.2.1, b.queue.take asked.toNat)) := by
  unfold Reg.syncState
  generalize r.beginOp [] = b
  cases ht : b.findTable id with
  | none => simp [regSyncStateClosed_eq, ht]
  | some t0 =>
    have hc0 : ∀ x : Int, x + (t0.count - out - t0.count) = x - out := fun x => by omega
    simp only [ht, Option.map_some, Option.getD_some, Option.isSome_some, regSyncStateClosed_eq, hc0, Bool.true_eq_false, if_false,
      beq_iff_eq]
    -- the booked state differs from `b` in the player count and in the sheet of the table only
    generalize hb1 : (({ b with playerCount := b.playerCount - out }).setTable id fun t => { t with count := t.count - out }) = b1
    obtain ⟨e1, e2, e3, e4, e5, e6⟩ : b1.playerCount = b.playerCount - out ∧ b1.max = b.max ∧ b1.status = b.status ∧
        b1.tableCount = b.tableCount ∧ b1.queue = b.queue ∧ b1.requiredTables = regCeilDiv (b.playerCount - out) b.max := by
      subst hb1
      exact ⟨rfl, rfl, rfl, rfl, rfl, rfl⟩
    simp only [e1, e2, e3, e4, e6]
    generalize regCeilDiv (b.playerCount - out) b.max = req
    by_cases hbr : b.status = RStatus.afterRegDeadline ∧ b.playerCount - out ≤ (b.max : Int) ∧ req < b.tableCount
    · simp only [if_pos hbr]
      subst hb1
      simp [hc0]
    simp only [if_neg hbr]
    by_cases hreq : req ≤ 0
    · have hpos : ¬ req > 0 := by omega
      simp only [if_pos hreq, hpos, false_and, if_false]
      subst hb1
      simp [hc0]
    have hpos : req > 0 := by omega
    simp only [if_neg hreq, hpos, true_and]
    by_cases hlt : (t0.count - out) * req < b.playerCount - out
    · simp only [if_pos hlt, ge_iff_le, two_le_natCast]
      by_cases hlow : 2 ≤ b1.lowWaterLevelTableCount ∧ req < b.tableCount
      · simp only [if_pos hlow]
        subst hb1
        simp [hc0]
      · simp only [if_neg hlow, Reg.takeQueue, e5]
        generalize (b.playerCount - out) / req - (t0.count - out) = cnt
        generalize ((b.queue.take cnt.toNat).length : Int) = n
        have hn : ∀ x : Int, x + (t0.count - out + n - t0.count) = x + (-out + n) := fun x => by omega
        by_cases hstill : cnt - n > 0
        all_goals
          simp only [hstill, if_true, if_false]
          subst hb1
          -- both sides update table `id` alone: the updates are `adj`s, and two on one table are one
          simp only [setTable_eq, fun_sub, fun_req, fun_add, upd_upd _ _ _ _ (adj_id _ _), adj_adj, hn]
          simp [fun_add_req, fun_add, Option.orElse]
    · simp only [if_neg hlt]
      by_cases hgt : (t0.count - out) * req > b.playerCount - out
      · simp only [if_pos hgt]
        obtain ⟨k, _, hk⟩ := releaseLoop_spec (t0.count - out - (b.playerCount - out) / req).toNat id ((b.playerCount - out) / req) b1 0
        have hck : t0.count - out - (k : Int) - t0.count = -out + -(k : Int) := by omega
        rw [hk]
        subst hb1
        simp only [setTable_eq, fun_sub, upd_upd _ _ _ _ (adj_id _ _), adj_adj]
        simp [fun_add, Option.orElse, hck]
      · simp only [if_neg hgt]
        subst hb1
        simp [hc0]

/-! ### what the translated definitions compute, on concrete inputs (non-vacuity) -/

example : regSetStatus RStatus.pending RStatus.normal RStatus.afterRegDeadline RStatus.pending RStatus.normal
    = (RStatus.normal, RStatus.normal, ["drainWaitingQueue"]) := rfl

example : regAddPlayers RStatus.pending RStatus.normal RStatus.afterRegDeadline RStatus.afterRegDeadline 10 3
    = (10, 10, ["ErrAfterRegDealline"]) := rfl

-- 20 players, tables of 9, at least 6 to open: 3 tables are required, the first water level is 6
example : regAllocInit 20 9 6 0 = some (6, 3) := rfl

-- 13 players: ceil(13/9) = 2 tables would hold 6 each; 11 players: 5 each is below 6, so one table of 9
example : regAllocInit 13 9 6 0 = some (6, 2) ∧ regAllocInit 11 9 6 0 = some (9, 1) := ⟨rfl, rfl⟩

example : regAllocStep 6 3 0 20 9 (fun a => a) = (true, 7, 1, 6, 0, 6, ["requestTable", "store"]) := rfl

example : regDispatchPlayer false 2 4 [10, 11, 12] = some ([12], [10, 11], 0, 6) := rfl

-- a table of 9 at water level 7 releases players: 2 asked, the release loop decides how many
example : regSyncState RStatus.pending RStatus.normal RStatus.afterRegDeadline true RStatus.normal 21 9 0 0 9 3 (fun _ _ => 0) (fun a => a) (fun _ _ c _ => c)
    = ("ok", 2, 0, 21, 7, 0, []) := rfl

-- after the deadline, 9 players left on 2 tables: the reporting table is broken
example : regSyncState RStatus.pending RStatus.normal RStatus.afterRegDeadline true RStatus.afterRegDeadline 10 5 0 1 9 2 (fun _ _ => 0) (fun a => a) (fun _ _ c _ => c)
    = ("ok", 4, 0, 9, 4, 0, ["breakTable"]) := rfl

example : regDrain 2 3 6 (fun k => if k = 1 then 1 else 0)
    = ["candidates := r.waitingQueue", "dispatchLoop", "updateTableRequirements", "dispatchLoop", "r.waitingQueue = candidates", "nil"] := rfl

end Pokerface.GeneratedLogic
