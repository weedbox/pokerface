/-
  Specification of `SyncState` (and `breakTable`, `releaseLoop`).

  `SyncState` books the eliminations (`syncBase`) and then decides (`syncStep`; both, and the
  normal form `upd id (adj a rq)` of its table updates, in Proofs/RegEq.lean); what it decides is
  one of four things (`SyncCase`): break the table, nothing, take players from the queue, ask for a release.
  None of them calls anything or touches status, `max`, `min`, `nextId`: `syncState_frame`, with no
  hypothesis on the state.
  What each of them preserves is stated once per layer of hypotheses:
  `SyncPostD` (well-formedness `WF0` alone; counts as a difference: `syncState_spec0`) and
  `SyncPostF` (the capacity bound of `WF` and `Q`: `syncState_specF`); the system invariants take
  `SyncPostD` (`ASys.SyncKnown.post`).  The suffixes: header of Proofs/RegDrain.lean.
-/
import Pokerface.Proofs.RegDrain

namespace Pokerface
namespace Reg

/-! ### a table update `upd id (adj a rq)` keeps the well-formedness and moves the sum by `a` -/

theorem WF0.upd {r : Reg} (hwf : WF0 r) {id : Nat} {t0 : RTable} (ht0 : t0 ∈ r.tables) (hid0 : t0.id = id)
    (a : Int) (rq : Option Int) (r' : Reg)
    (htc : r'.tableCount = r.tableCount)
    (hnext : r'.nextId = r.nextId) (htab : r'.tables = upd id (adj a rq) r.tables)
    (hb : 0 ≤ (adj a rq t0).count ∧ 0 ≤ (adj a rq t0).required) : WF0 r' :=
  hwf.updTable ht0 (adj_id a rq) htc hnext (hid0 ▸ htab) hb

theorem WF.upd {r : Reg} (hwf : WF r) {id : Nat} {t0 : RTable} (ht0 : t0 ∈ r.tables) (hid0 : t0.id = id)
    (a : Int) (rq : Option Int) (r' : Reg)
    (hmax : r'.max = r.max) (htc : r'.tableCount = r.tableCount)
    (hnext : r'.nextId = r.nextId) (htab : r'.tables = upd id (adj a rq) r.tables)
    (hb : 0 ≤ (adj a rq t0).count ∧ 0 ≤ (adj a rq t0).required ∧
          (adj a rq t0).count + (adj a rq t0).required ≤ r.max) : WF r' :=
  hwf.updTable (hwf.toWF0.upd ht0 hid0 a rq r' htc hnext htab ⟨hb.1, hb.2.1⟩) ht0 hmax (hid0 ▸ htab) hb.2.2

theorem sumCount_upd_adj {ts : List RTable} (hn : (ts.map (·.id)).Nodup) {id : Nat}
    (hm : id ∈ ts.map (·.id)) (a : Int) (rq : Option Int) :
    sumCount (upd id (adj a rq) ts) = sumCount ts + a := by
  rw [sumCount_eq, tview_upd id _ ts a (adj_id a rq) (adj_count a rq), sumCount_eq]
  exact sumTV_bump id a _ (by rw [tview_fst]; exact hn) (by rw [tview_fst]; exact hm)

/-! ### breaking a table: removing the entry with a given id -/

theorem tv_filter_spec (tv : List (Nat × Int)) (id : Nat) (c : Int) (hn : (tv.map (·.1)).Nodup)
    (hm : (id, c) ∈ tv) :
    sumTV (tv.filter (fun e => e.1 != id)) = sumTV tv - c := by
  obtain ⟨l₁, l₂, rfl, h1, h2⟩ := split_at_entry (·.1) hn hm
  rw [filter_ne_split (·.1) l₁ l₂ (id, c) h1 h2]
  simp only [sumTV_append, sumTV_cons]
  omega

theorem filter_ne_length (ts : List RTable) (hn : (ts.map (·.id)).Nodup) {t0 : RTable}
    (ht0 : t0 ∈ ts) {id : Nat} (hid : t0.id = id) :
    (ts.filter (fun t => t.id != id)).length + 1 = ts.length := by
  subst hid
  obtain ⟨l₁, l₂, rfl, h1, h2⟩ := split_at_entry (·.id) hn ht0
  rw [filter_ne_split (·.id) l₁ l₂ t0 h1 h2]
  simp only [List.length_append, List.length_cons]
  omega

theorem filter_ids_nodup (ts : List RTable) (id : Nat) (hn : (ts.map (·.id)).Nodup) :
    ((ts.filter (fun t => t.id != id)).map (·.id)).Nodup := by
  have : ((ts.filter (fun t => t.id != id)).map (·.id)).Sublist (ts.map (·.id)) :=
    List.Sublist.map _ List.filter_sublist
  exact this.nodup hn

theorem tview_filter (ts : List RTable) (id : Nat) :
    tview (ts.filter (fun t => t.id != id)) = (tview ts).filter (fun e => e.1 != id) := by
  simp only [tview, List.filter_map]
  rfl

theorem breakTable_spec0 {r : Reg} (hwf : WF0 r) {id : Nat} {t0 : RTable} (ht0 : t0 ∈ r.tables)
    (hid0 : t0.id = id) :
    WF0 (r.breakTable id) ∧ (r.breakTable id).findTable id = none ∧
    sumCount (r.breakTable id).tables = sumCount r.tables - t0.count ∧ (WF r → WF (r.breakTable id)) := by
  have hmem : (id, t0.count) ∈ tview r.tables := List.mem_map.2 ⟨t0, ht0, by rw [hid0]⟩
  have h1 := tv_filter_spec (tview r.tables) id t0.count (by rw [tview_fst]; exact hwf.nodup) hmem
  have hwf' : WF0 (r.breakTable id) := by
    constructor
    · simp only [breakTable]
      have := filter_ne_length r.tables hwf.nodup ht0 hid0
      have := hwf.tc
      omega
    · exact filter_ids_nodup _ _ hwf.nodup
    · intro t ht
      exact hwf.idlt t (List.mem_filter.1 ht).1
    · intro t ht
      exact hwf.nn t (List.mem_filter.1 ht).1
  refine ⟨hwf', breakTable_find r id, ?_, fun h => hwf'.toWF h.maxpos fun t ht => h.cap t (List.mem_filter.1 ht).1⟩
  · simp only [breakTable]
    rw [sumCount_eq, tview_filter, h1, sumCount_eq]

theorem sumCount_nonneg (ts : List RTable) (h : ∀ t ∈ ts, 0 ≤ t.count) : 0 ≤ sumCount ts := by
  induction ts with
  | nil => simp [sumCount]
  | cons t ts ih =>
    have h1 := h t (List.mem_cons_self ..)
    have h2 := ih (fun t' ht' => h t' (List.mem_cons_of_mem _ ht'))
    simp only [sumCount, List.map_cons, List.sum_cons] at h2 ⊢
    omega

theorem WF0.sumCount_nonneg {r : Reg} (h : WF0 r) : 0 ≤ sumCount r.tables :=
  Reg.sumCount_nonneg _ fun t ht => (h.nn t ht).1

/-! ### the four outcomes -/

/-- the four things `SyncState` can do to the booked state `b` in which table `id` is `tb`:
    break the table, nothing, hand it the first `n` queued players (as many as are there, `n` the
    distance to the floor of the water level) and note what is still missing, ask it to release `j`
    players, not below the floor - each with the tests that led there; for a release the first and
    the last test of the release loop. -/
inductive SyncCase (b : Reg) (id : Nat) (tb : RTable) : Reg → Int → List Nat → Prop
  | brk (hlt : b.requiredTables < b.tableCount) : SyncCase b id tb (b.breakTable id) tb.count []
  | same : SyncCase b id tb b 0 []
  | take (n : Nat) (rq : Option Int) (hreq : 0 < b.requiredTables)
      (hlow : tb.count * b.requiredTables < b.playerCount) (hn : (n : Int) = flr b - tb.count)
      (hrq : rq = if flr b - tb.count - ((b.queue.take n).length : Int) > 0
                  then some (flr b - tb.count - ((b.queue.take n).length : Int)) else none) :
      SyncCase b id tb
        { b with queue := b.queue.drop n, tables := upd id (adj ((b.queue.take n).length : Int) rq) b.tables }
        0 (b.queue.take n)
  | release (j : Nat) (hreq : 0 < b.requiredTables) (hhigh : b.playerCount < tb.count * b.requiredTables)
      (hj : flr b ≤ tb.count - j)
      (hfirst : 1 ≤ j → b.lowerWaterLevelReached (flr b) = false)
      (hlast : 1 ≤ j →
        ({ b with tables := upd id (adj (-((j : Int) - 1)) none) b.tables } : Reg).lowerWaterLevelReached (flr b) = false) :
      SyncCase b id tb { b with tables := upd id (adj (-(j : Int)) none) b.tables } j []

theorem syncStep_cases (b : Reg) (id : Nat) (tb : RTable) :
    ∃ r1 rel nw, syncStep b id tb.count = (r1, none, rel, nw) ∧ SyncCase b id tb r1 rel nw := by
  unfold syncStep
  by_cases h1 : b.status = .afterRegDeadline ∧ b.playerCount ≤ (b.max : Int) ∧ b.requiredTables < b.tableCount
  · exact ⟨_, _, _, if_pos h1, .brk h1.2.2⟩
  · by_cases h2 : b.requiredTables ≤ 0
    · exact ⟨_, _, _, (if_neg h1).trans (if_pos h2), .same⟩
    · have hreq' : 0 < b.requiredTables := by omega
      by_cases h3 : tb.count * b.requiredTables < b.playerCount
      · by_cases h4 : b.lowWaterLevelTableCount ≥ 2 ∧ b.requiredTables < b.tableCount
        · exact ⟨_, _, _, (if_neg h1).trans ((if_neg h2).trans ((if_pos h3).trans (if_pos h4))), .brk h4.2⟩
        · refine ⟨_, _, _, (if_neg h1).trans ((if_neg h2).trans ((if_pos h3).trans (if_neg h4))), ?_⟩
          rw [take_norm]
          have hle : tb.count ≤ flr b := Int.le_ediv_of_mul_le hreq' (Int.le_of_lt h3)
          exact .take (flr b - tb.count).toNat _ hreq' h3 (by omega) rfl
      · by_cases h5 : tb.count * b.requiredTables > b.playerCount
        · refine ⟨_, _, _, (if_neg h1).trans ((if_neg h2).trans ((if_neg h3).trans (if_pos h5))), ?_⟩
          have hlt : flr b < tb.count := Int.ediv_lt_of_lt_mul hreq' h5
          obtain ⟨j, hj, he⟩ := releaseLoop_spec (tb.count - flr b).toNat id (flr b) b 0
          have hl := releaseLoop_last (tb.count - flr b).toNat id (flr b) b 0 j (by rw [he])
          have hp := releaseLoop_pos (tb.count - flr b).toNat id (flr b) b
          show SyncCase b id tb (releaseLoop (tb.count - flr b).toNat id (flr b) b 0).2
            (releaseLoop (tb.count - flr b).toNat id (flr b) b 0).1 []
          rw [he] at hp ⊢
          simp only [Nat.zero_add] at hp ⊢
          exact .release j hreq' h5 (by omega) (fun h => hp (by omega)) (fun h => hl (by omega))
        · exact ⟨_, _, _, (if_neg h1).trans ((if_neg h2).trans ((if_neg h3).trans (if_neg h5))), .same⟩

theorem syncState_cases (r : Reg) (id : Nat) (out : Int) (t0 : RTable) (hf : r.findTable id = some t0) :
    ∃ r1 rel nw, r.syncState id out = (r1, none, rel, nw) ∧
      SyncCase (syncBase r id out) id (adj (-out) none t0) r1 rel nw := by
  have htc : t0.count - out = (adj (-out) none t0).count := by simp [adj, Int.sub_eq_add_neg]
  rw [syncState_eq, hf]
  simp only
  rw [htc]
  exact syncStep_cases _ id _

theorem SyncCase.frame {b : Reg} {id : Nat} {tb : RTable} {r1 : Reg} {rel : Int} {nw : List Nat}
    (h : SyncCase b id tb r1 rel nw) :
    r1.calls = b.calls ∧ r1.status = b.status ∧ r1.max = b.max ∧ r1.min = b.min ∧ r1.nextId = b.nextId := by
  cases h with
  | brk _ => exact ⟨rfl, rfl, rfl, rfl, rfl⟩
  | same => exact ⟨rfl, rfl, rfl, rfl, rfl⟩
  | take _ _ _ _ _ _ => exact ⟨rfl, rfl, rfl, rfl, rfl⟩
  | release _ _ _ _ _ _ => exact ⟨rfl, rfl, rfl, rfl, rfl⟩

/-- `SyncState` calls nothing and touches only counts, queue and tables, whatever the state and
    whether it knows the table or not -/
theorem syncState_frame (r : Reg) (id : Nat) (out : Int) :
    (r.syncState id out).1.calls = [] ∧ (r.syncState id out).1.status = r.status ∧
    (r.syncState id out).1.max = r.max ∧ (r.syncState id out).1.min = r.min ∧
    (r.syncState id out).1.nextId = r.nextId := by
  cases hf : r.findTable id with
  | none =>
    rw [syncState_unknown r id out hf]
    exact ⟨rfl, rfl, rfl, rfl, rfl⟩
  | some t0 =>
    obtain ⟨r1, rel, nw, heq, hc⟩ := syncState_cases r id out t0 hf
    rw [heq]
    exact hc.frame

/-! ### well-formedness alone: counts as a difference -/

/-- What `SyncState` does after booking the eliminations, relative to the booked state `b`
    in which table `id` is `tb`, on the widest domain (no statement about `Required`).  The counts
    are stated as a difference (`cntd`: the queue and the tables together lose exactly the players
    to release), so that nothing is asked of the counts of `b`. -/
structure SyncPostD (b : Reg) (id : Nat) (tb : RTable) (r1 : Reg) (rel : Int) (nw : List Nat) : Prop where
  wf : WF0 r1
  calls : r1.calls = b.calls
  max_eq : r1.max = b.max
  min_eq : r1.min = b.min
  status_eq : r1.status = b.status
  pc_eq : r1.playerCount = b.playerCount
  next_eq : r1.nextId = b.nextId
  queue : b.queue = nw ++ r1.queue
  rel0 : 0 ≤ rel
  cntd : (r1.queue.length : Int) + sumCount r1.tables + rel = b.queue.length + sumCount b.tables
  excl : nw = [] ∨ rel = 0
  cases :
    (r1.findTable id = none ∧ r1.tables = b.tables.filter (fun t => t.id != id) ∧ rel = tb.count ∧ nw = []) ∨
    (∃ a rq, r1.tables = upd id (adj a rq) b.tables ∧ a = (nw.length : Int) - rel ∧
      rel ≤ tb.count + nw.length)

theorem sync_break0 {b : Reg} (hwf : WF0 b) {id : Nat} {tb : RTable} (htb : tb ∈ b.tables) (hid : tb.id = id) :
    SyncPostD b id tb (b.breakTable id) tb.count [] := by
  obtain ⟨h1, h2, h3, _⟩ := breakTable_spec0 hwf htb hid
  refine ⟨h1, rfl, rfl, rfl, rfl, rfl, rfl, rfl, (hwf.nn tb htb).1, ?_, Or.inl rfl, Or.inl ⟨h2, rfl, rfl, rfl⟩⟩
  rw [h3]
  show ((b.queue.length : Int)) + _ + _ = _
  omega

theorem sync_same0 {b : Reg} (hwf : WF0 b) {id : Nat} {tb : RTable} (htb : tb ∈ b.tables) :
    SyncPostD b id tb b 0 [] := by
  refine ⟨hwf, rfl, rfl, rfl, rfl, rfl, rfl, rfl, Int.le_refl _, by omega, Or.inl rfl, Or.inr ⟨0, none, ?_, rfl, ?_⟩⟩
  · rw [upd_adj_zero]
  · have := (hwf.nn tb htb).1
    simp
    omega

theorem sync_take0 {b : Reg} (hwf : WF0 b) {id : Nat} {tb : RTable} (htb : tb ∈ b.tables) (hid : tb.id = id)
    (n : Nat) (still : Int) :
    SyncPostD b id tb
      { b with queue := b.queue.drop n,
               tables := upd id (adj ((b.queue.take n).length : Int) (if still > 0 then some still else none)) b.tables }
      0 (b.queue.take n) := by
  have hbt := hwf.nn tb htb
  have hidm : id ∈ b.tables.map (·.id) := List.mem_map.2 ⟨tb, htb, hid⟩
  refine ⟨?_, rfl, rfl, rfl, rfl, rfl, rfl, ?_, Int.le_refl _, ?_, Or.inr rfl, Or.inr ⟨_, _, rfl, by omega, by omega⟩⟩
  · refine hwf.upd htb hid _ _ _ rfl rfl rfl ?_
    simp only [adj]
    split
    · simp only [Option.getD_some]
      omega
    · simp only [Option.getD_none]
      omega
  · simp only [List.take_append_drop]
  · simp only
    rw [sumCount_upd_adj hwf.nodup hidm]
    have : b.queue.length = (b.queue.take n).length + (b.queue.drop n).length := by
      rw [← List.length_append, List.take_append_drop]
    omega

theorem sync_release0 {b : Reg} (hwf : WF0 b) {id : Nat} {tb : RTable} (htb : tb ∈ b.tables) (hid : tb.id = id)
    (j : Nat) (hj : (j : Int) ≤ tb.count) :
    SyncPostD b id tb { b with tables := upd id (adj (-(j : Int)) none) b.tables } j [] := by
  have hbt := hwf.nn tb htb
  have hidm : id ∈ b.tables.map (·.id) := List.mem_map.2 ⟨tb, htb, hid⟩
  refine ⟨?_, rfl, rfl, rfl, rfl, rfl, rfl, rfl, by simp, ?_, Or.inl rfl, Or.inr ⟨_, _, rfl, by simp, by simp; omega⟩⟩
  · refine hwf.upd htb hid _ _ _ rfl rfl rfl ?_
    simp only [adj, Option.getD_none]
    omega
  · simp only
    rw [sumCount_upd_adj hwf.nodup hidm]
    omega

theorem syncBase_facts0 (r : Reg) (id : Nat) (out : Int) (t0 : RTable) (hwf : WF0 r)
    (hf : r.findTable id = some t0) (ho : out ≤ t0.count) :
    WF0 (syncBase r id out) ∧ adj (-out) none t0 ∈ (syncBase r id out).tables ∧
    sumCount (syncBase r id out).tables = sumCount r.tables - out := by
  obtain ⟨ht0, hid0⟩ := findTable_some hf
  have hbt := hwf.nn t0 ht0
  have hidm : id ∈ r.tables.map (·.id) := List.mem_map.2 ⟨t0, ht0, hid0⟩
  refine ⟨?_, ?_, ?_⟩
  · refine hwf.upd ht0 hid0 (-out) none _ rfl rfl (syncBase_tables r id out) ?_
    simp only [adj, Option.getD_none]
    omega
  · exact syncBase_mem out hf
  · rw [syncBase_tables, sumCount_upd_adj hwf.nodup hidm]
    omega

theorem SyncCase.post0 {b : Reg} {id : Nat} {tb : RTable} {r1 : Reg} {rel : Int} {nw : List Nat}
    (h : SyncCase b id tb r1 rel nw) (hwf : WF0 b) (htb : tb ∈ b.tables) (hid : tb.id = id)
    (hpc : 0 ≤ b.playerCount) : SyncPostD b id tb r1 rel nw := by
  cases h with
  | brk _ => exact sync_break0 hwf htb hid
  | same => exact sync_same0 hwf htb
  | take n rq _ _ _ hrq =>
    subst hrq
    exact sync_take0 hwf htb hid n _
  | release j hreq _ hj _ _ =>
    have : 0 ≤ flr b := Int.ediv_nonneg hpc (Int.le_of_lt hreq)
    exact sync_release0 hwf htb hid j (by omega)

theorem syncState_spec0 (r : Reg) (id : Nat) (out : Int) (t0 : RTable) (hwf : WF0 r)
    (hpc : 0 ≤ r.playerCount - out)
    (hf : r.findTable id = some t0) (ho : out ≤ t0.count) :
    ∃ r1 rel nw, r.syncState id out = (r1, none, rel, nw) ∧
      SyncPostD (syncBase r id out) id (adj (-out) none t0) r1 rel nw := by
  obtain ⟨bwf, bmem, _⟩ := syncBase_facts0 r id out t0 hwf hf ho
  obtain ⟨r1, rel, nw, heq, hc⟩ := syncState_cases r id out t0 hf
  exact ⟨r1, rel, nw, heq, hc.post0 bwf bmem (findTable_some hf).2 hpc⟩

/-! ### the capacity bound and `Q` -/

theorem Q_upd_none {b : Reg} {id : Nat} {a : Int} {r1 : Reg} (hq : Q b)
    (hqe : r1.queue = b.queue) (ht : r1.tables = upd id (adj a none) b.tables) : Q r1 := by
  intro hne t htm
  rw [hqe] at hne
  rw [ht] at htm
  rcases mem_upd htm with h | ⟨t', ht', _, rfl⟩
  · exact hq hne t h
  · exact hq hne t' ht'

/-- capacity half of `SyncPost`: well-formedness and the queue invariant after `SyncState` -/
structure SyncPostF (b r1 : Reg) : Prop where
  wf : WF r1
  q : Q b → Q r1
  status_eq : r1.status = b.status

theorem sync_breakF {b : Reg} (hwf : WF b) {id : Nat} {tb : RTable} (htb : tb ∈ b.tables) (hid : tb.id = id) :
    SyncPostF b (b.breakTable id) := by
  have h1 := (breakTable_spec0 hwf.toWF0 htb hid).2.2.2 hwf
  refine ⟨h1, ?_, rfl⟩
  intro hq hne t ht
  exact hq hne t (List.mem_filter.1 ht).1

theorem sync_sameF {b : Reg} (hwf : WF b) : SyncPostF b b := ⟨hwf, fun h => h, rfl⟩

theorem sync_takeF {b : Reg} (hwf : WF b) (hq : Q b) {id : Nat} {tb : RTable} (htb : tb ∈ b.tables)
    (hid : tb.id = id) (fl : Int) (hfl : fl ≤ b.max) (n : Nat) (hn : (n : Int) = fl - tb.count) :
    SyncPostF b
      { b with queue := b.queue.drop n,
               tables := upd id (adj ((b.queue.take n).length : Int)
                  (if fl - tb.count - ((b.queue.take n).length : Int) > 0
                   then some (fl - tb.count - ((b.queue.take n).length : Int)) else none)) b.tables } := by
  have hbt := hwf.bnd tb htb
  have hlen := List.length_take_le n b.queue
  refine ⟨?_, ?_, rfl⟩
  · refine hwf.upd htb hid _ _ _ rfl rfl rfl rfl ?_
    simp only [adj]
    split
    · simp only [Option.getD_some]
      omega
    · rename_i hst
      simp only [Option.getD_none]
      by_cases hqe : b.queue = []
      · simp only [hqe, List.take_nil, List.length_nil]
        omega
      · have := hq hqe tb htb
        omega
  · intro hqb hne t ht
    simp only at hne ht
    have hne0 : b.queue ≠ [] := by
      intro h
      rw [h] at hne
      simp at hne
    have hlt : n < b.queue.length := by
      have : 0 < (b.queue.drop n).length := List.length_pos_iff.2 hne
      rw [List.length_drop] at this
      omega
    have hfull : ((b.queue.take n).length : Int) = fl - tb.count := by
      rw [List.length_take]
      omega
    rcases mem_upd ht with h | ⟨t', ht', _, rfl⟩
    · exact hqb hne0 t h
    · have := hqb hne0 t' ht'
      simp only [adj, hfull]
      simp
      exact this

theorem sync_releaseF {b : Reg} (hwf : WF b) {id : Nat} {tb : RTable} (htb : tb ∈ b.tables) (hid : tb.id = id)
    (j : Nat) (hj : (j : Int) ≤ tb.count) :
    SyncPostF b { b with tables := upd id (adj (-(j : Int)) none) b.tables } := by
  have hbt := hwf.bnd tb htb
  refine ⟨?_, ?_, rfl⟩
  · refine hwf.upd htb hid _ _ _ rfl rfl rfl rfl ?_
    simp only [adj, Option.getD_none]
    omega
  · intro hqb
    exact Q_upd_none hqb rfl rfl

theorem syncBase_factsF (r : Reg) (id : Nat) (out : Int) (t0 : RTable) (hwf : WF r) (hq : Q r)
    (hf : r.findTable id = some t0) (ho : out ≤ t0.count) (ho0 : 0 ≤ out) :
    WF (syncBase r id out) ∧ Q (syncBase r id out) ∧ adj (-out) none t0 ∈ (syncBase r id out).tables := by
  obtain ⟨ht0, hid0⟩ := findTable_some hf
  have hbt := hwf.bnd t0 ht0
  refine ⟨?_, ?_, ?_⟩
  · refine hwf.upd ht0 hid0 (-out) none _ rfl rfl rfl (syncBase_tables r id out) ?_
    simp only [adj, Option.getD_none]
    omega
  · exact Q_upd_none hq rfl (syncBase_tables r id out)
  · exact syncBase_mem out hf

theorem SyncCase.postF {b : Reg} {id : Nat} {tb : RTable} {r1 : Reg} {rel : Int} {nw : List Nat}
    (h : SyncCase b id tb r1 rel nw) (hwf : WF b) (hq : Q b) (htb : tb ∈ b.tables) (hid : tb.id = id)
    (hpc : 0 ≤ b.playerCount) : SyncPostF b r1 := by
  cases h with
  | brk _ => exact sync_breakF hwf htb hid
  | same => exact sync_sameF hwf
  | take n rq hreq _ hn hrq =>
    subst hrq
    exact sync_takeF hwf hq htb hid _ (Int.ediv_le_of_le_mul hreq (Int.mul_comm .. ▸ le_ceilDiv_mul b.playerCount b.max hwf.maxpos)) n hn
  | release j hreq _ hj _ _ =>
    have : 0 ≤ flr b := Int.ediv_nonneg hpc (Int.le_of_lt hreq)
    exact sync_releaseF hwf htb hid j (by omega)

theorem syncState_specF (r : Reg) (id : Nat) (out : Int) (t0 : RTable) (hwf : WF r) (hq : Q r)
    (hpc : 0 ≤ r.playerCount - out)
    (hf : r.findTable id = some t0) (ho0 : 0 ≤ out) (ho : out ≤ t0.count) :
    WF (r.syncState id out).1 ∧ Q (r.syncState id out).1 ∧ (r.syncState id out).1.status = r.status := by
  obtain ⟨bwf, bq, bmem⟩ := syncBase_factsF r id out t0 hwf hq hf ho ho0
  obtain ⟨r1, rel, nw, heq, hc⟩ := syncState_cases r id out t0 hf
  have h := hc.postF bwf bq bmem (findTable_some hf).2 hpc
  rw [heq]
  exact ⟨h.wf, h.q bq, h.status_eq⟩

/-! ### restated for a quiescent booked state (no proof reads these two) -/

/-- `SyncPostD` with the count identity `cnt` in place of the difference `cntd`: what holds when
    the counts of `b` are right (`SyncPostD.to0`) -/
structure SyncPost0 (b : Reg) (id : Nat) (tb : RTable) (r1 : Reg) (rel : Int) (nw : List Nat) : Prop where
  wf : WF0 r1
  calls : r1.calls = b.calls
  max_eq : r1.max = b.max
  min_eq : r1.min = b.min
  status_eq : r1.status = b.status
  pc_eq : r1.playerCount = b.playerCount
  next_eq : r1.nextId = b.nextId
  queue : b.queue = nw ++ r1.queue
  rel0 : 0 ≤ rel
  cnt : r1.playerCount = r1.queue.length + sumCount r1.tables + rel
  excl : nw = [] ∨ rel = 0
  cases :
    (r1.findTable id = none ∧ r1.tables = b.tables.filter (fun t => t.id != id) ∧ rel = tb.count ∧ nw = []) ∨
    (∃ a rq, r1.tables = upd id (adj a rq) b.tables ∧ a = (nw.length : Int) - rel ∧
      rel ≤ tb.count + nw.length)

theorem SyncPostD.to0 {b : Reg} {id : Nat} {tb : RTable} {r1 : Reg} {rel : Int} {nw : List Nat}
    (h : SyncPostD b id tb r1 rel nw) (hcnt : b.playerCount = b.queue.length + sumCount b.tables) :
    SyncPost0 b id tb r1 rel nw := by
  refine ⟨h.wf, h.calls, h.max_eq, h.min_eq, h.status_eq, h.pc_eq, h.next_eq, h.queue, h.rel0, ?_, h.excl, h.cases⟩
  have := h.cntd
  rw [h.pc_eq, hcnt]
  omega

/-- `SyncPost0` and `SyncPostF` in one record (`SyncPost0.toPost`) -/
structure SyncPost (b : Reg) (id : Nat) (tb : RTable) (r1 : Reg) (rel : Int) (nw : List Nat) : Prop where
  wf : WF r1
  calls : r1.calls = b.calls
  max_eq : r1.max = b.max
  min_eq : r1.min = b.min
  status_eq : r1.status = b.status
  pc_eq : r1.playerCount = b.playerCount
  next_eq : r1.nextId = b.nextId
  queue : b.queue = nw ++ r1.queue
  rel0 : 0 ≤ rel
  cnt : r1.playerCount = r1.queue.length + sumCount r1.tables + rel
  excl : nw = [] ∨ rel = 0
  cases :
    (r1.findTable id = none ∧ r1.tables = b.tables.filter (fun t => t.id != id) ∧ rel = tb.count ∧ nw = []) ∨
    (∃ a rq, r1.tables = upd id (adj a rq) b.tables ∧ a = (nw.length : Int) - rel ∧
      rel ≤ tb.count + nw.length ∧ (rel = 0 → Q b → Q r1))

theorem SyncPost0.toPost {b : Reg} {id : Nat} {tb : RTable} {r1 : Reg} {rel : Int} {nw : List Nat}
    (h : SyncPost0 b id tb r1 rel nw) (hf : SyncPostF b r1) : SyncPost b id tb r1 rel nw :=
  ⟨hf.wf, h.calls, h.max_eq, h.min_eq, h.status_eq, h.pc_eq, h.next_eq, h.queue, h.rel0, h.cnt, h.excl,
    h.cases.imp_right fun ⟨a, rq, h1, h2, h3⟩ => ⟨a, rq, h1, h2, h3, fun _ => hf.q⟩⟩

end Reg
end Pokerface
