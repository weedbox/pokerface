import Pokerface.Proofs.Bets
/-
  The player actions one by one: when `act` accepts, refuses or redirects a request, and the exact
  effect of `Call`, `Allin`, `Bet` and `Raise` (no-limit and pot-limit) on the wager to match, the
  recorded minimum raise, the last raiser and the chips of the acting seat (C11 `effect_*`, C12).

  All four paying actions have one shape: mark the seat as having acted, record a raise size, pay a
  wager, resume (`Game.markPay`); their effects are read off `markPay_effect`.

  What a statement "this request returns exactly this" needs, for every state and with the error named, are the
  equations `act_disallowed` and `act_allowed` (EngineActCases: the text of `Game.act` on the two sides of its first
  test, without any hypothesis on the state; `Game.act_cases` is read off them).  `act_nf` (EngineInv) is the normal
  form of an ACCEPTED action under `Inv` (the state handed to `resume`, the facts the invariant adds); it cannot say
  what a refusal returns, the equations cannot say what the invariant knows.
-/
namespace Pokerface
open Game

theorem frame_chips {q p : Player} (h : q.frame = p.frame) :
    q.bankroll = p.bankroll ∧ q.initial = p.initial ∧ q.stack = p.stack ∧ q.pot = p.pot ∧ q.wager = p.wager ∧
    q.idx = p.idx ∧ q.posDealer = p.posDealer ∧ q.posSB = p.posSB ∧ q.posBB = p.posBB := by
  simp [Player.frame, Player.chips] at h
  obtain ⟨⟨a, b, c, d⟩, e, f, g, h, i⟩ := h
  exact ⟨e, f, g, h, i, a, b, c, d⟩

theorem frame_wager {q p : Player} (h : q.frame = p.frame) : q.wager = p.wager := (frame_chips h).2.2.2.2.1

theorem resume_at {g : Game} {i : Nat} {p : Player} (hp : g.players[i]? = some p) :
    (∃ q, g.resume.players[i]? = some q ∧ q.frame = p.frame) ∧
    g.resume.cw = g.cw ∧ g.resume.prev = g.prev ∧ g.resume.raiser = g.raiser :=
  have nc := (wr_resume g).noChip
  ⟨nc.at hp, nc.cw, nc.prev, resume_raiser g⟩

/-! ### what `act` does with a request

  Everything about acceptance and refusal is read off `act_disallowed` and `act_allowed` (EngineActCases). -/

theorem act_bet_accepted {g : Game} {i : Nat} {x : Int} (h : (g.act i .bet x).2 = none) :
    g.allows i .bet = true ∧ 0 ≤ x ∧ g.act i .bet x = (g.doBet i x, none) := by
  have hb := act_accepted_allows h
  rw [act_allowed x hb] at h ⊢
  by_cases hx : x < 0
  · rw [if_pos hx] at h
    cases h
  · exact ⟨hb, by omega, if_neg hx⟩

theorem act_call_eq {g : Game} {i : Nat} (x : Int) (h : g.allows i .call = true) :
    g.act i .call x = (g.doCall i, none) := act_allowed x h

theorem act_allin_eq {g : Game} {i : Nat} (x : Int) (h : g.allows i .allin = true) :
    g.act i .allin x = (g.doAllin i, none) := act_allowed x h

theorem act_accepted_of_allows {g : Game} {i : Nat} {a : Act} (x : Int) (h : g.allows i a = true)
    (ha : a ≠ .bet) (ha' : a ≠ .raise) : (g.act i a x).2 = none := by
  rw [act_allowed x h]
  cases a with
  | bet => exact absurd rfl ha
  | raise => exact absurd rfl ha'
  | pass | fold | check | call | allin | pay => rfl

theorem act_bet_accepted_of_allows {g : Game} {i : Nat} {x : Int} (h : g.allows i .bet = true) (hx : 0 ≤ x) :
    (g.act i .bet x).2 = none := by
  rw [act_allowed x h]
  exact congrArg Prod.snd (if_neg (by omega))

theorem noChip_doFold (g : Game) (i : Nat) : NoChip g (g.doFold i) :=
  ((wr_fold g i).trans (wr_resume _)).noChip

theorem act_passive_noChip (g : Game) (i : Nat) (a : Act) (x : Int) (ha : a = .check ∨ a = .fold ∨ a = .pass) :
    NoChip g (g.act i a x).1 := by
  cases hal : g.allows i a with
  | false =>
    rw [act_disallowed g i a x hal]
    exact NoChip.refl g
  | true =>
    rw [act_allowed x hal]
    rcases ha with rfl | rfl | rfl
    · exact ((wr_setActed g i).trans (wr_resume _)).noChip
    · exact noChip_doFold g i
    · exact ((wr_setActed g i).trans (wr_resume _)).noChip

/-- a request by another seat than the one to act, or outside a betting round, is refused -/
theorem act_wrong_seat_or_phase {g : Game} (hi : Inv g) {i : Nat} (hw : i ≠ g.cur ∨ g.event ≠ .roundStarted)
    (a : Act) (x : Int) : g.act i a x = (g, some .invalidAction) := by
  apply act_disallowed
  cases hal : g.allows i a with
  | false => rfl
  | true =>
    obtain ⟨_, _, he, hc, _⟩ := allows_spec hi hal
    exact hw.elim (absurd hc) (absurd he)

theorem AtTurn.of_allows {g : Game} {p : Player} (h : AtTurn g p) {a : Act} (ha : g.allows g.cur a = true) :
    a ∈ g.availableActions p := by
  rw [h.allows a] at ha
  simpa using ha

theorem AtTurn.allows_of {g : Game} {p : Player} (h : AtTurn g p) {a : Act} (ha : a ∈ g.availableActions p) :
    g.allows g.cur a = true := by
  rw [h.allows a]
  simpa using ha

theorem step_other_seat {g : Game} (hi : Inv g) {seat : Option Nat} (hs : ¬ ByCur g seat) (a : Act) (x : Int) :
    g.step (.act seat a x) = (g, some .invalidAction) := by
  cases seat with
  | none => exact absurd (Or.inl rfl) hs
  | some i => exact act_wrong_seat_or_phase hi (.inl fun hc => hs (.inr (by rw [hc]))) a x

theorem step_not_offered {g : Game} {p : Player} (h : AtTurn g p) {a : Act} (ha : a ∉ p.allowed) (seat : Option Nat)
    (x : Int) : g.step (.act seat a x) = (g, some .invalidAction) := by
  by_cases hs : ByCur g seat
  · rw [step_byCur hs]
    apply act_disallowed
    rw [h.allows a, ← h.allowed_eq]
    simpa using ha
  · exact step_other_seat h.inv hs a x

/-! ### the situation table at a decision point

  With the sign facts of a reachable state (`0 ≤ wager ≤ cw`, `0 ≤ prev`) the branch conditions of
  `GetAvailableActions` simplify: "not behind" is "level", "a wager stands" is `0 < cw`. -/

theorem AtTurn.mem_allowed {g : Game} {p : Player} (h : AtTurn g p) (hf : p.fold = false) (hs : p.stack ≠ 0) :
    (Act.call ∈ p.allowed ↔ p.wager < g.cw ∧ p.initial > g.cw) ∧
    (Act.bet ∈ p.allowed ↔ g.cw = 0 ∧ p.initial ≥ g.miniBet) ∧
    (Act.raise ∈ p.allowed ↔
      (p.wager < g.cw ∧ p.initial > g.cw + g.prev) ∨ (p.wager = g.cw ∧ p.initial ≥ g.miniBet ∧ g.cw ≠ 0)) := by
  rw [h.allowed_eq]
  obtain ⟨_, _, _, _, _, m5, m6, m7⟩ := avail_mem (g := g) hf hs
  have hw0 := h.pinv.wager0
  have hwle := h.chips.wle p h.mem
  have hprev := h.chips.prev0
  rw [m5, m6, m7]
  refine ⟨Iff.rfl, ⟨fun ⟨_, b, c⟩ => ⟨c, b⟩, fun ⟨a, b⟩ => ⟨by omega, b, a⟩⟩, ?_, ?_⟩
  · rintro (⟨a, b, _⟩ | ⟨a, b, c⟩)
    · exact Or.inl ⟨a, b⟩
    · exact Or.inr ⟨by omega, b, c⟩
  · rintro (⟨a, b⟩ | ⟨a, b, c⟩)
    · exact Or.inl ⟨a, b, by omega⟩
    · exact Or.inr ⟨by omega, b, c⟩

theorem raise_offered_cw_pos {g : Game} {p : Player} (h : AtTurn g p) (hr : Act.raise ∈ g.availableActions p) :
    0 < g.cw := by
  obtain ⟨hf, hs⟩ := avail_movable_of_mem hr (by simp)
  have hw0 := h.pinv.wager0
  have hcw0 := h.chips.cw0
  rw [← h.allowed_eq] at hr
  rcases (h.mem_allowed hf hs).2.2.mp hr with ⟨a, _⟩ | ⟨_, _, c⟩
  · omega
  · omega

theorem act_raise_dispatch {g : Game} {p : Player} (h : AtTurn g p) (hr : Act.raise ∈ g.availableActions p)
    {x : Int} (hx1 : g.cw < x) :
    g.act g.cur .raise x =
      if x ≥ p.initial ∨ x - g.cw < g.prev then (g.doAllin g.cur, none) else (g.doRaise g.cur p x, none) := by
  have hal := h.allows_of (avail_raise hr).2
  have hcw0 := h.chips.cw0
  rw [act_allowed x (h.allows_of hr)]
  simp only [if_neg (show ¬ (x = 0 ∨ x < g.cw) by omega), if_neg (show ¬ x = g.cw by omega), h.seat, hal,
    Bool.not_true, Bool.false_eq_true, if_false]

theorem act_raise_cw_eq_call {g : Game} {p : Player} (h : AtTurn g p) (hr : Act.raise ∈ g.availableActions p)
    (hc : Act.call ∈ g.availableActions p) (y : Int) : g.act g.cur .raise g.cw = g.act g.cur .call y := by
  have hw := (avail_call hc).1
  have hw0 := h.pinv.wager0
  rw [act_allowed _ (h.allows_of hr), act_call_eq y (h.allows_of hc)]
  simp only [if_neg (show ¬ (g.cw = 0 ∨ g.cw < g.cw) by omega), if_true, h.allows_of hc, Bool.not_true, Bool.false_eq_true,
    if_false]

theorem act_raise_cw_no_call {g : Game} {p : Player} (h : AtTurn g p) (hr : Act.raise ∈ g.availableActions p)
    (hc : Act.call ∉ g.availableActions p) : g.act g.cur .raise g.cw = (g, some .invalidAction) := by
  have hcw0 := raise_offered_cw_pos h hr
  have hca : g.allows g.cur .call = false := by
    rw [h.allows .call]
    simpa using hc
  rw [act_allowed _ (h.allows_of hr)]
  simp only [if_neg (show ¬ (g.cw = 0 ∨ g.cw < g.cw) by omega), if_true, hca, Bool.not_false]

theorem payF_acted_frame (c : Int) (p : Player) : (payF c (markA p)).frame = (payF c p).frame := by
  unfold payF markA
  split
  · rfl
  · rfl

theorem markPay_effect {g : Game} {i : Nat} {p : Player} (hp : g.players[i]? = some p) (r c : Int) :
    (∃ q, (g.markPay i r c).players[i]? = some q ∧ q.frame = (payF c p).frame) ∧
    (g.markPay i r c).cw =
      (if p.stack ≤ c then (if p.initial > g.cw then p.initial else g.cw)
       else (if g.cw < p.wager + c then p.wager + c else g.cw)) ∧
    (g.markPay i r c).raiser =
      (if p.stack ≤ c then (if p.initial - g.cw ≥ g.cw + r then i else g.raiser)
       else (if g.cw < p.wager + c then i else g.raiser)) ∧
    (g.markPay i r c).prev = r := by
  have hp1 : ((g.setActed i).setPrev r).players[i]? = some (markA p) := setActed_self hp
  obtain ⟨q, hq, hf⟩ := pay_self hp1 c true
  exact ⟨⟨q, hq, hf.trans (payF_acted_frame c p)⟩, pay_cw hp1 c, pay_raiser hp1 c, Game.pay_prev _ i c true⟩

theorem raiseTo_effect {g : Game} {i : Nat} {p : Player} (hp : g.players[i]? = some p) (hpi : PInv p) (r : Int)
    {lvl : Int} (hx1 : g.cw < lvl) (hx2 : lvl < p.initial) :
    ∃ q, (g.markPay i r (lvl - p.wager)).resume.players[i]? = some q ∧ q.wager = lvl ∧
      (g.markPay i r (lvl - p.wager)).resume.cw = lvl ∧ (g.markPay i r (lvl - p.wager)).resume.prev = r ∧
      (g.markPay i r (lvl - p.wager)).resume.raiser = i ∧
      q.stack = p.initial - lvl ∧ q.pot = p.pot ∧ q.bankroll = p.bankroll := by
  have hreb := hpi.rebase
  obtain ⟨⟨q2, hq2, hf2⟩, hcw2, hr2, hpv2⟩ := markPay_effect hp r (lvl - p.wager)
  obtain ⟨⟨q, hq, hfq⟩, hcw, hprev, hrs⟩ := resume_at hq2
  have hns : ¬ p.stack ≤ lvl - p.wager := by omega
  have e : p.wager + (lvl - p.wager) = lvl := by omega
  rw [if_neg hns, e, if_pos hx1] at hcw2 hr2
  obtain ⟨c1, _, c3, c4, c5, _⟩ := frame_chips (hfq.trans hf2)
  refine ⟨q, hq, ?_, hcw.trans hcw2, hprev.trans hpv2, hrs.trans hr2, ?_, ?_, ?_⟩
  · rw [c5, payF, if_neg hns]
    exact e
  · rw [c3, payF, if_neg hns, e]
    rfl
  · rw [c4, payF, if_neg hns]
    rfl
  · rw [c1, payF, if_neg hns]
    rfl

/-- `Call`: the caller ends level with the wager to match after the call (I2); that wager is the old one
    unless it was below the big blind (short big blind). -/
theorem doCall_effect {g : Game} {p : Player} (h : AtTurn g p) (hc : Act.call ∈ g.availableActions p) :
    ∃ q, (g.doCall g.cur).players[g.cur]? = some q ∧ q.wager = (g.doCall g.cur).cw ∧
      g.cw ≤ (g.doCall g.cur).cw ∧ (g.opts.blindBB ≤ g.cw → (g.doCall g.cur).cw = g.cw) ∧
      q.wager ≤ p.initial ∧ q.stack = p.initial - q.wager ∧ q.pot = p.pot ∧ q.bankroll = p.bankroll := by
  obtain ⟨hw, hi⟩ := avail_call hc
  have hreb := h.pinv.rebase
  rw [doCall_eq h.seat]
  generalize hcdef : g.callPay p = c
  unfold Game.callPay at hcdef
  obtain ⟨⟨q2, hq2, hf2⟩, hcw2, _, _⟩ := markPay_effect h.seat g.prev c
  obtain ⟨⟨q, hq, hfq⟩, hcw, _, _⟩ := resume_at hq2
  obtain ⟨c1, _, c3, c4, c5, _⟩ := frame_chips (hfq.trans hf2)
  refine ⟨q, hq, ?_⟩
  rw [hcw, hcw2, c5, c3, c4, c1]
  by_cases hbb : g.cw < g.opts.blindBB
  · rw [if_pos hbb] at hcdef
    by_cases hsc : p.stack ≤ c
    · rw [payF, if_pos hsc, if_pos hsc, if_pos hi]
      exact ⟨rfl, by omega, fun _ => by omega, Int.le_refl _, by show (0 : Int) = p.initial - p.initial; omega, rfl, rfl⟩
    · rw [payF, if_neg hsc, if_neg hsc, if_pos (by omega : g.cw < p.wager + c)]
      exact ⟨rfl, by omega, fun _ => by omega, by show p.wager + c ≤ p.initial; omega, rfl, rfl, rfl⟩
  · rw [if_neg hbb] at hcdef
    have hsc : ¬ p.stack ≤ c := by omega
    rw [payF, if_neg hsc, if_neg hsc, if_neg (by omega : ¬ g.cw < p.wager + c)]
    exact ⟨by show p.wager + c = g.cw; omega, Int.le_refl _, fun _ => rfl, by show p.wager + c ≤ p.initial; omega,
      rfl, rfl, rfl⟩

theorem doAllin_effect {g : Game} {i : Nat} {p : Player} (hp : g.players[i]? = some p) :
    ∃ q, (g.doAllin i).players[i]? = some q ∧ q.stack = 0 ∧ q.wager = p.initial ∧
      q.pot = p.pot ∧ q.bankroll = p.bankroll ∧ q.initial = p.initial ∧
      (g.doAllin i).cw = (if p.initial > g.cw then p.initial else g.cw) ∧
      (g.doAllin i).prev = (if p.initial - g.cw ≥ g.prev then p.initial - g.cw else g.prev) := by
  rw [doAllin_eq hp]
  obtain ⟨⟨q2, hq2, hf2⟩, hcw2, _, hpv2⟩ := markPay_effect hp
    (if p.initial - g.cw ≥ g.prev then p.initial - g.cw else g.prev) p.stack
  obtain ⟨⟨q, hq, hfq⟩, hcw, hprev, _⟩ := resume_at hq2
  obtain ⟨c1, c2, c3, c4, c5, _⟩ := frame_chips (hfq.trans hf2)
  rw [if_pos (Int.le_refl _)] at hcw2
  rw [payF, if_pos (Int.le_refl _)] at c1 c2 c3 c4 c5
  exact ⟨q, hq, c3, c5, c4, c1, c2, hcw.trans hcw2, hprev.trans hpv2⟩

theorem doBet_prev_cw {g : Game} {i : Nat} {p : Player} (hp : g.players[i]? = some p) (x : Int) :
    (g.doBet i x).prev = (payF x p).wager ∧
    (g.doBet i x).cw = (if p.stack ≤ x then (if p.initial > g.cw then p.initial else g.cw)
      else (if g.cw < p.wager + x then p.wager + x else g.cw)) := by
  obtain ⟨⟨q, hq, hf⟩, hcw, _, _⟩ := markPay_effect hp g.prev x
  rw [doBet_eq, resume_prev, resume_cw]
  refine ⟨?_, hcw⟩
  simp only [Game.recordBet, Game.setPrev, Game.wagerOf, hq, Option.map_some, Option.getD_some]
  exact frame_wager hf

theorem doBet_effect {g : Game} {p : Player} (h : AtTurn g p) (hb : Act.bet ∈ g.availableActions p)
    {x : Int} (hx0 : 0 < x) (hxs : x < p.stack) :
    ∃ q, (g.doBet g.cur x).players[g.cur]? = some q ∧ q.wager = x ∧ (g.doBet g.cur x).cw = x ∧
      (g.doBet g.cur x).prev = x ∧ (g.doBet g.cur x).raiser = g.cur ∧ q.stack = p.stack - x ∧
      q.pot = p.pot ∧ q.bankroll = p.bankroll := by
  have hcw0 := (avail_bet hb).2
  have hwz : p.wager = 0 := by
    have := h.pinv.wager0
    have := h.chips.wle p h.mem
    omega
  have hreb := h.pinv.rebase
  have hns : ¬ p.stack ≤ x := by omega
  obtain ⟨⟨q2, hq2, hf2⟩, hcw2, hr2, _⟩ := markPay_effect h.seat g.prev x
  have hq2' : ((g.markPay g.cur g.prev x).recordBet g.cur).players[g.cur]? = some q2 := hq2
  obtain ⟨⟨q, hq, hfq⟩, hcw, _, hrs⟩ := resume_at hq2'
  rw [if_neg hns, hwz, hcw0, Int.zero_add, if_pos hx0] at hcw2 hr2
  obtain ⟨c1, _, c3, c4, c5, _⟩ := frame_chips (hfq.trans hf2)
  rw [payF, if_neg hns] at c1 c3 c4 c5
  refine ⟨q, hq, ?_, hcw.trans hcw2, ?_, hrs.trans hr2, ?_, c4, c1⟩
  · rw [c5]
    show p.wager + x = x
    omega
  · rw [(doBet_prev_cw h.seat x).1, payF, if_neg hns]
    show p.wager + x = x
    omega
  · rw [c3]
    show p.initial - (p.wager + x) = p.stack - x
    omega

theorem doRaise_effect_uncapped {g : Game} {i : Nat} {p : Player} (hp : g.players[i]? = some p) (hpi : PInv p)
    {x : Int} (hc : g.opts.potLimit = false ∨ x - g.cw ≤ g.cw + g.prev) (hx1 : g.cw < x) (hx2 : x < p.initial) :
    ∃ q, (g.doRaise i p x).players[i]? = some q ∧ q.wager = x ∧ (g.doRaise i p x).cw = x ∧
      (g.doRaise i p x).prev = x - g.cw ∧ (g.doRaise i p x).raiser = i ∧
      q.stack = p.initial - x ∧ q.pot = p.pot ∧ q.bankroll = p.bankroll := by
  rw [doRaise_uncapped g i p x hc]
  exact raiseTo_effect hp hpi (x - g.cw) hx1 hx2

theorem doRaise_effect_capped {g : Game} {i : Nat} {p : Player} (hp : g.players[i]? = some p) (hpi : PInv p)
    (hpl : g.opts.potLimit = true) {x : Int} (hcap : x - g.cw > g.cw + g.prev) (hpos : 0 < g.cw + g.prev)
    (hx2 : x < p.initial) :
    ∃ q, (g.doRaise i p x).players[i]? = some q ∧ q.wager = 2 * g.cw + g.prev ∧
      (g.doRaise i p x).cw = 2 * g.cw + g.prev ∧
      (g.doRaise i p x).prev = g.cw + g.prev ∧ (g.doRaise i p x).raiser = i ∧
      q.stack = p.initial - (2 * g.cw + g.prev) ∧ q.pot = p.pot ∧ q.bankroll = p.bankroll := by
  rw [doRaise_capped g i p x hpl hcap]
  exact raiseTo_effect hp hpi (g.cw + g.prev) (by omega) (by omega)

theorem raise_within_cap {g : Game} {p : Player} (h : AtTurn g p)
    (hr : Act.raise ∈ p.allowed) {seat : Option Nat} (hs : ByCur g seat) {x : Int}
    (hcap : g.opts.potLimit = false ∨ x - g.cw ≤ g.cw + g.prev)
    (hx1 : g.cw < x) (hx2 : x < p.initial) (hx3 : x - g.cw ≥ g.prev) :
    (g.step (.act seat .raise x)).2 = none ∧
    (g.step (.act seat .raise x)).1.cw = x ∧
    (g.step (.act seat .raise x)).1.raiser = g.cur ∧
    (g.step (.act seat .raise x)).1.prev = x - g.cw ∧
    ∃ q, (g.step (.act seat .raise x)).1.players[g.cur]? = some q ∧ q.wager = x ∧
      q.stack = p.initial - x ∧ q.pot = p.pot ∧ q.bankroll = p.bankroll := by
  rw [h.allowed_eq] at hr
  rw [step_byCur hs, act_raise_dispatch h hr hx1]
  have : ¬ (x ≥ p.initial ∨ x - g.cw < g.prev) := by omega
  rw [if_neg this]
  obtain ⟨q, hq, e1, e2, e3, e4, e5, e6, e7⟩ := doRaise_effect_uncapped h.seat h.pinv hcap hx1 hx2
  exact ⟨rfl, e2, e4, e3, q, hq, e1, e5, e6, e7⟩

theorem raise_as_allin {g : Game} {p : Player} (h : AtTurn g p)
    (hr : Act.raise ∈ p.allowed) {seat : Option Nat} (hs : ByCur g seat) {x : Int}
    (hx1 : g.cw < x) (hbig : p.initial ≤ x ∨ x - g.cw < g.prev) :
    (g.step (.act seat .raise x)).2 = none ∧
    (g.step (.act seat .raise x)).1.cw = (if p.initial > g.cw then p.initial else g.cw) ∧
    ∃ q, (g.step (.act seat .raise x)).1.players[g.cur]? = some q ∧ q.stack = 0 ∧ q.wager = p.initial := by
  rw [h.allowed_eq] at hr
  rw [step_byCur hs, act_raise_dispatch h hr hx1, if_pos hbig]
  obtain ⟨q, hq, e1, e2, _, _, _, e6, _⟩ := doAllin_effect h.seat
  exact ⟨rfl, e6, q, hq, e1, e2⟩

end Pokerface
