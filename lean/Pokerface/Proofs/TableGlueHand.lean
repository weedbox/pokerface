/-
  One whole `prepareNextGame` of the table (Model/Table.lean), seen from the table it started from: the game that is
  created (`hand_created`) and, when it is played to the end, the sheet afterwards BY SEAT (`hand_played`: the game
  indices of `startGame` / `updatePlayerStates` do not leave the Proofs files).  Around it: the errors of `playHand`, a
  refused game refused again (`Stuck`), the `Playable` flags and a seat held out of play through the operations of the
  table, why the dealer of the created game has game index 0, and the hand-off as the seat manager sees it (`setup_nextOk`).
-/
import Pokerface.Proofs.TableGlueResult
import Pokerface.Proofs.EngineOpens

namespace Pokerface
namespace Table

theorem Created.tinv {t t1 : Table} {seats : List Nat} (h : TInv t) (hc : Created t t1 seats) : TInv t1 := by
  rw [hc.t1_eq]
  exact h.setupPosition

theorem Created.facts {t t1 : Table} {seats : List Nat} (h : TInv t) (hc : Created t t1 seats) :
    seats.Nodup ∧ seats.length = t1.sm.playableCount ∧
    (∀ s ∈ seats, t1.sm.playable s = true ∧ ∃ p, t1.playerAt s = some p) ∧
    ∃ d, t1.sm.dealer = some d ∧ seats = (t1.sm.normalize d).filter t1.sm.playable := by
  obtain ⟨d, hd, hseats, hnd, hlen, hmem⟩ := playableSeats_spec hc.seats
  refine ⟨hnd, hlen, ?_, d, hd, hseats⟩
  intro s hs
  have hp := ((hmem s).mp hs).2
  obtain ⟨p, hp'⟩ := (hc.tinv h).player_of_playable hp
  exact ⟨hp, p, playerAt_eq_some.mpr hp'⟩

theorem Created.nodup {t t1 : Table} {seats : List Nat} (h : TInv t) (hc : Created t t1 seats) : seats.Nodup :=
  (hc.facts h).1

theorem Created.playable {t t1 : Table} {seats : List Nat} (h : TInv t) (hc : Created t t1 seats) {s : Nat}
    (hs : s ∈ seats) : t1.sm.playable s = true :=
  ((hc.facts h).2.2.1 s hs).1

theorem Created.idxOK {t t1 : Table} {seats : List Nat} (h : TInv t) (hc : Created t t1 seats) :
    IdxOK (t1.assignGameIdx seats) seats := by
  obtain ⟨hnd, _, hpl, _⟩ := hc.facts h
  exact idxOK_assignGameIdx hnd (fun s hs => (hpl s hs).2)

theorem played_err {t2 : Table} {cfg : List SeatCfg} {finals : List Int} (hok : startRefusal cfg = none)
    (hl : finals.length = cfg.length) {e : TErr} (h : (playHand t2 cfg finals).2.err = some e) :
    e = .maxGames ∨ ∃ e0, e = nextErr e0 := by
  rw [playHand_played hok hl] at h
  split at h
  · exact Or.inl (Option.some.inj h).symm
  · exact Or.inr (setupPosition_err h)

theorem nextErr_ne_badInput (e0 : SMErr) : nextErr e0 ≠ .badInput := by
  cases e0 <;> exact TErr.noConfusion

theorem playHand_err_game {t2 : Table} {cfg : List SeatCfg} {finals : List Int} {e : Err} :
    (playHand t2 cfg finals).2.err = some (.game e) ↔ startRefusal cfg = some e := by
  constructor
  · intro h
    rcases playHand_trichotomy cfg finals with ⟨e', hr⟩ | ⟨hok, hl⟩ | ⟨hok, hl⟩
    · rw [playHand_refused hr] at h
      cases h
      exact hr
    · rw [playHand_badInput hok hl] at h
      cases h
    · rcases played_err hok hl h with he | ⟨e0, he⟩
      · cases he
      · exact absurd he.symm (nextErr_ne_game e0 e)
  · intro h
    rw [playHand_refused h]

theorem playHand_badInput_or_refused {t2 : Table} {cfg : List SeatCfg} {finals : List Int}
    (h : (∃ e, (playHand t2 cfg finals).2.err = some (.game e)) ∨
      (startRefusal cfg = none ∧ finals.length ≠ cfg.length)) :
    (playHand t2 cfg finals).1 = t2 := by
  rcases h with ⟨e, he⟩ | ⟨hn, hl⟩
  · rw [playHand_refused (playHand_err_game.mp he)]
  · rw [playHand_badInput hn hl]

theorem setupPosition_held {t : Table} (h : TInv t) {i : Nat} (hh : SM.Held t.sm i) : SM.Held t.setupPosition.1.sm i := by
  rcases setupPosition_sm t with hs | hs <;> rw [hs]
  · exact hh
  · exact SM.step_held h.smr.inv hh _ (by simp)

theorem played_sheet {t2 : Table} (h2 : TInv t2) {seats : List Nat} (hi : IdxOK t2 seats) {cfg : List SeatCfg}
    (hcfg : cfg = t2.gameSeats seats) {finals : List Int} (hok : startRefusal cfg = none) (hl : finals.length = cfg.length) :
    TInv (playHand t2 cfg finals).1 ∧
    (∀ j, ((playHand t2 cfg finals).1.playerAt j).map money =
      ((t2.playerAt j).bind (writeBack t2.opts.leaveMode finals)).map money) ∧
    (playHand t2 cfg finals).1.sheetTotal + (cfg.map (·.bankroll)).sum = t2.sheetTotal + finals.sum ∧
    (∀ (k s : Nat), finals[k]? = some 0 → seats[k]? = some s → SM.Held (playHand t2 cfg finals).1.sm s) := by
  have hlen : finals.length = seats.length := by rw [hl, hcfg, gameSeats_length]
  obtain ⟨_, hpl, htot, hbust⟩ := applyResult_spec h2 hi finals (Nat.le_of_eq hlen)
  have htake : (t2.gameSeats seats).take finals.length = cfg := by
    rw [hcfg, hlen, ← gameSeats_length t2 seats, List.take_length]
  rw [htake] at htot
  have hcl := TInv.closed h2 finals
  have hmoney : ∀ j, ((t2.closed finals).playerAt j).map money = _ := fun j => congrArg (Option.map money) (hpl j)
  rcases played_state (t2 := t2) hok hl with he | he <;> rw [he]
  · exact ⟨hcl, hmoney, htot, hbust⟩
  · refine ⟨hcl.setupPosition, fun j => (setupPosition_money _ j).trans (hmoney j),
      by rw [setupPosition_sheetTotal]; exact htot, fun k s hk hs => setupPosition_held hcl (hbust k s hk hs)⟩

theorem hand_created {t : Table} {finals : List Int} {cfg : List SeatCfg}
    (hc : (t.step (.hand finals)).2.cfg = some cfg) :
    ∃ t1 seats, Created t t1 seats ∧ cfg = t1.gameSeats seats ∧
      t.step (.hand finals) = playHand (t1.assignGameIdx seats) cfg finals := by
  obtain ⟨t1, seats, hcr, hcfg⟩ := prepareNextGame_cfg (t := t) (finals := finals) hc
  have he := gameSeats_assignGameIdx t1 seats seats
  refine ⟨t1, seats, hcr, hcfg.trans he, ?_⟩
  show t.prepareNextGame finals = _
  rw [prepareNextGame_created hcr, hcfg]

theorem hand_played {t : Table} (hi : TInv t) {finals : List Int} {cfg : List SeatCfg}
    (hc : (t.step (.hand finals)).2.cfg = some cfg) (hok : startRefusal cfg = none) (hl : finals.length = cfg.length) :
    ∃ t1 seats, Created t t1 seats ∧ cfg = t1.gameSeats seats ∧
      t.step (.hand finals) = playHand (t1.assignGameIdx seats) cfg finals ∧
      TInv (t.step (.hand finals)).1 ∧
      (∀ (k s : Nat), seats[k]? = some s → ∃ p f, t.playerAt s = some p ∧ finals[k]? = some f ∧
        (cfg[k]?).map (·.bankroll) = some p.bankroll ∧
        ((t.step (.hand finals)).1.playerAt s).map money =
          if f = 0 ∧ t.opts.leaveMode = true then none else some (p.pid, f)) ∧
      (∀ j, j ∉ seats → ((t.step (.hand finals)).1.playerAt j).map money = (t.playerAt j).map money) ∧
      (t.step (.hand finals)).1.sheetTotal + (cfg.map (·.bankroll)).sum = t.sheetTotal + finals.sum ∧
      ∀ (k s : Nat), finals[k]? = some 0 → seats[k]? = some s → SM.Held (t.step (.hand finals)).1.sm s := by
  obtain ⟨t1, seats, hcr, hcfg, hstep⟩ := hand_created hc
  have hidx := hcr.idxOK hi
  have hcfg2 := hcfg.trans (gameSeats_assignGameIdx t1 seats seats).symm
  obtain ⟨hT, hmoney, htot, hbust⟩ := played_sheet ((hcr.tinv hi).assignGameIdx seats) hidx hcfg2 hok hl
  have hopts : (t1.assignGameIdx seats).opts = t.opts := by rw [assignGameIdx_opts, hcr.t1_eq, setupPosition_opts]
  rw [← hstep] at hT hmoney htot hbust
  rw [hopts] at hmoney
  -- the sheet `startGame` indexed is that of `t`: same players, same bankrolls
  have hm12 : ∀ j, ((t1.assignGameIdx seats).playerAt j).map money = (t.playerAt j).map money := by
    intro j
    rw [assignGameIdx_proj money fun _ _ => rfl, hcr.t1_eq, setupPosition_money]
  refine ⟨t1, seats, hcr, hcfg, hstep, hT, ?_, ?_, ?_, hbust⟩
  · intro k s hks
    have hk : k < finals.length := by
      rw [hl, hcfg, gameSeats_length]
      exact (List.getElem?_eq_some_iff.mp hks).1
    obtain ⟨q, hq, hwb⟩ := hidx.writeBack_at hks (List.getElem?_eq_getElem hk) t.opts.leaveMode
    obtain ⟨p, hp, hpq⟩ := Option.map_eq_some_iff.mp ((hm12 s).symm.trans (congrArg (Option.map money) hq))
    simp only [money, Prod.mk.injEq] at hpq
    refine ⟨p, finals[k], hp, List.getElem?_eq_getElem hk, ?_, ?_⟩
    · rw [hcfg2, gameSeats_getElem?, hks, Option.map_some, Option.map_some,
        seatCfgAt_of_player (playerAt_eq_some.mp hq)]
      show some q.bankroll = _
      rw [hpq.2]
    · rw [hmoney s, hwb, money_written, hpq.1]
  · intro j hj
    rw [hmoney j, hidx.writeBack_off hj, hm12 j]
  · rw [htot, assignGameIdx_sheetTotal, hcr.t1_eq, setupPosition_sheetTotal]

theorem hand_cfg_indep (t : Table) (f1 f2 : List Int) : (t.step (.hand f1)).2.cfg = (t.step (.hand f2)).2.cfg := by
  show (t.prepareNextGame f1).2.cfg = (t.prepareNextGame f2).2.cfg
  rcases prepareNextGame_cases t f1 with ⟨t1, seats, hcr, he⟩ | ⟨_, hn, _⟩
  · rw [he, prepareNextGame_created hcr f2, playHand_cfg, playHand_cfg]
  · rcases prepareNextGame_cases t f2 with ⟨t1, seats, hcr, _⟩ | ⟨_, hn2, _⟩
    · rw [prepareNextGame_created hcr f1, playHand_cfg] at hn
      cases hn
    · rw [hn, hn2]


theorem playHand_err_badInput {t2 : Table} {cfg : List SeatCfg} {finals : List Int}
    (h : (playHand t2 cfg finals).2.err = some .badInput) : startRefusal cfg = none ∧ finals.length ≠ cfg.length := by
  rcases playHand_trichotomy cfg finals with ⟨e', hr⟩ | hbad | ⟨hok, hl⟩
  · rw [playHand_refused hr] at h
    cases h
  · exact hbad
  · rcases played_err hok hl h with he | ⟨e0, he⟩
    · cases he
    · exact absurd he.symm (nextErr_ne_badInput e0)

theorem playHand_ok {t2 : Table} {cfg : List SeatCfg} {finals : List Int} (h : (playHand t2 cfg finals).2.err = none) :
    startRefusal cfg = none ∧ finals.length = cfg.length ∧
    (t2.closed finals).setupPosition = ((playHand t2 cfg finals).1, none) := by
  rcases playHand_trichotomy cfg finals with ⟨e', hr⟩ | ⟨hok, hl⟩ | ⟨hok, hl⟩
  · rw [playHand_refused hr] at h
    cases h
  · rw [playHand_badInput hok hl] at h
    cases h
  · refine ⟨hok, hl, ?_⟩
    rw [playHand_played hok hl] at h ⊢
    split at h
    · cases h
    · rw [if_neg (by assumption), ← h]

/-- the positions are set up, a game can be created, and `Start()` refuses it with `e` -/
structure Stuck (t : Table) (seats : List Nat) (e : Err) : Prop where
  inPos : t.inPosition = true
  created : Created t t seats
  nodup : seats.Nodup
  refused : startRefusal (t.gameSeats seats) = some e

theorem Stuck.of_created {t t1 : Table} {seats : List Nat} {e : Err} (hc : Created t t1 seats) (hnd : seats.Nodup)
    (hr : startRefusal (t1.gameSeats seats) = some e) : Stuck (t1.assignGameIdx seats) seats e := by
  have hin : (t1.assignGameIdx seats).inPosition = true := by
    rw [assignGameIdx_inPosition]
    exact setupPosition_ok_inPosition hc.setup
  refine ⟨hin, ⟨?_, setupPosition_of_inPosition hin, ?_, ?_⟩, hnd, ?_⟩
  · have := hc.notMax
    unfold maxGamesReached at this ⊢
    rw [assignGameIdx_opts, assignGameIdx_gameCount, hc.t1_eq, setupPosition_gameCount, setupPosition_opts]
    exact this
  · rw [assignGameIdx_gameCount, assignGameIdx_sm, assignGameIdx_opts]
    exact hc.enough
  · rw [assignGameIdx_sm]
    exact hc.seats
  · rw [gameSeats_assignGameIdx]
    exact hr

theorem Stuck.step {t : Table} {seats : List Nat} {e : Err} (h : Stuck t seats e) (f : List Int) :
    t.step (.hand f) = (t.assignGameIdx seats, { err := some (.game e), cfg := some (t.gameSeats seats) }) ∧
    Stuck (t.assignGameIdx seats) seats e := by
  refine ⟨?_, Stuck.of_created h.created h.nodup h.refused⟩
  show t.prepareNextGame f = _
  rw [prepareNextGame_created h.created, gameSeats_assignGameIdx, playHand_refused h.refused]

theorem hand_refused {t : Table} (hi : TInv t) {f : List Int} {e : Err}
    (h : (t.step (.hand f)).2.err = some (.game e)) :
    ∃ t1 seats, Created t t1 seats ∧ seats.Nodup ∧ startRefusal (t1.gameSeats seats) = some e ∧
      t.step (.hand f) = (t1.assignGameIdx seats, { err := some (.game e), cfg := some (t1.gameSeats seats) }) := by
  rcases prepareNextGame_cases t f with ⟨t1, seats, hcr, he⟩ | ⟨_, _, hne⟩
  · rw [gameSeats_assignGameIdx] at he
    have hr : startRefusal (t1.gameSeats seats) = some e := playHand_err_game.mp (by rw [← he]; exact h)
    exact ⟨t1, seats, hcr, hcr.nodup hi, hr, by rw [← playHand_refused hr]; exact he⟩
  · exact absurd h (hne e)

theorem refused_again {t : Table} {seats : List Nat} {e : Err} (h : Stuck t seats e) (fs : List (List Int)) (f : List Int) :
    ((t.run (fs.map .hand)).step (.hand f)).2.err = some (.game e) ∧
    ((t.run (fs.map .hand)).step (.hand f)).2.cfg = some (t.gameSeats seats) := by
  induction fs generalizing t with
  | nil =>
    show (t.step (.hand f)).2.err = _ ∧ (t.step (.hand f)).2.cfg = _
    rw [(h.step f).1]
    exact ⟨rfl, rfl⟩
  | cons f0 fs ih =>
    rw [List.map_cons, run_cons, (h.step f0).1]
    have := ih (h.step f0).2
    rw [gameSeats_assignGameIdx] at this
    exact this


theorem setupPosition_flag {t : Table} (hp : t.inPosition = false) (hin : t.setupPosition.1.inPosition = true)
    {i : Nat} {p : TPlayer} (h : t.setupPosition.1.playerAt i = some p) :
    p.playable = t.setupPosition.1.sm.playable i := by
  have hs : t.setupPosition.2 = none := by
    apply Classical.byContradiction
    intro hne
    rw [setupPosition_failed_inPosition hp hne] at hin
    cases hin
  rw [setupPosition_ok_playerAt hp (pair_of_snd hs)] at h
  cases hq : t.playerAt i with
  | none =>
    rw [hq] at h
    cases h
  | some q =>
    rw [hq] at h
    cases h
    rfl

theorem played_flags {t2 : Table} {cfg : List SeatCfg} {finals : List Int} (hok : startRefusal cfg = none)
    (hl : finals.length = cfg.length) (hin : (playHand t2 cfg finals).1.inPosition = true) {i : Nat} {p : TPlayer}
    (h : (playHand t2 cfg finals).1.playerAt i = some p) : p.playable = (playHand t2 cfg finals).1.sm.playable i := by
  rcases played_state (t2 := t2) hok hl with he | he
  · rw [he] at hin
    cases hin
  · rw [he] at hin h ⊢
    exact setupPosition_flag rfl hin h

theorem lastDealer_zero (cfg : List SeatCfg) (hne : cfg ≠ [])
    (h : ∀ (k : Nat) c, cfg[k]? = some c → (c.dealer = true ↔ k = 0)) :
    (cfg.zipIdx.reverse.find? (fun x => x.1.dealer)).map (·.2) = some 0 := by
  cases cfg with
  | nil => exact absurd rfl hne
  | cons c0 tl =>
    have hnone : (tl.zipIdx 1).reverse.find? (fun x => x.1.dealer) = none := by
      rw [List.find?_eq_none]
      intro x hx
      have hx' := List.mem_reverse.mp hx
      have h1 := (List.mem_zipIdx hx').1
      have h2 : (c0 :: tl)[x.2]? = some x.1 :=
        List.mem_zipIdx_iff_getElem?.mp (by rw [List.zipIdx_cons]; exact List.mem_cons_of_mem _ hx')
      cases hd : x.1.dealer with
      | false => exact Bool.false_ne_true
      | true => exact absurd ((h _ _ h2).mp hd) (Nat.ne_of_gt h1)
    rw [List.zipIdx_cons, List.reverse_cons, List.find?_append, hnone, Option.none_or, List.find?_singleton,
      if_pos ((h 0 c0 rfl).mpr rfl)]
    rfl

theorem dealerIdx?_zero (m : Meta) (cfg : List SeatCfg) (hne : cfg ≠ [])
    (h : ∀ (k : Nat) c, cfg[k]? = some c → (c.dealer = true ↔ k = 0)) :
    ({ opts := m, players := (⟨m, cfg⟩ : Config).players } : Game).dealerIdx? = some 0 := by
  rw [config_dealerIdx? ⟨m, cfg⟩]
  exact lastDealer_zero cfg hne h

theorem prepareNextGame_held {t : Table} (h : TInv t) {i : Nat} (hh : SM.Held t.sm i) (finals : List Int) :
    SM.Held (t.prepareNextGame finals).1.sm i :=
  (prepareNextGame_preserves (P := fun t => TInv t ∧ SM.Held t.sm i)
    (fun _ h => ⟨h.1.setupPosition, setupPosition_held h.1 h.2⟩)
    (fun _ seats h => ⟨h.1.assignGameIdx seats, by rw [assignGameIdx_sm]; exact h.2⟩)
    (fun _ f h => ⟨TInv.closed h.1 f, applyResult_held h.1 h.2 f⟩) ⟨h, hh⟩ finals).2

theorem step_held {t : Table} (h : TInv t) {i : Nat} (hh : SM.Held t.sm i) (op : TOp)
    (hop : op ≠ .activate (i : Int)) : SM.Held (t.step op).1.sm i := by
  cases op with
  | join seat pid bankroll chose =>
    rcases join_cases t seat pid bankroll chose with ⟨e, he⟩ | ⟨k, s, _, _, hsm, he⟩
    · rw [he]
      exact hh
    · rw [he]
      exact hsm ▸ SM.step_held h.smr.inv hh (.join seat pid chose) (by simp)
  | leave seat => exact leave_held h hh seat
  | activate seat =>
    exact SM.step_held h.smr.inv hh (.seat seat) (by intro he; apply hop; cases he; rfl)
  | reserve seat =>
    rw [step_reserve]
    exact SM.step_held h.smr.inv hh (.reserve seat) (by simp)
  | setup => exact setupPosition_held h hh
  | hand finals => exact prepareNextGame_held h hh finals

theorem run_held {t : Table} (h : TInv t) {i : Nat} (hh : SM.Held t.sm i) (ops : List TOp)
    (hops : ∀ op ∈ ops, op ≠ .activate (i : Int)) : SM.Held (t.run ops).sm i := by
  induction ops generalizing t with
  | nil => exact hh
  | cons op ops ih =>
    rw [run_cons]
    exact ih (h.step op) (step_held h hh op (hops op (by simp))) (fun o ho => hops o (by simp [ho]))

theorem setup_nextOk {t t' : Table} (h : TInv t) (hp : t.inPosition = false) (hs : t.setupPosition = (t', none)) :
    ∃ d ks kb, SM.NextOk t.sm t'.sm d ks kb := by
  obtain ⟨hok, he⟩ := setupPosition_ok hp hs
  have hsm : t'.sm = (t.sm.step .next).1 := by rw [he]
  rw [hsm]
  exact SM.next_ok h.smr.inv hok

end Table
end Pokerface
