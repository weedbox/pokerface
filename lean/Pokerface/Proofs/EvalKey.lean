import Pokerface.Proofs.EvalSort
/-!
  C03: the specified order on `PokerKey` is total and asymmetric (`PokerKey.lt_trichotomy`, `PokerKey.lt_asymm`; transitivity
  is not needed and not proved), and the key does not depend on the order of the cards.
-/
namespace Pokerface.C03

theorem PokerKey.lt_trichotomy (k₁ k₂ : PokerKey) : k₁ < k₂ ∨ k₁ = k₂ ∨ k₂ < k₁ := by
  obtain ⟨i₁, t₁⟩ := k₁
  obtain ⟨i₂, t₂⟩ := k₂
  simp only [PokerKey.lt_def, PokerKey.mk.injEq]
  rcases Nat.lt_trichotomy i₁ i₂ with h | h | h
  · exact Or.inl (Or.inl h)
  · rcases Std.lt_trichotomy t₁ t₂ with h' | h' | h'
    · exact Or.inl (Or.inr ⟨h, h'⟩)
    · exact Or.inr (Or.inl ⟨h, h'⟩)
    · exact Or.inr (Or.inr (Or.inr ⟨h.symm, h'⟩))
  · exact Or.inr (Or.inr (Or.inl h))

theorem PokerKey.lt_asymm (k₁ k₂ : PokerKey) (h : k₁ < k₂) : ¬ k₂ < k₁ := by
  obtain ⟨i₁, t₁⟩ := k₁
  obtain ⟨i₂, t₂⟩ := k₂
  simp only [PokerKey.lt_def] at h ⊢
  rintro (h' | ⟨h', h''⟩)
  · omega
  · rcases h with h | ⟨_, h⟩
    · omega
    · exact List.lt_asymm h h''

theorem key_lt_irrefl (k : PokerKey) : ¬ k < k := fun h => PokerKey.lt_asymm k k h h

theorem pokerKey_perm (T : List Cat) {h h' : List Card} (p : h.Perm h') :
    pokerKey T h = pokerKey T h' := by
  have pr : (ranks h).Perm (ranks h') := p.map _
  simp only [pokerKey, specCat_perm pr, specTiebreak_perm pr, sameSuit_perm p]

theorem valid_perm {h h' : List Card} (p : h.Perm h') (hv : Valid h) : Valid h' := by
  have pr : (ranks h).Perm (ranks h') := p.map _
  exact
    { five := by rw [← p.length_eq]; exact hv.five
      inRange := fun c hc => hv.inRange c (p.mem_iff.2 hc)
      atMostFour := fun r => by rw [← pr.count_eq]; exact hv.atMostFour r
      flushDistinct := fun hf => pr.nodup_iff.1 (hv.flushDistinct (by rw [sameSuit_perm p]; exact hf)) }

end Pokerface.C03
