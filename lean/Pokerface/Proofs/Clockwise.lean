/-
  The clockwise walk on a table of `n` seats: one step (`cwNext`), `k` steps (`cwIter`), and `k` steps as an addition
  modulo `n`.
-/
namespace Pokerface

/-- one seat clockwise on a table of `n` seats (game.go `NextPlayer`) -/
def cwNext (n s : Nat) : Nat := if s + 1 = n then 0 else s + 1

def cwIter (n : Nat) : Nat → Nat → Nat
  | 0, s => s
  | k + 1, s => cwIter n k (cwNext n s)

theorem cwNext_lt {n s : Nat} (hn : 0 < n) (hs : s < n) : cwNext n s < n := by
  unfold cwNext
  split
  · omega
  · omega

theorem cwIter_lt {n : Nat} : ∀ (k : Nat) {s : Nat}, s < n → cwIter n k s < n
  | 0, _, h => h
  | k + 1, _, h => cwIter_lt k (cwNext_lt (by omega) h)

theorem cwIter_eq_mod {n : Nat} : ∀ (k : Nat) {s : Nat}, s < n → cwIter n k s = (s + k) % n
  | 0, s, h => by simp [cwIter, Nat.mod_eq_of_lt h]
  | k + 1, s, h => by
    show cwIter n k (cwNext n s) = _
    rw [cwIter_eq_mod k (show cwNext n s < n from cwIter_lt 1 h)]
    unfold cwNext
    split
    · rename_i e
      have : s + (k + 1) = n + k := by omega
      rw [this, Nat.add_mod_left, Nat.zero_add]
    · congr 1
      omega

/-- the step on seat indices read as `Int`, the way the Go loops take it (`cur++; if cur == n { cur = 0 }`) -/
theorem cwNext_cast (n s : Nat) : ((cwNext n s : Nat) : Int) = if (s : Int) + 1 = n then 0 else (s : Int) + 1 := by
  unfold cwNext
  by_cases h : s + 1 = n
  · have h' : (s : Int) + 1 = n := by omega
    rw [if_pos h, if_pos h']
    rfl
  · have h' : ¬ (s : Int) + 1 = n := by omega
    rw [if_neg h, if_neg h']
    rfl

theorem cwIter_succ (n : Nat) : ∀ (k s : Nat), cwIter n (k + 1) s = cwNext n (cwIter n k s)
  | 0, _ => rfl
  | k + 1, s => cwIter_succ n k (cwNext n s)

theorem cwNext_add_mod {n s : Nat} (hs : s < n) (k : Nat) : (cwNext n s + k) % n = (s + (k + 1)) % n := by
  rw [← cwIter_eq_mod k (cwNext_lt (by omega) hs), ← cwIter_eq_mod (k + 1) hs]
  rfl

theorem cwIter_full {n s : Nat} (h : s < n) : cwIter n n s = s := by
  rw [cwIter_eq_mod n h, Nat.add_mod_right, Nat.mod_eq_of_lt h]

end Pokerface
