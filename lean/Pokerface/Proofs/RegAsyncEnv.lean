/-
  The ASYNCHRONOUS system regulator × tables × players on the way back
  (Model/RegulatorAsync.lean) and `AInv`, THE invariant of regulator × environment on the widest
  domain: the regulator is well-formed and its ledger is right (queued + seated + on the way), its
  sheet is the real one, every alive player is in exactly one place.  It is preserved by every
  operation valid with re-entries (`AInv.step_full_re`; the eight domains and their names:
  Proofs/RegReentry.lean), hence by every valid operation and on every reachable state.
  Registration, status change and report are instances of one lemma (`AInv.enter`); the sync is
  `AInv.step_sync`.  The forward-only invariant `AInvF` is built on `AInv`
  (Proofs/RegAsyncCapEnv.lean); how the synchronous system follows: header of Proofs/RegEnv.lean.
-/
import Pokerface.Model.RegulatorAsync
import Pokerface.Proofs.RegSheet
import Pokerface.Proofs.RegTotal
import Pokerface.Proofs.RegReentry

namespace Pokerface
open Reg

namespace ASys

theorem flying_eq (s : ASys) : s.flying = seatedOf s.inflight := rfl

theorem flyingOf_eq (s : ASys) (t : Nat) : s.flyingOf t = seatedOf (s.inflight.filter (·.1 == t)) := rfl

/-- the batches for table `t` and the others are all batches, up to order -/
theorem count_seatedOf_filter (m : List (Nat × List Nat)) (t a : Nat) :
    (seatedOf m).count a =
      (seatedOf (m.filter (·.1 == t))).count a + (seatedOf (m.filter (·.1 != t))).count a := by
  have h := ((List.filter_append_perm (·.1 == t) m).map (·.2)).flatten.count_eq a
  rw [List.map_append, List.flatten_append, List.count_append] at h
  exact h.symm

theorem perm_flying_report (s : ASys) (t : Nat) (ps rest : List Nat)
    (hperm : (s.flyingOf t).Perm (ps ++ rest)) :
    (seatedOf (s.inflight.filter (fun e => e.1 != t) ++ (if rest.isEmpty then [] else [(t, rest)])) ++ ps).Perm
      s.flying := by
  rw [List.perm_iff_count]
  intro a
  have c1 := count_seatedOf_filter s.inflight t a
  have c3 := hperm.count_eq a
  rw [flyingOf_eq] at c3
  rw [flying_eq, seatedOf_rest]
  simp only [List.count_append] at c3 ⊢
  omega

theorem step_add_r (s : ASys) (ps ch : List Nat) : (s.step (.add ps ch)).r = (s.r.addPlayers ps ch).1 := by
  simp only [step]
  generalize s.r.addPlayers ps ch = p
  obtain ⟨r', e⟩ := p
  cases e <;> rfl

theorem step_add_inflight (s : ASys) (ps ch : List Nat) : (s.step (.add ps ch)).inflight = s.inflight := by
  simp only [step]
  generalize s.r.addPlayers ps ch = p
  obtain ⟨r', e⟩ := p
  cases e <;> rfl

theorem step_add_refused (s : ASys) (ps ch : List Nat) (hs : s.r.status = .afterRegDeadline) :
    s.step (.add ps ch) = { r := s.r.beginOp ch, env := s.env, inflight := s.inflight } := by
  simp only [step, addPlayers_refused s.r ps ch hs]

theorem step_add_accepted (s : ASys) (ps ch : List Nat) (hs : s.r.status ≠ .afterRegDeadline) :
    s.step (.add ps ch) =
      { r := (s.r.addPlayers ps ch).1,
        env := { members := Env.applyCalls s.env.members (s.r.addPlayers ps ch).1.calls,
                 alive := s.env.alive ++ ps, registered := s.env.registered ++ ps },
        inflight := s.inflight } := by
  simp only [step, addPlayers_accepted s.r ps ch hs]

theorem step_sync_r (s : ASys) (t : Nat) (elim stay rel keep : List Nat) :
    (s.step (.sync t elim stay rel keep)).r = (s.syncAnswer t elim).1 := by
  simp only [step]
  split <;> rfl

theorem step_sync_known {s : ASys} {t : Nat} {ms : List Nat} (hm : s.env.membersOf t = some ms)
    (elim stay rel keep : List Nat) :
    s.step (.sync t elim stay rel keep) =
      { r := (s.syncAnswer t elim).1,
        env := { s.env with
                 members := if s.broken t elim then s.env.members.filter (fun e => e.1 != t)
                            else setMembers t keep s.env.members,
                 alive := s.env.alive.filter (fun p => !elim.contains p) },
        inflight := if rel.isEmpty then s.inflight else s.inflight ++ [(t, rel)] } := by
  simp only [step, hm]
  rfl

theorem ok_sync_known {s : ASys} {t : Nat} {ms : List Nat} (hm : s.env.membersOf t = some ms)
    (elim stay rel keep : List Nat) :
    s.ok (.sync t elim stay rel keep) ↔
      ms.Perm (elim ++ stay) ∧ (stay ++ (s.syncAnswer t elim).2.2.2).Perm (rel ++ keep) ∧
      (rel.length : Int) = (s.syncAnswer t elim).2.2.1 ∧ (s.broken t elim = true → keep = []) := by
  simp only [ok, hm]

/-- invariant of the asynchronous system between operations -/
structure AInv (s : ASys) : Prop where
  wf : WF0 s.r
  cnt : s.r.playerCount = s.r.queue.length + sumCount s.r.tables + (s.flying.length : Int)
  sim : tview s.r.tables = mview s.env.members
  cons : s.env.alive.Perm (s.r.queue ++ seatedOf s.env.members ++ s.flying)
  nodup : s.env.alive.Nodup
  sub : ∀ p ∈ s.env.alive, p ∈ s.env.registered
  lenle : s.env.alive.length ≤ s.env.registered.length

/-- `AInv` of a state given by its components, with `flying` unfolded: the form the step lemmas
    produce -/
theorem AInv.of_parts {r' : Reg} {e' : Env} {fl' : List (Nat × List Nat)} (wf : WF0 r')
    (cnt : r'.playerCount = r'.queue.length + sumCount r'.tables + ((seatedOf fl').length : Int))
    (sim : tview r'.tables = mview e'.members)
    (cons : e'.alive.Perm (r'.queue ++ seatedOf e'.members ++ seatedOf fl'))
    (nodup : e'.alive.Nodup) (sub : ∀ p ∈ e'.alive, p ∈ e'.registered) :
    AInv { r := r', env := e', inflight := fl' } :=
  ⟨wf, cnt, sim, cons, nodup, sub, nodup.length_le_of_subset sub⟩

theorem AInv.ids_nodup {s : ASys} (h : AInv s) : (s.env.members.map (·.1)).Nodup := by
  rw [← mview_fst, ← h.sim, tview_fst]
  exact h.wf.nodup

theorem AInv.pc {s : ASys} (h : AInv s) : s.r.playerCount = s.env.alive.length := by
  have h1 := h.cons.length_eq
  simp only [List.length_append] at h1
  have h2 := seatedOf_length s.env.members
  rw [← h.sim, ← sumCount_eq] at h2
  rw [h.cnt]
  omega

theorem AInv.pc_nonneg {s : ASys} (h : AInv s) : 0 ≤ s.r.playerCount := by
  rw [h.pc]
  omega

theorem AInv.init (max min : Nat) : AInv (ASys.init max min) := by
  unfold ASys.init
  exact ⟨⟨rfl, List.nodup_nil, (fun _ h => by cases h), (fun _ h => by cases h)⟩, rfl,
    rfl, List.Perm.refl _, List.nodup_nil, (fun _ h => by cases h), Nat.le_refl _⟩

/-- what happened inside one step, in terms of the observation functions of the model -/
structure AStepFacts (s : ASys) (op : AOp) : Prop where
  max_eq : (s.step op).r.max = s.r.max
  min_eq : (s.step op).r.min = s.r.min
  handout : s.r.queue ++ s.incoming op = s.returned op ++ handed (s.step op).r.calls ++ (s.step op).r.queue
  status_eq : (s.step op).r.status = s.statusAfter op
  flying : ((s.step op).flying ++ ASys.reported op).Perm (s.flying ++ s.departing op)
  reqmax : ∀ id ps, RCall.requestTable id ps ∈ (s.step op).r.calls → ps.length ≤ s.r.max
  newids : ∀ id ps, RCall.requestTable id ps ∈ (s.step op).r.calls → s.r.nextId ≤ id

theorem AStepFacts.of_eq {s : ASys} {op : AOp} {r' : Reg} {e' : Env} {fl' : List (Nat × List Nat)}
    {inc ret dep : List Nat} (hstep : s.step op = { r := r', env := e', inflight := fl' })
    (hi : s.incoming op = inc) (hr : s.returned op = ret) (hd : s.departing op = dep)
    (max_eq : r'.max = s.r.max) (min_eq : r'.min = s.r.min)
    (handout : s.r.queue ++ inc = ret ++ handed r'.calls ++ r'.queue)
    (status_eq : r'.status = s.statusAfter op)
    (flying : (seatedOf fl' ++ ASys.reported op).Perm (s.flying ++ dep))
    (reqmax : ∀ id ps, RCall.requestTable id ps ∈ r'.calls → ps.length ≤ s.r.max)
    (newids : ∀ id ps, RCall.requestTable id ps ∈ r'.calls → s.r.nextId ≤ id) : AStepFacts s op := by
  subst hi hr hd
  have hr' : (s.step op).r = r' := by
    rw [hstep]
  have hfl' : (s.step op).flying = seatedOf fl' := by
    rw [hstep]
    rfl
  rw [← hr'] at max_eq min_eq handout status_eq reqmax newids
  rw [← hfl'] at flying
  exact ⟨max_eq, min_eq, handout, status_eq, flying, reqmax, newids⟩

/-- a refused or unknown-table operation: only the scratch fields of the regulator change -/
theorem AInv.scratch {s : ASys} (h : AInv s) (ch : List Nat) :
    AInv { r := s.r.beginOp ch, env := s.env, inflight := s.inflight } :=
  ⟨h.wf.beginOp ch, h.cnt, h.sim, h.cons, h.nodup, h.sub, h.lenle⟩

theorem AStepFacts.scratch {s : ASys} {op : AOp} {ch : List Nat}
    (hstep : s.step op = { r := s.r.beginOp ch, env := s.env, inflight := s.inflight })
    (hi : s.incoming op = []) (hr : s.returned op = []) (hd : s.departing op = [])
    (hrep : ASys.reported op = []) (hst : s.r.status = s.statusAfter op) : AStepFacts s op := by
  refine AStepFacts.of_eq hstep hi hr hd rfl rfl ?_ hst ?_ ?_ ?_
  · simp [Reg.beginOp, handed]
  · rw [hrep]
    exact List.Perm.refl _
  · intro id qs hm
    simp [Reg.beginOp] at hm
  · intro id qs hm
    simp [Reg.beginOp] at hm

/-- an operation that only lets players into the waiting queue and drains it (`AddPlayers`,
    `SetStatus`, `ReleasePlayers`): `new` become alive, `inc` enter the queue, from outside or from
    the way back -/
theorem AInv.enter {s : ASys} (h : AInv s) {r' : Reg} {e' : Env} {fl' : List (Nat × List Nat)}
    {inc new : List Nat} (hwf : WF0 r') (hx : OpExt s.r r' inc)
    (hpc : r'.playerCount = s.r.playerCount + new.length)
    (hm : e'.members = Env.applyCalls s.env.members r'.calls) (ha : e'.alive = s.env.alive ++ new)
    (hf : (seatedOf fl' ++ inc).Perm (s.flying ++ new))
    (hnd : new.Nodup) (hdisj : ∀ p ∈ new, p ∉ s.env.alive)
    (hsub : ∀ p ∈ e'.alive, p ∈ e'.registered) :
    AInv { r := r', env := e', inflight := fl' } := by
  obtain ⟨hsim', hseat'⟩ := opext_env hx h.sim h.ids_nodup
  have hc := hx.cnt0 h.wf
  have hl := hf.length_eq
  simp only [List.length_append] at hl
  refine AInv.of_parts hwf ?_ (hm ▸ hsim') ?_ ?_ hsub
  · rw [hpc, h.cnt]
    omega
  · rw [hm, ha]
    exact perm_after_op h.cons hx.queue hseat' hf
  · rw [ha]
    exact List.nodup_append.2 ⟨h.nodup, hnd, fun a ha b hb hab => hdisj b hb (hab ▸ ha)⟩

theorem AInv.step_add {s : ASys} (h : AInv s) (ps ch : List Nat) (hnd : ps.Nodup)
    (hdisj : ∀ p ∈ ps, p ∉ s.env.alive) (hbad : (s.r.addPlayers ps ch).1.badChoice = false) :
    AInv (s.step (.add ps ch)) ∧ AStepFacts s (.add ps ch) := by
  by_cases hs : s.r.status = .afterRegDeadline
  · have hstep := step_add_refused s ps ch hs
    refine ⟨hstep ▸ h.scratch ch, AStepFacts.scratch hstep ?_ rfl rfl rfl rfl⟩
    simp only [incoming, addPlayers_refused s.r ps ch hs]
    rfl
  · obtain ⟨he, hwf', hx, hst, hpc⟩ := addPlayers_spec0 s.r ps ch h.wf hs hbad
    have hstep := step_add_accepted s ps ch hs
    have hinc : s.incoming (.add ps ch) = ps := by
      simp only [incoming, he]
      rfl
    refine ⟨hstep ▸ h.enter hwf' hx hpc rfl rfl (List.Perm.refl _) hnd hdisj ?_,
      AStepFacts.of_eq (ret := []) (dep := []) hstep hinc rfl rfl hx.max_eq hx.min_eq ?_ hst ?_
        hx.reqmax hx.newids⟩
    · intro p hp
      rcases List.mem_append.1 hp with h1 | h1
      · exact List.mem_append_left _ (h.sub p h1)
      · exact List.mem_append_right _ h1
    · simpa using hx.queue
    · simp [reported, flying_eq]

theorem AInv.step_status {s : ASys} (h : AInv s) (st : RStatus) (ch : List Nat) (hok : s.ok (.status st ch)) :
    AInv (s.step (.status st ch)) ∧ AStepFacts s (.status st ch) := by
  obtain ⟨hwf', hx, hst, hpc⟩ := setStatus_spec0 s.r st ch h.wf hok
  have hstep : s.step (.status st ch) =
      { r := s.r.setStatus st ch,
        env := { s.env with members := Env.applyCalls s.env.members (s.r.setStatus st ch).calls },
        inflight := s.inflight } := rfl
  refine ⟨hstep ▸ h.enter (new := []) hwf' hx (by simpa using hpc) rfl (List.append_nil _).symm
      (List.Perm.refl _) List.nodup_nil (fun _ hp => nomatch hp) h.sub,
    AStepFacts.of_eq (inc := []) (ret := []) (dep := []) hstep rfl rfl rfl hx.max_eq hx.min_eq ?_ hst ?_
      hx.reqmax hx.newids⟩
  · simpa using hx.queue
  · simp [reported, flying_eq]

theorem AInv.step_report {s : ASys} (h : AInv s) (t : Nat) (ps rest ch : List Nat)
    (hok : s.ok (.report t ps rest ch)) :
    AInv (s.step (.report t ps rest ch)) ∧ AStepFacts s (.report t ps rest ch) := by
  obtain ⟨hperm, hbad⟩ := hok
  obtain ⟨hwf', hx, hst, hpc⟩ := releasePlayers_spec0 s.r ps ch h.wf hbad
  have hfly := perm_flying_report s t ps rest hperm
  have hstep : s.step (.report t ps rest ch) =
      { r := s.r.releasePlayers ps ch,
        env := { s.env with members := Env.applyCalls s.env.members (s.r.releasePlayers ps ch).calls },
        inflight := s.inflight.filter (fun e => e.1 != t) ++ (if rest.isEmpty then [] else [(t, rest)]) } := rfl
  refine ⟨hstep ▸ h.enter (new := []) hwf' hx (by simpa using hpc) rfl (List.append_nil _).symm
      (by simpa using hfly) List.nodup_nil (fun _ hp => nomatch hp) h.sub,
    AStepFacts.of_eq (inc := ps) (ret := []) (dep := []) hstep rfl rfl rfl hx.max_eq hx.min_eq ?_ hst ?_
      hx.reqmax hx.newids⟩
  · simpa using hx.queue
  · simpa [reported] using hfly

/-- What `SyncState` answers on a table `t` the environment knows, with members `ms ≈ elim ++ stay`:
    the regulator's record `t0` of the table, the answer `(r1, relc, nw)`, what it does to the
    regulator (`post`), and in the terms of the system: at most the members left are asked for, and
    from a broken table all of them, with nobody arriving. -/
structure SyncKnown (s : ASys) (t : Nat) (elim stay ms : List Nat)
    (r1 : Reg) (relc : Int) (nw : List Nat) (t0 : RTable) : Prop where
  find : s.r.findTable t = some t0
  count0 : t0.count = ms.length
  ans : s.syncAnswer t elim = (r1, none, relc, nw)
  post : SyncPostD (syncBase s.r t elim.length) t (adj (-(elim.length : Int)) none t0) r1 relc nw
  rel_le : relc ≤ (stay.length : Int) + nw.length
  broken : s.broken t elim = true → relc = stay.length ∧ nw = []

theorem SyncKnown.queue {s : ASys} {t : Nat} {elim stay ms : List Nat} {r1 : Reg} {relc : Int}
    {nw : List Nat} {t0 : RTable} (k : SyncKnown s t elim stay ms r1 relc nw t0) :
    s.r.queue = nw ++ r1.queue := k.post.queue

theorem SyncKnown.calls {s : ASys} {t : Nat} {elim stay ms : List Nat} {r1 : Reg} {relc : Int}
    {nw : List Nat} {t0 : RTable} (k : SyncKnown s t elim stay ms r1 relc nw t0) :
    r1.calls = [] := k.post.calls

theorem AInv.sync_known {s : ASys} (h : AInv s) (t : Nat) (elim stay ms : List Nat)
    (hm : s.env.membersOf t = some ms) (hp : ms.Perm (elim ++ stay)) :
    ∃ r1 relc nw t0, SyncKnown s t elim stay ms r1 relc nw t0 := by
  have hfm := Env.membersOf_some hm
  have hsf := sim_find s.r.tables s.env.members t h.sim
  rw [hfm] at hsf
  simp only [Option.map_some] at hsf
  cases hft : s.r.tables.find? (fun x => x.id == t) with
  | none =>
    rw [hft] at hsf
    cases hsf
  | some t0 =>
    rw [hft] at hsf
    simp only [Option.map_some, Option.some.injEq] at hsf
    have hlen := hp.length_eq
    rw [List.length_append] at hlen
    have hle : (elim.length : Int) ≤ t0.count := by omega
    -- eliminations never make the player total negative
    have hpc : 0 ≤ s.r.playerCount - (elim.length : Int) := by
      obtain ⟨bwf, _, bsum⟩ := syncBase_facts0 s.r t elim.length t0 h.wf hft hle
      have := bwf.sumCount_nonneg
      rw [h.cnt]
      omega
    obtain ⟨r1, relc, nw, heq, post⟩ := syncState_spec0 s.r t elim.length t0 h.wf hpc hft hle
    have hans : s.syncAnswer t elim = (r1, none, relc, nw) := heq
    have hs := sync_sheet h.sim h.ids_nodup hfm hft hsf post
    refine ⟨r1, relc, nw, t0, hft, hsf, hans, post, ?_, ?_⟩
    · rcases hs with ⟨_, h2, h3, _⟩ | ⟨_, h2, _⟩
      · rw [h3]
        simp only [List.length_nil]
        omega
      · omega
    · intro hb
      rcases hs with ⟨_, h2, h3, _⟩ | ⟨hsome, _, _⟩
      · exact ⟨by omega, h3⟩
      · simp only [broken, hans, Option.isNone_iff_eq_none] at hb
        exact absurd hb hsome

theorem AInv.unknown_iff {s : ASys} (h : AInv s) (t : Nat) :
    s.env.membersOf t = none ↔ s.r.findTable t = none := by
  have hsf := sim_find s.r.tables s.env.members t h.sim
  unfold Env.membersOf Reg.findTable
  rw [Option.map_eq_none_iff, ← Option.map_eq_none_iff (f := fun e : Nat × List Nat => (e.2.length : Int)), ← hsf,
    Option.map_eq_none_iff]

theorem AInv.step_sync_unknown {s : ASys} (h : AInv s) {t : Nat} (hm : s.env.membersOf t = none)
    (elim stay rel keep : List Nat) :
    s.step (.sync t elim stay rel keep) = { r := s.r.beginOp [], env := s.env, inflight := s.inflight } := by
  have hans : (s.syncAnswer t elim).1 = s.r.beginOp [] := by
    simp only [syncAnswer, syncState_eq, (h.unknown_iff t).1 hm]
  simp only [step, hm, hans]

/-- `SyncState` makes no callback and hands out no table id -/
theorem sync_quiet (s : ASys) (t : Nat) (elim stay rel keep : List Nat) :
    (s.step (.sync t elim stay rel keep)).r.calls = [] ∧
    (s.step (.sync t elim stay rel keep)).r.nextId = s.r.nextId := by
  obtain ⟨hc, _, _, _, hn⟩ := syncState_frame s.r t elim.length
  rw [step_sync_r]
  exact ⟨hc, hn⟩

theorem AInv.step_sync {s : ASys} (h : AInv s) (t : Nat) (elim stay rel keep : List Nat)
    (hok : s.ok (.sync t elim stay rel keep)) :
    AInv (s.step (.sync t elim stay rel keep)) ∧ AStepFacts s (.sync t elim stay rel keep) := by
  cases hm : s.env.membersOf t with
  | none =>
    have hstep := h.step_sync_unknown hm elim stay rel keep
    refine ⟨hstep ▸ h.scratch [], AStepFacts.scratch hstep rfl ?_ ?_ rfl rfl⟩
    · simp only [returned, hm]
    · simp only [departing, hm]
  | some ms =>
    obtain ⟨hp1, hp2, hrl, hkeep⟩ := (ok_sync_known hm elim stay rel keep).1 hok
    obtain ⟨r1, relc, nw, t0, ⟨hft, hc0, hans, post, _, _⟩⟩ := h.sync_known t elim stay ms hm hp1
    have hstep := step_sync_known hm elim stay rel keep
    rw [hans] at hp2 hrl hstep
    simp only [] at hp2 hrl hstep
    have hfm := Env.membersOf_some hm
    have hq1 : s.r.queue = nw ++ r1.queue := post.queue
    have hc1 : r1.calls = [] := post.calls
    have hlen1 := hp1.length_eq
    have hlen2 := hp2.length_eq
    simp only [List.length_append] at hlen1 hlen2
    have hfly := (seatedOf_push s.inflight t rel).1
    -- the sheet `m1` the table leaves behind is the regulator's, with `keep` at `t`
    obtain ⟨m1, hm1, hsim1, hseat1⟩ : ∃ m1,
        (if s.broken t elim then s.env.members.filter (fun e => e.1 != t)
          else setMembers t keep s.env.members) = m1 ∧ tview r1.tables = mview m1 ∧
        ∀ a, (seatedOf m1).count a = keep.count a +
          (seatedOf (s.env.members.filter (fun e => e.1 != t))).count a := by
      rcases sync_sheet h.sim h.ids_nodup hfm hft hc0 post with ⟨hnone, _, _, hsim1⟩ | ⟨hsome, _, hsim1⟩
      · have hb : s.broken t elim = true := by
          simp only [broken, hans, hnone]
          rfl
        rw [hkeep hb]
        exact ⟨_, if_pos hb, hsim1, fun a => by simp⟩
      · have hb : s.broken t elim = false := by
          simpa only [broken, hans, Option.isNone_eq_false_iff, Option.isSome_iff_ne_none] using hsome
        exact ⟨_, by rw [hb]; rfl, hsim1 keep (by omega),
          fun a => (count_seatedOf_split s.env.members t ms keep h.ids_nodup hfm a).2⟩
    rw [hm1] at hstep
    refine ⟨hstep ▸ AInv.of_parts post.wf ?_ hsim1 ?_ (h.nodup.filter _)
        (fun p hp => h.sub p (List.mem_filter.1 hp).1),
      AStepFacts.of_eq (inc := []) (ret := nw) (dep := rel) hstep rfl (by simp only [returned, hm, hans])
        (by simp only [departing, hm]) post.max_eq post.min_eq ?_ post.status_eq ?_ ?_ ?_⟩
    · -- the regulator's count identity: the eliminated are discounted, `rel` are on the way
      have hbs := (syncBase_facts0 s.r t elim.length t0 h.wf hft (by omega)).2.2
      have hd := post.cntd
      rw [hbs, syncBase_queue] at hd
      have hcnt := h.cnt
      rw [flying_eq] at hcnt
      rw [hfly, List.length_append, post.pc_eq, syncBase_playerCount]
      omega
    · -- the places of the survivors: `keep` at table `t`, the other tables and the way back as before
      rw [hfly]
      exact perm_after_sync h.cons h.nodup
        (fun a => (count_seatedOf_split s.env.members t ms keep h.ids_nodup hfm a).1) hseat1 hp1 hp2 hq1
    · rw [hc1, hq1]
      simp [handed]
    · rw [hfly]
      simp [reported, flying_eq]
    · intro id ps hmm
      rw [hc1] at hmm
      cases hmm
    · intro id ps hmm
      rw [hc1] at hmm
      cases hmm

/-- every operation valid with re-entries keeps the invariant: the widest domain -/
theorem AInv.step_full_re {s : ASys} (h : AInv s) (op : AOp) (hok : s.okRe op) :
    AInv (s.step op) ∧ AStepFacts s op := by
  cases op with
  | add ps ch => exact h.step_add ps ch hok.1 hok.2.1 hok.2.2
  | status st ch => exact h.step_status st ch hok
  | sync t elim stay rel keep => exact h.step_sync t elim stay rel keep hok
  | report t ps rest ch => exact h.step_report t ps rest ch hok

theorem AInv.okRe_of_ok {s : ASys} (h : AInv s) {op : AOp} (hok : s.ok op) : s.okRe op := by
  cases op with
  | status st ch => exact hok
  | sync t elim stay rel keep => exact hok
  | report t ps rest ch => exact hok
  | add ps ch =>
    obtain ⟨hnd, hfresh, hbad⟩ := hok
    exact ⟨hnd, fun p hp ha => hfresh p hp (h.sub p ha), hbad⟩

theorem AInv.step_full {s : ASys} (h : AInv s) (op : AOp) (hok : s.ok op) :
    AInv (s.step op) ∧ AStepFacts s op :=
  h.step_full_re op (h.okRe_of_ok hok)

theorem AInv.of_reachable {s : ASys} (h : AReachable s) : AInv s := by
  induction h with
  | init max min _ => exact AInv.init max min
  | step op _ hok ih => exact (ih.step_full op hok).1

theorem AInv.of_reachableRe {s : ASys} (h : AReachableRe s) : AInv s := by
  induction h with
  | init max min _ => exact AInv.init max min
  | step op _ hok ih => exact (ih.step_full_re op hok).1

theorem AInv.run_re {s : ASys} (h : AInv s) {ops : List AOp} (hok : s.allOkRe ops) : AInv (s.run ops) := by
  induction ops generalizing s with
  | nil => exact h
  | cons op ops ih => exact ih (h.step_full_re op hok.1).1 hok.2

theorem AReachable.re {s : ASys} (h : AReachable s) : AReachableRe s := by
  induction h with
  | init max min h1 => exact .init max min h1
  | step op hr hok ih => exact .step op ih ((AInv.of_reachable hr).okRe_of_ok hok)

theorem AInv.allOkRe_of_allOk {s : ASys} (h : AInv s) {ops : List AOp} (hok : s.allOk ops) : s.allOkRe ops := by
  induction ops generalizing s with
  | nil => trivial
  | cons op ops ih => exact ⟨h.okRe_of_ok hok.1, ih (h.step_full op hok.1).1 hok.2⟩

end ASys
end Pokerface
