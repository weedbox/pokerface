/-
  RE-ENTRIES: a player who was eliminated registers again under the same name.

  The Go regulator knows names, not identities: `AddPlayers` accepts any list of names.  The
  domains of the model files demand that a registered name was NEVER registered before
  (`p ∉ env.registered`).  Here the demand is weakened to "the name is not that of a player who is
  in the competition NOW" (`p ∉ env.alive`), for both systems and both disciplines of the status.
  With these four the model has eight domains (validity of one operation, reachable states, valid
  scripts):

                          synchronous `RSys`                         asynchronous `ASys`
    any status order      `okAny`   `ReachableAny`   `allOkAny`      `ok`      `AReachable`      `allOk`
      + re-entries        `okRe`    `ReachableRe`    `allOkRe`       `okRe`    `AReachableRe`    `allOkRe`
    status forward only   `ok`      `Reachable`      `allOk`         `okFwd`   `AReachableFwd`   `allOkFwd`
      + re-entries        `okReFwd` `ReachableReFwd` `allOkReFwd`    `okReFwd` `AReachableReFwd` `allOkReFwd`

  Mind the plain name: `RSys.ok` is the NARROW, forward-only validity (the domain of C19 and C20),
  `ASys.ok` is the WIDE one.  The invariants say which discipline they belong to on both sides:
  `SInv0` / `AInv` (any order), `SInv` / `AInvF` (forward only).

  Each domain lies in the one above it in its column, and each synchronous domain in the
  asynchronous one of its row:
  * dropping "forward only" needs nothing: `Reachable.any`, `AReachableFwd.any` (model files),
    `ReachableReFwd.re`, `AReachableReFwd.re` (here);
  * admitting re-entries needs `alive ⊆ registered`, that is the invariant: `AReachable.re`
    (Proofs/RegAsyncEnv.lean), `AReachableFwd.reFwd` (RegAsyncCapEnv), `ReachableAny.re`,
    `Reachable.reFwd` (RegEnv);
  * the embedding "a sync is followed at once by its report": `AReachable.ofRSys`,
    `AReachableRe.ofRSys` (RegAsyncProps), `AReachableFwd.ofRSys`, `AReachableReFwd.ofRSys`
    (RegAsyncCapEnv).
  The same for one operation (`okAny_of_ok`, `ok_of_okFwd`, `okRe_of_okReFwd`; with the invariant
  `AInv.okRe_of_ok`, `AInvF.okReFwd_of_okFwd`, `SInv0.okRe_of_okAny`, `SInv.okReFwd_of_ok`) and for
  scripts (`allOk…_of_allOk…`, `allOk…_expand`), next to the inclusion of the reachable states each.
  On every operation but `add` the validities with and without re-entries are the same
  (`okRe_iff_ok`, `okReFwd_iff_okFwd`, `RSys.okReFwd_iff_ok`; for scripts `allOk…_iff_allOk…`).

  This file holds the four definitions and what follows from them alone.  `registered` is a ghost
  list: with re-entries it holds a name once per accepted registration.
-/
import Pokerface.Model.RegulatorAsync

namespace Pokerface

namespace RSys

/-- Validity of an operation, widest domain WITH RE-ENTRIES: exactly `okAny`, except that the names
    of a registration need not be new for ever, only not those of players currently alive
    (registered and not eliminated): an eliminated player's name may be registered again. -/
def okRe (s : RSys) : EOp → Prop
  | .add ps ch =>
      ps.Nodup ∧ (∀ p ∈ ps, p ∉ s.env.alive) ∧ (s.r.addPlayers ps ch).1.badChoice = false
  | .status st ch => s.okAny (.status st ch)
  | .sync t elim stay rel keep ch => s.okAny (.sync t elim stay rel keep ch)

instance (s : RSys) (op : EOp) : Decidable (s.okRe op) := by
  cases op <;> simp only [okRe] <;> infer_instance

/-- States reachable from a fresh regulator with any setting `1 ≤ max` by operations valid in the
    sense `okRe` (any status order, re-entries allowed). -/
inductive ReachableRe : RSys → Prop
  | init (max min : Nat) (h1 : 1 ≤ max) : ReachableRe (init max min)
  | step {s : RSys} (op : EOp) : ReachableRe s → s.okRe op → ReachableRe (s.step op)

/-- every operation of the script is valid in the sense `okRe` when its turn comes -/
def allOkRe : RSys → List EOp → Prop
  | _, [] => True
  | s, op :: ops => s.okRe op ∧ allOkRe (s.step op) ops

instance decAllOkRe : (s : RSys) → (ops : List EOp) → Decidable (allOkRe s ops)
  | _, [] => isTrue trivial
  | s, op :: ops =>
    match (inferInstance : Decidable (s.okRe op)), decAllOkRe (s.step op) ops with
    | isTrue h1, isTrue h2 => isTrue ⟨h1, h2⟩
    | isFalse h1, _ => isFalse fun h => h1 h.1
    | _, isFalse h2 => isFalse fun h => h2 h.2

theorem ReachableRe.run {s : RSys} (h : ReachableRe s) :
    ∀ (ops : List EOp), allOkRe s ops → ReachableRe (s.run ops) := by
  intro ops
  induction ops generalizing s with
  | nil =>
    intro _
    exact h
  | cons op ops ih =>
    intro hok
    exact ih (ReachableRe.step op h hok.1) hok.2

/-- Validity of an operation, forward-only domain WITH RE-ENTRIES: exactly `RSys.ok`, except that
    the names of a registration need only not be those of players currently alive. -/
def okReFwd (s : RSys) : EOp → Prop
  | .add ps ch => s.okRe (.add ps ch)
  | .status st ch => s.ok (.status st ch)
  | .sync t elim stay rel keep ch => s.ok (.sync t elim stay rel keep ch)

instance (s : RSys) (op : EOp) : Decidable (s.okReFwd op) := by
  cases op <;> simp only [okReFwd] <;> infer_instance

theorem okRe_of_okReFwd {s : RSys} {op : EOp} (h : s.okReFwd op) : s.okRe op := by
  cases op with
  | add ps ch => exact h
  | status st ch => exact h.2
  | sync t elim stay rel keep ch => exact h

/-- States reachable from a fresh regulator with any setting `1 ≤ max` by operations valid in the
    sense `okReFwd` (the status only moves forward, re-entries allowed). -/
inductive ReachableReFwd : RSys → Prop
  | init (max min : Nat) (h1 : 1 ≤ max) : ReachableReFwd (init max min)
  | step {s : RSys} (op : EOp) : ReachableReFwd s → s.okReFwd op → ReachableReFwd (s.step op)

theorem ReachableReFwd.re {s : RSys} (h : ReachableReFwd s) : ReachableRe s := by
  induction h with
  | init max min h1 => exact .init max min h1
  | step op _ hok ih => exact .step op ih (okRe_of_okReFwd hok)

def allOkReFwd : RSys → List EOp → Prop
  | _, [] => True
  | s, op :: ops => s.okReFwd op ∧ allOkReFwd (s.step op) ops

instance decAllOkReFwd : (s : RSys) → (ops : List EOp) → Decidable (allOkReFwd s ops)
  | _, [] => isTrue trivial
  | s, op :: ops =>
    match (inferInstance : Decidable (s.okReFwd op)), decAllOkReFwd (s.step op) ops with
    | isTrue h1, isTrue h2 => isTrue ⟨h1, h2⟩
    | isFalse h1, _ => isFalse fun h => h1 h.1
    | _, isFalse h2 => isFalse fun h => h2 h.2

theorem ReachableReFwd.run {s : RSys} (h : ReachableReFwd s) :
    ∀ (ops : List EOp), allOkReFwd s ops → ReachableReFwd (s.run ops) := by
  intro ops
  induction ops generalizing s with
  | nil =>
    intro _
    exact h
  | cons op ops ih =>
    intro hok
    exact ih (ReachableReFwd.step op h hok.1) hok.2

/-- the validities with and without re-entries differ on `add` only -/
theorem okReFwd_iff_ok {s : RSys} {op : EOp} (h : ∀ ps ch, op ≠ .add ps ch) : s.okReFwd op ↔ s.ok op := by
  cases op with
  | add ps ch => exact absurd rfl (h ps ch)
  | status st ch => exact Iff.rfl
  | sync t elim stay rel keep ch => exact Iff.rfl

theorem allOkReFwd_iff_allOk (ops : List EOp) (s : RSys) (hna : ∀ op ∈ ops, ∀ ps ch, op ≠ .add ps ch) :
    s.allOkReFwd ops ↔ s.allOk ops := by
  induction ops generalizing s with
  | nil => exact Iff.rfl
  | cons op ops ih =>
    exact and_congr (okReFwd_iff_ok (hna op (List.mem_cons_self ..)))
      (ih _ fun o ho => hna o (List.mem_cons_of_mem _ ho))

theorem allOk_of_allOkReFwd_quiet (ops : List EOp) (s : RSys) (h : s.allOkReFwd ops)
    (hq : ∀ op ∈ ops, quietOp op = true) : s.allOk ops :=
  (allOkReFwd_iff_allOk ops s fun op ho ps ch he => by
    have := hq op ho
    rw [he] at this
    cases this).1 h

end RSys

namespace ASys

/-- Validity of an asynchronous operation WITH RE-ENTRIES: exactly `ASys.ok`, except that the names
    of a registration need only not be those of players currently alive (at a table, queued, or on
    the way back). -/
def okRe (s : ASys) : AOp → Prop
  | .add ps ch =>
      ps.Nodup ∧ (∀ p ∈ ps, p ∉ s.env.alive) ∧ (s.r.addPlayers ps ch).1.badChoice = false
  | .status st ch => s.ok (.status st ch)
  | .sync t elim stay rel keep => s.ok (.sync t elim stay rel keep)
  | .report t ps rest ch => s.ok (.report t ps rest ch)

instance (s : ASys) (op : AOp) : Decidable (s.okRe op) := by
  cases op <;> simp only [okRe] <;> infer_instance

/-- asynchronous histories with re-entries -/
inductive AReachableRe : ASys → Prop
  | init (max min : Nat) (h1 : 1 ≤ max) : AReachableRe (init max min)
  | step {s : ASys} (op : AOp) : AReachableRe s → s.okRe op → AReachableRe (s.step op)

def allOkRe : ASys → List AOp → Prop
  | _, [] => True
  | s, op :: ops => s.okRe op ∧ allOkRe (s.step op) ops

instance decAllOkRe : (s : ASys) → (ops : List AOp) → Decidable (allOkRe s ops)
  | _, [] => isTrue trivial
  | s, op :: ops =>
    match (inferInstance : Decidable (s.okRe op)), decAllOkRe (s.step op) ops with
    | isTrue h1, isTrue h2 => isTrue ⟨h1, h2⟩
    | isFalse h1, _ => isFalse fun h => h1 h.1
    | _, isFalse h2 => isFalse fun h => h2 h.2

theorem AReachableRe.run {s : ASys} (h : AReachableRe s) :
    ∀ (ops : List AOp), allOkRe s ops → AReachableRe (s.run ops) := by
  intro ops
  induction ops generalizing s with
  | nil =>
    intro _
    exact h
  | cons op ops ih =>
    intro hok
    exact ih (AReachableRe.step op h hok.1) hok.2

/-- Validity of an asynchronous operation, forward-only WITH RE-ENTRIES: exactly `ASys.okFwd`,
    except that the names of a registration need only not be those of players currently alive. -/
def okReFwd (s : ASys) : AOp → Prop
  | .add ps ch => s.okRe (.add ps ch)
  | .status st ch => s.okFwd (.status st ch)
  | .sync t elim stay rel keep => s.okFwd (.sync t elim stay rel keep)
  | .report t ps rest ch => s.okFwd (.report t ps rest ch)

instance (s : ASys) (op : AOp) : Decidable (s.okReFwd op) := by
  cases op <;> simp only [okReFwd] <;> infer_instance

theorem okRe_of_okReFwd {s : ASys} {op : AOp} (h : s.okReFwd op) : s.okRe op := by
  cases op with
  | add ps ch => exact h
  | status st ch => exact h.2
  | sync t elim stay rel keep => exact h
  | report t ps rest ch => exact h

inductive AReachableReFwd : ASys → Prop
  | init (max min : Nat) (h1 : 1 ≤ max) : AReachableReFwd (init max min)
  | step {s : ASys} (op : AOp) : AReachableReFwd s → s.okReFwd op → AReachableReFwd (s.step op)

theorem AReachableReFwd.re {s : ASys} (h : AReachableReFwd s) : AReachableRe s := by
  induction h with
  | init max min h1 => exact .init max min h1
  | step op _ hok ih => exact .step op ih (okRe_of_okReFwd hok)

def allOkReFwd : ASys → List AOp → Prop
  | _, [] => True
  | s, op :: ops => s.okReFwd op ∧ allOkReFwd (s.step op) ops

instance decAllOkReFwd : (s : ASys) → (ops : List AOp) → Decidable (allOkReFwd s ops)
  | _, [] => isTrue trivial
  | s, op :: ops =>
    match (inferInstance : Decidable (s.okReFwd op)), decAllOkReFwd (s.step op) ops with
    | isTrue h1, isTrue h2 => isTrue ⟨h1, h2⟩
    | isFalse h1, _ => isFalse fun h => h1 h.1
    | _, isFalse h2 => isFalse fun h => h2 h.2

theorem AReachableReFwd.run {s : ASys} (h : AReachableReFwd s) :
    ∀ (ops : List AOp), allOkReFwd s ops → AReachableReFwd (s.run ops) := by
  intro ops
  induction ops generalizing s with
  | nil =>
    intro _
    exact h
  | cons op ops ih =>
    intro hok
    exact ih (AReachableReFwd.step op h hok.1) hok.2

/-- the validities with and without re-entries differ on `add` only -/
theorem okRe_iff_ok {s : ASys} {op : AOp} (h : ∀ ps ch, op ≠ .add ps ch) : s.okRe op ↔ s.ok op := by
  cases op with
  | add ps ch => exact absurd rfl (h ps ch)
  | status st ch => exact Iff.rfl
  | sync t elim stay rel keep => exact Iff.rfl
  | report t ps rest ch => exact Iff.rfl

theorem okReFwd_iff_okFwd {s : ASys} {op : AOp} (h : ∀ ps ch, op ≠ .add ps ch) :
    s.okReFwd op ↔ s.okFwd op := by
  cases op with
  | add ps ch => exact absurd rfl (h ps ch)
  | status st ch => exact Iff.rfl
  | sync t elim stay rel keep => exact Iff.rfl
  | report t ps rest ch => exact Iff.rfl

theorem allOkRe_iff_allOk (ops : List AOp) (s : ASys) (hna : ∀ op ∈ ops, ∀ ps ch, op ≠ .add ps ch) :
    s.allOkRe ops ↔ s.allOk ops := by
  induction ops generalizing s with
  | nil => exact Iff.rfl
  | cons op ops ih =>
    exact and_congr (okRe_iff_ok (hna op (List.mem_cons_self ..)))
      (ih _ fun o ho => hna o (List.mem_cons_of_mem _ ho))

theorem allOkReFwd_iff_allOkFwd (ops : List AOp) (s : ASys) (hna : ∀ op ∈ ops, ∀ ps ch, op ≠ .add ps ch) :
    s.allOkReFwd ops ↔ s.allOkFwd ops := by
  induction ops generalizing s with
  | nil => exact Iff.rfl
  | cons op ops ih =>
    exact and_congr (okReFwd_iff_okFwd (hna op (List.mem_cons_self ..)))
      (ih _ fun o ho => hna o (List.mem_cons_of_mem _ ho))

theorem allOkFwd_of_allOkReFwd : ∀ (ops : List AOp) (s : ASys), s.allOkReFwd ops →
    (∀ op ∈ ops, ∀ ps ch, op ≠ .add ps ch) → s.allOkFwd ops :=
  fun ops s h hna => (allOkReFwd_iff_allOkFwd ops s hna).1 h

end ASys
end Pokerface
