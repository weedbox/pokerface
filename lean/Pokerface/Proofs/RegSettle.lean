/-
  C20, the regulator alone: what `SyncState`, `dispatchPlayer` and `drainWaitingQueue` do, read off
  the code.  `SyncState(t, 0)` acts on the state in which only the scratch fields were reset; the
  test of its release loop is a comparison with what the tables at or below the floor of the level
  lack (`lowerWaterLevelReached_iff`); balanced states are fixed points; the moves are directed;
  a drain goes one of two ways (`drainWaitingQueue_cases`), from which both potentials start.
-/
import Pokerface.Proofs.RegSync

namespace Pokerface
namespace Reg

theorem syncBase_zero (r : Reg) (t : Nat) : syncBase r t 0 = r.beginOp [] := by
  unfold syncBase
  rw [setTable_eq, fun_sub, Int.neg_zero, upd_adj_zero]
  simp only [Int.sub_zero]
  rfl

theorem syncState_zero_cases (r : Reg) (t : Nat) (t0 : RTable) (hf : r.findTable t = some t0) :
    ∃ r1 rel nw, r.syncState t 0 = (r1, none, rel, nw) ∧ SyncCase (r.beginOp []) t t0 r1 rel nw := by
  have h := syncState_cases r t 0 t0 hf
  have e : adj (-0) none t0 = t0 := by
    cases t0
    simp [adj]
  rwa [syncBase_zero, e] at h

theorem sumCount_cons (t : RTable) (ts : List RTable) : sumCount (t :: ts) = t.count + sumCount ts := by
  simp [sumCount]

theorem sumCount_partition (ts : List RTable) (wl : Int) :
    sumCount ts = sumCount (ts.filter fun t => decide (t.count ≤ wl)) +
      ((ts.filter fun t => !decide (t.count ≤ wl)).map (·.count)).sum := by
  induction ts with
  | nil => rfl
  | cons t ts ih =>
    by_cases h : t.count ≤ wl
    · simp only [List.filter_cons, h, decide_true, if_true, Bool.not_true, Bool.false_eq_true, if_false,
        sumCount_cons]
      omega
    · simp only [List.filter_cons, h, decide_false, Bool.false_eq_true, if_false, Bool.not_false, if_true,
        sumCount_cons, List.map_cons, List.sum_cons]
      omega

theorem mul_length_le_sumCount (ts : List RTable) (c : Int) (h : ∀ t ∈ ts, c ≤ t.count) :
    c * (ts.length : Int) ≤ sumCount ts := by
  induction ts with
  | nil => simp [sumCount]
  | cons t ts ih =>
    have h1 := h t (List.mem_cons_self ..)
    have h2 := ih (fun t' ht' => h t' (List.mem_cons_of_mem _ ht'))
    rw [sumCount_cons, List.length_cons]
    have : c * ((ts.length + 1 : Nat) : Int) = c * (ts.length : Int) + c := by
      rw [Int.natCast_add, Int.mul_add]
      simp
    omega

/-- the tables at or below `F` -/
def lowOf (F : Int) (ts : List RTable) : List RTable := ts.filter fun t => decide (t.count ≤ F)

/-- the test of the release loop read with `X` players queued or on their way, `F` the floor of the
    level: if no table is at or below `F` it asks for `X > 0`, otherwise for `X` to cover what
    those tables lack -/
theorem lowerWaterLevelReached_iff (r : Reg) (X : Int) (hX : r.playerCount = X + sumCount r.tables) :
    r.lowerWaterLevelReached (flr r) = true ↔
      if lowOf (flr r) r.tables = [] then 0 < X
      else flr r * ((lowOf (flr r) r.tables).length : Int) - sumCount (lowOf (flr r) r.tables) ≤ X := by
  have hpart := sumCount_partition r.tables (flr r)
  unfold lowerWaterLevelReached lowOf flr at *
  simp only
  generalize (r.tables.filter fun t => decide (t.count ≤ r.playerCount / r.requiredTables)) = low at *
  generalize ((r.tables.filter fun t => !decide (t.count ≤ r.playerCount / r.requiredTables)).map (·.count)).sum = hs at *
  cases low with
  | nil =>
    have e0 : sumCount ([] : List RTable) = 0 := rfl
    simp only [List.length_nil, Int.natCast_zero, if_true, decide_eq_true_eq, e0] at hpart ⊢
    omega
  | cons t l =>
    rw [if_neg (by simp only [List.length_cons]; omega), if_neg (List.cons_ne_nil t l)]
    simp only [decide_eq_true_eq]
    omega

theorem low_nonempty (r : Reg) (hR : 0 < r.requiredTables) (hT : r.requiredTables = (r.tables.length : Int))
    (hpc : sumCount r.tables ≤ r.playerCount) : lowOf (flr r) r.tables ≠ [] := by
  intro hl
  have hall : ∀ t ∈ r.tables, flr r + 1 ≤ t.count := by
    intro t ht
    by_cases hle : t.count ≤ flr r
    · have : t ∈ lowOf (flr r) r.tables := List.mem_filter.2 ⟨ht, by simpa using hle⟩
      rw [hl] at this
      cases this
    · omega
  have h1 := mul_length_le_sumCount r.tables _ hall
  rw [← hT] at h1
  have h2 : flr r < flr r + 1 := by omega
  unfold flr at h1 h2
  rw [Int.ediv_lt_iff_lt_mul hR] at h2
  omega

theorem lowerWaterLevelReached_of_balanced (r : Reg) (hreq : 0 < r.requiredTables)
    (hlen : r.requiredTables = (r.tables.length : Int))
    (hpc : sumCount r.tables ≤ r.playerCount)
    (hfl : ∀ tb ∈ r.tables, r.playerCount / r.requiredTables ≤ tb.count) :
    r.lowerWaterLevelReached (r.playerCount / r.requiredTables) = true := by
  refine (lowerWaterLevelReached_iff r (r.playerCount - sumCount r.tables) (by omega)).2 ?_
  rw [if_neg (low_nonempty r hreq hlen hpc)]
  have := mul_length_le_sumCount (lowOf (flr r) r.tables) (flr r) fun t ht => hfl t (List.mem_filter.1 ht).1
  omega

theorem syncState_zero_stable (r : Reg) (t : Nat) (t0 : RTable) (hf : r.findTable t = some t0)
    (hlen : r.tableCount = r.tables.length) (hT : r.tableCount = r.requiredTables)
    (hpc : r.playerCount = sumCount r.tables)
    (hfl : ∀ tb ∈ r.tables, r.playerCount / r.requiredTables ≤ tb.count) :
    r.syncState t 0 = (r.beginOp [], none, 0, []) := by
  obtain ⟨ht0, _⟩ := findTable_some hf
  have h1 := hfl t0 ht0
  obtain ⟨r1, rel, nw, he, hc⟩ := syncState_zero_cases r t t0 hf
  rw [he]
  cases hc with
  | brk hlt =>
    have e1 : (r.beginOp []).requiredTables = r.requiredTables := rfl
    have e2 : (r.beginOp []).tableCount = r.tableCount := rfl
    omega
  | same => rfl
  | take n rq hreq hlow hn hrq =>
    -- the table is at the floor already: nobody is taken, no `Required` is set
    have e3 : flr (r.beginOp []) = r.playerCount / r.requiredTables := rfl
    have h2 : t0.count ≤ flr (r.beginOp []) := Int.le_ediv_of_mul_le hreq (Int.le_of_lt hlow)
    have hn0 : n = 0 := by omega
    subst hn0
    have hq : rq = none := by
      rw [hrq, List.take_zero, List.length_nil, if_neg (by omega)]
    subst hq
    simp only [List.take_zero, List.length_nil, List.drop_zero, Int.natCast_zero, upd_adj_zero]
  | release j hreq hhigh hj hfirst _ =>
    -- the release loop stops at its first test
    have hstop : (r.beginOp []).lowerWaterLevelReached (flr (r.beginOp [])) = true :=
      lowerWaterLevelReached_of_balanced r hreq (by omega) (by omega) hfl
    have hj0 : j = 0 := by
      cases j with
      | zero => rfl
      | succ k =>
        rw [hfirst (by omega)] at hstop
        cases hstop
    subst hj0
    simp only [Int.natCast_zero, Int.neg_zero, upd_adj_zero]

theorem findTable_upd_adj {r b : Reg} {t : Nat} (hm : t ∈ r.tables.map (·.id)) {a : Int} {rq : Option Int}
    (hb : b.tables = upd t (adj a rq) r.tables) : b.findTable t ≠ none :=
  findTable_ne_none (by rw [hb, upd_ids _ _ _ (adj_id a rq)]; exact hm)

theorem syncState_directed (r : Reg) (t : Nat) (out : Int) (t0 : RTable) (hf : r.findTable t = some t0) :
    ((r.syncState t out).1.findTable t ≠ none → 0 < (r.syncState t out).2.2.1 →
        r.playerCount - out < (t0.count - out) * ceilDiv (r.playerCount - out) r.max ∧
        (r.playerCount - out) / ceilDiv (r.playerCount - out) r.max ≤ t0.count - out - (r.syncState t out).2.2.1) ∧
    ((r.syncState t out).2.2.2 ≠ [] →
        (t0.count - out) * ceilDiv (r.playerCount - out) r.max < r.playerCount - out ∧
        t0.count - out + ((r.syncState t out).2.2.2.length : Int) ≤
          (r.playerCount - out) / ceilDiv (r.playerCount - out) r.max ∧
        (r.syncState t out).2.2.1 = 0) := by
  have ec : (adj (-out) none t0).count = t0.count - out := by
    rw [adj_count]
    omega
  obtain ⟨r1, rel, nw, he, hc⟩ := syncState_cases r t out t0 hf
  rw [he]
  cases hc with
  | brk hlt => exact ⟨fun h => absurd (breakTable_find _ t) h, fun h => absurd rfl h⟩
  | same => exact ⟨fun _ h => absurd h (Int.lt_irrefl 0), fun h => absurd rfl h⟩
  | take n rq hreq hlow hn hrq =>
    rw [syncBase_requiredTables, syncBase_playerCount, ec] at hlow
    rw [flr, syncBase_requiredTables, syncBase_playerCount, ec] at hn
    refine ⟨fun _ h => absurd h (Int.lt_irrefl 0), fun _ => ⟨hlow, ?_, rfl⟩⟩
    have := List.length_take_le n (syncBase r t out).queue
    show t0.count - out + (((syncBase r t out).queue.take n).length : Int) ≤ _
    omega
  | release j hreq hhigh hj _ _ =>
    rw [syncBase_requiredTables, syncBase_playerCount, ec] at hhigh
    rw [flr, syncBase_requiredTables, syncBase_playerCount, ec] at hj
    exact ⟨fun _ _ => ⟨hhigh, hj⟩, fun h => absurd rfl h⟩

theorem dispatchPlayer_directed {r r' : Reg} {cands rest : List Nat}
    (h : r.dispatchPlayer cands = some (rest, r')) (hb : r'.badChoice = false) :
    ∃ tb ∈ r.tables, 0 < tb.required ∧ ∃ picked, r'.calls = r.calls ++ [RCall.assign tb.id picked] ∧
      (picked.length : Int) ≤ tb.required ∧ cands = picked ++ rest := by
  obtain ⟨tb, cs, _, hft, hreq, hrest, hr'⟩ := dispatchPlayer_some h hb
  refine ⟨tb, (findTable_some hft).1, hreq, cands.take tb.required.toNat, by rw [hr'], ?_, ?_⟩
  · rw [List.length_take]
    omega
  · rw [hrest, List.take_append_drop]

theorem dispatchPlayer_shape {r r' : Reg} {cands rest : List Nat} (hc : cands ≠ [])
    (h : r.dispatchPlayer cands = some (rest, r')) (hb : r'.badChoice = false) :
    ∃ t0 ∈ r.tables, ∃ k : Int, 1 ≤ k ∧ k ≤ t0.required ∧ (cands.length : Int) = rest.length + k ∧
      r'.tables = upd t0.id (give k) r.tables := by
  obtain ⟨t0, cs, _, hft, hreq, hrest, hr'⟩ := dispatchPlayer_some h hb
  have hlen : 0 < cands.length := List.length_pos_iff.2 hc
  refine ⟨t0, (findTable_some hft).1, ((cands.take t0.required.toNat).length : Int), ?_, ?_, ?_, by rw [hr']⟩
  · rw [List.length_take]
    omega
  · rw [List.length_take]
    omega
  · rw [hrest, List.length_take, List.length_drop]
    omega

/-- The two ways `drainWaitingQueue` goes when tables exist.  Either the first dispatch loop seats
    everybody, and that is all; or somebody is left over, so no table wants anybody any more: the
    requirements are refreshed, the second loop dispatches against them, and tables are opened for
    whoever is still left. -/
theorem drainWaitingQueue_cases (r : Reg) (hwf : WF r) (hpos : r.tableCount > 0)
    (hb : r.drainWaitingQueue.badChoice = false) :
    ∃ c1 r1, dispatchLoop (r.queue.length + 1) r.queue r = (c1, r1) ∧ r1.badChoice = false ∧ WF r1 ∧
      ((c1 = [] ∧ r.drainWaitingQueue = { r1 with queue := [] }) ∨
       (c1 ≠ [] ∧ (∀ t ∈ r1.tables, t.required ≤ 0) ∧ WF r1.updateTableRequirements ∧
        ∃ c2 r3, dispatchLoop (c1.length + 1) c1 r1.updateTableRequirements = (c2, r3) ∧
          r3.badChoice = false ∧ WF r3 ∧
          r.drainWaitingQueue =
            if c2 = [] then { r3 with queue := c2 } else ({ r3 with queue := c2 } : Reg).allocateTables)) := by
  obtain ⟨c1, r1, c2, r3, hp1, hb1, hp3, hb3, he⟩ := drainWaitingQueue_stages r hpos hb
  obtain ⟨hwf1, _, _, _, hstop⟩ := dispatchLoop_spec _ hwf hp1 hb1
  refine ⟨c1, r1, hp1, hb1, hwf1, ?_⟩
  by_cases hc1 : c1 = []
  · subst hc1
    rw [if_pos rfl, dispatchLoop_nil] at hp3
    obtain ⟨rfl, rfl⟩ := Prod.mk.inj hp3
    rw [if_pos rfl] at he
    exact Or.inl ⟨rfl, he⟩
  · rw [if_neg hc1] at hp3
    have hwf2 := (updateTableRequirements_spec r1 hwf1 c1).1
    exact Or.inr ⟨hc1, (hstop (by omega)).resolve_left hc1, hwf2, c2, r3, hp3, hb3,
      (dispatchLoop_spec _ hwf2 hp3 hb3).1, he⟩

end Reg
end Pokerface
