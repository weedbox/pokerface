import Pokerface.Model.View
import Pokerface.Generated.LogicPots
import Pokerface.Proofs.GeneratedLogicBase
import Pokerface.Proofs.GeneratedLogicLoops
import Pokerface.Proofs.Assoc
import Pokerface.Proofs.CombosBest
/-
  K1, translated logic (side pots, settlement, the best hand, views): pot/level_list.go, settlement/*.go,
  combination/combination.go and power.go (the selection of five cards, the best hand of a player), game_state.go
  (`AsPlayer`, `AsObserver`) (Generated/LogicPots.lean), against `Model/Pots.lean`, `Model/Settlement.lean`,
  `Model/Combos.lean`, `Model/View.lean`.  Straight-line functions with several loops are translated as the list of
  steps they take, and the theorem interprets each step by the translated iteration of that loop.
  Conventions: header of Proofs/GeneratedLogicBase.lean.

  Go maps: `ll.contributors`, `ll.foldedPlayers`, `Pot.Contributors` are association lists sorted by key in the model
  (DESIGN §4).  The translated loop bodies are parametric in the map type and its update (`mapSet`, `mapAdd`); the
  merge and the putting back of the folded players are read with `assocSet` / `assocAdd`, the first loop of `GetPots`
  with appending (`snoc`), which is `assocSet` on the ascending contributors of a level (`potsOrigPot_assocSet_eq`).
  A key-sorted association list is determined by its set of
  bindings (`KeysSorted.eq_of_mem_iff`, Proofs/Assoc.lean), so the order in which a Go map iteration performs updates
  of distinct keys is immaterial; where the iteration order shows in the result (`Level.Contributors`) the lemma
  `potsContrib_perm` below states what is independent of it.
-/
namespace Pokerface.GeneratedLogic
open Pokerface Game
open Pokerface.Generated.Logic

/-! ## pot/level_list.go -/

/-- one iteration of the search of `AssertLevel`: found iff the level values are equal -/
theorem potsAssertStep_eq (potLevel potWager potTotal level : Int) :
    potsAssertStep potLevel potWager potTotal level = (potLevel == level) := by
  unfold potsAssertStep
  cases (potLevel == level) <;> simp

/-- the constructor of the model's `Level` in the field order of level.go -/
def mkLevel (level wager total : Int) (contributors : List Nat) : Level :=
  { level := level, wager := wager, total := total, contributors := contributors }

/-- level_list.go `AssertLevel` as the model performs it inside `addContributor`: a level with that value is kept
    (the list is unchanged); otherwise a level `(level, 0, 0, [])` is appended -/
def assertLevel (levels : List Level) (level : Int) : List Level :=
  if levels.any (fun l => l.level == level) then levels
  else levels ++ [{ level := level, wager := 0, total := 0, contributors := [] }]

theorem potsAssertLevel_eq (levels : List Level) (level : Int) :
    assertLevel levels level =
      potsAssertLevel (levels.any fun l => potsAssertStep l.level l.wager l.total level) levels mkLevel level := by
  unfold assertLevel potsAssertLevel
  simp only [potsAssertStep_eq]
  cases levels.any (fun l => l.level == level) <;> simp [mkLevel]

/-- the comparison function of `sort.Slice(ll.levels, …)`: by level value, whatever the other fields are -/
theorem potsLevelLess_eq (a wa ta b wb tb : Int) : potsLevelLess a wa ta b wb tb = decide (a < b) := rfl

/-- closed form of one iteration over `ll.contributors` for the level `potLevel`: the contributor is appended iff
    the level is at or below the wager -/
theorem potsContribStep_eq {I : Type} (potLevel potWager potTotal wager : Int) (idx : I) (c : List I) :
    potsContribStep potLevel potWager potTotal wager idx c = if potLevel ≤ wager then c ++ [idx] else c := by
  unfold potsContribStep
  by_cases h : potLevel ≤ wager <;> simp [h]

theorem foldl_contribStep (level w t : Int) (cs : List (Nat × Int)) (c : List Nat) :
    cs.foldl (fun c kv => potsContribStep level w t kv.2 kv.1 c) c
      = c ++ (cs.filter (fun kv => decide (level ≤ kv.2))).map (·.1) := by
  simpa [potsContribStep_eq] using foldl_snoc_if (fun kv : Nat × Int => decide (level ≤ kv.2)) (·.1) cs c

/-- Go map iteration order of `ll.contributors`: whatever the order, the contributors of a level are a
    permutation of the model's (ascending) list — `Level.Contributors` is read for membership and length only -/
theorem potsContrib_perm (level w t : Int) (cs cs' : List (Nat × Int)) (hp : cs'.Perm cs) :
    (cs'.foldl (fun c kv => potsContribStep level w t kv.2 kv.1 c) []).Perm
      ((cs.filter (fun kv => decide (level ≤ kv.2))).map (·.1)) := by
  rw [foldl_contribStep]
  simpa using (hp.filter _).map _

/-- one iteration of "add contributors to each level": the list is reset, then the inner loop runs -/
theorem potsLevelContrib_eq {I : Type} (c0 : List I) (inner : List I → List I) :
    potsLevelContrib c0 inner = inner [] := rfl

/-- closed form of one iteration of "calculate total wagers": step = level − previous level, total = number of
    contributors of the level × step, the next previous level is this level; the old step and total and the number
    of all contributors are not read -/
theorem potsRetotalStep_eq (level prev n nAll w0 t0 : Int) :
    potsRetotalStep level prev n nAll w0 t0 = (level - prev, n * (level - prev), level) := rfl

/-- the loop "calculate total wagers" as the run of the translated iteration (`nAll`: `len(ll.contributors)`) -/
def retotalRun (nAll : Int) : Int → List Level → List Level
  | _, [] => []
  | prev, l :: ls =>
    let g := potsRetotalStep l.level prev l.contributors.length nAll l.wager l.total
    { l with wager := g.1, total := g.2.1 } :: retotalRun nAll g.2.2 ls

theorem retotalRun_eq (nAll prev : Int) (ls : List Level) : retotalRun nAll prev ls = retotal prev ls := by
  induction ls generalizing prev with
  | nil => rfl
  | cons l ls ih => simp [retotalRun, retotal, potsRetotalStep_eq, ih]

/-- the reading of the steps of `AddContributor(wager, idx, fold)`; `prev` is the translated start value of
    `prevLevel` -/
def addStep (wager : Int) (idx : Nat) (prev : Int) (ll : LevelList) (e : String) : LevelList :=
  if e = "contributors[contributorIdx] = wager" then { ll with contribs := assocSet ll.contribs idx wager }
  else if e = "foldedPlayers[contributorIdx] = true" then { ll with folded := setInsert ll.folded idx }
  else if e = "AssertLevel(wager)" then
    { ll with levels := potsAssertLevel (ll.levels.any fun l => potsAssertStep l.level l.wager l.total wager) ll.levels mkLevel wager }
  else if e = "sort levels" then
    { ll with levels := isort (fun a b => potsLevelLess a.level a.wager a.total b.level b.wager b.total) ll.levels }
  else if e = "contributors of each level" then
    { ll with levels := ll.levels.map fun l =>
        { l with contributors := potsLevelContrib l.contributors fun c0 =>
            ll.contribs.foldl (fun c kv => potsContribStep l.level l.wager l.total kv.2 kv.1 c) c0 } }
  else if e = "totals of each level" then { ll with levels := retotalRun ll.contribs.length prev ll.levels }
  else ll

/-- level_list.go `AddContributor`: the wager is recorded, the fold flag is recorded when set, the level is
    asserted, the levels are sorted by `potsLevelLess`, every level gets as contributors the keys of
    `ll.contributors` at or above it (`potsLevelContrib`, `potsContribStep`), and steps and totals are recomputed
    from `prevLevel = 0` (`potsRetotalStep`) — in this order -/
theorem potsAddContributor_eq (ll : LevelList) (wager : Int) (idx : Nat) (fold : Bool) :
    ll.addContributor wager idx fold =
      (let g := potsAddContributor fold
       g.2.foldl (addStep wager idx g.1) ll) := by
  have hless : (fun a b : Level => potsLevelLess a.level a.wager a.total b.level b.wager b.total)
      = (fun a b => decide (a.level < b.level)) := rfl
  cases fold <;>
    simp [LevelList.addContributor, potsAddContributor, addStep, ← potsAssertLevel_eq, assertLevel, hless,
      potsLevelContrib_eq, foldl_contribStep, retotalRun_eq]

/-- a pot as the tuple (Level, Wager, Total, Contributors, Levels) of the translated definitions -/
abbrev PotT := Int × Int × Int × List (Nat × Int) × List Level

def potOfTuple (t : PotT) : Pot :=
  { level := t.1, wager := t.2.1, total := t.2.2.1, contributors := t.2.2.2.1, levels := t.2.2.2.2 }

def tupleOfPot (p : Pot) : PotT := (p.level, p.wager, p.total, p.contributors, p.levels)

@[simp] theorem potOfTuple_tupleOfPot (p : Pot) : potOfTuple (tupleOfPot p) = p := rfl

/-- closed form of one iteration over `l.Contributors` (for any map type and update): a folded contributor is
    skipped, any other is entered with the step of the level -/
theorem potsOrigContribStep_eq {M : Type} (set add : M → Nat → Int → M) (f c : Bool) (i : Nat) (lv w t : Int) (m : M) :
    potsOrigContribStep set add f c i lv w t m = if f then m else set m i w := by
  cases f <;> rfl

/-- the translated iteration over `l.Contributors` on a level of the model (`snoc`: the map update read as appending) -/
def origContribOn (set : List (Nat × Int) → Nat → Int → List (Nat × Int)) (ll : LevelList) (l : Level)
    (m : List (Nat × Int)) (i : Nat) : List (Nat × Int) :=
  potsOrigContribStep set assocAdd (ll.folded.contains i) (assocGet? ll.contribs i).isSome i l.level l.wager l.total m

def snoc (m : List (Nat × Int)) (k : Nat) (v : Int) : List (Nat × Int) := m ++ [(k, v)]

theorem assocSet_snoc {β : Type} (m : List (Nat × β)) (k : Nat) (v : β) (h : ∀ kv ∈ m, kv.1 < k) :
    assocSet m k v = m ++ [(k, v)] := by
  induction m with
  | nil => rfl
  | cons kv m ih =>
    have h1 : kv.1 < k := h kv (by simp)
    have h2 : ¬ k < kv.1 := by omega
    have h3 : ¬ k = kv.1 := by omega
    obtain ⟨k', v'⟩ := kv
    simp only [assocSet, h2, h3, if_false]
    rw [ih (fun x hx => h x (by simp [hx]))]
    rfl

theorem foldl_origContrib_snoc (ll : LevelList) (l : Level) (ks : List Nat) (m : List (Nat × Int)) :
    ks.foldl (origContribOn snoc ll l) m
      = m ++ (ks.filter (fun i => !ll.folded.contains i)).map (fun i => (i, l.wager)) := by
  rw [← foldl_snoc_if (fun i => !ll.folded.contains i) (fun i => (i, l.wager)) ks m]
  congr 1
  funext m i
  rw [origContribOn, potsOrigContribStep_eq]
  cases ll.folded.contains i <;> rfl

theorem foldl_origContrib_assocSet (ll : LevelList) (l : Level) (ks : List Nat) (m : List (Nat × Int))
    (hs : ks.Pairwise (· < ·)) (hm : ∀ kv ∈ m, ∀ k ∈ ks, kv.1 < k) :
    ks.foldl (origContribOn assocSet ll l) m = ks.foldl (origContribOn snoc ll l) m := by
  induction ks generalizing m with
  | nil => rfl
  | cons k ks ih =>
    rw [List.foldl_cons, List.foldl_cons]
    have hk : assocSet m k l.wager = m ++ [(k, l.wager)] := assocSet_snoc m k l.wager (fun kv h => hm kv h k (by simp))
    have hstep : origContribOn assocSet ll l m k = origContribOn snoc ll l m k := by
      rw [origContribOn, origContribOn, potsOrigContribStep_eq, potsOrigContribStep_eq, hk]
      rfl
    rw [hstep]
    apply ih _ (List.pairwise_cons.mp hs).2
    intro kv hkv j hj
    rw [origContribOn, potsOrigContribStep_eq] at hkv
    have hkj : k < j := (List.pairwise_cons.mp hs).1 j hj
    cases hf : ll.folded.contains k
    · simp only [hf] at hkv
      rcases List.mem_append.mp hkv with h | h
      · exact hm kv h j (by simp [hj])
      · simp [snoc] at hkv h
        subst h
        exact hkj
    · simp only [hf, if_true] at hkv
      exact hm kv hkv j (by simp [hj])

/-- level_list.go `GetPots`, first loop, one iteration: the pot of the level `l` — its level, step and total, the
    level itself as its only layer, the non-folded contributors entered with the step (map updates read as
    appending: the contributors of a level are distinct) — is appended to `origPots` -/
theorem potsOrigPot_eq (ll : LevelList) (l : Level) (acc : List PotT) :
    potsOrigPot l.level l.wager l.total l ([] : List (Nat × Int))
        (fun m => l.contributors.foldl (origContribOn snoc ll l) m) acc
      = acc ++ [tupleOfPot (origPot ll.folded l)] := by
  unfold potsOrigPot
  simp only [foldl_origContrib_snoc]
  simp [origPot, tupleOfPot]

/-- the same with the map update `assocSet` of the model, on a level whose contributors ascend (every level built
    by `AddContributor`: `LLInv`, Proofs/PotsLevels.lean) -/
theorem potsOrigPot_assocSet_eq (ll : LevelList) (l : Level) (acc : List PotT) (hs : l.contributors.Pairwise (· < ·)) :
    potsOrigPot l.level l.wager l.total l ([] : List (Nat × Int))
        (fun m => l.contributors.foldl (origContribOn assocSet ll l) m) acc
      = acc ++ [tupleOfPot (origPot ll.folded l)] := by
  rw [← potsOrigPot_eq]
  unfold potsOrigPot
  simp only []
  rw [foldl_origContrib_assocSet ll l l.contributors [] hs (by simp)]

/-- closed form of one iteration over `p.Contributors` of the merge: `prev.Contributors[k] += w` -/
theorem potsMergeContribStep_eq {M : Type} (set add : M → Nat → Int → M) (k : Nat) (w : Int) (m : M) :
    potsMergeContribStep set add k w m = add m k w := rfl

/-- the translated iteration of the merge loop applied to the open pot `q` and the pot `p` at position `i` -/
def mergeStepOn (i : Nat) (q p : Pot) : Bool × PotT :=
  potsMergeStep (fun m : List (Nat × Int) => (m.length : Int))
    (fun m => p.contributors.foldl (fun m kv => potsMergeContribStep assocSet assocAdd kv.1 kv.2 m) m)
    (i : Int) q.level q.wager q.total q.contributors q.levels p.level p.wager p.total p.contributors p.levels

/-- the merge loop as the run of the translated iteration: `i` is the loop index, `prev` the open pot (none before
    the first iteration: `var prev *Pot = nil`, never read at `i = 0`), `acc` the closed pots in reverse -/
def mergeRun (i : Nat) (prev : Option Pot) (acc : List Pot) : List Pot → List Pot
  | [] => (match prev with | none => acc | some q => q :: acc).reverse
  | p :: ps =>
    let g := mergeStepOn i (prev.getD default) p
    mergeRun (i + 1) (some (potOfTuple g.2))
      (if g.1 then (match prev with | none => acc | some q => q :: acc) else acc) ps

/-- level_list.go `GetPots`, merge loop: the first pot, and every pot whose number of (non-folded) contributors
    differs from that of the open pot, is pushed and becomes the open pot; otherwise it is merged into the open
    pot: level replaced, step and total added, layers appended, contributions added key by key -/
theorem potsMerge_eq (i : Nat) (prev : Option Pot) (acc ps : List Pot) (h : i = 0 ↔ prev = none) :
    mergePots prev acc ps = mergeRun i prev acc ps := by
  induction ps generalizing i prev acc with
  | nil => cases prev <;> rfl
  | cons p ps ih =>
    cases prev with
    | none =>
      have hi : i = 0 := h.mpr rfl
      subst hi
      rw [mergePots, mergeRun, ih 1 (some p) acc (by simp)]
      simp [mergeStepOn, potsMergeStep, potOfTuple]
    | some q =>
      have hi0 : i ≠ 0 := fun e => by simpa using h.mp e
      rw [mergePots, mergeRun]
      by_cases hl : q.contributors.length ≠ p.contributors.length
      · rw [if_pos hl, ih (i + 1) (some p) (q :: acc) (by simp)]
        simp [mergeStepOn, potsMergeStep, potOfTuple, hi0, Int.ofNat_inj, hl]
      · rw [if_neg hl, ih (i + 1) (some (mergeInto q p)) acc (by simp)]
        simp [mergeStepOn, potsMergeStep, potOfTuple, hi0, Int.ofNat_inj, hl, mergeInto, potsMergeContribStep_eq]

/-- closed form of one iteration of "put folded players back": a folded player who put in nothing is skipped -/
theorem potsFoldedStep_eq (w : Int) : potsFoldedStep w = (decide (w ≠ 0), w) := by
  unfold potsFoldedStep
  by_cases h : w = 0 <;> simp [h]

/-- the inner loop of "put folded players back" as the run of the translated iteration: the player is entered with
    the whole wager into pot after pot, and the loop stops behind the first pot whose level exceeds the wager -/
def putFoldedRun (idx : Nat) (wager : Int) : List Pot → List Pot
  | [] => []
  | p :: ps =>
    let g := potsPutFoldedStep assocSet assocAdd idx wager p.level p.wager p.total p.contributors
    { p with contributors := g.2 } :: (if g.1 then putFoldedRun idx wager ps else ps)

theorem potsPutFolded_eq (idx : Nat) (wager : Int) (ps : List Pot) : putFolded idx wager ps = putFoldedRun idx wager ps := by
  induction ps with
  | nil => rfl
  | cons p ps ih =>
    simp only [putFolded, putFoldedRun, potsPutFoldedStep]
    by_cases h : wager < p.level <;> simp [h, ih]

/-- the state of `GetPots`: `origPots`, `pots` (closed pots, in order) and the open pot `prev` -/
structure GPState where
  orig : List PotT := []
  pots : List Pot := []
  prev : Option Pot := none

/-- the reading of the steps of `GetPots` -/
def getPotsStep (ll : LevelList) (s : GPState) (e : String) : GPState :=
  if e = "origPots := []" then { s with orig := [] }
  else if e = "origPots of the levels" then
    { s with orig := ll.levels.foldl (fun acc l =>
        potsOrigPot l.level l.wager l.total l ([] : List (Nat × Int))
          (fun m => l.contributors.foldl (origContribOn snoc ll l) m) acc) s.orig }
  else if e = "pots := []" then { s with pots := [] }
  else if e = "prev := nil" then { s with prev := none }
  else if e = "merge origPots" then { s with pots := mergeRun 0 s.prev s.pots.reverse (s.orig.map potOfTuple), prev := none }
  else if e = "put folded players back" then
    { s with pots := ll.folded.foldl (fun ps idx =>
        let g := potsFoldedStep ((assocGet? ll.contribs idx).getD 0)
        if g.1 then putFoldedRun idx g.2 ps else ps) s.pots }
  else s

theorem foldl_origPot (ll : LevelList) (ls : List Level) (acc : List PotT) :
    ls.foldl (fun acc l =>
        potsOrigPot l.level l.wager l.total l ([] : List (Nat × Int))
          (fun m => l.contributors.foldl (origContribOn snoc ll l) m) acc) acc
      = acc ++ ls.map (fun l => tupleOfPot (origPot ll.folded l)) := by
  simp only [potsOrigPot_eq]
  exact foldl_snoc_map (fun l => tupleOfPot (origPot ll.folded l)) ls acc

/-- level_list.go `GetPots`: `origPots` starts empty and receives the pot of every level in order; `pots` starts
    empty with no open pot; the merge loop; the folded players are put back; `pots` is returned -/
theorem potsGetPots_eq (ll : LevelList) :
    ll.getPots = (potsGetPots.foldl (getPotsStep ll) {}).pots ∧ potsGetPots.getLast? = some "return pots" := by
  refine ⟨?_, rfl⟩
  have hmap : (ll.levels.map fun l => tupleOfPot (origPot ll.folded l)).map potOfTuple = ll.levels.map (origPot ll.folded) := by
    simp [List.map_map, Function.comp_def]
  have hput : ∀ ps : List Pot,
      ll.folded.foldl (fun ps idx =>
        let g := potsFoldedStep ((assocGet? ll.contribs idx).getD 0)
        if g.1 then putFoldedRun idx g.2 ps else ps) ps
      = ll.folded.foldl (fun ps idx =>
        let w := (assocGet? ll.contribs idx).getD 0
        if w = 0 then ps else putFolded idx w ps) ps := by
    intro ps
    congr 1
    funext ps idx
    simp only [potsFoldedStep_eq, potsPutFolded_eq]
    by_cases h : (assocGet? ll.contribs idx).getD 0 = 0 <;> simp [h]
  simp only [potsGetPots, getPotsStep, List.foldl_cons, List.foldl_nil, List.nil_append, List.cons_append]
  simp only [String.reduceEq, if_true, if_false, foldl_origPot, List.nil_append, hmap, hput, List.reverse_nil,
    ← potsMerge_eq 0 none [] _ (by simp), LevelList.getPots]

/-! ## settlement/rank.go, level.go, pot.go, settlement.go -/

/-- closed form of one iteration of the search of `Rank.AddContributor`: a group with that score takes the
    contributor and the function returns -/
theorem rankAddStep_eq {I : Type} (gScore score : Int) (i : I) (c : List I) :
    rankAddStep gScore score i c = if gScore = score then (true, c ++ [i]) else (false, c) := by
  unfold rankAddStep
  by_cases h : gScore = score <;> simp [h]

def mkGroup (score : Int) (contributors : List Nat) : RankGroup := { score := score, contributors := contributors }

/-- the search loop of `Rank.AddContributor` as the run of the translated iteration: (returned, groups) -/
def rankAddRun (score : Int) (idx : Nat) : List RankGroup → Bool × List RankGroup
  | [] => (false, [])
  | g :: rest =>
    let r := rankAddStep g.score score idx g.contributors
    let g' := { g with contributors := r.2 }
    if r.1 then (true, g' :: rest) else ((rankAddRun score idx rest).1, g' :: (rankAddRun score idx rest).2)

/-- rank.go `AddContributor`: the first group with that score takes the contributor; without such a group a
    new one `(score, [idx])` is appended; the count of contributors grows by one in that case -/
theorem rankAdd_eq (gs : List RankGroup) (score : Int) (idx : Nat) (count : Int) :
    rankAdd gs score idx =
      (let t := rankAddRun score idx gs
       if t.1 then t.2 else (rankAddNew mkGroup count score idx t.2).2) ∧
    (rankAddNew mkGroup count score idx gs).1 = count + 1 := by
  refine ⟨?_, rfl⟩
  induction gs with
  | nil => simp [rankAdd, rankAddRun, rankAddNew, mkGroup]
  | cons g rest ih =>
    simp only [rankAdd, rankAddRun, rankAddStep_eq]
    by_cases h : g.score = score
    · simp [h]
    · simp only [h, if_false, Bool.false_eq_true]
      rw [ih]
      cases ht : (rankAddRun score idx rest).1 <;> simp [ht, rankAddNew, mkGroup]

/-- rank.go `Calculate`: the groups are sorted with the translated comparison, best score first -/
theorem rankCalculate_eq (gs : List RankGroup) :
    rankCalculate = ["sort groups"] ∧ sortGroups gs = isort (fun a b => rankGreater a.score b.score) gs :=
  ⟨rfl, rfl⟩

/-- rank.go `GetWinners`: nobody without groups, else the contributors of the first group -/
theorem rankWinners_eq {I : Type} (n : Int) (first : List I) : rankWinners n first = if n = 0 then [] else first := by
  unfold rankWinners
  by_cases h : n = 0 <;> simp [h]

/-- closed form of one iteration of `GetLoser`: every group but the first contributes its members -/
theorem rankLoserStep_eq {I : Type} (i : Int) (g acc : List I) : rankLoserStep i g acc = if i = 0 then acc else acc ++ g := by
  unfold rankLoserStep
  by_cases h : i = 0 <;> simp [h]

/-- the loop of `GetLoser` as the run of the translated iteration -/
def loserRun : Nat → List RankGroup → List Nat → List Nat
  | _, [], acc => acc
  | i, g :: gs, acc => loserRun (i + 1) gs (rankLoserStep (i : Int) g.contributors acc)

theorem loserRun_pos (i : Nat) (hi : 0 < i) (gs : List RankGroup) (acc : List Nat) :
    loserRun i gs acc = acc ++ gs.flatMap (·.contributors) := by
  induction gs generalizing i acc with
  | nil => simp [loserRun]
  | cons g gs ih =>
    have h0 : ¬ ((i : Int) = 0) := by omega
    rw [loserRun, ih (i + 1) (by omega), rankLoserStep_eq, if_neg h0]
    simp

theorem loserRun_zero (g : RankGroup) (gs : List RankGroup) :
    loserRun 0 (g :: gs) [] = gs.flatMap (·.contributors) := by
  rw [loserRun, loserRun_pos 1 (by omega), rankLoserStep_eq]
  simp

/-- rank.go `GetLoser`: nobody without groups; else the list starts empty and the loop runs -/
theorem rankLosers_eq {I : Type} (n : Int) (inner : List I → List I) :
    rankLosers n inner = if n = 0 then [] else inner [] := by
  unfold rankLosers
  by_cases h : n = 0 <;> simp [h]

/-- the search of `LevelInfo.UpdateScore` as the run of the translated iteration: the steps taken -/
def levelScoreRun (idx : Nat) : List Nat → List String
  | [] => []
  | c :: cs => let r := levelScoreStep c idx; if r.1 then r.2 ++ levelScoreRun idx cs else r.2

theorem levelScoreRun_eq (idx : Nat) (cs : List Nat) :
    levelScoreRun idx cs = if cs.contains idx then ["rank.AddContributor(score, playerIdx)"] else [] := by
  induction cs with
  | nil => rfl
  | cons c cs ih =>
    simp only [levelScoreRun, levelScoreStep, ih]
    by_cases h : c = idx
    · simp [h]
    · have h' : ¬ idx = c := fun e => h e.symm
      simp [h, h']

/-- level.go `UpdateScore` on a level of the model: the steps of the search, `rank.AddContributor` read through
    the translated `Rank.AddContributor` -/
def levelUpdateScore (l : LevelInfo) (idx : Nat) (score : Int) : LevelInfo :=
  (levelScoreRun idx l.contributors).foldl (fun l e =>
    if e = "rank.AddContributor(score, playerIdx)" then
      { l with groups :=
          (let t := rankAddRun score idx l.groups
           if t.1 then t.2 else (rankAddNew mkGroup 0 score idx t.2).2) }
    else l) l

/-- settlement.go / level.go `UpdateScore`: every level of every pot that lists the player ranks the player once -/
theorem settleUpdateScore_eq (r : Result) (idx : Nat) (score : Int) :
    settleUpdateScore = ["every pot"] ∧
    r.updateScore idx score =
      { r with pots := r.pots.map fun p =>
          { p with levels := p.levels.map fun l =>
              (settleUpdateScoreStep idx score).foldl (fun l e =>
                if e.1 = "LevelInfo.UpdateScore" then levelUpdateScore l e.2.1 e.2.2 else l) l } } := by
  refine ⟨rfl, ?_⟩
  unfold Result.updateScore
  congr 1
  apply List.map_congr_left
  intro p _
  congr 1
  apply List.map_congr_left
  intro l _
  have hr := (rankAdd_eq l.groups score idx 0).1
  simp only [settleUpdateScoreStep, levelUpdateScore, levelScoreRun_eq]
  by_cases h : idx ∈ l.contributors
  · simp [h, hr]
  · simp [h]

def mkPlayerResult (idx : Nat) (final changed : Int) : PlayerResult := { idx := idx, finalStack := final, changed := changed }

/-- settlement.go `AddPlayer`: `(idx, bankroll, 0)` is appended -/
theorem settleAddPlayer_eq (r : Result) (idx : Nat) (bankroll : Int) :
    r.addPlayer idx bankroll = { r with players := settleAddPlayer mkPlayerResult idx bankroll r.players } := rfl

def mkLevelInfo (level wager total : Int) (contributors : List Nat) : LevelInfo :=
  { level := level, wager := wager, total := total, contributors := contributors }

/-- the reading of the recorded call of the loop of `AddPot` (`pr.level.AddLevel(level, wager, total, contributors)`)
    through the translated `AddLevel` -/
def addLevelStep (lis : List LevelInfo) (e : String × Int × Int × Int × List Nat) : List LevelInfo :=
  if e.1 = "AddLevel" then levelAddLevel mkLevelInfo e.2.1 e.2.2.1 e.2.2.2.1 e.2.2.2.2 lis else lis

/-- a pot result as the tuple (Total, level, Winners) of the translated `AddPot` -/
def potResultOfTuple (t : Int × List LevelInfo × List Winner) : PotResult :=
  { total := t.1, levels := t.2.1, winners := t.2.2 }

/-- settlement.go `AddPot`: a pot result with the total, no winners and one `LevelInfo` per level (value, step,
    total, contributors; no ranking yet) is appended -/
theorem settleAddPot_eq (r : Result) (total : Int) (levels : List Level) :
    r.addPot total levels =
      (let pots' := settleAddPot (W := Winner) total
          (fun lis => levels.foldl (fun lis l =>
            (settleAddPotStep l.level l.wager l.total l.contributors).foldl addLevelStep lis) lis)
          (r.pots.map fun p => (p.total, p.levels, p.winners))
       { r with pots := pots'.map potResultOfTuple }) := by
  simp only [settleAddPotStep, List.nil_append, List.foldl_cons, List.foldl_nil, addLevelStep, if_true, levelAddLevel,
    foldl_snoc_map]
  simp [Result.addPot, settleAddPot, mkLevelInfo, List.map_map, Function.comp_def, potResultOfTuple]

theorem winnerStep_eq (wIdx idx : Nat) (ww w : Int) : winnerStep wIdx idx ww w = if wIdx = idx then (true, ww + w) else (false, ww) := by
  unfold winnerStep
  by_cases h : wIdx = idx <;> simp [h]

def mkWinner (idx : Nat) (withdraw : Int) : Winner := { idx := idx, withdraw := withdraw }

/-- the search loop of `UpdateWinner` as the run of the translated iteration: (returned, winners) -/
def winnerRun (idx : Nat) (withdraw : Int) : List Winner → Bool × List Winner
  | [] => (false, [])
  | w :: rest =>
    let r := winnerStep w.idx idx w.withdraw withdraw
    let w' := { w with withdraw := r.2 }
    if r.1 then (true, w' :: rest) else ((winnerRun idx withdraw rest).1, w' :: (winnerRun idx withdraw rest).2)

/-- pot.go `UpdateWinner`: the first entry of the player grows by the amount; without one, `(idx, amount)` is appended -/
theorem winnerUpdate_eq (ws : List Winner) (idx : Nat) (withdraw : Int) :
    updateWinner ws idx withdraw =
      (let t := winnerRun idx withdraw ws
       if t.1 then t.2 else winnerNew mkWinner idx withdraw t.2) := by
  induction ws with
  | nil => simp [updateWinner, winnerRun, winnerNew, mkWinner]
  | cons w rest ih =>
    simp only [updateWinner, winnerRun, winnerStep_eq]
    by_cases h : w.idx = idx
    · simp [h]
    · simp only [h, if_false, Bool.false_eq_true]
      rw [ih]
      cases ht : (winnerRun idx withdraw rest).1 <;> simp [ht, winnerNew, mkWinner]

theorem settleUpdateStep_eq (pIdx idx : Nat) (f c w d : Int) :
    settleUpdateStep pIdx idx f c w d = if pIdx = idx then (true, f + d, c + d) else (false, f, c) := by
  unfold settleUpdateStep
  by_cases h : pIdx = idx <;> simp [h]

/-- the player loop of `Update` as the run of the translated iteration -/
def bumpRun (idx : Nat) (wager d : Int) : List PlayerResult → List PlayerResult
  | [] => []
  | p :: rest =>
    let r := settleUpdateStep p.idx idx p.finalStack p.changed wager d
    let p' := { p with finalStack := r.2.1, changed := r.2.2 }
    if r.1 then p' :: rest else p' :: bumpRun idx wager d rest

theorem bumpPlayer_eq (ps : List PlayerResult) (idx : Nat) (wager d : Int) : bumpPlayer ps idx d = bumpRun idx wager d ps := by
  induction ps with
  | nil => rfl
  | cons p rest ih =>
    simp only [bumpPlayer, bumpRun, settleUpdateStep_eq]
    by_cases h : p.idx = idx <;> simp [h, ih]

/-- the reading of the steps of `Update` (`wager`: the argument of that name) -/
def updStep (wager : Int) (a : Acc) (e : String × Nat × Int) : Acc :=
  if e.1 = "UpdateWinner" then
    { a with winners :=
        (let t := winnerRun e.2.1 e.2.2 a.winners
         if t.1 then t.2 else winnerNew mkWinner e.2.1 e.2.2 t.2) }
  else if e.1 = "players loop" then { a with players := bumpRun e.2.1 wager e.2.2 a.players }
  else a

/-- settlement.go `Update`: a positive withdraw is recorded for the winner with the step added back
    (`withdraw + wager`, the gross share); then the first player entry with that index is adjusted by the withdraw -/
theorem settleUpdate_eq (a : Acc) (idx : Nat) (wager withdraw : Int) :
    a.update idx wager withdraw = (settleUpdate idx wager withdraw).foldl (updStep wager) a := by
  unfold Acc.update settleUpdate
  by_cases h : withdraw > 0 <;> simp [h, updStep, winnerUpdate_eq, ← bumpPlayer_eq]

/-- the reading of a recorded call `r.Update(potIdx, playerIdx, wager, withdraw)` through the translated `Update` -/
def doUpdate {P : Type} (a : Acc) (e : String × P × Nat × Int × Int) : Acc :=
  if e.1 = "Update" then (settleUpdate e.2.2.1 e.2.2.2.1 e.2.2.2.2).foldl (updStep e.2.2.2.1) a else a

/-- closed form of the quantities of the division: `based = total / count`, `remainder = total % count`, the
    odd chips start at `offset = oddChipOffset % count` and the next level of the pot starts at
    `(offset + remainder) % count` (Go's truncated `/` and `%`) -/
theorem settleRewards_eq (total wager n off : Int) :
    settleRewards total wager n off =
      (n, Int.tdiv total n, Int.tmod total n, Int.tmod off n, Int.tmod (Int.tmod off n + Int.tmod total n) n,
       ["rank.Calculate", "winners := rank.GetWinners", "reward loop"]) := rfl

/-- closed form of one iteration of the reward loop: the winner at position `i` gets `based`, plus one chip iff
    `(i − offset + count) % count < remainder`; the call is `Update(potIdx, winner, step, reward − step)` -/
theorem settleRewardStep_eq {P : Type} (potIdx : P) (i offset count remainder based wager total : Int) (w : Nat) :
    settleRewardStep potIdx i offset count remainder based wager total w =
      [("Update", potIdx, w, wager,
        (if Int.tmod (i - offset + count) count < remainder then based + 1 else based) - wager)] := by
  unfold settleRewardStep
  by_cases h : Int.tmod (i - offset + count) count < remainder <;> simp [h]

/-- the reward loop as the run of the translated iteration -/
def payRun (total wager based remainder count offset : Int) : Acc → Nat → List Nat → Acc
  | a, _, [] => a
  | a, i, w :: ws =>
    payRun total wager based remainder count offset
      ((settleRewardStep () (i : Int) offset count remainder based wager total w).foldl doUpdate a) (i + 1) ws

theorem payWinners_eq (total wager based remainder count offset : Int) (a : Acc) (i : Nat) (ws : List Nat) :
    payWinners wager based remainder count offset a i ws = payRun total wager based remainder count offset a i ws := by
  induction ws generalizing a i with
  | nil => rfl
  | cons w ws ih =>
    rw [payWinners, payRun, ih, settleRewardStep_eq]
    simp [doUpdate, settleUpdate_eq]

/-- `CalculateWinnerRewards` on a level of the model (`a`: player results, winners of the pot and odd-chip offset of
    the pot): the groups are sorted, the winners are those of `GetWinners`, the quantities are those of
    `settleRewards`, the loop is the run of `settleRewardStep`, and the offset is stored.  A level nobody is ranked
    in divides by zero in Go; the model leaves the accumulator as it is (outside the domain) -/
def rewardsOf (a : Acc) (l : LevelInfo) : Acc :=
  let gs := isort (fun x y => rankGreater x.score y.score) l.groups
  match gs with
  | [] => a
  | g :: _ =>
    let winners := rankWinners (gs.length : Int) g.contributors
    let q := settleRewards l.total l.wager (winners.length : Int) a.offset
    if q.2.2.2.2.2 = ["rank.Calculate", "winners := rank.GetWinners", "reward loop"] then
      let a1 := payRun l.total l.wager q.2.1 q.2.2.1 q.1 q.2.2.2.1 a 0 winners
      { a1 with offset := q.2.2.2.2.1 }
    else a

/-- `CalculateLoserResults` on a level of the model (the groups as `Calculate` sorted them): every member of
    every group but the first loses the step of the level -/
def losersOf (a : Acc) (l : LevelInfo) : Acc :=
  let gs := isort (fun x y => rankGreater x.score y.score) l.groups
  (rankLosers (gs.length : Int) (loserRun 0 gs)).foldl (fun a i => (settleLoserStep () l.wager l.total i).foldl doUpdate a) a

/-- the reading of the steps of one iteration of `CalculatePot` -/
def calcPotStep (l : LevelInfo) (a : Acc) (e : String) : Acc :=
  if e = "CalculateWinnerRewards(potIdx, l)" then rewardsOf a l
  else if e = "CalculateLoserResults(potIdx, l)" then losersOf a l
  else a

theorem payRun_offset (total wager based remainder count offset : Int) (a : Acc) (i : Nat) (ws : List Nat) :
    (payRun total wager based remainder count offset a i ws).offset = a.offset := by
  rw [← payWinners_eq]
  induction ws generalizing a i with
  | nil => rfl
  | cons w ws ih =>
    rw [payWinners, ih]
    rfl

/-- settlement.go `CalculatePot`, one iteration: the winners' rewards, then the losers' results -/
theorem settleLevel_eq (a : Acc) (l : LevelInfo) :
    settleLevel a l = settleCalcPotStep.foldl (calcPotStep l) a := by
  simp only [settleCalcPotStep, List.foldl_cons, List.foldl_nil, List.nil_append, List.cons_append, calcPotStep,
    String.reduceEq, if_true, if_false]
  unfold settleLevel rewardsOf losersOf sortGroups
  have hg : (fun x y : RankGroup => rankGreater x.score y.score) = (fun a b => decide (a.score > b.score)) := rfl
  rw [hg]
  cases hs : isort (fun a b : RankGroup => decide (a.score > b.score)) l.groups with
  | nil => simp [rankLosers]
  | cons g rest =>
    have hn : ¬ (((g :: rest).length : Int) = 0) := by
      simp
      omega
    simp only [rankWinners_eq, rankLosers_eq, hn, if_false, settleRewards_eq, if_true, loserRun_zero, payWinners_eq l.total]
    congr 1
    funext a i
    simp [settleLoserStep, doUpdate, settleUpdate_eq]

/-- settlement.go `CalculatePot`: the iteration over the levels of the pot, starting from the player results so
    far, the winners of the pot and the pot's odd-chip offset 0 -/
theorem settlePot_eq (players : List PlayerResult) (p : PotResult) :
    settlePot players p =
      (let a := p.levels.foldl (fun a l => settleCalcPotStep.foldl (calcPotStep l) a)
                  { players := players, winners := p.winners }
       (a.players, { p with winners := a.winners })) := by
  unfold settlePot
  have : (fun a l => settleCalcPotStep.foldl (calcPotStep l) a) = settleLevel := by
    funext a l
    rw [settleLevel_eq]
  rw [this]

/-- the loop of `Calculate` as the run of the translated iteration -/
def calcRun : List PlayerResult → List PotResult → List PotResult → Result
  | ps, done, [] => { players := ps, pots := done.reverse }
  | ps, done, p :: rest =>
    let r := settleCalculateStep.foldl
      (fun s e => if e = "CalculatePot(potIdx, pot)" then settlePot s.1 s.2 else s) (ps, p)
    calcRun r.1 (r.2 :: done) rest

/-- settlement.go `Calculate`: `CalculatePot` for every pot in order -/
theorem settleCalculate_eq (r : Result) : r.calculate = calcRun r.players [] r.pots := by
  unfold Result.calculate
  generalize r.players = ps
  generalize ([] : List PotResult) = done
  induction r.pots generalizing ps done with
  | nil => rfl
  | cons p rest ih =>
    rw [Result.calculate.go, calcRun]
    simp only [settleCalculateStep, List.foldl_cons, List.foldl_nil, List.nil_append, if_true]
    exact ih _ _

/-! ## combination/combination.go (the selection of five cards), power.go (the best hand of a player) -/

/-- combination.go `gospersHack`, start values: `cur = (1 << k) − 1`, `limit = 1 << n` -/
theorem combosGosperInit_eq (k n : Nat) : combosGosperInit k n = ((1 <<< k) - 1, 1 <<< n) := rfl

/-- combination.go `gospersHack`: the loop `for cur < limit` (header pinned) as the run of the translated iteration
    (the pattern is recorded; the next pattern is `(((r ^ cur) >> 2) / lb) | r` with `lb = cur & -cur`, `r = cur + lb`);
    `k = 0` divides by zero in Go (observation O4) and is outside the model's domain -/
theorem combosGosperStep_eq (limit fuel cur : Nat) :
    gospersLoop limit (fuel + 1) cur =
      (if cur < limit then
         (let g := combosGosperStep lowbit cur []
          g.1 ++ gospersLoop limit fuel g.2)
       else []) ∧
    gospersLoop limit 0 cur = [] := by
  refine ⟨?_, rfl⟩
  rw [gospersLoop]
  by_cases h : cur < limit <;> simp [h, combosGosperStep]

theorem combosGosper_eq (k n : Nat) :
    gospersHack k n =
      (if k = 0 then [] else
        (let g := combosGosperInit k n
         gospersLoop g.2 g.2 g.1)) := rfl

/-- combination.go `binaryOnesPositions`: the loop `for i := 0; i < n; i++` (header pinned) as the run of the
    translated iteration on the bit test `(value>>i)&1 == 1` (read by the expression table) -/
theorem combosBits_eq (value n : Nat) :
    binaryOnesPositions value n =
      (List.range n).foldl (fun acc i => combosBitStep ((value >>> i) &&& 1 == 1) i acc) [] := by
  simp only [combosBitStep, foldl_snoc_if, List.nil_append, List.map_id', binaryOnesPositions]

/-- the selections of `n` out of `cards` by bit patterns, as the run of the translated iterations -/
def possibleRun {α : Type} [Inhabited α] (cards junk : List α) (k nn : Int) (acc : List (List α)) : List (List α) :=
  (gospersHack k.toNat nn.toNat).foldl (fun acc v =>
    combosPossibleStep (fun c =>
      (binaryOnesPositions v nn.toNat).foldl (fun c p => combosPickStep cards[p]! c) c) junk acc) acc

/-- combination.go `GetPossibleCombinations`: at most `n` cards ⇒ the cards themselves; else one selection per bit
    pattern of `gospersHack(n, total)`, each the cards at the set bits `binaryOnesPositions(v, total)`, in order
    (`junk`: whatever a variable `combination` held before an iteration: every iteration starts from the empty selection) -/
theorem combosPossible_eq {α : Type} [Inhabited α] (cards junk : List α) (n : Nat) :
    possibleCombinations cards n = combosPossible cards (n : Int) (possibleRun cards junk) := by
  unfold possibleCombinations combosPossible possibleRun
  by_cases h : cards.length ≤ n
  · simp [h]
  · simp only [h, Int.ofNat_le, if_false, decide_false, Bool.false_eq_true, Int.toNat_natCast, combosPossibleStep, combosPickStep,
      foldl_snoc_map, List.nil_append]

/-- combination.go `GetAllPossibleCombinations`: without required hole cards any five of hole cards ++ board;
    else every selection of exactly `holeCardsCount` hole cards joined with every selection of `5 − holeCardsCount`
    board cards, hole selections in the outer loop (`junk`: whatever a variable `allCards` held before an iteration) -/
theorem combosAll_eq {α : Type} [Inhabited α] (board hole junk : List α) (holeCount : Nat) :
    allPossibleCombinations board hole holeCount =
      combosAll (fun cs n => possibleCombinations cs n.toNat) board hole (holeCount : Int)
        (fun hcs bcs acc => hcs.foldl (fun acc cs => bcs.foldl (fun acc bs => combosAllStep cs bs junk acc) acc) acc) := by
  unfold allPossibleCombinations combosAll
  by_cases h : holeCount = 0
  · simp [h]
  · have h5 : ((5 : Int) - (holeCount : Int)).toNat = 5 - holeCount := by omega
    simp only [combosAllStep, List.nil_append, foldl_snoc_map, foldl_append_flatMap]
    simp [h, h5]

/-- power.go `GetAllPossibileCombinations`, `CalculateCombinationPower`: the arguments handed to the package
    `combination`, in this order -/
theorem powerCalls_eq {B H R T C : Type} (all : B → H → Int → R) (b : B) (h : H) (n : Int) (d : R)
    (power : T → C → R) (t : T) (c : C) :
    powerCombos all b h n d = all b h n ∧ powerCalc power t c d = power t c := ⟨rfl, rfl⟩

/-- power.go `GetAllPowersByPlayer`, one iteration: the power state of the combination is appended -/
theorem powerAllStep_eq {C P : Type} (power : C → P) (c : C) (p0 : P) (acc : List P) :
    powerAllStep power c p0 acc = acc ++ [power c] := rfl

/-- power.go `GetAllPowersByPlayer`: the list of the power states of the candidate hands, in order, before the sort -/
theorem powerAll_eq (lvl : Cat → Nat) (pr : List Cat) (board hole : List Card) (required : Nat) (p0 : Power) :
    powerAll = ["powers := []", "combinations := GetAllPossibileCombinations(p, RequiredHoleCardsCount)",
      "power of every combination", "sort powers", "return powers"] ∧
    (allPossibleCombinations board hole required).map (calculatePower lvl pr) =
      (powerCombos (fun b h n => allPossibleCombinations b h n.toNat) board hole (required : Int) []).foldl
        (fun acc c => powerAllStep (fun c => powerCalc (calculatePower lvl) pr c p0) c p0 acc) [] := by
  refine ⟨rfl, ?_⟩
  simp only [powerAllStep, foldl_snoc_map, List.nil_append]
  simp [powerCombos, powerCalc]

/-- power.go `CalculatePlayerPower` on the model: the best (`bestPower`, below) of the power states collected by the
    translated iteration over the candidates `GetAllPossibileCombinations(p, RequiredHoleCardsCount)` -/
theorem playerPower_eq (lvl : Cat → Nat) (pr : List Cat) (board hole : List Card) (required : Nat) (p0 : Power) :
    playerPower lvl pr board hole required =
      bestPower ((powerCombos (fun b h n => allPossibleCombinations b h n.toNat) board hole (required : Int) []).foldl
        (fun acc c => powerAllStep (fun c => powerCalc (calculatePower lvl) pr c p0) c p0 acc) []) := by
  rw [← (powerAll_eq lvl pr board hole required p0).2]
  rfl

/-- power.go `CalculatePlayerPower`: `sort.Slice(powers, less)` with the translated comparison `powerGreater`
    followed by `powers[0]`.  `sort.Slice` is not stable and its outcome among equal scores is unspecified
    (DESIGN §4); the model takes the first candidate no other candidate is `less` than: -/
theorem powerBest_eq (ps : List Power) (p : Power) :
    powerBest = ["powers := GetAllPowersByPlayer(p)", "return powers[0]"] ∧
    bestPower (p :: ps) =
      (match bestPower ps with
       | none => some p
       | some q => if powerGreater q.score p.score then some q else some p) := by
  refine ⟨rfl, ?_⟩
  rw [bestPower]
  cases bestPower ps with
  | none => rfl
  | some q => simp [powerGreater]

/-- what `powers[0]` of any list sorted by the translated `less` satisfies, the model's choice included: no candidate
    is `less` (has a greater score) than the chosen one, and the chosen one is a candidate -/
theorem powerBest_max (ps : List Power) (q : Power) (h : bestPower ps = some q) :
    q ∈ ps ∧ ∀ p ∈ ps, powerGreater p.score q.score = false := by
  obtain ⟨hq, hmax⟩ := bestPower_spec h
  refine ⟨hq, fun p hp => ?_⟩
  have := hmax p hp
  simp only [powerGreater, decide_eq_false_iff_not]
  omega

/-! ## game_state.go: the views -/

/-- closed forms of the translated iterations over the players (for any types of hole cards and combination):
    `AsPlayer` skips the viewer; a closed hand hides the folded players only; an open hand hides everybody else;
    `AsObserver` does the same without a viewer -/
theorem viewSteps_eq {H K : Type} (pIdx idx : Nat) (fold : Bool) (h : List H) (c : Option K) :
    viewAsPlayerClosedStep pIdx idx fold h c = (if pIdx = idx then (h, c) else if fold then ([], none) else (h, c)) ∧
    viewAsPlayerStep pIdx idx fold h c = (if pIdx = idx then (h, c) else ([], none)) ∧
    viewAsObserverClosedStep pIdx idx fold h c = (if fold then ([], none) else (h, c)) ∧
    viewAsObserverStep pIdx idx fold h c = ([], none) := by
  refine ⟨?_, ?_, ?_, rfl⟩
  · unfold viewAsPlayerClosedStep
    by_cases e : pIdx = idx <;> cases fold <;> simp [e]
  · unfold viewAsPlayerStep
    by_cases e : pIdx = idx <;> simp [e]
  · unfold viewAsObserverClosedStep
    cases fold <;> simp

/-- a translated iteration applied to a player of the model: `HoleCards` and `Combination` are replaced by what
    the iteration leaves -/
def viewOn (step : Nat → Nat → Bool → List Card → Option Comb → List Card × Option Comb) (idx : Nat) (p : Player) : Player :=
  let r := step p.idx idx p.fold p.hole p.comb
  { p with hole := r.1, comb := r.2 }

theorem viewOn_closed (idx : Nat) (p : Player) :
    viewOn viewAsPlayerClosedStep idx p = (if p.idx = idx then p else if p.fold then hidePlayer p else p) ∧
    viewOn viewAsPlayerStep idx p = (if p.idx = idx then p else hidePlayer p) ∧
    viewOn viewAsObserverClosedStep idx p = (if p.fold then hidePlayer p else p) ∧
    viewOn viewAsObserverStep idx p = hidePlayer p := by
  obtain ⟨h1, h2, h3, h4⟩ := viewSteps_eq p.idx idx p.fold p.hole p.comb
  simp only [viewOn, h1, h2, h3, h4,
    apply_ite (fun r : List Card × Option Comb => ({ p with hole := r.1, comb := r.2 } : Player))]
  exact ⟨rfl, rfl, rfl, rfl⟩

/-- the reading of the steps of a view function: the loop over the players in the closed branch is followed by
    `return`; otherwise the loop of the open hand runs -/
def viewRun (g : Game) (v : List Card × List Card × List String)
    (closedStep openStep : Player → Player) : Game :=
  let g' := { g with opts := { g.opts with deck := v.1 }, burned := v.2.1 }
  if v.2.2 = ["players loop", "return"] then g'.mapP closedStep
  else if v.2.2 = ["players loop"] then g'.mapP openStep
  else g'

/-- closed form of the translated `AsPlayer` and `AsObserver` up to their loops: deck and burned cards are blanked;
    on a closed hand the function returns behind its first loop -/
theorem viewHeads_closed {C : Type} (deck burned : List C) (event : String) :
    viewAsPlayer deck burned event =
      ([], [], if event = "GameClosed" then ["players loop", "return"] else ["players loop"]) ∧
    viewAsObserver deck burned event =
      ([], [], if event = "GameClosed" then ["players loop", "return"] else ["players loop"]) := by
  unfold viewAsPlayer viewAsObserver
  by_cases h : event = "GameClosed" <;> simp [h]

theorem viewRun_closed (g : Game) (closedStep openStep : Player → Player) :
    viewRun g ([], [], if evString g.event = "GameClosed" then ["players loop", "return"] else ["players loop"])
        closedStep openStep =
      if g.event = .gameClosed then g.stripSecrets.mapP closedStep else g.stripSecrets.mapP openStep := by
  unfold viewRun
  by_cases h : g.event = .gameClosed
  · rw [if_pos ((evString_gameClosed _).mpr h), if_pos rfl, if_pos h]
    rfl
  · rw [if_neg (fun e => h ((evString_gameClosed _).mp e)), if_neg (by decide), if_pos rfl, if_neg h]
    rfl

/-- game_state.go `AsPlayer`: deck and burned cards are blanked first; on a closed hand every other player who
    folded loses hole cards and combination and nothing else happens; otherwise every other player does -/
theorem viewAsPlayer_eq (g : Game) (idx : Nat) :
    g.asPlayer idx =
      viewRun g (viewAsPlayer g.opts.deck g.burned (evString g.event))
        (viewOn viewAsPlayerClosedStep idx) (viewOn viewAsPlayerStep idx) := by
  rw [(viewHeads_closed _ _ _).1, viewRun_closed, funext fun p => (viewOn_closed idx p).1,
    funext fun p => (viewOn_closed idx p).2.1]
  rfl

/-- game_state.go `AsObserver`: the same without a viewer -/
theorem viewAsObserver_eq (g : Game) (idx : Nat) :
    g.asObserver =
      viewRun g (viewAsObserver g.opts.deck g.burned (evString g.event))
        (viewOn viewAsObserverClosedStep idx) (viewOn viewAsObserverStep idx) := by
  rw [(viewHeads_closed _ _ _).2, viewRun_closed, funext fun p => (viewOn_closed idx p).2.2.1,
    funext fun p => (viewOn_closed idx p).2.2.2]
  rfl

/-! ## what the translated definitions compute, on concrete inputs (non-vacuity) -/

example : potsAddContributor true = (0, ["contributors[contributorIdx] = wager", "foldedPlayers[contributorIdx] = true",
    "AssertLevel(wager)", "sort levels", "contributors of each level", "totals of each level"]) := rfl

example : potsContribStep 50 0 0 100 (3 : Nat) [1] = [1, 3] ∧ potsContribStep 150 0 0 100 (3 : Nat) [1] = [1] := ⟨rfl, rfl⟩

example : potsRetotalStep 100 25 3 5 0 0 = (75, 225, 100) := rfl

/-- the merge: a level with as many live contributors as the open pot is merged, another one opens a new pot -/
example : (potsMergeStep (fun m : List (Nat × Int) => (m.length : Int)) (fun m => m ++ [(9, 1)]) 1
      50 50 150 [(1, 50), (2, 50)] ["L50"] 100 50 100 [(1, 50), (2, 50)] ["L100"]).1 = false ∧
    (potsMergeStep (fun m : List (Nat × Int) => (m.length : Int)) (fun m => m) 1
      50 50 150 [(1, 50), (2, 50)] ["L50"] 100 50 50 [(1, 50)] ["L100"]).1 = true := ⟨rfl, rfl⟩

example : potsPutFoldedStep assocSet assocAdd 4 30 50 50 150 [(1, 50)] = (false, [(1, 50), (4, 30)]) := rfl

/-- a layout of the kind of D2 (DESIGN §7): 101 + 75 chips in two levels of one pot, two tied winners: the odd chip of the second
    level goes to the winner the first level did not favour -/
example : settleRewards 101 25 2 0 = (2, 50, 1, 0, 1, ["rank.Calculate", "winners := rank.GetWinners", "reward loop"]) ∧
    settleRewardStep (0 : Nat) 0 0 2 1 50 25 101 7 = [("Update", 0, 7, 25, 26)] ∧
    settleRewardStep (0 : Nat) 1 0 2 1 50 25 101 8 = [("Update", 0, 8, 25, 25)] := ⟨rfl, rfl, rfl⟩

example : settleRewards 75 25 2 1 = (2, 37, 1, 1, 0, ["rank.Calculate", "winners := rank.GetWinners", "reward loop"]) ∧
    settleRewardStep (0 : Nat) 0 1 2 1 37 25 75 7 = [("Update", 0, 7, 25, 12)] ∧
    settleRewardStep (0 : Nat) 1 1 2 1 37 25 75 8 = [("Update", 0, 8, 25, 13)] := ⟨rfl, rfl, rfl⟩

example : settleUpdate 3 25 26 = [("UpdateWinner", 3, 51), ("players loop", 3, 26)] ∧
    settleUpdate 3 25 (-25) = [("players loop", 3, -25)] := ⟨rfl, rfl⟩

example : viewAsPlayer [1, 2, 3] [4] "GameClosed" = ([], [], ["players loop", "return"]) ∧
    viewAsPlayer [1, 2, 3] [4] "RoundClosed" = ([], [], ["players loop"]) := ⟨rfl, rfl⟩

example : viewAsPlayerClosedStep 2 1 true ["SA", "HK"] (some 5) = ([], none) ∧
    viewAsPlayerClosedStep 2 1 false ["SA", "HK"] (some 5) = (["SA", "HK"], some 5) ∧
    viewAsPlayerClosedStep 1 1 true ["SA", "HK"] (some 5) = (["SA", "HK"], some 5) ∧
    viewAsPlayerStep 2 1 false ["SA", "HK"] (some 5) = ([], none) := ⟨rfl, rfl, rfl, rfl⟩

example : combosPossible [1, 2, 3] 2 (possibleRun [1, 2, 3] [7]) = [[1, 2], [1, 3], [2, 3]] := rfl

example : combosAll (fun cs n => possibleCombinations cs n.toNat) [1, 2, 3] [8, 9] 2
      (fun hcs bcs acc => hcs.foldl (fun acc cs => bcs.foldl (fun acc bs => combosAllStep cs bs [7] acc) acc) acc)
    = [[8, 9, 1, 2, 3]] := rfl

end Pokerface.GeneratedLogic
