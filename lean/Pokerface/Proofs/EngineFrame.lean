import Pokerface.Proofs.EngineActCases
import Pokerface.Proofs.ListLemmas
/-
  One frame calculus for the event chain.

  A footprint `Fp` says which fields of the state and of a seat a function may write.  `Wr W g g'`: `g'` is `g`
  up to the fields in `W` (stated as one equation, `g'.erase W = g.erase W`, where `erase` overwrites exactly
  those fields with constants), it keeps the structural facts, and it has not newly recorded `AnteRequested`
  unless `W.ante`.  Every function of the chain has a lemma `wr_<fn>` giving its footprint (`setEvent` has two, with
  and without `AnteRequested`; `setCurrentPlayer` one per seat the chain asks — `wr_askNext`, `wr_askDealer`,
  `wr_askDealer_dealt` — over the general one, which needs the seat to be in range); every frame relation (`NoChip`,
  `Static`, `Soft`, `Quiet`, `Mov`, `Acts`, `CF`, `Keeps`, `PotsKeep`, …) has ONE lemma `Wr.<relation>`: a footprint that
  misses the fields the relation reads gives the relation.
  The file opens with the structural facts `Struct`, which every `Wr` carries, and what they give at once: the seats
  the chain asks are in range (`dealerIdx_lt`, `nextIdx_lt`), so `requestPlayerAction` closes the round or asks a seat
  that exists (`Game.requestPlayerAction_cases`).
-/
namespace Pokerface
open Game

/-- The structural facts: seat `i` carries the index `i`, there is a seat, and the seat to act is one of them.  No
    function of the chain breaks them (the clause `struct` of `Wr`), so they hold in every state reached from a
    configuration, whatever else fails on the way. -/
structure Struct (g : Game) : Prop where
  idx : ∀ (i : Nat) (p : Player), g.players[i]? = some p → p.idx = i
  pos : 0 < g.n
  cur : g.cur < g.n

theorem struct_of_proj {β : Type} (π : Player → β) (idx : β → Nat) (hπ : ∀ p, idx (π p) = p.idx) {g g' : Game}
    (hl : g'.players.map π = g.players.map π) (hc : g'.cur < g.n) (h : Struct g) : Struct g' := by
  have hn : g'.n = g.n := by simpa [Game.n] using congrArg List.length hl
  refine ⟨?_, (hn ▸ h.pos), (hn ▸ hc)⟩
  intro i p hp
  obtain ⟨q, hq, hqe⟩ := getElem?_of_map_eq hl hp
  rw [← h.idx i q hq, ← hπ p, ← hπ q, hqe]

theorem dealerIdx_lt {g : Game} (h : Struct g) : g.dealerIdx < g.n := by
  unfold Game.dealerIdx Game.dealerIdx?
  cases hf : g.players.reverse.find? (·.posDealer) with
  | none => simpa using h.pos
  | some p =>
    simp only [Option.map_some, Option.getD_some]
    have hm : p ∈ g.players := by
      have := List.mem_of_find?_eq_some hf
      simpa using this
    obtain ⟨i, hi, hpi⟩ := List.getElem_of_mem hm
    have : g.players[i]? = some p := by simp [List.getElem?_eq_getElem hi, hpi]
    rw [h.idx i p this]
    exact hi

theorem nextIdx_lt {g : Game} (h : Struct g) : g.nextIdx < g.n := by
  unfold Game.nextIdx
  have hc := h.cur
  split
  · exact h.pos
  · omega

theorem Game.requestPlayerAction_cases (g : Game) (hs : Struct g) :
    (g.requestPlayerAction = g.roundClosed ∧
      (g.aliveCount = 1 ∨ g.movableCount = 0 ∨ ∃ p, g.players[g.nextIdx]? = some p ∧ p.acted = true)) ∨
    (g.requestPlayerAction = g.setCurrentPlayer g.nextIdx ∧ g.aliveCount ≠ 1 ∧ g.movableCount ≠ 0 ∧
      ∃ p, g.players[g.nextIdx]? = some p ∧ p.acted = false) := by
  refine g.requestPlayerAction_branch (motive := fun x => (x = g.roundClosed ∧ _) ∨ (x = g.setCurrentPlayer g.nextIdx ∧ _))
    (fun h => .inl ⟨rfl, h⟩) (fun hn => ?_) fun h1 h2 p hp ha => .inr ⟨rfl, h1, h2, p, hp, ha⟩
  exact absurd hn (List.getElem?_eq_getElem (nextIdx_lt hs : g.nextIdx < g.players.length) ▸ nofun)

/-- What a function of the chain may write.  The options, `miniBet` and a seat's index, positions and bankroll are
    written by nothing.  `ante` is not a field: it says that the event recorded may be `AnteRequested`.  Only
    `ReadyForAll` before the first street records that event, and what speaks of the cards or of the published hands
    (`CF`, `Keeps`, the bounds on the board) needs "the ante is requested only while nothing is dealt", so those
    frames carry the clause `Wr.ante` and ask for a footprint without this flag. -/
structure Fp where
  event : Bool := false
  ante : Bool := false
  round : Bool := false
  cur : Bool := false
  raiser : Bool := false
  cw : Bool := false
  prev : Bool := false
  roundPot : Bool := false
  pots : Bool := false
  board : Bool := false
  burned : Bool := false
  deckPos : Bool := false
  result : Bool := false
  acted : Bool := false
  fold : Bool := false
  allowed : Bool := false
  initial : Bool := false
  stack : Bool := false
  pot : Bool := false
  wager : Bool := false
  hole : Bool := false
  comb : Bool := false

namespace Fp

def union (a b : Fp) : Fp where
  event := a.event || b.event
  ante := a.ante || b.ante
  round := a.round || b.round
  cur := a.cur || b.cur
  raiser := a.raiser || b.raiser
  cw := a.cw || b.cw
  prev := a.prev || b.prev
  roundPot := a.roundPot || b.roundPot
  pots := a.pots || b.pots
  board := a.board || b.board
  burned := a.burned || b.burned
  deckPos := a.deckPos || b.deckPos
  result := a.result || b.result
  acted := a.acted || b.acted
  fold := a.fold || b.fold
  allowed := a.allowed || b.allowed
  initial := a.initial || b.initial
  stack := a.stack || b.stack
  pot := a.pot || b.pot
  wager := a.wager || b.wager
  hole := a.hole || b.hole
  comb := a.comb || b.comb

instance : Union Fp := ⟨union⟩

end Fp

def Player.erase (W : Fp) (p : Player) : Player :=
  { p with
    acted := bif W.acted then false else p.acted
    fold := bif W.fold then false else p.fold
    allowed := bif W.allowed then [] else p.allowed
    initial := bif W.initial then 0 else p.initial
    stack := bif W.stack then 0 else p.stack
    pot := bif W.pot then 0 else p.pot
    wager := bif W.wager then 0 else p.wager
    hole := bif W.hole then [] else p.hole
    comb := bif W.comb then none else p.comb }

def Game.erase (W : Fp) (g : Game) : Game :=
  { g with
    players := g.players.map (Player.erase W)
    event := bif W.event then .none else g.event
    round := bif W.round then .none else g.round
    cur := bif W.cur then 0 else g.cur
    raiser := bif W.raiser then 0 else g.raiser
    cw := bif W.cw then 0 else g.cw
    prev := bif W.prev then 0 else g.prev
    roundPot := bif W.roundPot then 0 else g.roundPot
    pots := bif W.pots then [] else g.pots
    board := bif W.board then [] else g.board
    burned := bif W.burned then [] else g.burned
    deckPos := bif W.deckPos then 0 else g.deckPos
    result := bif W.result then none else g.result }


theorem cond_or {α : Type} (a b : Bool) (d v : α) :
    (bif b then d else bif a then d else v) = bif (a || b) then d else v := by
  cases a <;> cases b <;> rfl

theorem Player.erase_erase (a b : Fp) (p : Player) : (p.erase a).erase b = p.erase (a ∪ b) := by
  simp only [Player.erase, cond_or]
  rfl

theorem Game.erase_erase (a b : Fp) (g : Game) : (g.erase a).erase b = g.erase (a ∪ b) := by
  simp only [Game.erase, cond_or, List.map_map]
  have : Player.erase b ∘ Player.erase a = Player.erase (a ∪ b) := funext (Player.erase_erase a b)
  rw [this]
  rfl

theorem Fp.le_union_left (a b : Fp) : a ∪ (a ∪ b) = a ∪ b := by
  have h : ∀ x y : Bool, (x || (x || y)) = (x || y) := by decide
  simp only [Union.union, Fp.union, h]

theorem Fp.le_union_right (a b : Fp) : b ∪ (a ∪ b) = a ∪ b := by
  have h : ∀ x y : Bool, (y || (x || y)) = (x || y) := by decide
  simp only [Union.union, Fp.union, h]

/-- `g'` is `g` up to the fields of the footprint `W`; the other two clauses are what every function of the chain keeps
    besides (see `Struct`, and the flag `ante` of `Fp`). -/
structure Wr (W : Fp) (g g' : Game) : Prop where
  eq : g'.erase W = g.erase W
  struct : Struct g → Struct g'
  ante : W.ante = false → g'.event = .anteRequested → g.event = .anteRequested

namespace Wr
variable {W W' : Fp} {g g' a b c : Game}

theorem refl (W : Fp) (g : Game) : Wr W g g := ⟨rfl, id, fun _ => id⟩

/-- `hle` says `W ≤ W'` fieldwise, as an equation so that it is checked by evaluation and used by rewriting -/
theorem mono (h : Wr W g g') (hle : W ∪ W' = W' := by rfl) : Wr W' g g' := by
  refine ⟨?_, h.struct, fun hW => h.ante ?_⟩
  · rw [← hle, ← Game.erase_erase, ← Game.erase_erase, h.eq]
  · have := congrArg Fp.ante hle
    cases hWa : W.ante
    · rfl
    · rw [hW] at this
      simp [Union.union, Fp.union, hWa] at this

theorem trans' (h1 : Wr W a b) (h2 : Wr W b c) : Wr W a c :=
  ⟨h2.eq.trans h1.eq, h2.struct ∘ h1.struct, fun hW => h1.ante hW ∘ h2.ante hW⟩

theorem trans {W1 W2 : Fp} (h1 : Wr W1 a b) (h2 : Wr W2 b c) : Wr (W1 ∪ W2) a c :=
  (h1.mono (Fp.le_union_left W1 W2)).trans' (h2.mono (Fp.le_union_right W1 W2))

theorem of_eq (eq : g'.erase W = g.erase W) (cur : Struct g → g'.cur < g.n)
    (ante : W.ante = false → g'.event = .anteRequested → g.event = .anteRequested) : Wr W g g' :=
  ⟨eq, fun h => struct_of_proj (Player.erase W) (·.idx) (fun _ => rfl) (congrArg Game.players eq) (cur h) h, ante⟩

theorem same (eq : g'.erase W = g.erase W) (cur : g'.cur = g.cur := by rfl) (ev : g'.event = g.event := by rfl) :
    Wr W g g' :=
  .of_eq eq (fun h => cur ▸ h.cur) (fun _ h => ev ▸ h)

theorem get {α : Sort _} (h : Wr W g g') (f : Game → α) (hf : ∀ g : Game, f (g.erase W) = f g) : f g' = f g := by
  rw [← hf g', ← hf g, h.eq]

theorem map {α : Type} (h : Wr W g g') (π : Player → α) (hπ : ∀ p : Player, π (p.erase W) = π p) :
    g'.players.map π = g.players.map π := by
  have := congrArg (fun g : Game => g.players.map π) h.eq
  simpa only [Game.erase, List.map_map, Function.comp_def, hπ] using this

theorem n (h : Wr W g g') : g'.n = g.n := by
  simpa [Game.n] using congrArg List.length (h.map (·.idx) (fun _ => rfl))

theorem opts (h : Wr W g g') : g'.opts = g.opts := h.get Game.opts fun _ => rfl
theorem miniBet (h : Wr W g g') : g'.miniBet = g.miniBet := h.get Game.miniBet fun _ => rfl
theorem event (h : Wr W g g') (hW : W.event = false := by rfl) : g'.event = g.event :=
  h.get Game.event fun g => by simp only [Game.erase, hW, cond_false]
theorem round (h : Wr W g g') (hW : W.round = false := by rfl) : g'.round = g.round :=
  h.get Game.round fun g => by simp only [Game.erase, hW, cond_false]
theorem cur (h : Wr W g g') (hW : W.cur = false := by rfl) : g'.cur = g.cur :=
  h.get Game.cur fun g => by simp only [Game.erase, hW, cond_false]
theorem raiser (h : Wr W g g') (hW : W.raiser = false := by rfl) : g'.raiser = g.raiser :=
  h.get Game.raiser fun g => by simp only [Game.erase, hW, cond_false]
theorem cw (h : Wr W g g') (hW : W.cw = false := by rfl) : g'.cw = g.cw :=
  h.get Game.cw fun g => by simp only [Game.erase, hW, cond_false]
theorem prev (h : Wr W g g') (hW : W.prev = false := by rfl) : g'.prev = g.prev :=
  h.get Game.prev fun g => by simp only [Game.erase, hW, cond_false]
theorem roundPot (h : Wr W g g') (hW : W.roundPot = false := by rfl) : g'.roundPot = g.roundPot :=
  h.get Game.roundPot fun g => by simp only [Game.erase, hW, cond_false]
theorem pots (h : Wr W g g') (hW : W.pots = false := by rfl) : g'.pots = g.pots :=
  h.get Game.pots fun g => by simp only [Game.erase, hW, cond_false]
theorem board (h : Wr W g g') (hW : W.board = false := by rfl) : g'.board = g.board :=
  h.get Game.board fun g => by simp only [Game.erase, hW, cond_false]
theorem burned (h : Wr W g g') (hW : W.burned = false := by rfl) : g'.burned = g.burned :=
  h.get Game.burned fun g => by simp only [Game.erase, hW, cond_false]
theorem deckPos (h : Wr W g g') (hW : W.deckPos = false := by rfl) : g'.deckPos = g.deckPos :=
  h.get Game.deckPos fun g => by simp only [Game.erase, hW, cond_false]
theorem result (h : Wr W g g') (hW : W.result = false := by rfl) : g'.result = g.result :=
  h.get Game.result fun g => by simp only [Game.erase, hW, cond_false]

end Wr

theorem erase_modP {W : Fp} (g : Game) (i : Nat) (f : Player → Player) (hf : ∀ p, (f p).erase W = p.erase W) :
    (g.modP i f).erase W = g.erase W :=
  congrArg (fun l => ({ g.erase W with players := l } : Game)) (map_modify_of_proj (Player.erase W) f hf g.players i)

theorem erase_mapP {W : Fp} (g : Game) (f : Player → Player) (hf : ∀ p, (f p).erase W = p.erase W) :
    (g.mapP f).erase W = g.erase W :=
  congrArg (fun l => ({ g.erase W with players := l } : Game))
    ((List.map_map ..).trans (List.map_congr_left fun p _ => hf p))

theorem wr_modP {W : Fp} (g : Game) (i : Nat) (f : Player → Player) (hf : ∀ p, (f p).erase W = p.erase W) :
    Wr W g (g.modP i f) := .same (erase_modP g i f hf)

theorem wr_mapP {W : Fp} (g : Game) (f : Player → Player) (hf : ∀ p, (f p).erase W = p.erase W) :
    Wr W g (g.mapP f) := .same (erase_mapP g f hf)

namespace Fp
/-- asking a seat (`SetCurrentPlayer`) -/
def ask : Fp := { cur := true, allowed := true }
/-- `onRoundClosed` -/
def closed : Fp := { event := true, acted := true, allowed := true, pots := true }
/-- `pay` -/
def pay : Fp := { roundPot := true, cw := true, raiser := true, acted := true, stack := true, wager := true }
/-- the dealing of a street -/
def deal : Fp := { deckPos := true, hole := true, burned := true, board := true, cur := true, allowed := true }
/-- entering a street -/
def enter : Fp := { round := true, comb := true } ∪ deal ∪ closed
/-- `ResetRoundStatus` and `ResetAllPlayerStatus` -/
def sweep : Fp :=
  { prev := true, roundPot := true, cw := true, raiser := true, cur := true, allowed := true, pot := true, wager := true,
    initial := true }
/-- the settlement -/
def settle : Fp := { pots := true, result := true, event := true }
/-- a player action before `resume`: marks, the raise size, a wager -/
def body : Fp := pay ∪ { prev := true, fold := true }
/-- a player action -/
def act : Fp := body ∪ closed ∪ ask
end Fp

theorem wr_setEvent (g : Game) (e : Ev) (he : e ≠ .anteRequested := by decide) : Wr { event := true } g (g.setEvent e) :=
  .of_eq rfl (·.cur) (fun _ h => absurd h he)
theorem wr_askAnte (g : Game) : Wr { event := true, ante := true } g (g.setEvent .anteRequested) :=
  .of_eq rfl (·.cur) nofun
theorem wr_setRound (g : Game) (r : Round) : Wr { round := true } g (g.setRound r) := .same rfl
theorem wr_setRaiser (g : Game) (i : Nat) : Wr { raiser := true } g (g.setRaiser i) := .same rfl
theorem wr_setCw (g : Game) (x : Int) : Wr { cw := true } g (g.setCw x) := .same rfl
theorem wr_setPrev (g : Game) (x : Int) : Wr { prev := true } g (g.setPrev x) := .same rfl
theorem wr_addRoundPot (g : Game) (x : Int) : Wr { roundPot := true } g (g.addRoundPot x) := .same rfl
theorem wr_updatePots (g : Game) : Wr { pots := true } g g.updatePots := .same rfl
theorem wr_calculateGameResults (g : Game) : Wr { result := true } g g.calculateGameResults := .same rfl
theorem wr_burn (g : Game) (k : Nat) : Wr { deckPos := true, burned := true } g (g.burn k) := .same rfl
theorem wr_dealBoard (g : Game) (k : Nat) : Wr { deckPos := true, board := true } g (g.dealBoard k) := .same rfl
theorem wr_resetRoundStatus (g : Game) :
    Wr { prev := true, roundPot := true, cw := true, raiser := true, cur := true } g g.resetRoundStatus :=
  .of_eq rfl dealerIdx_lt (fun _ => id)

theorem wr_setCurrentPlayer (g : Game) (i : Nat) (hi : Struct g → i < g.n) : Wr .ask g (g.setCurrentPlayer i) := by
  have h : (g.setCurrentPlayer i).erase .ask = (g.modP g.cur clearAllowed).erase .ask :=
    erase_modP ((g.modP g.cur clearAllowed).setCur i) i _ fun _ => rfl
  exact .of_eq (h.trans (erase_modP g g.cur clearAllowed fun _ => rfl)) hi (fun _ => id)
theorem wr_askNext (g : Game) : Wr .ask g (g.setCurrentPlayer g.nextIdx) := wr_setCurrentPlayer g _ nextIdx_lt
theorem wr_askDealer (g : Game) : Wr .ask g (g.setCurrentPlayer g.dealerIdx) := wr_setCurrentPlayer g _ dealerIdx_lt

/-- asking the dealer after a street was dealt, as `dealStreet` has it -/
theorem wr_askDealer_dealt (g : Game) (k : Nat) :
    Wr .ask ((g.burn 1).dealBoard k) (((g.burn 1).dealBoard k).setCurrentPlayer g.dealerIdx) :=
  dealBoard_burn_dealerIdx g k ▸ wr_askDealer _

theorem wr_resetAllAllowed (g : Game) : Wr { acted := true, allowed := true } g g.resetAllAllowed :=
  wr_mapP g _ fun _ => rfl
theorem wr_resetAllPlayerStatus (g : Game) :
    Wr { allowed := true, pot := true, wager := true, initial := true } g g.resetAllPlayerStatus :=
  wr_mapP g _ fun _ => rfl
theorem wr_resetActed (g : Game) : Wr { acted := true } g g.resetActed := wr_mapP g _ fun _ => rfl
theorem wr_setActed (g : Game) (i : Nat) : Wr { acted := true } g (g.setActed i) := wr_modP g i _ fun _ => rfl
theorem wr_fold (g : Game) (i : Nat) :
    Wr { fold := true, acted := true } g (g.modP i foldMark) :=
  wr_modP g i _ fun _ => rfl
theorem wr_becomeRaiser (g : Game) (i : Nat) : Wr { raiser := true, acted := true } g (g.becomeRaiser i) :=
  ((wr_setRaiser g i).trans (wr_resetActed _)).trans (wr_setActed _ i)
theorem wr_dealHole (g : Game) (i : Nat) : Wr { deckPos := true, hole := true } g (g.dealHole i) :=
  .same (erase_modP (g.advance _) i _ fun _ => rfl)
theorem wr_updateCombinations (g : Game) : Wr { comb := true } g g.updateCombinations :=
  wr_mapP g _ fun p => by
    unfold newComb
    split <;> rfl

theorem wr_pay (g : Game) (i : Nat) (c : Int) (w : Bool) : Wr .pay g (g.pay i c w) := by
  cases hp : g.players[i]? with
  | none =>
    rw [g.pay_none hp]
    exact .refl _ g
  | some p =>
    have seat : ∀ q, (payF c q).erase .pay = q.erase .pay := fun q => by
      unfold payF
      split <;> rfl
    have k := (wr_modP g i (payF c) seat).trans (wr_addRoundPot _ ((payF c p).wager - p.wager))
    cases w with
    | false =>
      rw [pay_false_eq hp]
      exact k.mono
    | true =>
      have k1 := k.trans (wr_setCw _ (max g.cw (payF c p).wager))
      rw [pay_wager_eq hp]
      dsimp only
      split
      · split
        · exact (k1.trans (wr_becomeRaiser _ i)).mono
        · exact (k1.trans (wr_resetActed _)).mono
      · split
        · exact (k1.trans (wr_becomeRaiser _ i)).mono
        · exact k1.mono

theorem wr_roundClosed (g : Game) : Wr .closed g g.roundClosed :=
  ((wr_setEvent g _).trans (wr_resetAllAllowed _)).trans (wr_updatePots _)

theorem wr_requestPlayerAction (g : Game) : Wr (.closed ∪ .ask) g g.requestPlayerAction :=
  g.requestPlayerAction_branch (fun _ => (wr_roundClosed g).mono) (fun _ => .refl _ g) fun _ _ _ _ _ => (wr_askNext g).mono

theorem wr_requestReady (g : Game) : Wr { event := true, acted := true, allowed := true } g g.requestReady :=
  (wr_resetAllAllowed g).trans (wr_setEvent _ _)

theorem wr_prepareRound (g : Game) : Wr .closed g g.prepareRound :=
  g.prepareRound_cases (fun _ => (wr_requestReady g).mono) fun _ _ => wr_roundClosed g

theorem wr_requestBlinds (g : Game) : Wr .closed g g.requestBlinds :=
  g.requestBlinds_cases (fun _ => (wr_setEvent g _).trans (wr_prepareRound _)) fun _ => (wr_setEvent g _).mono

theorem wr_afterRoundInitialized (g : Game) : Wr .closed g g.afterRoundInitialized :=
  g.afterRoundInitialized_cases (fun _ => wr_requestBlinds g) fun _ => wr_prepareRound g

theorem wr_dealHoles (k i : Nat) (g : Game) : Wr { deckPos := true, hole := true } g (dealHoles k i g) :=
  dealHoles_steps (Wr.refl _) Wr.trans' wr_dealHole k i g

theorem wr_dealStreet (g : Game) : Wr .deal g g.dealStreet :=
  g.dealStreet_cases (fun _ => (wr_dealHoles _ _ g).mono) (fun _ => .refl _ g) fun k _ _ =>
    (((wr_burn g 1).trans (wr_dealBoard _ k)).trans (wr_askDealer _)).mono

theorem Game.opts_dealStreet (g : Game) : g.dealStreet.opts = g.opts := (wr_dealStreet g).opts

theorem wr_initializeRound (g : Game) : Wr (.deal ∪ { comb := true } ∪ .closed) g g.initializeRound :=
  (((wr_dealStreet g).trans (wr_updateCombinations _)).trans (wr_setEvent _ _)).trans
    (wr_afterRoundInitialized _)

theorem wr_enterRound (g : Game) (r : Round) : Wr .enter g (g.enterRound r) :=
  (wr_setRound g r).trans (wr_initializeRound _)

theorem Game.enterRound_not_ante (g : Game) (r : Round) : (g.enterRound r).event ≠ .anteRequested :=
  fun h => nomatch (wr_afterRoundInitialized _).ante rfl h

theorem wr_seekBB (k : Nat) (g : Game) : Wr .ask g (seekBB k g) :=
  seekBB_steps (Wr.refl _) Wr.trans' wr_askNext k g

theorem wr_openRound (g : Game) : Wr (.closed ∪ .ask) g g.openRound :=
  (wr_setEvent g _).trans (wr_requestPlayerAction _)

theorem wr_startRound' (g : Game) : Wr (.closed ∪ .ask) g g.startRound' :=
  g.startRound'_cases (fun _ _ => (wr_roundClosed g).mono)
    (fun _ _ => ((wr_askDealer g).trans (wr_seekBB _ _)).trans (wr_openRound _))
    fun _ => (wr_askDealer g).trans (wr_openRound _)

theorem wr_startRound (g : Game) : Wr (.closed ∪ .ask) g g.startRound :=
  (wr_resetAllAllowed g).trans (wr_startRound' _)

theorem wr_gameCompleted (g : Game) : Wr .settle g g.gameCompleted :=
  ((wr_updatePots g).trans (wr_calculateGameResults _)).trans (wr_setEvent _ _)

theorem wr_resume (g : Game) : Wr (.closed ∪ .ask) g g.resume :=
  g.resume_cases (fun _ => wr_requestPlayerAction g) (fun _ => (wr_roundClosed g).mono) fun _ _ => .refl _ g

theorem wr_nextRound' (g : Game) : Wr (.enter ∪ .settle) g g.nextRound' :=
  g.nextRound'_cases (fun _ => (wr_gameCompleted g).mono) (fun _ _ _ => (wr_enterRound g _).mono) fun _ _ => .refl _ g

/-- the sweep between two streets (`nextRound` before it looks who is left) -/
abbrev Game.sweep (g : Game) : Game := g.resetRoundStatus.resetAllPlayerStatus

theorem wr_sweep (g : Game) : Wr .sweep g g.sweep := ((wr_resetRoundStatus g).trans (wr_resetAllPlayerStatus _)).mono

theorem wr_nextRound (g : Game) : Wr (.sweep ∪ .enter ∪ .settle) g g.nextRound := (wr_sweep g).trans (wr_nextRound' _)

theorem wr_readiness (g : Game) : Wr (.enter ∪ { ante := true }) g g.readiness :=
  g.readiness_cases (fun _ _ => (wr_askAnte g).mono) (fun _ _ => (wr_enterRound g _).mono) fun _ => (wr_startRound g).mono

/-- `onAntePaid` up to the pre-flop: the pots are published and the antes swept (the two resets in the other order
    than between streets) -/
def Game.anteSwept (g : Game) : Game :=
  (((g.resetAllAllowed.setEvent .antePaid).updatePots).resetAllPlayerStatus).resetRoundStatus

theorem Game.antePaid_eq (g : Game) : g.antePaid = g.anteSwept.enterRound .preflop := rfl

theorem wr_anteSwept (g : Game) : Wr ({ event := true, acted := true, pots := true } ∪ .sweep) g g.anteSwept :=
  ((((wr_resetAllAllowed g).trans (wr_setEvent _ _)).trans (wr_updatePots _)).trans
    (wr_resetAllPlayerStatus _)).trans (wr_resetRoundStatus _) |>.mono

theorem wr_antePaid (g : Game) : Wr (.sweep ∪ .enter) g g.antePaid :=
  ((wr_anteSwept g).trans (wr_enterRound _ .preflop)).mono

theorem wr_blindsPaid (g : Game) : Wr ({ prev := true } ∪ .closed) g g.blindsPaid :=
  (((wr_setPrev g _).trans (wr_resetAllAllowed _)).trans (wr_setEvent _ _)).trans (wr_prepareRound _)

theorem wr_payBlind (g : Game) (i : Nat) : Wr .pay g (g.payBlind i) :=
  payBlind_steps (Wr.refl _) (fun g i _ _ => wr_pay g i _ true) g i

theorem wr_foldl_payBlind (is : List Nat) (g : Game) : Wr .pay g (is.foldl payBlind g) :=
  payBlinds_steps (Wr.refl _) Wr.trans' (fun g i _ _ => wr_pay g i _ true) is g

theorem wr_payAnteLoop (is : List Nat) (g : Game) : Wr .pay g (payAnteLoop is g).1 :=
  payAnteLoop_steps (Wr.refl _) Wr.trans' (fun g i _ _ _ => wr_pay g i _ false) is g

theorem Game.act_body (g : Game) (i : Nat) (a : Act) (x : Int) :
    (g.act i a x).1 = g ∨ ∃ g1, Wr .body g g1 ∧ (g.act i a x).1 = g1.resume :=
  act_resume (R := Wr .body) i Wr.trans' (fun g => (wr_setActed g i).mono) (fun g => (wr_fold g i).mono)
    (fun g v => (wr_setPrev g v).mono) (fun g c => (wr_pay g i c true).mono) g a x

theorem wr_act (g : Game) (i : Nat) (a : Act) (x : Int) : Wr .act g (g.act i a x).1 := by
  rcases g.act_body i a x with h | ⟨g1, k, h⟩
  · rw [h]
    exact .refl _ g
  · rw [h]
    exact (k.trans (wr_resume g1)).mono

/-- what each operation may write -/
def Fp.op : Op → Fp
  | .ready => { acted := true } ∪ .enter ∪ { ante := true }
  | .payAnte => .pay ∪ .sweep ∪ .enter
  | .payBlinds => .pay ∪ { prev := true } ∪ .closed
  | .next => .sweep ∪ .enter ∪ .settle
  | .act .. => .act

theorem wr_step (g : Game) (op : Op) : Wr (.op op) g (g.step op).1 := by
  refine g.step_cases op (motive := fun r => Wr (.op op) g r.1) (fun _ => .refl _ g) ?_ ?_ ?_ ?_ (fun _ _ _ => .refl _ g) ?_
  · rintro rfl _
    exact ((wr_resetAllAllowed g).trans (wr_readiness _)).mono
  · rintro rfl _ _
    have h := wr_payAnteLoop g.seatsFromDealer g
    generalize payAnteLoop g.seatsFromDealer g = r at h
    obtain ⟨g', _ | e⟩ := r
    · exact (h.trans (wr_antePaid g')).mono
    · exact h.mono
  · rintro rfl _
    exact ((wr_foldl_payBlind _ g).trans (wr_blindsPaid _)).mono
  · rintro rfl _ _
    exact wr_nextRound g
  · rintro _ a x rfl
    exact wr_act g _ a x

/-- all operations together -/
def Fp.step : Fp := .act ∪ .sweep ∪ .enter ∪ .settle ∪ { ante := true }

theorem wr_step_any (g : Game) (op : Op) : Wr .step g (g.step op).1 := by
  cases op <;> exact (wr_step g _).mono

theorem wr_run (g : Game) (ops : List Op) : Wr .step g (g.run ops) :=
  run_induction (P := Wr .step g) (fun g' op h => h.trans' (wr_step_any g' op)) (.refl _ g) ops

theorem Game.run_opts (g : Game) (ops : List Op) : (g.run ops).opts = g.opts := (wr_run g ops).opts

end Pokerface
