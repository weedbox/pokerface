/-
  The seats the table hands to the engine (Model/Table.lean): `GetPlayableSeats()` goes round the table clockwise
  (each entry is the first playable seat after the one before it, the dealer's seat the first after the last), and the
  layout of the undisturbed hand-off that follows from it (a `setupPosition` that ran `Next()`, the game made from its
  positions: `HandoffLayout`, `handoff_layout`).  Between the two: the positions of the dealer's, small-blind, big-blind
  and any other seat (`posOf_dealer/_sb/_bb/_other`) and the configuration entry of a playable seat (`cfg_of_playable`).
-/
import Pokerface.Proofs.TableGlueHand

namespace Pokerface
namespace Table
open SM

/-- the offsets from seat `d`, in increasing order, at which a playable seat sits -/
def offs (sm : SM) (d : Nat) : List Nat := (List.range' 0 sm.max).filter fun k => sm.playable ((d + k) % sm.max)

theorem offs_sorted (sm : SM) (d : Nat) : (offs sm d).Pairwise (· < ·) :=
  List.Pairwise.filter _ List.pairwise_lt_range'

theorem mem_offs {sm : SM} {d j : Nat} : j ∈ offs sm d ↔ j < sm.max ∧ sm.playable ((d + j) % sm.max) = true := by
  simp [offs, List.mem_filter, List.mem_range'_1]

theorem normalize_filter (sm : SM) (d : Nat) :
    (sm.normalize d).filter sm.playable = (offs sm d).map fun k => (d + k) % sm.max := by
  unfold SM.normalize offs
  rw [List.range_eq_range', List.filter_map]
  rfl

theorem playableSeats_head {sm : SM} {d : Nat} (hd : d < sm.max) (hpd : sm.playable d = true) :
    ((sm.normalize d).filter sm.playable)[0]? = some d := by
  unfold SM.normalize
  obtain ⟨n, hn⟩ : ∃ n, sm.max = n + 1 := ⟨sm.max - 1, by omega⟩
  rw [hn, List.range_succ_eq_map, List.map_cons, Nat.add_zero, ← hn, Nat.mod_eq_of_lt hd,
    List.filter_cons_of_pos hpd]
  rfl

theorem playableSeats_consecutive {sm : SM} {d : Nat} {seats : List Nat}
    (hs : seats = (sm.normalize d).filter sm.playable) {k x y : Nat} (hx : seats[k]? = some x)
    (hy : seats[k + 1]? = some y) : IsNextAfter sm x y := by
  rw [hs, normalize_filter, List.getElem?_map, Option.map_eq_some_iff] at hx hy
  obtain ⟨a, ha, rfl⟩ := hx
  obtain ⟨b, hb, rfl⟩ := hy
  obtain ⟨hka, hea⟩ := List.getElem?_eq_some_iff.mp ha
  obtain ⟨hkb, heb⟩ := List.getElem?_eq_some_iff.mp hb
  have hab := List.pairwise_iff_getElem.mp (offs_sorted sm d) k (k + 1) hka hkb (Nat.lt_succ_self k)
  rw [hea, heb] at hab
  have hbm := mem_offs.mp (List.mem_of_getElem? hb)
  refine ⟨b - a, by omega, by omega, by rw [offset_offset]; congr 2; omega, hbm.2, fun j h1 h2 => ?_⟩
  rw [offset_offset]
  apply Bool.eq_false_iff.mpr
  intro hq
  -- a playable seat strictly between the two would be an entry of its own
  obtain ⟨b', hb', hle⟩ := sorted_next (offs_sorted sm d) ha (mem_offs.mpr ⟨by omega, hq⟩) (by omega)
  rw [hb] at hb'
  cases hb'
  omega

theorem playableSeats_wrap {sm : SM} {d : Nat} {seats : List Nat} (hd : d < sm.max) (hpd : sm.playable d = true)
    (hs : seats = (sm.normalize d).filter sm.playable) {k x : Nat} (hx : seats[k]? = some x)
    (hlast : seats[k + 1]? = none) (hk : 0 < k) : IsNextAfter sm x d := by
  rw [hs, normalize_filter, List.getElem?_map] at hx hlast
  rw [Option.map_eq_some_iff] at hx
  rw [Option.map_eq_none_iff] at hlast
  obtain ⟨a, ha, rfl⟩ := hx
  obtain ⟨hka, hea⟩ := List.getElem?_eq_some_iff.mp ha
  have ha0 := List.pairwise_iff_getElem.mp (offs_sorted sm d) 0 k (by omega) hka hk
  rw [hea] at ha0
  have ham := (mem_offs.mp (List.mem_of_getElem? ha)).1
  refine ⟨sm.max - a, by omega, by omega, ?_, hpd, fun j h1 h2 => ?_⟩
  · rw [offset_offset, show d + (a + (sm.max - a)) = d + sm.max by omega, Nat.add_mod_right, Nat.mod_eq_of_lt hd]
  · rw [offset_offset]
    apply Bool.eq_false_iff.mpr
    intro hq
    obtain ⟨b', hb', _⟩ := sorted_next (offs_sorted sm d) ha (mem_offs.mpr ⟨by omega, hq⟩) (by omega)
    rw [hlast] at hb'
    cases hb'

theorem playableSeats_succ {sm : SM} {d : Nat} {seats : List Nat} (hd : d < sm.max) (hpd : sm.playable d = true)
    (hs : seats = (sm.normalize d).filter sm.playable) {k x y : Nat} (hx : seats[k]? = some x)
    (hxy : IsNextAfter sm x y) (hyd : y ≠ d) : seats[k + 1]? = some y := by
  cases hy : seats[k + 1]? with
  | some y' => rw [hxy.unique (playableSeats_consecutive hs hx hy)]
  | none =>
    exfalso
    cases k with
    | succ k => exact hyd (hxy.unique (playableSeats_wrap hd hpd hs hx hy (Nat.succ_pos k)))
    | zero =>
      -- `d` is the only entry, but `y` is a playable seat too
      obtain ⟨j, _, hj, rfl, hpy, _⟩ := hxy
      have hmem : (x + j) % sm.max ∈ seats := by
        rw [hs, List.mem_filter, SM.mem_normalize]
        exact ⟨Nat.mod_lt _ (by omega), hpy⟩
      obtain ⟨i, hi⟩ := List.getElem?_of_mem hmem
      have h0 : seats[0]? = some d := by
        rw [hs]
        exact playableSeats_head hd hpd
      cases i with
      | zero =>
        rw [h0] at hi
        exact hyd (Option.some.inj hi).symm
      | succ i =>
        have := (List.getElem?_eq_some_iff.mp hi).1
        have := List.getElem?_eq_none_iff.mp hy
        omega

section
variable {sm : SM} {d s b : Nat} (hd : sm.dealer = some d) (hs : sm.sb = some s) (hb : sm.bb = some b)
include hd hs hb

theorem posOf_dealer (hdb : d ≠ b) : posOf sm d = (true, decide (s = d), false) := by
  unfold posOf
  rw [hd, hs, hb]
  simp [hdb.symm]

theorem posOf_sb (hds : d ≠ s) : posOf sm s = (false, true, false) := by
  unfold posOf
  rw [hd, hs, hb]
  simp [hds]

theorem posOf_bb (hdb : d ≠ b) (hsb : s ≠ b) : posOf sm b = (false, false, true) := by
  unfold posOf
  rw [hd, hs, hb]
  simp [hdb, hsb]

theorem posOf_other {x : Nat} (hxd : x ≠ d) (hxs : x ≠ s) (hxb : x ≠ b) : posOf sm x = (false, false, false) := by
  unfold posOf
  rw [hd, hs, hb]
  simp [hxd.symm, hxs.symm, hxb.symm]

end

theorem cfg_of_playable {t t' : Table} (h : TInv t) (hp : t.inPosition = false) (hs : t.setupPosition = (t', none))
    {i : Nat} (hi : t'.sm.playable i = true) :
    ∃ p', t'.players[i]? = some (some p') ∧
      t'.seatCfgAt i = ⟨p'.bankroll, (posOf t'.sm i).1, (posOf t'.sm i).2.1, (posOf t'.sm i).2.2⟩ := by
  have h' := h.of_setup hs
  obtain ⟨p', hp'⟩ := h'.player_of_playable hi
  refine ⟨p', hp', ?_⟩
  -- the entry is a copy of the old one with the positions of `t'.sm`
  have h1 := playerAt_eq_some.mpr hp'
  rw [setupPosition_ok_playerAt hp hs i] at h1
  cases hq : t.playerAt i with
  | none =>
    rw [hq] at h1
    cases h1
  | some p =>
    rw [hq] at h1
    cases h1
    exact seatCfgAt_of_player hp'

/-- **Layout of the hand-off.**  After a `setupPosition` that ran a successful `Next()`: the playable seats clockwise
from the dealer `d` are the dealer, (ring branch only) the small blind `s`, the big blind `b`, then seats `rest` that hold
no position.  `ring` tells which branch `renewSeatStatus` took. -/
structure HandoffLayout (t t' : Table) (d s b : Nat) (rest : List Nat) (ring : Bool) : Prop where
  dealer : t'.sm.dealer = some d
  sb : t'.sm.sb = some s
  bb : t'.sm.bb = some b
  seats : playableSeats t'.sm = some (if ring = true then d :: s :: b :: rest else d :: b :: rest)
  sb_dealer : ring = false → s = d
  dealer_ne_sb : ring = true → d ≠ s
  dealer_ne_bb : d ≠ b
  sb_ne_bb : s ≠ b
  rest_ne : ∀ x ∈ rest, x ≠ d ∧ x ≠ s ∧ x ≠ b
  ring_iff : ring = true ↔ t.sm.nextDealer.1.playableCount ≠ 2
  dealer_lt : d < t'.sm.max
  bb_next : IsNextAfter t'.sm s b
  sb_next : ring = true → IsNextAfter t'.sm d s

theorem handoff_layout {t t' : Table} (h : TInv t) (hp : t.inPosition = false) (hs : t.setupPosition = (t', none)) :
    ∃ (d s b : Nat) (rest : List Nat) (ring : Bool), HandoffLayout t t' d s b rest ring := by
  obtain ⟨d, ks, kb, hn⟩ := setup_nextOk h hp hs
  have hdlt : d < t'.sm.max := by
    rw [hn.max_eq]
    exact hn.d_lt
  have hsb := hn.bb_next_after_sb
  have hbd := hn.bb_ne_dealer
  have hnd : ((t'.sm.normalize d).filter t'.sm.playable).Nodup := (SM.normalize_nodup _ d).filter _
  have h0 := playableSeats_head hdlt hn.playable_dealer
  rcases hn.branch with ⟨hc, hz⟩ | ⟨hc, hpos, _⟩
  · -- heads-up: the small blind is the dealer, the big blind the next entry
    have hsd : (d + ks) % t.sm.max = d := by
      rw [hz]
      exact hn.offset_zero
    rw [hsd] at hsb
    have h1 := playableSeats_succ hdlt hn.playable_dealer rfl h0 hsb hbd
    have hl := cons_cons_of_getElem? h0 h1
    rw [hl] at hnd
    refine ⟨d, d, _, _, false, hn.dealer, by rw [hn.sb, hsd], hn.bb, by rw [playableSeats_eq hn.dealer, hl]; rfl,
      fun _ => rfl, nofun, hbd.symm, hbd.symm, ?_, by simp [hc], hdlt, hsb, nofun⟩
    intro x hx
    have hxd : x ≠ d := ne_of_mem_of_not_mem (List.mem_cons_of_mem _ hx) (List.nodup_cons.mp hnd).1
    exact ⟨hxd, hxd, ne_of_mem_of_not_mem hx (List.nodup_cons.mp (List.nodup_cons.mp hnd).2).1⟩
  · -- ring: the small blind is the next entry after the dealer, the big blind the one after it
    have hds := hn.sb_next_after_dealer hc
    have hsd := hds.ne hdlt
    have h1 := playableSeats_succ hdlt hn.playable_dealer rfl h0 hds hsd
    have h2 := playableSeats_succ hdlt hn.playable_dealer rfl h1 hsb hbd
    have hl := cons_cons_of_getElem? h0 h1
    have hl2 : ((t'.sm.normalize d).filter t'.sm.playable).drop 2 = _ := cons_of_getElem? (by rw [List.getElem?_drop]; exact h2)
    rw [hl2] at hl
    rw [hl] at hnd
    have hbs := hsb.ne (by rw [hn.max_eq]; exact Nat.mod_lt _ (Nat.lt_of_le_of_lt (Nat.zero_le _) hn.d_lt))
    refine ⟨d, _, _, _, true, hn.dealer, hn.sb, hn.bb, by rw [playableSeats_eq hn.dealer, hl]; rfl,
      nofun, fun _ => hsd.symm, hbd.symm, hbs.symm, ?_, by simp [hc], hdlt, hsb, fun _ => hds⟩
    intro x hx
    obtain ⟨n1, hnd1⟩ := List.nodup_cons.mp hnd
    obtain ⟨n2, hnd2⟩ := List.nodup_cons.mp hnd1
    exact ⟨ne_of_mem_of_not_mem (List.mem_cons_of_mem _ (List.mem_cons_of_mem _ hx)) n1,
      ne_of_mem_of_not_mem (List.mem_cons_of_mem _ hx) n2, ne_of_mem_of_not_mem hx (List.nodup_cons.mp hnd2).1⟩

end Table
end Pokerface
