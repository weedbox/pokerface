import Pokerface.Model.Game
/-
  Runs of concatenated histories (`run_append`), and equality of two engine states field by field
  (`Game.SameFields`, `Game.ext_fields`).
-/
namespace Pokerface
open Game

theorem run_append (g : Game) (a b : List Op) : g.run (a ++ b) = (g.run a).run b := List.foldl_append

/-- The two states agree on every field but the options.  `Game` has no decidable equality (`Meta.lvl` is a function), this
    conjunction has; together with the options it is equality (`Game.ext_fields`).  A state reached by running a concrete
    hand is compared in this way with the same state written out. -/
def Game.SameFields (a b : Game) : Prop :=
  a.players = b.players ∧ a.miniBet = b.miniBet ∧ a.pots = b.pots ∧ a.round = b.round ∧ a.burned = b.burned ∧
  a.board = b.board ∧ a.prev = b.prev ∧ a.deckPos = b.deckPos ∧ a.roundPot = b.roundPot ∧ a.cw = b.cw ∧
  a.raiser = b.raiser ∧ a.cur = b.cur ∧ a.event = b.event ∧ a.result = b.result

deriving instance DecidableEq for LevelInfo, PotResult, Result

instance (a b : Game) : Decidable (a.SameFields b) := by
  unfold Game.SameFields
  infer_instance

theorem Game.ext_fields {a b : Game} (ho : a.opts = b.opts) (h : a.SameFields b) : a = b := by
  cases a
  cases b
  simp only [Game.SameFields] at ho h
  simp only [Game.mk.injEq]
  exact ⟨ho, h⟩

end Pokerface
