import Pokerface.Proofs.EngineStep
/-
  The engine and the published combinations.  The published combination is recomputed whenever a
  street is dealt (and is never touched by anything else), and the showdown
  compares exactly the published strength.
-/
namespace Pokerface

/-- What `UpdateCombinationOfAllPlayers` publishes for the best hand `pw`. -/
def combOfPower (pw : Power) : Comb := { cat := some pw.cat, cards := pw.cards, power := pw.score }

/-- The part of a player that C10 talks about. -/
def handOf (p : Player) : List Card × Option Comb := (p.hole, p.comb)

namespace Game

/-- Specification-level: every published combination is the one `CalculatePlayerPower`
    gives for the *current* board and the player's own hole cards.
    (`comb = none` renders Go's `p.Combination == nil`, which the engine skips.) -/
def CombFresh (g : Game) : Prop :=
  ∀ p ∈ g.players, ∀ pw,
    playerPower g.opts.lvl g.opts.table g.board p.hole g.opts.required = some pw →
    p.comb = none ∨ p.comb = some (combOfPower pw)

/-- Everything `CombFresh` depends on (plus the street). -/
def key (g : Game) : Meta × List Card × Round × List (List Card × Option Comb) :=
  (g.opts, g.board, g.round, g.players.map handOf)

theorem key_eq_iff {g g' : Game} : g'.key = g.key ↔
    g'.opts = g.opts ∧ g'.board = g.board ∧ g'.round = g.round ∧ g'.players.map handOf = g.players.map handOf := by
  simp [key, Prod.ext_iff]

theorem key_opts {g g' : Game} (h : g'.key = g.key) : g'.opts = g.opts := (key_eq_iff.mp h).1
theorem key_board {g g' : Game} (h : g'.key = g.key) : g'.board = g.board := (key_eq_iff.mp h).2.1
theorem key_round {g g' : Game} (h : g'.key = g.key) : g'.round = g.round := (key_eq_iff.mp h).2.2.1
theorem key_hands {g g' : Game} (h : g'.key = g.key) :
    g'.players.map handOf = g.players.map handOf := (key_eq_iff.mp h).2.2.2

theorem key_mem {g g' : Game} (h : g'.key = g.key) {p : Player} (hp : p ∈ g'.players) :
    ∃ q ∈ g.players, q.hole = p.hole ∧ q.comb = p.comb := by
  have hm : handOf p ∈ g.players.map handOf := key_hands h ▸ List.mem_map_of_mem hp
  obtain ⟨q, hq, hqp⟩ := List.mem_map.mp hm
  simp only [handOf, Prod.mk.injEq] at hqp
  exact ⟨q, hq, hqp⟩

theorem combFresh_of_key {g g' : Game} (h : g'.key = g.key) (hf : g.CombFresh) : g'.CombFresh := by
  intro p hp pw hpw
  obtain ⟨q, hq, hh, hc⟩ := key_mem h hp
  rw [key_opts h, key_board h, ← hh] at hpw
  rw [← hc]
  exact hf q hq pw hpw

@[simp] theorem key_setEvent (g : Game) (e : Ev) : (g.setEvent e).key = g.key := rfl
@[simp] theorem key_setCur (g : Game) (i : Nat) : (g.setCur i).key = g.key := rfl
@[simp] theorem key_setRaiser (g : Game) (i : Nat) : (g.setRaiser i).key = g.key := rfl
@[simp] theorem key_setCw (g : Game) (x : Int) : (g.setCw x).key = g.key := rfl
@[simp] theorem key_setPrev (g : Game) (x : Int) : (g.setPrev x).key = g.key := rfl
@[simp] theorem key_recordBet (g : Game) (i : Nat) : (g.recordBet i).key = g.key := rfl
@[simp] theorem key_addRoundPot (g : Game) (x : Int) : (g.addRoundPot x).key = g.key := rfl
@[simp] theorem key_resetRoundStatus (g : Game) : g.resetRoundStatus.key = g.key := rfl
@[simp] theorem key_updatePots (g : Game) : g.updatePots.key = g.key := rfl
@[simp] theorem key_calculateGameResults (g : Game) : g.calculateGameResults.key = g.key := rfl

/-! ### What the betting leaves alone

  `Keeps g g'`: from `g` to `g'` the ante was not requested, and options, board, street, hole cards and published
  combinations are as they were (`key`).  Everything an operation runs keeps all of this, the settlement included, except
  what `HandStep` (Proofs/EngineStep) singles out: requesting the ante and entering a street (after the current one, or
  the pre-flop once the antes are paid). -/

structure Keeps (g g' : Game) : Prop where
  ante : g'.event = .anteRequested → g.event = .anteRequested
  key : g'.key = g.key

theorem Keeps.refl (g : Game) : Keeps g g := ⟨id, rfl⟩

theorem Keeps.opts {g g' : Game} (h : Keeps g g') : g'.opts = g.opts := key_opts h.key

/-- a footprint without the board, the street, the hands and a new `AnteRequested` -/
theorem _root_.Pokerface.Wr.keeps {W : Fp} {g g' : Game} (h : Wr W g g')
    (hW : (W.ante || W.board || W.round || W.hole || W.comb) = false := by rfl) : Keeps g g' := by
  simp only [Bool.or_eq_false_iff] at hW
  obtain ⟨⟨⟨⟨h2, h3⟩, h4⟩, h5⟩, h6⟩ := hW
  exact ⟨h.ante h2, key_eq_iff.mpr ⟨h.opts, h.board h3, h.round h4,
    h.map handOf fun p => by simp only [Player.erase, handOf, h5, h6, cond_false]⟩⟩

theorem key_gameCompleted (g : Game) : g.gameCompleted.key = g.key := (wr_gameCompleted g).keeps.key

/-- After the dealing and the recomputation nothing `key` records changes any more. -/
theorem keeps_enterRound (g : Game) (r : Round) :
    Keeps (g.setRound r).dealStreet.updateCombinations (g.enterRound r) :=
  (tail_enterRound g r).hand.keeps

theorem hole_newComb (p : Player) (o : Option Power) : (newComb p o).hole = p.hole := by
  unfold newComb
  split <;> rfl

/-- `UpdateCombinationOfAllPlayers` publishes only for a seat that has a combination object and
    a best hand. -/
theorem newComb_none (p : Player) : newComb p none = p := by
  unfold newComb
  cases p.comb with
  | none => rfl
  | some c => rfl

theorem newComb_of_comb_none {p : Player} (h : p.comb = none) (o : Option Power) : newComb p o = p := by
  unfold newComb
  rw [h]

theorem comb_newComb {p : Player} {c : Comb} (h : p.comb = some c) (pw : Power) :
    (newComb p (some pw)).comb = some (combOfPower pw) := by
  unfold newComb
  rw [h]
  rfl

theorem mem_updateCombinations {g : Game} {p' : Player} (h : p' ∈ g.updateCombinations.players) :
    ∃ p ∈ g.players, p' = newComb p (playerPower g.opts.lvl g.opts.table g.board p.hole g.opts.required) := by
  simp only [updateCombinations, mapP, List.mem_map] at h
  obtain ⟨p, hp, rfl⟩ := h
  exact ⟨p, hp, rfl⟩

theorem combFresh_updateCombinations (g : Game) : g.updateCombinations.CombFresh := by
  intro p' hp' pw hpw
  obtain ⟨p, _, rfl⟩ := mem_updateCombinations hp'
  change playerPower g.opts.lvl g.opts.table g.board (newComb p _).hole g.opts.required = some pw at hpw
  rw [hole_newComb] at hpw
  rw [hpw]
  cases hc : p.comb with
  | none =>
    left
    rw [newComb_of_comb_none hc]
    exact hc
  | some c => exact .inr (comb_newComb hc pw)

theorem combFresh_enterRound (g : Game) (r : Round) : (g.enterRound r).CombFresh :=
  combFresh_of_key (keeps_enterRound g r).key (combFresh_updateCombinations _)

/-- An operation keeps what `key` records, or enters a street, and entering a street recomputes the combinations. -/
theorem step_key_or_fresh (g : Game) (op : Op) : (g.step op).1.key = g.key ∨ (g.step op).1.CombFresh := by
  have h := handStep_step g op
  generalize (g.step op).1 = g' at h ⊢
  cases h with
  | keep h => exact .inl h.keeps.key
  | askAnte h _ => exact .inl h.keeps.key
  | enter _ _ => exact .inr (combFresh_enterRound _ _)
  | antePaid _ _ => exact .inr (combFresh_enterRound _ _)
  | complete h _ => exact .inl (h.trans (wr_gameCompleted _)).keeps.key

/-- Invariant of all histories: before the first street nothing is on the board;
    from then on the published combinations are fresh. -/
def CombInv (g : Game) : Prop := (g.round = .none ∧ g.board = []) ∨ g.CombFresh

theorem combInv_step (g : Game) (op : Op) (h : CombInv g) : CombInv (g.step op).1 := by
  rcases step_key_or_fresh g op with hk | hf
  · rcases h with ⟨h1, h2⟩ | h
    · exact .inl ⟨(key_round hk).trans h1, (key_board hk).trans h2⟩
    · exact .inr (combFresh_of_key hk h)
  · exact .inr hf

theorem combInv_run (g : Game) (ops : List Op) (h : CombInv g) : CombInv (g.run ops) :=
  run_induction combInv_step h ops

end Game

/-- Specification-level: the strength the showdown compares for a player: the published
    `Combination.Power`, or 0 once the player has folded. -/
def showdownStrength (p : Player) : Int :=
  if p.fold then 0 else ((p.comb.map (·.power)).getD 0 : Nat)

/-- Specification-level: the settlement `Result` right before `Calculate()`: one `AddPot` per pot,
    then `AddPlayer` + `UpdateScore(idx, strength)` per player in seat order. -/
def showdownInput (pots : List Pot) (players : List Player) : Result :=
  players.foldl (fun r p => (r.addPlayer p.idx p.bankroll).updateScore p.idx (showdownStrength p))
    (pots.foldl (fun r p => r.addPot p.total p.levels) {})

namespace Game

theorem result_calculateGameResults (g : Game) :
    g.calculateGameResults.result = some (showdownInput g.pots g.players).calculate := by
  simp only [calculateGameResults, gameResults, showdownInput, List.foldl_map, showdownStrength]

theorem players_calculateGameResults (g : Game) : g.calculateGameResults.players = g.players := rfl
theorem pots_calculateGameResults (g : Game) : g.calculateGameResults.pots = g.pots := rfl

theorem result_gameCompleted (g : Game) :
    g.gameCompleted.result = some (showdownInput g.gameCompleted.pots g.gameCompleted.players).calculate := by
  simp only [gameCompleted, setEvent]
  exact result_calculateGameResults _

theorem start_keeps (c : Config) : ∃ g1 : Game, g1.opts = c.opts ∧ g1.players = c.players ∧
    g1.round = .none ∧ g1.board = [] ∧ Keeps g1 (start c).1 := by
  rcases start_cases c with ⟨_, h⟩ | ⟨_, _, _, h⟩
  · rw [h]
    exact ⟨_, rfl, rfl, rfl, rfl, Keeps.refl _⟩
  · rw [h]
    exact ⟨_, rfl, rfl, rfl, rfl, ((wr_resetRoundStatus _).trans (wr_requestReady _)).keeps⟩

theorem combInv_start (c : Config) : CombInv (start c).1 := by
  obtain ⟨g1, _, _, hr, hb, hk⟩ := start_keeps c
  exact .inl ⟨(key_round hk.key).trans hr, (key_board hk.key).trans hb⟩

/- the equations of the `Result` field under each setter (as `key_*` above for `key`): what characterises the setters
   for this field; the proofs read the frame off the footprints and do not go through them -/

@[simp] theorem result_modP (g : Game) (i : Nat) (f : Player → Player) : (g.modP i f).result = g.result := rfl
@[simp] theorem result_mapP (g : Game) (f : Player → Player) : (g.mapP f).result = g.result := rfl
@[simp] theorem result_setEvent (g : Game) (e : Ev) : (g.setEvent e).result = g.result := rfl
@[simp] theorem result_setRound (g : Game) (e : Round) : (g.setRound e).result = g.result := rfl
@[simp] theorem result_setCur (g : Game) (i : Nat) : (g.setCur i).result = g.result := rfl
@[simp] theorem result_setRaiser (g : Game) (i : Nat) : (g.setRaiser i).result = g.result := rfl
@[simp] theorem result_setCw (g : Game) (x : Int) : (g.setCw x).result = g.result := rfl
@[simp] theorem result_setPrev (g : Game) (x : Int) : (g.setPrev x).result = g.result := rfl
@[simp] theorem result_recordBet (g : Game) (i : Nat) : (g.recordBet i).result = g.result := rfl
@[simp] theorem result_addRoundPot (g : Game) (x : Int) : (g.addRoundPot x).result = g.result := rfl
@[simp] theorem result_offer (g : Game) (i : Nat) : (g.offer i).result = g.result := rfl
@[simp] theorem result_setCurrentPlayer (g : Game) (i : Nat) : (g.setCurrentPlayer i).result = g.result := rfl
@[simp] theorem result_resetAllAllowed (g : Game) : g.resetAllAllowed.result = g.result := rfl
@[simp] theorem result_resetAllPlayerStatus (g : Game) : g.resetAllPlayerStatus.result = g.result := rfl
@[simp] theorem result_resetRoundStatus (g : Game) : g.resetRoundStatus.result = g.result := rfl
@[simp] theorem result_resetActed (g : Game) : g.resetActed.result = g.result := rfl
@[simp] theorem result_setActed (g : Game) (i : Nat) : (g.setActed i).result = g.result := rfl
@[simp] theorem result_updatePots (g : Game) : g.updatePots.result = g.result := rfl
@[simp] theorem result_becomeRaiser (g : Game) (i : Nat) : (g.becomeRaiser i).result = g.result := rfl
@[simp] theorem result_advance (g : Game) (k : Nat) : (g.advance k).result = g.result := rfl
@[simp] theorem result_burn (g : Game) (k : Nat) : (g.burn k).result = g.result := rfl
@[simp] theorem result_dealBoard (g : Game) (k : Nat) : (g.dealBoard k).result = g.result := rfl
@[simp] theorem result_dealHole (g : Game) (i : Nat) : (g.dealHole i).result = g.result := rfl
@[simp] theorem result_updateCombinations (g : Game) : g.updateCombinations.result = g.result := rfl

@[simp] theorem result_roundClosed (g : Game) : g.roundClosed.result = g.result := rfl

@[simp] theorem result_requestReady (g : Game) : g.requestReady.result = g.result := rfl

theorem step_result_or_completed (g : Game) (op : Op) :
    (g.step op).1.result = g.result ∨
      ∃ g0 : Game, g0.round ≠ .none ∧ (g.step op).1 = g0.gameCompleted := by
  have h := handStep_step g op
  generalize (g.step op).1 = g' at h ⊢
  cases h with
  | keep h => exact .inl h.result
  | askAnte h _ => exact .inl h.result
  | enter h _ => exact .inl ((wr_enterRound _ _).result.trans h.result)
  | antePaid h _ => exact .inl ((wr_enterRound _ _).result.trans h.result)
  | complete h hr => exact .inr ⟨_, hr, rfl⟩

end Game
end Pokerface
