import Pokerface.Proofs.EvalSort
import Pokerface.Proofs.EvalEnc
/-!
  C03: on five ranks in descending order the evaluator computes what the
  specification says (`normalForm_sorted`).

  *Sorted groups.*  `GetElementsByRank` collects one group per rank that occurs,
  with the number of its occurrences; on descending input the groups come out in
  descending order of rank (`groups_sorted`), and Go's stable insertion sort puts
  them in the order "more occurrences first, then higher rank first"
  (`elements_sorted`).  The specification selects from the thirteen ranks, highest
  first, those occurring `k` times; a descending list is determined by its members
  (`filter_ranksDesc_eq`), so that selection is the ranks of the groups of size `k`
  (`ranksWith_eq`).

  *Six shapes.*  Five cards without five of a kind fall into groups of sizes
  1-1-1-1-1, 2-1-1-1, 2-2-1, 3-1-1, 3-2 or 4-1 (`group_shapes`).  On each shape both
  sides are computed with the ranks as variables, because the category chain and
  the sort look at the sizes only.

  *Ten straights.*  Only for five different ranks do `isStraight` and `straightTop`
  matter; they accept the same ten hands (`straights_table`, `straight_or_not`).
-/
namespace Pokerface.C03
open List

/-- The number of occurrences the groups `es` record for rank `r`. -/
def tally (es : List Elem) (r : Nat) : Nat := ((es.filter (·.rank == r)).map (·.count)).sum

theorem tally_nil (r : Nat) : tally [] r = 0 := rfl

theorem tally_cons (e : Elem) (es : List Elem) (r : Nat) :
    tally (e :: es) r = (if e.rank = r then e.count else 0) + tally es r := by
  unfold tally
  by_cases h : e.rank = r <;> simp [h]

theorem tally_addElem (es : List Elem) (x r : Nat) :
    tally (addElem es x) r = tally es r + if x = r then 1 else 0 := by
  induction es with
  | nil =>
    simp only [addElem, tally_cons, tally_nil]
    omega
  | cons e es ih =>
    unfold addElem
    split
    · next h =>
      subst h
      simp only [tally_cons]
      split
      · omega
      · omega
    · simp only [tally_cons, ih]
      omega

theorem tally_foldl (xs : List Nat) (acc : List Elem) (r : Nat) :
    tally (xs.foldl addElem acc) r = tally acc r + xs.count r := by
  induction xs generalizing acc with
  | nil => simp
  | cons x xs ih =>
    rw [List.foldl_cons, ih, tally_addElem, List.count_cons]
    simp only [beq_iff_eq]
    omega

theorem tally_of_mem {es : List Elem} (hn : (es.map (·.rank)).Nodup) {e : Elem} (he : e ∈ es) :
    tally es e.rank = e.count := by
  simp [tally, filter_key_of_mem Elem.rank hn he]

theorem ranks_addElem (es : List Elem) (x : Nat) :
    (addElem es x).map (·.rank)
      = if x ∈ es.map (·.rank) then es.map (·.rank) else es.map (·.rank) ++ [x] := by
  induction es with
  | nil => simp [addElem]
  | cons e es ih =>
    unfold addElem
    split
    · next h => simp [h]
    · next h =>
      have h' : ¬ x = e.rank := fun h'' => h h''.symm
      simp only [List.map_cons, ih, List.mem_cons, h', false_or]
      split <;> simp

theorem mem_ranks_foldl (xs : List Nat) (acc : List Elem) (r : Nat) :
    r ∈ (xs.foldl addElem acc).map (·.rank) ↔ r ∈ acc.map (·.rank) ∨ r ∈ xs := by
  induction xs generalizing acc with
  | nil => simp
  | cons x xs ih =>
    rw [List.foldl_cons, ih, ranks_addElem]
    split
    · next h =>
      simp only [List.mem_cons]
      constructor
      · rintro (h | h)
        · exact Or.inl h
        · exact Or.inr (Or.inr h)
      · rintro (h | rfl | h)
        · exact Or.inl h
        · exact Or.inl h
        · exact Or.inr h
    · simp only [List.mem_append, List.mem_cons, List.not_mem_nil, or_false, or_assoc]

theorem sum_addElem (es : List Elem) (x : Nat) :
    ((addElem es x).map (·.count)).sum = (es.map (·.count)).sum + 1 := by
  induction es with
  | nil => simp [addElem]
  | cons e es ih =>
    unfold addElem
    split
    · simp only [List.map_cons, List.sum_cons]
      omega
    · simp only [List.map_cons, List.sum_cons, ih]
      omega

theorem sum_foldl (xs : List Nat) (acc : List Elem) :
    ((xs.foldl addElem acc).map (·.count)).sum = (acc.map (·.count)).sum + xs.length := by
  induction xs generalizing acc with
  | nil => simp
  | cons x xs ih =>
    rw [List.foldl_cons, ih, sum_addElem, List.length_cons]
    omega

theorem ranks_foldl_sorted (xs : List Nat) (acc : List Elem) (hx : xs.Pairwise (· ≥ ·))
    (ha : (acc.map (·.rank)).Pairwise (· > ·)) (hax : ∀ a ∈ acc.map (·.rank), ∀ x ∈ xs, a ≥ x) :
    ((xs.foldl addElem acc).map (·.rank)).Pairwise (· > ·) := by
  induction xs generalizing acc with
  | nil => exact ha
  | cons x xs ih =>
    rw [List.pairwise_cons] at hx
    rw [List.foldl_cons]
    have hr := ranks_addElem acc x
    by_cases hm : x ∈ acc.map (·.rank)
    · rw [if_pos hm] at hr
      refine ih _ hx.2 (hr ▸ ha) fun a ha' y hy => ?_
      rw [hr] at ha'
      exact hax a ha' y (List.mem_cons_of_mem _ hy)
    · rw [if_neg hm] at hr
      refine ih _ hx.2 ?_ fun a ha' y hy => ?_
      · rw [hr]
        refine List.pairwise_append.2 ⟨ha, List.pairwise_singleton .., fun a ha' b hb => ?_⟩
        rw [List.mem_singleton] at hb
        subst hb
        have := hax a ha' b (List.mem_cons_self ..)
        have : a ≠ b := fun h' => hm (h' ▸ ha')
        omega
      · rw [hr] at ha'
        rcases List.mem_append.1 ha' with ha' | ha'
        · exact hax a ha' y (List.mem_cons_of_mem _ hy)
        · rw [List.mem_singleton] at ha'
          subst ha'
          exact hx.1 y hy

theorem groups_sorted {rs : List Nat} (hs : rs.Pairwise (· ≥ ·)) :
    ((rs.foldl addElem []).map (·.rank)).Pairwise (· > ·) ∧
    (∀ e ∈ rs.foldl addElem [], e.rank ∈ rs ∧ e.count = rs.count e.rank) ∧
    ((rs.foldl addElem []).map (·.count)).sum = rs.length := by
  have hp := ranks_foldl_sorted rs [] hs List.Pairwise.nil (by simp)
  refine ⟨hp, fun e he => ⟨?_, ?_⟩, by simpa using sum_foldl rs []⟩
  · simpa using (mem_ranks_foldl rs [] e.rank).1 (List.mem_map_of_mem he)
  · have := tally_foldl rs [] e.rank
    rw [tally_of_mem (hp.imp Nat.ne_of_gt) he, tally_nil] at this
    omega

/-- More occurrences first; among groups of equal size, higher rank first. -/
def Before (a b : Elem) : Prop := a.count > b.count ∨ (a.count = b.count ∧ a.rank > b.rank)

/-- Go's insertion sort is stable: a group of lower rank than all groups present goes behind
    the groups of its size. -/
theorem insertBy_before (x : Elem) (l : List Elem) (hl : l.Pairwise Before)
    (hx : ∀ y ∈ l, y.rank > x.rank) :
    (insertBy (fun a b => decide (a.count > b.count)) x l).Pairwise Before :=
  insertBy_pairwise Before
    (fun a b c h1 h2 => by
      unfold Before at *
      omega)
    hl (fun _ _ h => Or.inl (of_decide_eq_true h)) fun y hy h => by
      have := hx y hy
      have := of_decide_eq_false h
      unfold Before
      omega

theorem foldl_insertBy_before (l acc : List Elem) (hacc : acc.Pairwise Before)
    (hl : l.Pairwise (fun a b => a.rank > b.rank)) (h : ∀ y ∈ acc, ∀ x ∈ l, y.rank > x.rank) :
    (l.foldl (fun acc x => insertBy (fun a b => decide (a.count > b.count)) x acc) acc).Pairwise
      Before := by
  induction l generalizing acc with
  | nil => exact hacc
  | cons x xs ih =>
    rw [List.pairwise_cons] at hl
    refine ih _ (insertBy_before x acc hacc fun y hy => h y hy x (List.mem_cons_self ..)) hl.2 ?_
    intro y hy z hz
    rcases List.mem_cons.1 ((insertBy_perm _ x acc).mem_iff.1 hy) with rfl | hy
    · exact hl.1 z hz
    · exact h y hy z (List.mem_cons_of_mem _ hz)

theorem elements_has {rs : List Nat} {r : Nat} (h : r ∈ rs) : ∃ e ∈ elements rs, e.rank = r := by
  obtain ⟨e, he, hr⟩ := List.mem_map.1 ((mem_ranks_foldl rs [] r).2 (Or.inr h))
  exact ⟨e, (isort_perm _ _).mem_iff.mpr he, hr⟩

theorem elements_sorted {rs : List Nat} (hs : rs.Pairwise (· ≥ ·)) :
    (elements rs).Pairwise Before ∧
    (∀ e ∈ elements rs, e.rank ∈ rs ∧ e.count = rs.count e.rank) ∧
    (∀ r ∈ rs, ∃ e ∈ elements rs, e.rank = r) ∧
    ((elements rs).map (·.count)).sum = rs.length := by
  obtain ⟨h1, h2, h4⟩ := groups_sorted hs
  have p : (elements rs).Perm (rs.foldl addElem []) := isort_perm _ _
  refine ⟨?_, fun e he => h2 e (p.mem_iff.1 he), fun r => elements_has, ?_⟩
  · exact foldl_insertBy_before _ [] List.Pairwise.nil (List.pairwise_map.1 h1) (by simp)
  · rw [← h4]
    exact (p.map _).sum_nat

theorem mem_ranksDesc {r : Nat} : r ∈ ranksDesc ↔ 2 ≤ r ∧ r ≤ 14 := by
  simp only [ranksDesc, List.mem_cons, List.not_mem_nil, or_false]
  omega

theorem filter_ranksDesc_eq {p : Nat → Bool} {l : List Nat} (hl : l.Pairwise (· > ·))
    (hm : ∀ r, r ∈ l ↔ r ∈ ranksDesc ∧ p r = true) : ranksDesc.filter p = l := by
  have hd : ranksDesc.Pairwise (· > ·) := by decide
  refine eq_of_pairwise_of_mem_iff (fun a b h1 h2 => by omega) (hd.filter p) hl fun r => ?_
  rw [List.mem_filter, hm]

theorem ranksWith_eq {rs : List Nat} (hs : rs.Pairwise (· ≥ ·)) (hr : InRange rs) {k : Nat}
    (hk : 1 ≤ k) : ranksWith rs k = ((elements rs).filter (·.count == k)).map (·.rank) := by
  obtain ⟨h1, h2, h3, _⟩ := elements_sorted hs
  refine filter_ranksDesc_eq (List.pairwise_map.2 ?_) fun r => ?_
  · refine (h1.filter _).imp_of_mem fun {a b} ha hb hab => ?_
    have ha := (List.mem_filter.1 ha).2
    have hb := (List.mem_filter.1 hb).2
    simp only [beq_iff_eq] at ha hb
    rcases hab with h | h
    · omega
    · omega
  · simp only [List.mem_map, List.mem_filter, beq_iff_eq, mem_ranksDesc]
    constructor
    · rintro ⟨e, ⟨he, hc⟩, rfl⟩
      have := h2 e he
      exact ⟨hr _ this.1, by omega⟩
    · rintro ⟨_, hc⟩
      obtain ⟨e, he, rfl⟩ := h3 r (List.count_pos_iff.1 (by omega))
      exact ⟨e, ⟨he, by rw [(h2 e he).2]; exact hc⟩, rfl⟩

theorem ranksWith_one_eq {rs : List Nat} (hs : rs.Pairwise (· ≥ ·)) (hr : InRange rs)
    (h1 : ∀ r, rs.count r ≤ 1) : ranksWith rs 1 = rs := by
  have hn : rs.Nodup := List.nodup_iff_count.2 h1
  refine filter_ranksDesc_eq ((hs.and hn).imp fun ⟨h, h'⟩ => by omega) fun r => ?_
  rw [mem_ranksDesc, beq_iff_eq]
  constructor
  · intro h
    have := List.count_pos_iff.2 h
    have := h1 r
    exact ⟨hr r h, by omega⟩
  · intro h
    exact List.count_pos_iff.1 (by omega)

theorem specTiebreak_inRange (rs : List Nat) : InRange (specTiebreak rs) := by
  intro r hr
  unfold specTiebreak at hr
  split at hr
  · next t ht =>
    have hm := List.mem_of_find?_eq_some ht
    rw [List.mem_singleton] at hr
    subst hr
    simp only [List.mem_cons, List.not_mem_nil, or_false] at hm
    omega
  · simp only [List.mem_append, ranksWith, List.mem_filter] at hr
    exact mem_ranksDesc.1 (by rcases hr with ((h | h) | h) | h <;> exact h.1)

theorem group_shapes {es : List Elem} (hp : es.Pairwise (fun x y => x.count ≥ y.count))
    (hb : ∀ x ∈ es, 1 ≤ x.count ∧ x.count ≤ 4) (hsum : (es.map (·.count)).sum = 5) :
    (∃ a b c d e, es = [⟨a, 1⟩, ⟨b, 1⟩, ⟨c, 1⟩, ⟨d, 1⟩, ⟨e, 1⟩]) ∨
    (∃ a b c d, es = [⟨a, 2⟩, ⟨b, 1⟩, ⟨c, 1⟩, ⟨d, 1⟩]) ∨ (∃ a b c, es = [⟨a, 2⟩, ⟨b, 2⟩, ⟨c, 1⟩]) ∨
    (∃ a b c, es = [⟨a, 3⟩, ⟨b, 1⟩, ⟨c, 1⟩]) ∨ (∃ a b, es = [⟨a, 3⟩, ⟨b, 2⟩]) ∨
    (∃ a b, es = [⟨a, 4⟩, ⟨b, 1⟩]) := by
  match es with
  | [] => simp at hsum
  | [⟨_, p⟩] =>
    simp at hsum hb
    omega
  | [⟨_, p⟩, ⟨_, q⟩] =>
    simp only [List.map, List.sum_cons, List.sum_nil, List.pairwise_cons, List.mem_cons,
      forall_eq_or_imp, List.not_mem_nil, false_imp_iff, implies_true, and_true] at hsum hb hp
    obtain ⟨rfl, rfl⟩ | ⟨rfl, rfl⟩ : p = 4 ∧ q = 1 ∨ p = 3 ∧ q = 2 := by omega
    · exact .inr (.inr (.inr (.inr (.inr ⟨_, _, rfl⟩))))
    · exact .inr (.inr (.inr (.inr (.inl ⟨_, _, rfl⟩))))
  | [⟨_, p⟩, ⟨_, q⟩, ⟨_, r⟩] =>
    simp only [List.map, List.sum_cons, List.sum_nil, List.pairwise_cons, List.mem_cons,
      forall_eq_or_imp, List.not_mem_nil, false_imp_iff, implies_true, and_true] at hsum hb hp
    obtain ⟨rfl, rfl, rfl⟩ | ⟨rfl, rfl, rfl⟩ : p = 3 ∧ q = 1 ∧ r = 1 ∨ p = 2 ∧ q = 2 ∧ r = 1 := by omega
    · exact .inr (.inr (.inr (.inl ⟨_, _, _, rfl⟩)))
    · exact .inr (.inr (.inl ⟨_, _, _, rfl⟩))
  | [⟨_, p⟩, ⟨_, q⟩, ⟨_, r⟩, ⟨_, s⟩] =>
    simp only [List.map, List.sum_cons, List.sum_nil, List.pairwise_cons, List.mem_cons,
      forall_eq_or_imp, List.not_mem_nil, false_imp_iff, implies_true, and_true] at hsum hb hp
    obtain ⟨rfl, rfl, rfl, rfl⟩ : p = 2 ∧ q = 1 ∧ r = 1 ∧ s = 1 := by omega
    exact .inr (.inl ⟨_, _, _, _, rfl⟩)
  | [⟨_, p⟩, ⟨_, q⟩, ⟨_, r⟩, ⟨_, s⟩, ⟨_, t⟩] =>
    simp only [List.map, List.sum_cons, List.sum_nil, List.mem_cons, forall_eq_or_imp,
      List.not_mem_nil, false_imp_iff, implies_true, and_true] at hsum hb
    obtain ⟨rfl, rfl, rfl, rfl, rfl⟩ : p = 1 ∧ q = 1 ∧ r = 1 ∧ s = 1 ∧ t = 1 := by omega
    exact .inl ⟨_, _, _, _, _, rfl⟩
  | x :: y :: z :: u :: v :: w :: t =>
    -- six groups of at least one card are more than five cards
    simp only [List.map_cons, List.sum_cons] at hsum
    have := hb x (by simp)
    have := hb y (by simp)
    have := hb z (by simp)
    have := hb u (by simp)
    have := hb v (by simp)
    have := hb w (by simp)
    omega

/-- The hand `straightTop` accepts with top card `t`, in descending order. -/
def straightOf (t : Nat) : List Nat := ranksDesc.filter (· ∈ run t)

theorem straights_table : ∀ t ∈ List.range' 5 10,
    straightOf t = (if t = 5 then [14, 5, 4, 3, 2] else [t, t - 1, t - 2, t - 3, t - 4]) ∧
    isStraight (straightOf t) = true ∧
    powerScore .straight (elements (straightOf t)) + 3 = t - 2 ∧
    powerScore .straightFlush (elements (straightOf t)) + 3 = t - 2 ∧
    straightTop (straightOf t) = some t := by decide

theorem straightTop_some {rs : List Nat} {t : Nat} (h : straightTop rs = some t) :
    (5 ≤ t ∧ t ≤ 14) ∧ (run t).all (fun r => rs.count r == 1) = true := by
  unfold straightTop at h
  have hm := List.mem_of_find?_eq_some h
  have hp := List.find?_some h
  refine ⟨?_, hp⟩
  simp only [List.mem_cons, List.not_mem_nil, or_false] at hm
  omega

theorem sublist_of_straightTop {rs : List Nat} {t : Nat} (h : straightTop rs = some t) :
    (straightOf t).Sublist (ranksWith rs 1) ∧ (straightOf t).length = 5 := by
  obtain ⟨ht, hc⟩ := straightTop_some h
  refine ⟨?_, ?_⟩
  rotate_left
  · rw [(straights_table t (List.mem_range'_1.2 ⟨ht.1, by omega⟩)).1]
    split
    · rfl
    · rfl
  have : straightOf t = (ranksWith rs 1).filter (· ∈ run t) := by
    rw [straightOf, ranksWith, List.filter_filter]
    refine List.filter_congr fun r _ => ?_
    by_cases hr : r ∈ run t
    · simpa [hr] using List.all_eq_true.1 hc r hr
    · simp [hr]
  rw [this]
  exact List.filter_sublist

/-- A hand with a repeated rank has fewer than five ranks that occur once, so it is no straight. -/
theorem straightTop_eq_none {rs : List Nat} (h : (ranksWith rs 1).length < 5) :
    straightTop rs = none := by
  cases hst : straightTop rs with
  | none => rfl
  | some t =>
    obtain ⟨hsub, hl⟩ := sublist_of_straightTop hst
    have := hsub.length_le
    omega

theorem isStraight_imp {a b c d e : Nat} (hr : InRange [a, b, c, d, e])
    (h : isStraight [a, b, c, d, e] = true) :
    ∃ t ∈ List.range' 5 10, [a, b, c, d, e] = straightOf t := by
  have ha := hr a (by simp)
  have he := hr e (by simp)
  simp only [isStraight, consecutiveFrom, Bool.and_true] at h
  split at h
  · cases h
  · split at h
    · next hw =>
      simp only [Bool.and_eq_true, beq_iff_eq] at h hw
      obtain ⟨_, rfl, rfl, rfl⟩ := h
      obtain ⟨rfl, rfl⟩ := hw
      exact ⟨5, by decide, (straights_table 5 (by decide)).1.symm⟩
    · simp only [Bool.and_eq_true, beq_iff_eq] at h
      obtain ⟨_, rfl, rfl, rfl, rfl⟩ := h
      have ht : a ∈ List.range' 5 10 := List.mem_range'_1.2 (by omega)
      refine ⟨a, ht, ?_⟩
      rw [(straights_table a ht).1, if_neg (by omega)]
      simp only [Nat.sub_sub, Nat.reduceAdd]

theorem straight_or_not {rs : List Nat} (hlen : rs.length = 5) (hs : rs.Pairwise (· ≥ ·))
    (hr : InRange rs) (hc : ∀ r, rs.count r ≤ 1) :
    (straightTop rs = none ∧ isStraight rs = false) ∨ ∃ t ∈ List.range' 5 10, rs = straightOf t := by
  cases hst : straightTop rs with
  | some t =>
    obtain ⟨hsub, hl⟩ := sublist_of_straightTop hst
    rw [ranksWith_one_eq hs hr hc] at hsub
    have ht := (straightTop_some hst).1
    exact .inr ⟨t, List.mem_range'_1.2 ⟨ht.1, by omega⟩, (hsub.eq_of_length (hl.trans hlen.symm)).symm⟩
  | none =>
    cases hi : isStraight rs with
    | false => exact .inl ⟨rfl, rfl⟩
    | true =>
      match rs, hlen with
      | [a, b, c, d, e], _ =>
        obtain ⟨t, ht, h⟩ := isStraight_imp hr hi
        rw [h, (straights_table t ht).2.2.2.2] at hst
        cases hst

theorem normalForm_sorted {rs : List Nat} (hlen : rs.length = 5) (hs : rs.Pairwise (· ≥ ·))
    (hr : InRange rs) (h4 : ∀ r, rs.count r ≤ 4) (fl : Bool) :
    category rs fl = specCat rs fl ∧
    powerScore (specCat rs fl) (elements rs) + shift (specCat rs fl) = enc (specTiebreak rs) ∧
    (specTiebreak rs).length = tbLen (specCat rs fl) := by
  obtain ⟨h1, h2, h3, h5⟩ := elements_sorted hs
  have F := fun k hk => ranksWith_eq hs hr (k := k) hk
  have hshape := group_shapes (h1.imp fun h => by unfold Before at h; omega)
    (fun e he => by
      have := h2 e he
      have := List.count_pos_iff.2 this.1
      have := h4 e.rank
      omega)
    (by rw [h5, hlen])
  unfold category
  generalize hes : elements rs = es at *
  -- From here on `es` is explicit up to the ranks.  The category chain, the sort and `F` look
  -- at the sizes of the groups only, which are numerals, so `simp` computes both sides.
  rcases hshape with ⟨a, b, c, d, e, rfl⟩ | ⟨a, b, c, d, rfl⟩ | ⟨a, b, c, rfl⟩ | ⟨a, b, c, rfl⟩ |
    ⟨a, b, rfl⟩ | ⟨a, b, rfl⟩
  · have hc : ∀ r, rs.count r ≤ 1 := fun r => by
      by_cases hm : r ∈ rs
      · obtain ⟨x, hx, rfl⟩ := h3 r hm
        rw [← (h2 x hx).2]
        simp only [List.mem_cons, List.not_mem_nil, or_false] at hx
        rcases hx with rfl | rfl | rfl | rfl | rfl <;> exact Nat.le_refl 1
      · rw [List.count_eq_zero.2 hm]
        omega
    rcases straight_or_not hlen hs hr hc with ⟨hst, hns⟩ | ⟨t, ht, rfl⟩
    · cases fl <;>
        simp [specCat, specTiebreak, F, hst, hns, hasCount, pairCount, powerScore, positional, enc,
          shift, tbLen]
    · obtain ⟨_, hi, hp, hpf, hst⟩ := straights_table t ht
      rw [hes] at hp hpf
      cases fl <;>
        simp [specCat, specTiebreak, F, hst, hi, hasCount, pairCount, hp, hpf, enc, shift, tbLen]
  all_goals
    have := straightTop_eq_none (rs := rs) (by rw [F 1 (Nat.le_refl 1)]; simp)
    simp [specCat, specTiebreak, F, this, hasCount, pairCount, powerScore, positional, enc, shift,
      tbLen]

end Pokerface.C03
