import Pokerface.Proofs.CombosSelect
import Pokerface.Proofs.CombosBest
import Pokerface.Proofs.EvalSort
/-
  The reported category, cards and strength describe one and the same hand.
  Needs: `sortCards` only permutes, and re-sorting its output changes nothing, so that
  `calculatePower` of the reported (sorted) cards is the reported power.
-/
namespace Pokerface

theorem sortCards_idem (cards : List Card) : sortCards (sortCards cards) = sortCards cards :=
  isort_of_sorted _ _ ((sortCards_sorted cards).imp (fun h => decide_eq_false (Nat.not_lt.mpr h)))

theorem calculatePower_cards (lvl : Cat → Nat) (pr : List Cat) (cards : List Card) :
    calculatePower lvl pr (calculatePower lvl pr cards).cards = calculatePower lvl pr cards := by
  have h : (calculatePower lvl pr cards).cards = sortCards cards := rfl
  rw [h]
  simp only [calculatePower, sortCards_idem]

theorem ranks_sortCards_of_perm {l₁ l₂ : List Card} (h : l₁.Perm l₂) :
    (sortCards l₁).map (·.rank) = (sortCards l₂).map (·.rank) := by
  have hp : ((sortCards l₁).map (·.rank)).Perm ((sortCards l₂).map (·.rank)) :=
    (((sortCards_perm l₁).trans h).trans (sortCards_perm l₂).symm).map _
  have s1 : ((sortCards l₁).map (·.rank)).Pairwise (· ≥ ·) := List.pairwise_map.mpr (sortCards_sorted l₁)
  have s2 : ((sortCards l₂).map (·.rank)).Pairwise (· ≥ ·) := List.pairwise_map.mpr (sortCards_sorted l₂)
  exact List.Perm.eq_of_pairwise (le := (· ≥ ·)) (fun a b _ _ h1 h2 => Nat.le_antisymm h2 h1) s1 s2 hp

theorem isFlush_of_perm {l₁ l₂ : List Card} (h : l₁.Perm l₂) : isFlush l₁ = isFlush l₂ := by
  by_cases h0 : l₁ = []
  · subst h0
    rw [← h.nil_eq]
  · rw [C03.isFlush_eq_sameSuit _ h0, C03.isFlush_eq_sameSuit _ fun h' => h0 (h' ▸ h).eq_nil,
      C03.sameSuit_perm h]

theorem calculatePower_of_perm (lvl : Cat → Nat) (pr : List Cat) {l₁ l₂ : List Card} (h : l₁.Perm l₂) :
    (calculatePower lvl pr l₁).cat = (calculatePower lvl pr l₂).cat ∧
    (calculatePower lvl pr l₁).score = (calculatePower lvl pr l₂).score := by
  have hr := ranks_sortCards_of_perm h
  have hf : isFlush (sortCards l₁) = isFlush (sortCards l₂) :=
    isFlush_of_perm (((sortCards_perm l₁).trans h).trans (sortCards_perm l₂).symm)
  simp only [calculatePower, hr, hf, and_self]

theorem playerPower_spec {lvl : Cat → Nat} {pr : List Cat} {board hole : List Card} {req : Nat} {pw : Power}
    (h : playerPower lvl pr board hole req = some pw) :
    (∃ sel ∈ allPossibleCombinations board hole req, pw = calculatePower lvl pr sel) ∧
    ∀ sel ∈ allPossibleCombinations board hole req, (calculatePower lvl pr sel).score ≤ pw.score := by
  have ⟨hm, hmax⟩ := bestPower_spec h
  constructor
  · obtain ⟨sel, hsel, rfl⟩ := List.mem_map.mp hm
    exact ⟨sel, hsel, rfl⟩
  · intro sel hsel
    exact hmax _ (List.mem_map_of_mem hsel)

theorem playerPower_isSome {lvl : Cat → Nat} {pr : List Cat} {board hole : List Card} {req : Nat}
    (hreq : req < 5) (hh : hole.length ≤ 9) (hb : board.length ≤ 9)
    (hall : req = 0 → hole.length + board.length ≤ 9) :
    ∃ pw, playerPower lvl pr board hole req = some pw := by
  cases hp : playerPower lvl pr board hole req with
  | some pw => exact ⟨pw, rfl⟩
  | none =>
    exfalso
    have := bestPower_eq_none.mp hp
    simp only [List.map_eq_nil_iff] at this
    exact allPossibleCombinations_ne_nil hreq hh hb hall this

end Pokerface
