import Pokerface.Model.Game
import Pokerface.Proofs.ListLemmas
/-
  `seatsFromDealer` (game.go `GetPlayers`): the seat indices starting at the dealer are a
  permutation of `0 … n-1` — every seat is visited exactly once by the per-seat loops
  (`PayAnte`, `PayBlinds`, …).  Core only; no hypothesis on the state is needed.
-/
namespace Pokerface

namespace Game

theorem seatsFromDealer_eq (g : Game) : g.seatsFromDealer = rotSeats g.dealerIdx g.n := rfl

theorem mem_seatsFromDealer (g : Game) {i : Nat} : i ∈ g.seatsFromDealer ↔ i < g.n := mem_rotSeats

theorem nodup_seatsFromDealer (g : Game) : g.seatsFromDealer.Nodup := nodup_rotSeats _ _

theorem seatsFromDealer_perm (g : Game) : g.seatsFromDealer.Perm (List.range g.n) := rotSeats_perm _ _

theorem length_seatsFromDealer (g : Game) : g.seatsFromDealer.length = g.n := length_rotSeats _ _

end Game
end Pokerface
