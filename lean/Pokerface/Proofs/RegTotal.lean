/-
  Every operation of a well-formed regulator has admissible dispatch choices: a choice list with
  which it ends without `badChoice` (`addPlayers_total`, `setStatus_total`, `releasePlayers_total`).
  This is the regulator's part of the totality of the validity conditions of the systems (that
  they never block a history: Proofs/RegAsyncProps.lean, Proofs/RegProps.lean).

  The idea: whenever `dispatchPlayer` finds a table with `Required > 0` there is an admissible
  choice (that table), and the choices of the two dispatch loops of `drainWaitingQueue` can be
  concatenated (`dispatchLoop_total`, a frame property in the unused tail of the choice list).
-/
import Pokerface.Proofs.RegOps

namespace Pokerface
namespace Reg

/-- `r` with its remaining choice inputs replaced -/
def withCh (r : Reg) (ch : List Nat) : Reg := { r with choices := ch }

theorem WF0.withCh {r : Reg} (h : WF0 r) (ch : List Nat) : WF0 (r.withCh ch) :=
  ⟨h.tc, h.nodup, h.idlt, h.nn⟩

theorem WF0.of_withCh {r : Reg} {ch : List Nat} (h : WF0 (r.withCh ch)) : WF0 r :=
  ⟨h.tc, h.nodup, h.idlt, h.nn⟩

theorem findTable_of_mem {r : Reg} (hn : (r.tables.map (·.id)).Nodup) {t : RTable} (ht : t ∈ r.tables) :
    r.findTable t.id = some t :=
  find?_key_of_mem RTable.id hn ht

/-- when some table requires players, `dispatchPlayer` has an admissible choice, and what it does
    with that choice does not depend on the rest of the choice list -/
theorem dispatchPlayer_total (r : Reg) (cands : List Nat) (hwf : WF0 r) (hc : cands ≠ [])
    (hany : (r.tables.any fun t => decide (t.required > 0)) = true) (hb : r.badChoice = false) :
    ∃ c rest r1, WF0 r1 ∧ r1.badChoice = false ∧
      ∀ tail, (r.withCh (c :: tail)).dispatchPlayer cands = some (rest, r1.withCh tail) := by
  obtain ⟨t, ht, hreq⟩ := List.any_eq_true.1 hany
  have hreq' : t.required > 0 := of_decide_eq_true hreq
  have hft := findTable_of_mem hwf.nodup ht
  have key : ∀ tail, (r.withCh (t.id :: tail)).dispatchPlayer cands =
      some (cands.drop t.required.toNat,
        ({ r with choices := [], calls := r.calls ++ [RCall.assign t.id (cands.take t.required.toNat)],
                  tables := upd t.id (give ((cands.take t.required.toNat).length : Int)) r.tables } : Reg).withCh tail) :=
    fun tail => dispatchPlayer_choice (r := r.withCh (t.id :: tail)) cands rfl hft hreq'
  refine ⟨t.id, _, _, ?_, ?_, key⟩
  · have h0 := key []
    have := (dispatchPlayer_spec0 (hwf.withCh _) hc h0 hb).1
    exact this.of_withCh
  · exact hb

theorem dispatchPlayer_none_of_not_any (r : Reg) (cands : List Nat)
    (hany : (r.tables.any fun t => decide (t.required > 0)) = false) : r.dispatchPlayer cands = none := by
  unfold dispatchPlayer
  simp [hany]

/-- the dispatch loop has admissible choices; it consumes exactly them and leaves the tail -/
theorem dispatchLoop_total (fuel : Nat) : ∀ (cands : List Nat) (r : Reg), WF0 r → r.badChoice = false →
    ∃ ch rest r', WF0 r' ∧ r'.badChoice = false ∧
      ∀ tail, dispatchLoop fuel cands (r.withCh (ch ++ tail)) = (rest, r'.withCh tail) := by
  induction fuel with
  | zero =>
    intro cands r hwf hb
    exact ⟨[], cands, r, hwf, hb, fun tail => rfl⟩
  | succ n ih =>
    intro cands r hwf hb
    by_cases hce : cands = []
    · refine ⟨[], cands, r, hwf, hb, fun tail => ?_⟩
      rw [hce, dispatchLoop_nil]
      rfl
    · cases hany : (r.tables.any fun t => decide (t.required > 0)) with
      | false =>
        refine ⟨[], cands, r, hwf, hb, fun tail => ?_⟩
        rw [dispatchLoop_live n hce (show (r.withCh ([] ++ tail)).badChoice = false from hb),
          dispatchPlayer_none_of_not_any (r.withCh ([] ++ tail)) cands hany]
        rfl
      | true =>
        obtain ⟨c, rest1, r1, hwf1, hb1, hkey⟩ := dispatchPlayer_total r cands hwf hce hany hb
        obtain ⟨ch', rest, r', hwf', hb', hloop⟩ := ih rest1 r1 hwf1 hb1
        refine ⟨c :: ch', rest, r', hwf', hb', fun tail => ?_⟩
        rw [dispatchLoop_live n hce (show (r.withCh (c :: ch' ++ tail)).badChoice = false from hb),
          List.cons_append, hkey (ch' ++ tail)]
        exact hloop tail

theorem updateTableRequirements_withCh (r : Reg) (ch : List Nat) :
    (r.withCh ch).updateTableRequirements = r.updateTableRequirements.withCh ch := by
  rw [updateTableRequirements_eq, updateTableRequirements_eq]
  have h1 : (r.withCh ch).requiredTables = r.requiredTables := rfl
  have h2 : (r.withCh ch).tables = r.tables := rfl
  have h3 : (r.withCh ch).ceilWl = r.ceilWl := rfl
  rw [h1, h2, h3]
  split <;> rfl

theorem drainWaitingQueue_total (r : Reg) (hwf : WF0 r) (hb : r.badChoice = false) :
    ∃ ch, (r.withCh ch).drainWaitingQueue.badChoice = false := by
  by_cases h2 : r.tableCount > 0
  · obtain ⟨ch1, c1, r1, hwf1, hb1, hl1⟩ := dispatchLoop_total (r.queue.length + 1) r.queue r hwf hb
    have hx : ∃ r2, WF0 r2 ∧ r2.badChoice = false ∧ ∀ tail,
        (if (!c1.isEmpty) = true then (r1.withCh tail).updateTableRequirements else r1.withCh tail) = r2.withCh tail := by
      by_cases hc1 : (!c1.isEmpty) = true
      · obtain ⟨a, _, _, b, _⟩ := updateTableRequirements_spec0 r1 hwf1 c1
        refine ⟨r1.updateTableRequirements, a, b.trans hb1, fun tail => ?_⟩
        rw [if_pos hc1, updateTableRequirements_withCh]
      · exact ⟨r1, hwf1, hb1, fun tail => by rw [if_neg hc1]⟩
    obtain ⟨r2, hwf2, hb2, hr2⟩ := hx
    obtain ⟨ch2, c2, r3, hwf3, hb3, hl3⟩ := dispatchLoop_total (c1.length + 1) c1 r2 hwf2 hb2
    refine ⟨ch1 ++ ch2, ?_⟩
    rw [drainWaitingQueue_eq]
    have hn1 : ¬ ((r.withCh (ch1 ++ ch2)).tableCount = 0 ∧
        ((r.withCh (ch1 ++ ch2)).queue.length : Int) ≥ ((r.withCh (ch1 ++ ch2)).min : Int)) := by
      intro h
      have : r.tableCount = 0 := h.1
      omega
    rw [if_neg hn1, if_pos (show (r.withCh (ch1 ++ ch2)).tableCount > 0 from h2)]
    have e1 : dispatchLoop ((r.withCh (ch1 ++ ch2)).queue.length + 1) (r.withCh (ch1 ++ ch2)).queue
        (r.withCh (ch1 ++ ch2)) = (c1, r1.withCh ch2) := hl1 ch2
    simp only [e1]
    rw [hr2 ch2]
    have e3 := hl3 []
    rw [List.append_nil] at e3
    rw [e3]
    simp only
    split
    · rw [allocateTables_badChoice]
      exact hb3
    · exact hb3
  · -- no table: no choice is consumed
    refine ⟨[], ?_⟩
    rw [drainWaitingQueue_eq]
    split
    · rw [allocateTables_badChoice]
      exact hb
    · rw [if_neg (show ¬ (r.withCh []).tableCount > 0 from h2)]
      exact hb

theorem enterWaitingQueue_total (r : Reg) (ps : List Nat) (hwf : WF0 r) (hb : r.badChoice = false) :
    ∃ ch, ((r.withCh ch).enterWaitingQueue ps).badChoice = false := by
  by_cases hp : r.status = .pending
  · refine ⟨[], ?_⟩
    rw [enterWaitingQueue_pending _ _ (show (r.withCh []).status = .pending from hp)]
    exact hb
  · obtain ⟨ch, hch⟩ := drainWaitingQueue_total { r with queue := r.queue ++ ps } (hwf.setQueue _) hb
    refine ⟨ch, ?_⟩
    rw [enterWaitingQueue_running _ _ (show (r.withCh ch).status ≠ .pending from hp)]
    exact hch

theorem addPlayers_total (r : Reg) (ps : List Nat) (hwf : WF0 r) :
    ∃ ch, (r.addPlayers ps ch).1.badChoice = false := by
  by_cases hs : r.status = .afterRegDeadline
  · exact ⟨[], by rw [addPlayers_refused r ps [] hs]; rfl⟩
  · obtain ⟨hwf2, _, _, hb2, _⟩ := updateTableRequirements_spec0 (addBase r ps []) (hwf.addBase ps []) []
    obtain ⟨ch, hch⟩ := enterWaitingQueue_total (addBase r ps []).updateTableRequirements ps hwf2 (hb2.trans rfl)
    refine ⟨ch, ?_⟩
    rw [addPlayers_accepted r ps ch hs]
    have e : addBase r ps ch = (addBase r ps []).withCh ch := rfl
    rw [e, updateTableRequirements_withCh]
    exact hch

theorem setStatus_total (r : Reg) (st : RStatus) (hwf : WF0 r) :
    ∃ ch, (r.setStatus st ch).badChoice = false := by
  by_cases hsame : r.status = st
  · exact ⟨[], by rw [setStatus_same r st [] hsame]; rfl⟩
  · by_cases hd : r.status = .pending ∧ st = .normal
    · obtain ⟨ch, hch⟩ := drainWaitingQueue_total (statusBase r st []) (hwf.statusBase st []) rfl
      exact ⟨ch, by rw [setStatus_start r st ch hsame hd]; exact hch⟩
    · exact ⟨[], by rw [setStatus_other r st [] hsame hd]; rfl⟩

theorem releasePlayers_total (r : Reg) (rel : List Nat) (hwf : WF0 r) :
    ∃ ch, (r.releasePlayers rel ch).badChoice = false := by
  obtain ⟨ch, hch⟩ := enterWaitingQueue_total (r.beginOp []) rel (hwf.beginOp []) rfl
  exact ⟨ch, hch⟩

end Reg

end Pokerface
