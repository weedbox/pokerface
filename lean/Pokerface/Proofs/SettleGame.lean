import Pokerface.Proofs.SettleLevel
import Pokerface.Proofs.PotsFinal
/-
  `gameResults` as `Calculate` on an explicit state, hence as `bumpAll` of the update lists of its pots.
-/
namespace Pokerface

/-- A level of a pot as it stands when `Calculate` starts. -/
def toInfo (rows : List (Nat × Int × Bool × Int)) (l : Level) : LevelInfo :=
  { level := l.level, wager := l.wager, total := l.total, contributors := l.contributors,
    groups := groupsOf (scoredRows rows l.contributors) }

theorem foldl_addPot (pots : List Pot) (r : Result) :
    pots.foldl (fun r p => r.addPot p.total p.levels) r
      = { players := r.players,
          pots := r.pots ++ pots.map (fun p => ({ total := p.total, levels := p.levels.map fun l =>
            ({ level := l.level, wager := l.wager, total := l.total, contributors := l.contributors } : LevelInfo) } : PotResult)) } := by
  induction pots generalizing r with
  | nil =>
    cases r
    simp
  | cons p ps ih =>
    rw [List.foldl_cons, ih]
    simp [Result.addPot]

theorem gameResults_eq (pots : List Pot) (rows : List (Nat × Int × Bool × Int)) :
    gameResults pots rows =
      Result.calculate
        { players := rows.map (fun row => (⟨row.1, row.2.1, 0⟩ : PlayerResult)),
          pots := pots.map (fun p => ({ total := p.total, levels := p.levels.map (toInfo rows) } : PotResult)) } := by
  unfold gameResults
  simp only []
  rw [foldl_addPot, rows_fold]
  congr 1
  simp only [List.nil_append, List.map_map, Result.mk.injEq, true_and]
  apply List.map_congr_left
  intro p _
  simp only [Function.comp, List.map_map, PotResult.mk.injEq, true_and, and_true]
  apply List.map_congr_left
  intro l _
  simp [toInfo, groupsOf]

theorem gameResults_players (pots : List Pot) (rows : List (Nat × Int × Bool × Int)) :
    (gameResults pots rows).players
      = bumpAll (rows.map (fun row => (⟨row.1, row.2.1, 0⟩ : PlayerResult)))
          (pots.flatMap (fun p => potUpdates 0 (p.levels.map (toInfo rows)))) := by
  rw [gameResults_eq, calculate_players]
  simp only [List.flatMap_def, List.map_map, Function.comp_def]

theorem gameResults_pots_levels (pots : List Pot) (rows : List (Nat × Int × Bool × Int)) :
    (gameResults pots rows).pots.map (·.levels) = pots.map (fun p => p.levels.map (toInfo rows)) := by
  rw [gameResults_eq, calculate_pots_levels]
  simp only [List.map_map, Function.comp_def]

end Pokerface
