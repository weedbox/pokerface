/-
  Integer arithmetic behind the regulator's water levels (DESIGN §4: the float
  quotients are modelled by exact integer quotients).
-/
import Pokerface.Model.Regulator

namespace Pokerface.Reg

theorem ceilDiv_pos (pc : Int) (mx : Nat) (hm : 0 < mx) (h : 0 < pc) : 0 < ceilDiv pc mx := by
  unfold ceilDiv
  have : (1 : Int) ≤ (pc + (mx : Int) - 1) / (mx : Int) := by
    rw [Int.le_ediv_iff_mul_le (by omega)]
    omega
  omega

theorem ceilDiv_nonneg (pc : Int) (mx : Nat) (hm : 0 < mx) (h : 0 ≤ pc) : 0 ≤ ceilDiv pc mx := by
  unfold ceilDiv
  rw [Int.le_ediv_iff_mul_le (by omega)]
  omega

theorem ceilDiv_nonpos (pc : Int) (mx : Nat) (hm : 0 < mx) (h : pc ≤ 0) : ceilDiv pc mx ≤ 0 := by
  unfold ceilDiv
  have : (pc + (mx : Int) - 1) / (mx : Int) < 1 := by
    rw [Int.ediv_lt_iff_lt_mul (by omega)]
    omega
  omega

theorem le_ceilDiv_mul (pc : Int) (mx : Nat) (hm : 0 < mx) : pc ≤ ceilDiv pc mx * (mx : Int) :=
  (Int.le_mul_iff_le_left (Int.natCast_pos.2 hm)).2 (Int.le_refl _)

theorem floor_le_ceilDiv (pc : Int) (mx : Nat) (hm : 0 < mx) : pc / (mx : Int) ≤ ceilDiv pc mx := by
  unfold ceilDiv
  exact Int.ediv_le_ediv (by omega) (by omega)

end Pokerface.Reg
