import Pokerface.Proofs.FlowStep
import Pokerface.Proofs.BetsMono
/-
  C12, ghost history: the specification's own record `lastRaise` of "the size of the previous bet or
  raise of the round (the big blind before any)", run alongside the engine (`Game.runL`, `LReachable`), and the
  invariant `RaiseInv` that the engine's recorded `prev` (`Status.PreviousRaiseSize`) IS that quantity in every open
  betting round (`prev_is_last_raise`).  The record is kept by one of two rules (`RaiseRule`); they agree off dead blinds.
  Mind the names: the rule the run-time monitor runs is `RaiseRule.i8`; `RaiseRule.monitor` is the OTHER rule, the one
  that does not single out `Bet` (the statements of C12 name both constructors).
-/
namespace Pokerface
open Game

/-- the value of the record when a betting round is opened: the big blind preflop, nothing later -/
def Game.openSize (g : Game) : Int := if g.round = .preflop then g.opts.openBlind else 0

/-- the action is carried out as a call: `Call`, or `Raise(x)` with `x` equal to the wager to match
    (reading I8: a call that completes a wager below the big blind to the big blind is no bet or raise) -/
def asCall (a : Act) (x cw : Int) : Prop := a = .call ∨ (a = .raise ∧ x = cw)

instance (a : Act) (x cw : Int) : Decidable (asCall a x cw) := by unfold asCall; exact inferInstance

/-- Two versions of the rule "what is a bet or raise of the round".
    `i8`: reading I8 to the letter, and the rule the run-time monitor runs (harness `engine_monitors.go`): every
      accepted `Bet` is a bet (whatever its size), a raise or all-in counts when it lifts the wager to match by at
      least the recorded size.
    `monitor`: a rule that does not single out `Bet`: any accepted action that is not carried out as a call and lifts
      the wager to match by `d > 0` counts when nothing was to match before or `d` is at least the recorded size.
    They differ only while nothing is to match although the recorded size is positive (a preflop round
    opened without any blind posted), see `turn_monitor_eq_i8`. -/
inductive RaiseRule | monitor | i8
deriving DecidableEq, Repr

/-- the record after an accepted action `a` with amount `x` that moved the wager to match from `cw` to `cw'` -/
def lastRaiseTurn (r : RaiseRule) (L cw : Int) (a : Act) (x cw' : Int) : Int :=
  match r with
  | .monitor => if ¬ asCall a x cw ∧ 0 < cw' - cw ∧ (cw = 0 ∨ cw' - cw ≥ L) then cw' - cw else L
  | .i8 =>
    if a = .bet then cw' - cw
    else if ¬ asCall a x cw ∧ 0 < cw' - cw ∧ cw' - cw ≥ L then cw' - cw else L

/-- ghost history of the betting round in progress: the size of its last bet or raise -/
structure RGhost where
  lastRaise : Int
deriving Repr, DecidableEq

/-- the record after operation `op` applied in state `g`: refused operations change nothing; an operation
    that opens a betting round (only `ReadyForAll` can: `tableOp_raise_record`, `act_raise_record`) sets it to the big blind preflop
    and to 0 on later streets; an accepted action in an open round updates it by `lastRaiseTurn` -/
def RGhost.step (r : RaiseRule) (gh : RGhost) (g : Game) (op : Op) : RGhost :=
  if (g.step op).2 ≠ none then gh
  else if g.event ≠ .roundStarted then
    (if (g.step op).1.event = .roundStarted then ⟨(g.step op).1.openSize⟩ else gh)
  else
    match op with
    | .act _ a x => ⟨lastRaiseTurn r gh.lastRaise g.cw a x (g.step op).1.cw⟩
    | _ => gh

/-- run of operations with the record alongside -/
def Game.runL (r : RaiseRule) : Game → RGhost → List Op → Game × RGhost
  | g, gh, [] => (g, gh)
  | g, gh, op :: ops => Game.runL r (g.step op).1 (gh.step r g op) ops

/-- reachable state together with its record (the record starts at 0, as the monitor's) -/
def LReachable (r : RaiseRule) (g : Game) (gh : RGhost) : Prop :=
  ∃ (c : Config) (ops : List Op), WFConfig c ∧ (start c).2 = none ∧ (g, gh) = (start c).1.runL r ⟨0⟩ ops

/-- the two rules agree unless nothing is to match while the recorded size is positive -/
theorem turn_monitor_eq_i8 (L cw : Int) (a : Act) (x cw' : Int) (h0 : cw = 0 → L = 0) (hb : a = .bet → cw = 0)
    (hm : cw ≤ cw') : lastRaiseTurn .monitor L cw a x cw' = lastRaiseTurn .i8 L cw a x cw' := by
  simp only [lastRaiseTurn]
  by_cases ha : a = .bet
  · have hc := hb ha
    have hL := h0 hc
    subst ha
    have hn : ¬ asCall .bet x cw := by simp [asCall]
    simp only [if_true, hn, not_false_eq_true, true_and]
    split
    · rfl
    · omega
  · simp only [ha, if_false]
    by_cases hP : asCall a x cw
    · simp only [hP, not_true_eq_false, false_and, if_false]
    · -- with `L = 0` whenever nothing is to match, `cw = 0 ∨ d ≥ L` is `d ≥ L`
      simp only [hP, not_false_eq_true, true_and]
      by_cases hd : 0 < cw' - cw ∧ cw' - cw ≥ L
      · rw [if_pos ⟨hd.1, Or.inr hd.2⟩, if_pos hd]
      · have hd' : ¬ (0 < cw' - cw ∧ (cw = 0 ∨ cw' - cw ≥ L)) := by
          rintro ⟨h1, h2 | h2⟩
          · exact hd ⟨h1, by have := h0 h2; omega⟩
          · exact hd ⟨h1, h2⟩
        rw [if_neg hd', if_neg hd]

theorem seat_chip_facts {g : Game} (hi : Inv g) {i : Nat} {p : Player} (hp : g.players[i]? = some p)
    (he : g.event = .roundStarted) :
    p.stack = p.initial - p.wager ∧ 0 ≤ p.stack ∧ 0 ≤ p.wager ∧ p.wager ≤ g.cw ∧ 0 ≤ g.cw ∧ 0 ≤ g.prev := by
  have ok := hi.chips (by rw [he]; simp)
  have hpi := ok.pinv p (List.mem_of_getElem? hp)
  exact ⟨hpi.rebase, hpi.stack0, hpi.wager0, ok.wle p (List.mem_of_getElem? hp), ok.cw0, ok.prev0⟩

theorem turn_i8_allin {L cw ini : Int} {a : Act} {x : Int} (ha : a = .allin ∨ (a = .raise ∧ x ≠ cw)) (h0 : 0 ≤ L) :
    (if ini - cw ≥ L then ini - cw else L) =
      lastRaiseTurn .i8 L cw a x (if ini > cw then ini else cw) := by
  have hb : a ≠ .bet := by
    rcases ha with rfl | ⟨rfl, _⟩
    · simp
    · simp
  have hn : ¬ asCall a x cw := by
    rcases ha with rfl | ⟨rfl, h⟩
    · simp [asCall]
    · simp [asCall, h]
  simp only [lastRaiseTurn, hb, if_false, hn, not_false_eq_true, true_and]
  by_cases hgt : ini > cw
  · -- the all-in lifts the wager to match to the whole stack: it counts iff the lift reaches the record
    rw [if_pos hgt]
    by_cases hge : ini - cw ≥ L
    · rw [if_pos hge, if_pos ⟨by omega, hge⟩]
    · rw [if_neg hge, if_neg (fun h => hge h.2)]
  · -- an all-in for no more than the wager to match lifts nothing
    have hno : ¬ (0 < cw - cw ∧ cw - cw ≥ L) := fun h => by omega
    rw [if_neg hgt, if_neg hno]
    by_cases hge : ini - cw ≥ L
    · rw [if_pos hge]
      omega
    · rw [if_neg hge]

/-- an action other than a bet that lifts nothing leaves the record -/
theorem turn_i8_same {L cw : Int} {a : Act} (x : Int) (ha : a ≠ .bet) : L = lastRaiseTurn .i8 L cw a x cw := by
  simp only [lastRaiseTurn, ha, if_false]
  rw [if_neg fun h => by omega]

theorem turn_i8_raise {L cw x lvl r : Int} (hx : x ≠ cw) (hr : r = lvl - cw) (h0 : 0 < r) (hL : L ≤ r) :
    r = lastRaiseTurn .i8 L cw .raise x lvl := by
  have hn : ¬ asCall .raise x cw := by simp [asCall, hx]
  simp only [lastRaiseTurn, reduceCtorEq, if_false, hn, not_false_eq_true, true_and]
  rw [if_pos (by omega)]
  exact hr

/-- Every accepted action sets the recorded minimum raise to what the rule of reading I8 says, as a
    function of the old recorded value, the action, and the wager to match before and after. -/
theorem act_prev (g : Game) (hi : Inv g) (i : Nat) (a : Act) (x : Int) (hacc : (g.act i a x).2 = none) :
    (g.act i a x).1.prev = lastRaiseTurn .i8 g.prev g.cw a x (g.act i a x).1.cw := by
  obtain ⟨p, g1, hp, he, _, ok, e, nf⟩ := act_nf hi hacc
  obtain ⟨f1, f2, f3, f4, f5, f6⟩ := seat_chip_facts hi hp he
  rw [e, resume_prev, resume_cw]
  cases nf with
  | pass | check | fold => exact turn_i8_same _ nofun
  | call ha hl hw hin =>
    -- a call, also under the name of a raise to the wager to match, is no bet or raise
    have hb : a ≠ .bet := by
      rcases ha with rfl | ⟨rfl, _⟩
      · exact nofun
      · exact nofun
    rw [(markPay_effect hp _ _).2.2.2]
    simp [lastRaiseTurn, show asCall a x g.cw from ha, hb]
  | allin ha hl =>
    obtain ⟨_, hcw, _, hpv⟩ := markPay_effect hp (if p.initial - g.cw ≥ g.prev then p.initial - g.cw else g.prev) p.stack
    rw [hpv, hcw, if_pos (Int.le_refl _)]
    exact turn_i8_allin (ha.imp_right fun h => ⟨h.1, by omega⟩) f6
  | bet x hx hl hcw hw =>
    -- nothing was to match, the bettor had nothing in: the new wager to match is what was put in
    obtain ⟨e1, e2⟩ := doBet_prev_cw hp x
    have e1' : ((g.markPay i g.prev x).recordBet i).prev = (payF x p).wager := (resume_prev _).symm.trans e1
    have e2' := (resume_cw ((g.markPay i g.prev x).recordBet i)).symm.trans e2
    rw [e1', e2', hcw, payF_wager]
    simp only [lastRaiseTurn, if_true]
    split <;> split <;> omega
  | raise x r hcw hx1 hx2 hx3 hl hr =>
    -- a proper raise, capped or not, lifts the wager to match by exactly what it records, at least the old record
    obtain ⟨_, hcw', _, hpv⟩ := markPay_effect hp r (g.cw + r - p.wager)
    have hr0 : 0 < r ∧ g.prev ≤ r ∧ g.cw + r < p.initial := by
      rcases hr with ⟨rfl, _⟩ | ⟨rfl, _⟩ <;> omega
    rw [hpv, hcw', if_neg (by omega), if_pos (by omega)]
    exact turn_i8_raise (by omega) (by omega) hr0.1 hr0.2.1

/-- ties the recorded minimum raise to the ghost record `L`:
    in an open betting round it IS the record; while the hand waits for `ReadyForAll` it already holds the
    value the round will open with; from the flop on it never exceeds the wager to match -/
structure RaiseInv (g : Game) (L : Int) : Prop where
  started : g.event = .roundStarted → g.prev = L
  ready : g.event = .readyRequested → g.prev = g.openSize
  post : g.event = .roundStarted → g.round ≠ .preflop → g.prev ≤ g.cw

/-- Of the operations other than player actions only `ReadyForAll` on a dealt street opens a betting round, and it
    leaves the recorded value, the wager to match, the street and the options alone.  Read off the phase table: a
    state that waits for `ReadyForAll` with another recorded value than `openSize` is never landed on. -/
theorem tableOp_raise_record (g : Game) (hi : Inv g) (hf : Flow g) (hready : g.event = .readyRequested → g.prev = g.openSize)
    (op : Op) (hop : ∀ s a x, op ≠ .act s a x) (hacc : (g.step op).2 = none) :
    ((g.step op).1.event = .readyRequested → (g.step op).1.prev = (g.step op).1.openSize) ∧
    ((g.step op).1.event = .roundStarted →
      op = .ready ∧ g.event = .readyRequested ∧ (g.step op).1.prev = (g.step op).1.openSize ∧
      (g.step op).1.cw = g.cw ∧ (g.step op).1.round = g.round ∧ (g.step op).1.opts = g.opts) := by
  obtain ⟨haw, row, _⟩ := step_phase hi.struct hf op hop hacc
  -- `ReadyForAll` keeps the recorded value, `PayBlinds` records the big blind, `PayAnte` and `Next` sweep it (`swept_step`)
  have hpv : op = .ready → (g.step op).1.prev = if g.round = .preflop then g.opts.openBlind else 0 := by
    rintro rfl
    exact (wr_step g .ready).prev.trans (hready haw)
  unfold Game.openSize
  rw [(wr_step g op).opts]
  generalize (g.step op).1.event = e, (g.step op).1.round = r at row
  cases row with
  | ante | blinds | skip | close | allin => exact ⟨nofun, nofun⟩
  | noBlinds hop' hb =>
    -- a preflop round entered with nothing recorded waits for `ReadyForAll` only when there is no blind
    refine ⟨fun _ => ?_, nofun⟩
    rw [if_pos rfl, openBlind_of_noBlinds hb]
    rcases hop' with rfl | ⟨rfl, hrn, _⟩
    · exact (swept_step (.inl rfl) hacc).2.1
    · rw [hpv rfl, hrn, if_neg nofun]
  | payBlinds =>
    refine ⟨fun _ => ?_, nofun⟩
    rw [if_pos rfl, step_payBlinds haw]
    exact (blindsPaid_prev _).trans (congrArg Meta.openBlind (wr_foldl_payBlind g.seatsFromDealer g).opts)
  | street hrn =>
    refine ⟨fun _ => ?_, nofun⟩
    rw [if_neg (Round.succ_ne_preflop hrn)]
    exact (swept_step (.inr ⟨rfl, hrn⟩) hacc).2.1
  | opens => exact ⟨nofun, fun _ => ⟨rfl, haw, hpv rfl, (wr_step g .ready).cw, rfl, rfl⟩⟩

/-- The counterpart of `tableOp_raise_record` for an accepted action: the round was open and stays open or is closed; the recorded
    value follows the rule of I8; the street stays; the wager to match does not go down; a bet meets nothing to match. -/
theorem act_raise_record (g : Game) (hi : Inv g) (i : Nat) (a : Act) (x : Int) (hacc : (g.act i a x).2 = none) :
    g.event = .roundStarted ∧
    ((g.act i a x).1.event = .roundStarted ∨ (g.act i a x).1.event = .roundClosed) ∧
    (g.act i a x).1.prev = lastRaiseTurn .i8 g.prev g.cw a x (g.act i a x).1.cw ∧
    (g.act i a x).1.round = g.round ∧ g.cw ≤ (g.act i a x).1.cw ∧ 0 ≤ g.cw ∧ 0 ≤ g.prev ∧ (a = .bet → g.cw = 0) := by
  obtain ⟨_, _, _, he, _⟩ := act_turn g hi i a x hacc
  have ok := hi.chips (he ▸ nofun)
  refine ⟨he, ?_, act_prev g hi i a x hacc, (wr_act g i a x).round, act_cw_mono g i a x, ok.cw0, ok.prev0, fun ha => ?_⟩
  · exact act_event g hi i a x hacc
  · subst ha
    obtain ⟨_, _, _, _, hb⟩ := allows_spec hi (act_accepted_allows hacc)
    exact (avail_bet hb).2

theorem turn_i8_le (L cw : Int) (a : Act) (x cw' : Int) (h0 : 0 ≤ cw) (hm : cw ≤ cw') (h : L ≤ cw) :
    lastRaiseTurn .i8 L cw a x cw' ≤ cw' := by
  simp only [lastRaiseTurn]
  split
  · omega
  · split
    · omega
    · omega

theorem turn_i8_zero (L cw : Int) (a : Act) (x cw' : Int) (h0 : 0 ≤ cw) (hm : cw ≤ cw') (h : cw = 0 → L = 0)
    (hc : cw' = 0) : lastRaiseTurn .i8 L cw a x cw' = 0 := by
  have : cw = 0 := by omega
  have := h this
  simp only [lastRaiseTurn]
  split
  · omega
  · split
    · omega
    · omega

theorem rghost_step_refused {r : RaiseRule} {gh : RGhost} {g : Game} {op : Op} (h : (g.step op).2 ≠ none) :
    gh.step r g op = gh := by
  unfold RGhost.step
  rw [if_pos h]

theorem rghost_step_act {r : RaiseRule} {gh : RGhost} {g : Game} {s : Option Nat} {a : Act} {x : Int}
    (he : g.event = .roundStarted) (hacc : (g.step (.act s a x)).2 = none) :
    gh.step r g (.act s a x) = ⟨lastRaiseTurn r gh.lastRaise g.cw a x (g.step (.act s a x)).1.cw⟩ := by
  unfold RGhost.step
  rw [if_neg (by rw [hacc]; simp), if_neg (by rw [he]; simp)]

theorem rghost_step_open {r : RaiseRule} {gh : RGhost} {g : Game} {op : Op}
    (he : g.event ≠ .roundStarted) (hacc : (g.step op).2 = none) :
    gh.step r g op = if (g.step op).1.event = .roundStarted then ⟨(g.step op).1.openSize⟩ else gh := by
  unfold RGhost.step
  rw [if_neg (by rw [hacc]; simp), if_pos he]

theorem raiseInv_step (g : Game) (gh : RGhost) (hi : Inv g) (hf : Flow g) (h : RaiseInv g gh.lastRaise) (op : Op) :
    RaiseInv (g.step op).1 (gh.step .i8 g op).lastRaise := by
  induction op using step_split hi hf with
  | refused op hacc e =>
    rw [rghost_step_refused hacc, e]
    exact h
  | act s a x he hacc =>
    have ei := g.step_act s a x
    obtain ⟨_, hev, hprev, hround, hmono, hcw0, hprev0, _⟩ := act_raise_record g hi _ a x (ei ▸ hacc)
    rw [rghost_step_act he hacc, ei]
    refine ⟨fun _ => ?_, fun h' => ?_, fun _ hr => ?_⟩
    · rw [hprev, h.started he]
    · rcases hev with h1 | h1
      · rw [h1] at h'
        cases h'
      · rw [h1] at h'
        cases h'
    · rw [hprev]
      exact turn_i8_le _ _ _ _ _ hcw0 hmono (h.post he (by rw [← hround]; exact hr))
  | table op hop hne hacc =>
    obtain ⟨n1, n2⟩ := tableOp_raise_record g hi hf h.ready _ hop hacc
    rw [rghost_step_open hne hacc]
    refine ⟨fun he' => ?_, n1, fun he' hr => ?_⟩
    · rw [if_pos he']
      exact (n2 he').2.2.1
    · obtain ⟨_, _, e1, e2, _, _⟩ := n2 he'
      rw [e1, e2]
      unfold Game.openSize
      rw [if_neg hr]
      exact hi.chips0.cw0

/-- `Game.runL r` carries the record by `RGhost.step r`; `LReachable r g gh` unfolds to `RecRun.Reach (Game.runL r) _ g gh` -/
theorem runL_rec (r : RaiseRule) : RecRun (fun gh g op => gh.step r g op) (Game.runL r) :=
  ⟨fun _ _ => rfl, fun _ _ _ _ => rfl⟩

theorem raiseInv_start (c : Config) (hs : (start c).2 = none) (L : Int) : RaiseInv (start c).1 L := by
  obtain ⟨_, _, hst⟩ := start_ok c hs
  rw [hst]
  refine ⟨fun h => (by cases h), fun _ => ?_, fun h => (by cases h)⟩
  rfl

theorem lreachable_reachable {r : RaiseRule} {g : Game} {gh : RGhost} (h : LReachable r g gh) : Reachable g :=
  (runL_rec r).reachable h

theorem reachable_lreachable (r : RaiseRule) {g : Game} (h : Reachable g) : ∃ gh, LReachable r g gh :=
  (runL_rec r).of_reachable _ h

theorem lreachable_inv {g : Game} {gh : RGhost} (h : LReachable .i8 g gh) : RaiseInv g gh.lastRaise :=
  (runL_rec .i8).induct (P := fun g gh => RaiseInv g gh.lastRaise) (fun c _ hs => raiseInv_start c hs 0)
    (fun g gh hR hL op => raiseInv_step g gh (inv_reachable hR) (flow_reachable hR) hL op) h

theorem lreachable_step {r : RaiseRule} {g : Game} {gh : RGhost} (h : LReachable r g gh) (op : Op) :
    LReachable r (g.step op).1 (gh.step r g op) := (runL_rec r).step h op

/-! ## the rule `.monitor`

  It agrees with the rule of I8 along every history, except a hand whose preflop round is opened with nothing to
  match although the big blind is positive. -/

/-- the hand waits for `ReadyForAll` to open the preflop round with NOTHING to match although "the big blind" is
    positive: no seat owing a blind had a chip left after the ante, or no seat holds the position -/
def Game.deadBlind (g : Game) : Prop :=
  g.event = .readyRequested ∧ g.round = .preflop ∧ g.cw = 0 ∧ 0 < g.opts.openBlind

instance (g : Game) : Decidable g.deadBlind := by unfold Game.deadBlind; exact inferInstance

/-- the history `ops` from `g` never passes through such a state -/
def NoDeadBlind : Game → List Op → Prop
  | _, [] => True
  | g, op :: ops => ¬ g.deadBlind ∧ NoDeadBlind (g.step op).1 ops

def decNoDeadBlind : (ops : List Op) → (g : Game) → Decidable (NoDeadBlind g ops)
  | [], _ => isTrue trivial
  | op :: ops, g =>
    have := decNoDeadBlind ops (g.step op).1
    inferInstanceAs (Decidable (¬ g.deadBlind ∧ NoDeadBlind (g.step op).1 ops))

instance (g : Game) (ops : List Op) : Decidable (NoDeadBlind g ops) := decNoDeadBlind ops g

/-- in an open round with nothing to match the recorded minimum raise is 0 -/
def ZeroAtZero (g : Game) : Prop := g.event = .roundStarted → g.cw = 0 → g.prev = 0

theorem step_monitor_eq_i8 (g : Game) (gh : RGhost) (hi : Inv g) (hf : Flow g) (h : RaiseInv g gh.lastRaise)
    (hz : ZeroAtZero g) (op : Op) : gh.step .monitor g op = gh.step .i8 g op := by
  induction op using step_split hi hf with
  | refused op hacc _ =>
    rw [rghost_step_refused hacc, rghost_step_refused hacc]
  | act s a x he hacc =>
    have ei := g.step_act s a x
    obtain ⟨_, _, _, _, hmono, _, _, hb⟩ := act_raise_record g hi _ a x (ei ▸ hacc)
    rw [rghost_step_act he hacc, rghost_step_act he hacc, ei]
    have hL := h.started he
    rw [turn_monitor_eq_i8 _ _ _ _ _ (fun h0 => by rw [← hL]; exact hz he h0) hb hmono]
  | table op _ he hacc =>
    rw [rghost_step_open he hacc, rghost_step_open he hacc]

theorem zeroAtZero_step (g : Game) (hi : Inv g) (hf : Flow g) (hr : g.event = .readyRequested → g.prev = g.openSize)
    (hz : ZeroAtZero g) (hd : ¬ g.deadBlind) (op : Op) : ZeroAtZero (g.step op).1 := by
  induction op using step_split hi hf with
  | refused op _ e => exact e.symm ▸ hz
  | act s a x he hacc =>
    have ei := g.step_act s a x
    obtain ⟨_, _, hprev, _, hmono, hcw0, _, _⟩ := act_raise_record g hi _ a x (ei ▸ hacc)
    rw [ei]
    intro _ hc
    rw [hprev]
    exact turn_i8_zero _ _ _ _ _ hcw0 hmono (hz he) hc
  | table op hop _ hacc =>
    obtain ⟨_, n2⟩ := tableOp_raise_record g hi hf hr _ hop hacc
    intro he' hc
    obtain ⟨_, he, e1, e2, e3, e4⟩ := n2 he'
    rw [e1]
    unfold Game.openSize
    split
    · rename_i hpre
      rw [e4]
      have h0 := openBlind_nonneg hi.opts
      have : ¬ 0 < g.opts.openBlind := fun hpos => hd ⟨he, by rw [← e3]; exact hpre, by rw [← e2]; exact hc, hpos⟩
      omega
    · rfl

theorem monitor_eq_i8_runL : ∀ (ops : List Op) (g : Game) (gh : RGhost), Inv g → Flow g → RaiseInv g gh.lastRaise →
    ZeroAtZero g → NoDeadBlind g ops → g.runL .monitor gh ops = g.runL .i8 gh ops
  | [], _, _, _, _, _, _, _ => rfl
  | op :: ops, g, gh, hi, hf, h, hz, hnd => by
    show Game.runL .monitor (g.step op).1 (gh.step .monitor g op) ops = Game.runL .i8 (g.step op).1 (gh.step .i8 g op) ops
    rw [step_monitor_eq_i8 g gh hi hf h hz op]
    exact monitor_eq_i8_runL ops _ _ (inv_step g hi op) (flow_step g hi hf op) (raiseInv_step g gh hi hf h op)
      (zeroAtZero_step g hi hf h.ready hz hnd.1 op) hnd.2

theorem monitor_eq_i8_start (c : Config) (wf : WFConfig c) (hs : (start c).2 = none) (ops : List Op)
    (hnd : NoDeadBlind (start c).1 ops) : (start c).1.runL .monitor ⟨0⟩ ops = (start c).1.runL .i8 ⟨0⟩ ops := by
  refine monitor_eq_i8_runL ops _ ⟨0⟩ (inv_start c wf hs) (flow_start c hs) (raiseInv_start c hs 0) ?_ hnd
  intro he
  obtain ⟨_, _, hst⟩ := start_ok c hs
  rw [hst] at he
  cases he

/-- **The recorded minimum raise is the specification's "size of the previous bet or raise of the round (the big
    blind before any)".**  For every history from every accepted configuration, with the record `lastRaise` kept by
    the rule of reading I8 (every accepted `Bet` is a bet; a raise or all-in counts when it lifts the wager to match
    by at least the record; calls — including `Raise` to the wager to match and the completion to the big blind —
    never count; the record starts at the big blind preflop and at 0 on later streets): in every open betting round
    `Status.PreviousRaiseSize` equals the record. -/
theorem prev_is_last_raise {g : Game} {gh : RGhost} (h : LReachable .i8 g gh) (he : g.event = .roundStarted) :
    g.prev = gh.lastRaise := (lreachable_inv h).started he

/-- The same with the rule `.monitor`, for every history that never opens the preflop round on a dead
    blind (`NoDeadBlind`); without that hypothesis the statement is false (`C12.monitor_rule_counterexample`). -/
theorem prev_is_last_raise_monitor (c : Config) (wf : WFConfig c) (hs : (start c).2 = none) (ops : List Op)
    (hnd : NoDeadBlind (start c).1 ops) (he : ((start c).1.runL .monitor ⟨0⟩ ops).1.event = .roundStarted) :
    ((start c).1.runL .monitor ⟨0⟩ ops).1.prev = ((start c).1.runL .monitor ⟨0⟩ ops).2.lastRaise := by
  rw [monitor_eq_i8_start c wf hs ops hnd] at he ⊢
  exact prev_is_last_raise ⟨c, ops, wf, hs, rfl⟩ he

theorem prev_le_cw_of_reachable {g : Game} (h : Reachable g) (he : g.event = .roundStarted) (hr : g.round ≠ .preflop) :
    g.prev ≤ g.cw := by
  obtain ⟨gh, hG⟩ := reachable_lreachable .i8 h
  exact (lreachable_inv hG).post he hr

end Pokerface
