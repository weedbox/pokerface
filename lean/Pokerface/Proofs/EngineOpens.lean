import Pokerface.Proofs.Forced
import Pokerface.Proofs.FlowClose
import Pokerface.Proofs.FlowStatic
/-
  When does a betting round open?  Helpers for Properties/C05Opens.lean: no operation other than a player action changes
  a fold flag, so after the forced bets nobody has folded (`Folds`, `NoFold`); `ReadyForAll` on a dealt street with two
  players left opens the betting round when somebody can move and closes it at once otherwise (`ready_event_eq`); the
  streets dealt by `Next` without a betting round (`ClosedNoBet`); the cached dealer and who can move after the forced
  bets, read off the configuration.
-/
namespace Pokerface
open Game

structure Folds (g g' : Game) : Prop where
  fold : g'.players.map (·.fold) = g.players.map (·.fold)

theorem Folds.refl (g : Game) : Folds g g := ⟨rfl⟩
theorem Folds.trans {a b c : Game} (h1 : Folds a b) (h2 : Folds b c) : Folds a c := ⟨h2.fold.trans h1.fold⟩

theorem Wr.folds {W : Fp} {g g' : Game} (h : Wr W g g') (hW : W.fold = false := by rfl) : Folds g g' :=
  ⟨h.map (·.fold) fun p => by simp only [Player.erase, hW, cond_false]⟩

def NoFold (g : Game) : Prop := ∀ p ∈ g.players, p.fold = false

theorem Folds.noFold {g g' : Game} (h : Folds g g') (hn : NoFold g) : NoFold g' := by
  intro p hp
  obtain ⟨q, hq, e⟩ := mem_of_map_eq h.fold hp
  rw [← e]
  exact hn q hq

theorem NoFold.alive {g : Game} (h : NoFold g) : g.aliveCount = g.n := by
  unfold Game.aliveCount Game.n
  rw [List.filter_eq_self.mpr]
  intro p hp
  simp [h p hp]

theorem folds_step_table (g : Game) (op : Op) (hop : ∀ seat a x, op ≠ .act seat a x) : Folds g (g.step op).1 := by
  cases op with
  | act s a x => exact absurd rfl (hop s a x)
  | _ => exact (wr_step g _).folds

theorem folds_run_table : ∀ (ops : List Op) (g : Game), (∀ op ∈ ops, ∀ seat a x, op ≠ .act seat a x) → Folds g (g.run ops)
  | [], g, _ => Folds.refl g
  | op :: ops, g, h =>
    (folds_step_table g op (h op (by simp))).trans (folds_run_table ops _ (fun o ho => h o (by simp [ho])))

theorem noFold_config (c : Config) : ∀ p ∈ c.players, p.fold = false := by
  intro p hp
  obtain ⟨i, hi⟩ := List.getElem?_of_mem hp
  rw [config_players_getElem?] at hi
  obtain ⟨s, _, rfl⟩ := Option.map_eq_some_iff.1 hi
  rfl

theorem noFold_start (c : Config) (hs : (start c).2 = none) : NoFold (start c).1 :=
  (wr_start c hs).folds.noFold (noFold_config c)

theorem forcedOps_table (m : Meta) : ∀ op ∈ forcedOps m, ∀ seat a x, op ≠ .act seat a x := by
  intro op hop seat a x e
  subst e
  rcases List.mem_cons.mp hop with h | h
  · cases h
  · rcases List.mem_append.mp h with h | h
    · split at h
      · cases List.mem_singleton.mp h
      · cases h
    · split at h
      · cases h
      · cases List.mem_singleton.mp h

theorem noFold_afterForcedBets (c : Config) (hs : (start c).2 = none) : NoFold (afterForcedBets c) := by
  rw [afterForcedBets_eq_run]
  exact (folds_run_table _ _ (forcedOps_table c.opts)).noFold (noFold_start c hs)

theorem movable_le_alive (g : Game) : g.movableCount ≤ g.aliveCount := by
  unfold Game.movableCount Game.aliveCount
  have : (fun p : Player => !(p.fold || p.stack == 0)) = fun p => (!(p.stack == 0)) && (!p.fold) := by
    funext p; cases p.fold <;> simp
  rw [this, ← List.filter_filter]
  exact List.length_filter_le _ _

theorem startRound'_preflop_closed (g : Game) (hr : g.round = .preflop) (hm : g.movableCount = 0) :
    g.startRound' = g.roundClosed := by
  unfold Game.startRound'
  rw [if_pos hr, if_pos hm]

theorem ready_event_eq (g : Game) (hs : Struct g) (he : g.event = .readyRequested) (hrn : g.round ≠ .none)
    (h1 : g.aliveCount ≠ 1) :
    (g.step .ready).1.event = if g.movableCount = 0 then .roundClosed else .roundStarted := by
  obtain ⟨row, _⟩ := ready_phase hs he
  generalize (g.step .ready).1.event = e, (g.step .ready).1.round = r at row
  cases row with
  | ante h => exact absurd h hrn
  | blinds h | noBlinds h => exact h.elim nofun fun h => absurd h.2.1 hrn
  | skip _ hc => rw [if_pos (hc.resolve_left h1)]
  | opens _ hc => rw [if_neg fun h => hc (.inr h)]

theorem ready_opens_iff (g : Game) (hs : Struct g) (he : g.event = .readyRequested) (hrn : g.round ≠ .none)
    (h1 : g.aliveCount ≠ 1) : (g.step .ready).1.event = .roundStarted ↔ g.movableCount ≠ 0 := by
  rw [ready_event_eq g hs he hrn h1]
  split
  · simp [*]
  · simp [*]

theorem ready_accepted (g : Game) (he : g.event = .readyRequested) : (g.step .ready).2 = none := by
  rw [step_ready he]

theorem next_river (g : Game) (he : g.event = .roundClosed) (hr : g.round = .river) :
    (g.step .next).2 = none ∧ (g.step .next).1.event = .gameClosed ∧ (g.step .next).1.aliveCount = g.aliveCount := by
  have hrn : g.round ≠ .none := by
    rw [hr]
    exact nofun
  refine ⟨by rw [step_next he hrn], ?_, (wr_step g .next).mov.alive⟩
  obtain ⟨row, _⟩ := next_phase he hrn
  generalize (g.step .next).1.event = e, (g.step .next).1.round = r at row
  cases row with
  | blinds hop | noBlinds hop => exact hop.elim nofun fun h => nomatch h.1
  | close => rfl
  | street _ hc | allin _ hc => exact absurd (.inr hr) hc

structure ClosedNoBet (g : Game) : Prop where
  ev : g.event = .roundClosed
  alive : 2 ≤ g.aliveCount
  mov : g.movableCount ≤ 1

theorem round_of_idx (r : Round) :
    (r.idx = 1 → r = .preflop) ∧ (r.idx = 2 → r = .flop) ∧ (r.idx = 3 → r = .turn) ∧ (r.idx = 4 → r = .river) := by
  cases r <;> simp [Round.idx]

theorem round_before_river {r : Round} (h1 : 1 ≤ r.idx) (h4 : r.idx < 4) : r = .preflop ∨ r = .flop ∨ r = .turn := by
  cases r <;> simp [Round.idx] at h1 h4 ⊢

theorem run_snoc (g : Game) (ops : List Op) (op : Op) : g.run (ops ++ [op]) = ((g.run ops).step op).1 := by
  rw [run_append]
  rfl

theorem closedNoBet_nexts (g : Game) (h : ClosedNoBet g) (h1 : 1 ≤ g.round.idx) : ∀ k, g.round.idx + k ≤ 4 →
    ClosedNoBet (g.run (List.replicate k .next)) ∧ (g.run (List.replicate k .next)).round.idx = g.round.idx + k ∧
    (g.run (List.replicate k .next)).aliveCount = g.aliveCount ∧
    ∀ j < k, ((g.run (List.replicate j .next)).step .next).2 = none
  | 0, _ => ⟨h, rfl, rfl, fun _ hj => absurd hj (Nat.not_lt_zero _)⟩
  | k + 1, hk => by
    obtain ⟨c, r, l, a⟩ := closedNoBet_nexts g h h1 k (by omega)
    rw [List.replicate_succ', run_snoc]
    obtain ⟨a', r', hc, _, hm, hl⟩ := next_street _ c.ev (by have := c.alive; omega)
      (round_before_river (by omega) (by omega))
    refine ⟨⟨hc c.mov, by rw [hl]; exact c.alive, by rw [hm]; exact c.mov⟩, by rw [r', r]; rfl, by rw [hl, l],
      fun j hj => ?_⟩
    by_cases e : j = k
    · rw [e]
      exact a'
    · exact a j (by omega)

theorem config_dealerIdx? (c : Config) :
    ({ opts := c.opts, players := c.players } : Game).dealerIdx? =
      (c.seats.zipIdx.reverse.find? (fun x => x.1.dealer)).map (·.2) := by
  unfold Game.dealerIdx? Config.players
  rw [← List.map_reverse, List.find?_map]
  simp [Function.comp_def, Option.map_map]

theorem dealerIdx_of_config (c : Config) (hs : (start c).2 = none) (ops : List Op) :
    ((start c).1.run ops).dealerIdx = ((c.seats.zipIdx.reverse.find? (fun x => x.1.dealer)).map (·.2)).getD 0 := by
  have h1 := static_of_config c hs ops
  have h2 : ((start c).1.run ops).dealerIdx? = ({ opts := c.opts, players := c.players } : Game).dealerIdx? :=
    dealerIdx?_congr_static (g := { opts := c.opts, players := c.players }) h1
  unfold Game.dealerIdx
  rw [h2, config_dealerIdx?]

theorem movableCount_of_pointwise {α : Type} (g : Game) (l : List α) (P : α → Bool)
    (hlen : g.players.length = l.length)
    (h : ∀ (j : Nat) (q : Player) (a : α), g.players[j]? = some q → l[j]? = some a → (!(q.fold || q.stack == 0)) = P a) :
    g.movableCount = (l.filter P).length := by
  have hm : g.players.map (fun p => !(p.fold || p.stack == 0)) = l.map P := by
    apply List.ext_getElem (by simp [hlen])
    intro j h1 h2
    simp only [List.getElem_map]
    exact h j _ _ (List.getElem?_eq_getElem _) (List.getElem?_eq_getElem _)
  unfold Game.movableCount
  rw [← List.countP_eq_length_filter, ← List.countP_eq_length_filter]
  exact (List.countP_map (p := id)).symm.trans ((congrArg (List.countP id) hm).trans List.countP_map)

/-- what is left of a bankroll `b` after an ante `a` and a blind `x`, each capped at what is there -/
theorem rest_pos_iff {a x b : Int} (hx : 0 ≤ x) :
    0 ≤ b - min a b - min (b - min a b) x ∧ (0 < b - min a b - min (b - min a b) x ↔ a + x < b) := by
  omega

theorem forced_seat_movable (c : Config) (wf : WFConfig c) (hs : (start c).2 = none) {j : Nat} {q : Player}
    (hq : (afterForcedBets c).players[j]? = some q) :
    ∃ s, c.seats[j]? = some s ∧ q.posDealer = s.dealer ∧ q.posSB = s.sb ∧ q.posBB = s.bb ∧ q.fold = false ∧
      0 ≤ q.stack ∧ (0 < q.stack ↔ c.opts.ante + blindOf c.opts q < s.bankroll) := by
  obtain ⟨s, h1, _, h3, h4, h5, _, h7, h8, h9, _⟩ := forced_seat c wf hs hq
  have hf := noFold_afterForcedBets c hs q (List.mem_of_getElem? hq)
  have hb := blindOf_nonneg wf.opts q
  rw [h9, h8, h7]
  exact ⟨s, h1, h3, h4, h5, hf, (rest_pos_iff hb).1, (rest_pos_iff hb).2⟩

end Pokerface
