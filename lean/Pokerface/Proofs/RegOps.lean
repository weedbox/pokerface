/-
  Operation-level specifications of the regulator: `AddPlayers`, `SetStatus`, `ReleasePlayers`.

  Two layers of hypotheses, each proved once: well-formedness `WF0` alone (`*_spec0`: what the
  operation does, read off `OpExt`; the count identity of the system invariants follows from
  `OpExt.cnt0`), and the capacity bound, `Q` and "no table while pending" `FInv` (`*_specF`, needs
  the status to move forward only).  The suffixes are explained in the header of Proofs/RegDrain.lean.

  The three operations are a prelude (`beginOp`, `addBase` + `updateTableRequirements`,
  `statusBase`) followed by `enterWaitingQueue` or `drainWaitingQueue`, so every fact is stated once
  for `enterWaitingQueue` (`enterWaitingQueue_spec0` in RegDrain, here `_specF`, `_pending_calls`,
  `_initial`, `_noop`; `_total` in RegTotal) and the lemma about an operation is that one after its prelude.
-/
import Pokerface.Proofs.RegSync

namespace Pokerface
namespace Reg

/-- quiescent invariant of the regulator on the widest domain -/
structure RInv0 (r : Reg) : Prop where
  wf : WF0 r
  cnt : r.playerCount = r.queue.length + sumCount r.tables

/-- regulator invariant between operations, forward-only domain, no count identity -/
structure FInv (r : Reg) : Prop where
  wf : WF r
  q : Q r
  pend : r.status = .pending → r.tables = []

/-- quiescent invariant of the regulator (between operations) -/
structure RInv (r : Reg) : Prop where
  wf : WF r
  q : Q r
  cnt : r.playerCount = r.queue.length + sumCount r.tables
  pend : r.status = .pending → r.tables = []

theorem RInv0.pc_nonneg {r : Reg} (h : RInv0 r) : 0 ≤ r.playerCount := by
  have := h.wf.sumCount_nonneg
  rw [h.cnt]
  omega

theorem RInv.toRInv0 {r : Reg} (h : RInv r) : RInv0 r := ⟨h.wf.toWF0, h.cnt⟩

theorem RInv.pc_nonneg {r : Reg} (h : RInv r) : 0 ≤ r.playerCount := h.toRInv0.pc_nonneg

theorem RInv.toFInv {r : Reg} (h : RInv r) : FInv r := ⟨h.wf, h.q, h.pend⟩

theorem RInv0.toRInv {r : Reg} (h : RInv0 r) (hf : FInv r) : RInv r := ⟨hf.wf, hf.q, h.cnt, hf.pend⟩

theorem FInv.beginOp {r : Reg} (h : FInv r) (ch : List Nat) : FInv (r.beginOp ch) :=
  ⟨h.wf.beginOp ch, h.q, h.pend⟩

theorem FInv.init (max min : Nat) (h1 : 1 ≤ max) : FInv ({ max := max, min := min } : Reg) :=
  ⟨⟨h1, rfl, List.nodup_nil, (fun _ h => by cases h), (fun _ h => by cases h)⟩,
    (fun _ _ h => by cases h), fun _ => rfl⟩

theorem setReq_nil (wl : Int) : setReq wl [] = [] := rfl

/-! ### the branches of `AddPlayers` and `SetStatus` -/

/-- the regulator when `AddPlayers` has counted the registrants -/
def addBase (r : Reg) (ps ch : List Nat) : Reg :=
  { r.beginOp ch with playerCount := (r.beginOp ch).playerCount + ps.length }

/-- the regulator when `SetStatus` has set the status -/
def statusBase (r : Reg) (st : RStatus) (ch : List Nat) : Reg := { r.beginOp ch with status := st }

theorem addPlayers_refused (r : Reg) (ps ch : List Nat) (hs : r.status = .afterRegDeadline) :
    r.addPlayers ps ch = (r.beginOp ch, some .afterRegDeadline) := by
  unfold addPlayers
  exact if_pos hs

theorem addPlayers_accepted (r : Reg) (ps ch : List Nat) (hs : r.status ≠ .afterRegDeadline) :
    r.addPlayers ps ch = ((addBase r ps ch).updateTableRequirements.enterWaitingQueue ps, none) := by
  unfold addPlayers
  exact if_neg hs

theorem setStatus_same (r : Reg) (st : RStatus) (ch : List Nat) (hs : r.status = st) :
    r.setStatus st ch = r.beginOp ch := by
  unfold setStatus
  exact if_pos hs

/-- the competition starts: the queue is drained -/
theorem setStatus_start (r : Reg) (st : RStatus) (ch : List Nat) (hne : r.status ≠ st)
    (h : r.status = .pending ∧ st = .normal) :
    r.setStatus st ch = (statusBase r st ch).drainWaitingQueue := by
  unfold setStatus
  exact (if_neg hne).trans (if_pos h)

theorem setStatus_other (r : Reg) (st : RStatus) (ch : List Nat) (hne : r.status ≠ st)
    (h : ¬ (r.status = .pending ∧ st = .normal)) : r.setStatus st ch = statusBase r st ch := by
  unfold setStatus
  exact (if_neg hne).trans (if_neg h)

theorem WF0.addBase {r : Reg} (h : WF0 r) (ps ch : List Nat) : WF0 (addBase r ps ch) :=
  ⟨h.tc, h.nodup, h.idlt, h.nn⟩

theorem WF.addBase {r : Reg} (h : WF r) (ps ch : List Nat) : WF (addBase r ps ch) :=
  ⟨h.maxpos, h.tc, h.nodup, h.idlt, h.bnd⟩

theorem WF0.statusBase {r : Reg} (h : WF0 r) (st : RStatus) (ch : List Nat) : WF0 (statusBase r st ch) :=
  ⟨h.tc, h.nodup, h.idlt, h.nn⟩

theorem WF.statusBase {r : Reg} (h : WF r) (st : RStatus) (ch : List Nat) : WF (statusBase r st ch) :=
  ⟨h.maxpos, h.tc, h.nodup, h.idlt, h.bnd⟩

theorem OpExt.nop {r r' : Reg} (hmax : r'.max = r.max) (hmin : r'.min = r.min) (hq : r'.queue = r.queue)
    (ht : r'.tables = r.tables) (hc : r'.calls = []) (hn : r'.nextId = r.nextId) : OpExt r r' [] := by
  refine ⟨hmax, hmin, ?_, ?_, ?_, ?_, ?_, Nat.le_of_eq hn.symm⟩
  · rw [hc, hq, List.append_nil]
    rfl
  · rw [hc, ht]
    rfl
  · rw [hc]
    trivial
  · rw [hc]
    exact fun _ _ h => nomatch h
  · rw [hc]
    exact fun _ _ h => nomatch h

theorem updateTableRequirements_tables_nil (r : Reg) (h : r.tables = []) :
    r.updateTableRequirements.tables = [] := by
  have := (updateTableRequirements_frame r).2.2.2.2.2
  rw [h] at this
  exact List.map_eq_nil_iff.1 this

/-! ### well-formedness alone -/

theorem addPlayers_spec0 (r : Reg) (ps ch : List Nat) (hwf : WF0 r) (hs : r.status ≠ .afterRegDeadline)
    (hb : (r.addPlayers ps ch).1.badChoice = false) :
    (r.addPlayers ps ch).2 = none ∧ WF0 (r.addPlayers ps ch).1 ∧ OpExt r (r.addPlayers ps ch).1 ps ∧
    (r.addPlayers ps ch).1.status = r.status ∧
    (r.addPlayers ps ch).1.playerCount = r.playerCount + ps.length := by
  rw [addPlayers_accepted r ps ch hs] at hb ⊢
  obtain ⟨hwf2, hext2, hq2, _⟩ :=
    updateTableRequirements_spec0 (addBase r ps ch) (hwf.addBase ps ch) ((addBase r ps ch).queue ++ ps)
  obtain ⟨hwf3, hext3, _⟩ := enterWaitingQueue_spec0 _ ps hwf2 hb
  have hext := hext2.trans (hq2 ▸ hext3)
  exact ⟨rfl, hwf3, OpExt.of_ext (r := addBase r ps ch) rfl rfl rfl rfl rfl rfl hext, hext.status_eq, hext.pc_eq⟩

theorem setStatus_spec0 (r : Reg) (st : RStatus) (ch : List Nat) (hwf : WF0 r)
    (hb : (r.setStatus st ch).badChoice = false) :
    WF0 (r.setStatus st ch) ∧ OpExt r (r.setStatus st ch) [] ∧ (r.setStatus st ch).status = st ∧
    (r.setStatus st ch).playerCount = r.playerCount := by
  by_cases hsame : r.status = st
  · rw [setStatus_same r st ch hsame]
    exact ⟨hwf.beginOp ch, OpExt.nop rfl rfl rfl rfl rfl rfl, hsame, rfl⟩
  · by_cases hd : r.status = .pending ∧ st = .normal
    · rw [setStatus_start r st ch hsame hd] at hb ⊢
      obtain ⟨h1, h2, _⟩ := drainWaitingQueue_spec0 _ (hwf.statusBase st ch) hb
      exact ⟨h1, OpExt.of_ext (r := statusBase r st ch) rfl rfl rfl rfl rfl rfl (by rw [List.append_nil]; exact h2),
        h2.status_eq, h2.pc_eq⟩
    · rw [setStatus_other r st ch hsame hd]
      exact ⟨hwf.statusBase st ch, OpExt.nop rfl rfl rfl rfl rfl rfl, rfl, rfl⟩

theorem releasePlayers_spec0 (r1 : Reg) (rel ch : List Nat) (hwf : WF0 r1)
    (hb : (r1.releasePlayers rel ch).badChoice = false) :
    WF0 (r1.releasePlayers rel ch) ∧ OpExt r1 (r1.releasePlayers rel ch) rel ∧
    (r1.releasePlayers rel ch).status = r1.status ∧
    (r1.releasePlayers rel ch).playerCount = r1.playerCount := by
  unfold releasePlayers at hb ⊢
  obtain ⟨h1, h2, _⟩ := enterWaitingQueue_spec0 (r1.beginOp ch) rel (hwf.beginOp ch) hb
  exact ⟨h1, OpExt.of_ext (r := r1.beginOp ch) rfl rfl rfl rfl rfl rfl h2, h2.status_eq, h2.pc_eq⟩

/-! ### the capacity bound, `Q`, no table while pending -/

/-- feeding the queue of a state that is well-formed and has no table while pending -/
theorem enterWaitingQueue_specF (r : Reg) (ps : List Nat) (hwf : WF r)
    (hpend : r.status = .pending → r.tables = [])
    (hb : (r.enterWaitingQueue ps).badChoice = false) : FInv (r.enterWaitingQueue ps) := by
  obtain ⟨h1, h2, h3, h4⟩ := enterWaitingQueue_spec r ps hwf hb
  refine ⟨h1, ?_, ?_⟩
  · by_cases hp : r.status = .pending
    · intro _ t ht
      rw [(h4 hp).1, hpend hp] at ht
      cases ht
    · exact h3 hp
  · intro hp
    rw [h2.status_eq] at hp
    rw [(h4 hp).1]
    exact hpend hp

theorem addPlayers_specF (r : Reg) (ps ch : List Nat) (h : FInv r)
    (hb : (r.addPlayers ps ch).1.badChoice = false) : FInv (r.addPlayers ps ch).1 := by
  by_cases hs : r.status = .afterRegDeadline
  · rw [addPlayers_refused r ps ch hs]
    exact h.beginOp ch
  · rw [addPlayers_accepted r ps ch hs] at hb ⊢
    obtain ⟨hwf2, hext2, _⟩ := updateTableRequirements_spec (addBase r ps ch) (h.wf.addBase ps ch) []
    exact enterWaitingQueue_specF _ ps hwf2
      (fun hp => updateTableRequirements_tables_nil _ (h.pend (hext2.status_eq.symm.trans hp))) hb

theorem setStatus_specF (r : Reg) (st : RStatus) (ch : List Nat) (h : FInv r)
    (hdom : st ≠ .pending ∨ r.status = .pending)
    (hb : (r.setStatus st ch).badChoice = false) : FInv (r.setStatus st ch) := by
  by_cases hsame : r.status = st
  · rw [setStatus_same r st ch hsame]
    exact h.beginOp ch
  · have hstp : st ≠ .pending := by
      rcases hdom with h1 | h1
      · exact h1
      · exact fun h2 => hsame (h1.trans h2.symm)
    by_cases hd : r.status = .pending ∧ st = .normal
    · rw [setStatus_start r st ch hsame hd] at hb ⊢
      obtain ⟨h1, h2, h3⟩ := drainWaitingQueue_spec _ (h.wf.statusBase st ch) hb
      exact ⟨h1, h3, fun hp => absurd (h2.status_eq.symm.trans hp) hstp⟩
    · rw [setStatus_other r st ch hsame hd]
      exact ⟨h.wf.statusBase st ch, h.q, fun hp => absurd hp hstp⟩

theorem releasePlayers_specF (r : Reg) (ps ch : List Nat) (h : FInv r)
    (hb : (r.releasePlayers ps ch).badChoice = false) : FInv (r.releasePlayers ps ch) :=
  enterWaitingQueue_specF (r.beginOp ch) ps (h.wf.beginOp ch) h.pend hb

/-! ### while pending nothing is called -/

theorem enterWaitingQueue_pending_calls (r : Reg) (ps : List Nat) (h : r.status = .pending) :
    (r.enterWaitingQueue ps).calls = r.calls := by
  rw [enterWaitingQueue_pending r ps h]

theorem addPlayers_pending_calls (r : Reg) (ps ch : List Nat) (h : r.status = .pending) :
    (r.addPlayers ps ch).1.calls = [] := by
  have hs : (addBase r ps ch).updateTableRequirements.status = .pending :=
    (updateTableRequirements_same _).2.2.2.1.trans h
  rw [addPlayers_accepted r ps ch (by rw [h]; decide), enterWaitingQueue_pending_calls _ _ hs,
    (updateTableRequirements_frame _).2.2.1]
  rfl

theorem setStatus_to_pending_calls (r : Reg) (ch : List Nat) : (r.setStatus .pending ch).calls = [] := by
  unfold setStatus
  simp only
  split
  · rfl
  · have hne : ¬ ((r.beginOp ch).status = .pending ∧ RStatus.pending = .normal) :=
      fun h => absurd h.2 (by decide)
    rw [if_neg hne]
    rfl

theorem releasePlayers_pending_calls (r : Reg) (ps ch : List Nat) (h : r.status = .pending) :
    (r.releasePlayers ps ch).calls = [] := by
  unfold releasePlayers
  rw [enterWaitingQueue_pending_calls _ _ (show (r.beginOp ch).status = .pending from h)]
  rfl

/-! ### the initial allocation -/

theorem releasePlayers_nil (r : Reg) (ch : List Nat) (hq : r.queue = []) :
    r.releasePlayers [] ch = r.beginOp ch := by
  have hq' : (r.beginOp ch).queue = [] := hq
  have e : ({ r.beginOp ch with queue := (r.beginOp ch).queue ++ [] } : Reg) = r.beginOp ch := by
    rw [List.append_nil]
  by_cases hp : (r.beginOp ch).status = .pending
  · rw [releasePlayers, enterWaitingQueue_pending _ _ hp, e]
  · rw [releasePlayers, enterWaitingQueue_running _ _ hp, e]
    exact drainWaitingQueue_nil _ hq'

theorem drain_noop (r : Reg) (h0 : r.tableCount = 0) (hlt : r.playerCount < r.min) :
    r.drainWaitingQueue = r := by
  rw [drainWaitingQueue_eq]
  split
  · unfold allocateTables
    simp only [h0, if_true, hlt]
  · rw [if_neg (by omega)]

/-- every table `allocateLoop` opens gets at least `min` players, as soon as `min ≤ max` and the
    queue holds `min` players when it opens the first one: the later iterations recompute the water
    level from the queue -/
theorem allocateLoop_min (fuel : Nat) : ∀ (wl reqT : Int) (r : Reg),
    (r.tableCount < reqT → (r.min : Int) ≤ wl → r.min ≤ r.max ∧ r.min ≤ r.queue.length) →
    ∃ cs, (allocateLoop fuel wl reqT r).calls = r.calls ++ cs ∧
      ∀ id ps, RCall.requestTable id ps ∈ cs → r.min ≤ ps.length := by
  induction fuel with
  | zero =>
    intro wl reqT r _
    exact ⟨[], (List.append_nil _).symm, fun _ _ h => nomatch h⟩
  | succ n ih =>
    intro wl reqT r hq
    rw [allocateLoop_succ]
    split
    · rename_i hcond
      obtain ⟨hmm, hminq⟩ := hq hcond.2 hcond.1
      have hb := pullCount_bounds r wl
      have hcap : (r.min : Int) ≤ r.capWl wl := capWl_ge r wl _ hcond.1 (by omega)
      split
      · exact ⟨[], (List.append_nil _).symm, fun _ _ h => nomatch h⟩
      · have hlen : r.min ≤ (r.queue.take (r.pullCount wl).toNat).length := by
          rw [List.length_take]
          omega
        simp only
        split
        · refine ⟨[RCall.requestTable r.nextId (r.queue.take (r.pullCount wl).toNat)], rfl, ?_⟩
          intro id ps hm
          simp only [List.mem_cons, List.not_mem_nil, or_false, RCall.requestTable.injEq] at hm
          rw [hm.2]
          exact hlen
        · have h1 := Int.ediv_le_self (a := ((r.openTable (r.capWl wl) (r.pullCount wl).toNat).queue.length : Int))
            (reqT - (r.openTable (r.capWl wl) (r.pullCount wl).toNat).tableCount) (by omega)
          obtain ⟨cs, hc1, hc2⟩ := ih _ reqT (r.openTable (r.capWl wl) (r.pullCount wl).toNat)
            (fun _ hle => ⟨hmm, Int.ofNat_le.1 (Int.le_trans hle h1)⟩)
          refine ⟨RCall.requestTable r.nextId (r.queue.take (r.pullCount wl).toNat) :: cs, ?_, ?_⟩
          · rw [hc1]
            exact List.append_assoc ..
          · intro id ps hm
            rcases List.mem_cons.1 hm with h | h
            · simp only [RCall.requestTable.injEq] at h
              rw [h.2]
              exact hlen
            · exact hc2 id ps h
    · exact ⟨[], (List.append_nil _).symm, fun _ _ h => nomatch h⟩

/-- `allocateTables` starts from a water level of at most `max`, so when that reaches `min` at all,
    `min ≤ max` -/
theorem allocateTables_min (r : Reg) (hmax : 0 < r.max) (hq : r.min ≤ r.queue.length) :
    ∃ cs, r.allocateTables.calls = r.calls ++ cs ∧
      ∀ id ps, RCall.requestTable id ps ∈ cs → r.min ≤ ps.length := by
  rcases allocateTables_cases r with h | ⟨fuel, wl, reqT, hb, h⟩
  · rw [h]
    exact ⟨[], (List.append_nil _).symm, fun _ _ h => nomatch h⟩
  · rw [h]
    exact allocateLoop_min fuel wl reqT r fun _ hle => ⟨Int.ofNat_le.1 (Int.le_trans hle (hb hmax).2), hq⟩

theorem drain_min (r : Reg) (hmax : 0 < r.max) (h0 : r.tableCount = 0) :
    ∃ cs, r.drainWaitingQueue.calls = r.calls ++ cs ∧
      ∀ id ps, RCall.requestTable id ps ∈ cs → r.min ≤ ps.length := by
  rw [drainWaitingQueue_eq]
  split
  · rename_i h
    exact allocateTables_min r hmax (by omega)
  · rw [if_neg (by omega)]
    exact ⟨[], by simp, by simp⟩

theorem enterWaitingQueue_initial (r : Reg) (ps : List Nat) (hmax : 0 < r.max) (h0 : r.tableCount = 0)
    (hc : r.calls = []) :
    ∀ id qs, RCall.requestTable id qs ∈ (r.enterWaitingQueue ps).calls → r.min ≤ qs.length := by
  intro id qs hm
  by_cases hp : r.status = .pending
  · rw [enterWaitingQueue_pending r ps hp, show ({ r with queue := r.queue ++ ps } : Reg).calls = [] from hc] at hm
    cases hm
  · obtain ⟨cs, e1, e2⟩ := drain_min ({ r with queue := r.queue ++ ps } : Reg) hmax h0
    rw [enterWaitingQueue_running r ps hp, e1,
      show ({ r with queue := r.queue ++ ps } : Reg).calls = [] from hc, List.nil_append] at hm
    exact e2 id qs hm

theorem addPlayers_initial (r : Reg) (ps ch : List Nat) (hmax : 0 < r.max) (h0 : r.tableCount = 0) :
    ∀ id qs, RCall.requestTable id qs ∈ (r.addPlayers ps ch).1.calls → r.min ≤ qs.length := by
  by_cases hs : r.status = .afterRegDeadline
  · rw [addPlayers_refused r ps ch hs]
    exact fun _ _ hm => nomatch hm
  · rw [addPlayers_accepted r ps ch hs]
    obtain ⟨_, _, hc2, _, htc2, _⟩ := updateTableRequirements_frame (addBase r ps ch)
    obtain ⟨hmax2, hmin2, _⟩ := updateTableRequirements_same (addBase r ps ch)
    have := enterWaitingQueue_initial _ ps (hmax2 ▸ hmax) (htc2.trans h0) hc2
    rw [hmin2] at this
    exact this

theorem setStatus_initial (r : Reg) (st : RStatus) (ch : List Nat) (hmax : 0 < r.max) (h0 : r.tableCount = 0) :
    ∀ id qs, RCall.requestTable id qs ∈ (r.setStatus st ch).calls → r.min ≤ qs.length := by
  by_cases hsame : r.status = st
  · rw [setStatus_same r st ch hsame]
    exact fun _ _ hm => nomatch hm
  · by_cases hd : r.status = .pending ∧ st = .normal
    · rw [setStatus_start r st ch hsame hd]
      obtain ⟨cs, e1, e2⟩ := drain_min (statusBase r st ch) hmax h0
      intro id qs hm
      rw [e1] at hm
      exact e2 id qs hm
    · rw [setStatus_other r st ch hsame hd]
      exact fun _ _ hm => nomatch hm

/-- tables opened by `ReleasePlayers` when no table exists (the last one was broken, its players
    come back — possibly in parts) get at least `min` players -/
theorem releasePlayers_initial (r1 : Reg) (rel ch : List Nat) (hmax : 0 < r1.max) (h0 : r1.tableCount = 0) :
    ∀ id qs, RCall.requestTable id qs ∈ (r1.releasePlayers rel ch).calls → r1.min ≤ qs.length :=
  enterWaitingQueue_initial (r1.beginOp ch) rel hmax h0 rfl

/-! ### no table before `min` players are in the competition -/

theorem enterWaitingQueue_noop (r : Reg) (ps : List Nat) (h0 : r.tableCount = 0)
    (hlt : r.playerCount < r.min) : r.enterWaitingQueue ps = { r with queue := r.queue ++ ps } := by
  by_cases hp : r.status = .pending
  · exact enterWaitingQueue_pending r ps hp
  · rw [enterWaitingQueue_running r ps hp]
    exact drain_noop _ h0 hlt

theorem addPlayers_before_min (r : Reg) (ps ch : List Nat) (hwf : WF0 r) (h0 : r.tableCount = 0)
    (hlt : r.playerCount + ps.length < r.min) :
    (r.addPlayers ps ch).1.tables = [] ∧ (r.addPlayers ps ch).1.calls = [] := by
  have ht0 := tables_nil_of_tc0 hwf h0
  by_cases hs : r.status = .afterRegDeadline
  · rw [addPlayers_refused r ps ch hs]
    exact ⟨ht0, rfl⟩
  · obtain ⟨_, _, hcalls2, _, htc2, _⟩ := updateTableRequirements_frame (addBase r ps ch)
    obtain ⟨_, hmin2, hpc2, _⟩ := updateTableRequirements_same (addBase r ps ch)
    rw [addPlayers_accepted r ps ch hs, enterWaitingQueue_noop _ ps (htc2.trans h0) (by rw [hpc2, hmin2]; exact hlt)]
    exact ⟨updateTableRequirements_tables_nil (addBase r ps ch) ht0, hcalls2⟩

theorem setStatus_before_min (r : Reg) (st : RStatus) (ch : List Nat) (hwf : WF0 r) (h0 : r.tableCount = 0)
    (hlt : r.playerCount < r.min) :
    (r.setStatus st ch).tables = [] ∧ (r.setStatus st ch).calls = [] := by
  have ht0 := tables_nil_of_tc0 hwf h0
  by_cases hsame : r.status = st
  · rw [setStatus_same r st ch hsame]
    exact ⟨ht0, rfl⟩
  · by_cases hd : r.status = .pending ∧ st = .normal
    · rw [setStatus_start r st ch hsame hd, drain_noop (statusBase r st ch) h0 hlt]
      exact ⟨ht0, rfl⟩
    · rw [setStatus_other r st ch hsame hd]
      exact ⟨ht0, rfl⟩

theorem releasePlayers_before_min (r : Reg) (ps ch : List Nat) (hwf : WF0 r) (h0 : r.tableCount = 0)
    (hlt : r.playerCount < r.min) :
    (r.releasePlayers ps ch).tables = [] ∧ (r.releasePlayers ps ch).calls = [] := by
  have ht0 := tables_nil_of_tc0 hwf h0
  rw [releasePlayers, enterWaitingQueue_noop (r.beginOp ch) ps h0 hlt]
  exact ⟨ht0, rfl⟩

end Reg
end Pokerface
