import Pokerface.Model.Game
import Pokerface.Proofs.EngineReach
/-
  Specification-level notions used by property C14 (Properties/C14.lean) and by the cards
  invariant (Proofs/Cards.lean).
-/
namespace Pokerface
open Game

/-- The cards on the table in the order in which `InitializeRound` takes them off the deck:
    burn₁, flop₁, flop₂, flop₃, burn₂, turn, burn₃, river — as far as they have been dealt
    (`burned` and `board` are the lists `Status.Burned` and `Status.Board`, both in dealing
    order). -/
def streetCards (burned board : List Card) : List Card :=
  burned.take 1 ++ board.take 3 ++ (burned.drop 1).take 1 ++ (board.drop 3).take 1 ++
    (burned.drop 2).take 1 ++ (board.drop 4).take 1

/-- All hole cards, seat 0 first, then seat 1, … (the order in which they are dealt). -/
def Game.holeCards (g : Game) : List Card := g.players.flatMap (·.hole)

/-- Every card that has left the deck, in dealing order. -/
def Game.dealtCards (g : Game) : List Card := g.holeCards ++ streetCards g.burned g.board

def Round.boardCount : Round → Nat
  | .none => 0 | .preflop => 0 | .flop => 3 | .turn => 4 | .river => 5

theorem Round.boardCount_le (r : Round) : r.boardCount ≤ 5 := by cases r <;> decide

def Round.burnCount : Round → Nat
  | .none => 0 | .preflop => 0 | .flop => 1 | .turn => 2 | .river => 3

/-- Number of hole cards every player holds in the current street: none before the preflop
    round is entered, the configured number from then on. -/
def Game.holeCountNow (g : Game) : Nat := if g.round = .none then 0 else g.opts.holeCount

/-- Extra well-formedness of a configuration needed for the card properties (DESIGN §5):
    the deck has no duplicate card and is long enough for all hole cards, five board cards and
    three burned cards.  With a shorter deck the Go `Deal` indexes past the slice and panics
    (observation O2), while the model's `List.take` silently returns fewer cards — so this
    hypothesis is essential and explicit. -/
structure WFCards (c : Config) : Prop where
  nodup : c.opts.deck.Nodup
  long : c.seats.length * c.opts.holeCount + 8 ≤ c.opts.deck.length

def ReachableC (g : Game) : Prop :=
  ∃ (c : Config) (ops : List Op), WFConfig c ∧ WFCards c ∧ (start c).2 = none ∧ g = (start c).1.run ops

theorem ReachableC.reachable {g : Game} (h : ReachableC g) : Reachable g := by
  obtain ⟨c, ops, wf, _, hs, he⟩ := h
  exact ⟨c, ops, wf, hs, he⟩

/-- Reachable states of hands whose deck is long enough for all hole cards, five board cards
    and three burned cards — ANY deck contents (duplicates allowed), any forced bets. -/
def ReachableL (g : Game) : Prop :=
  ∃ (c : Config) (ops : List Op), c.seats.length * c.opts.holeCount + 8 ≤ c.opts.deck.length ∧
    (start c).2 = none ∧ g = (start c).1.run ops

theorem ReachableC.toL {g : Game} (h : ReachableC g) : ReachableL g := by
  obtain ⟨c, ops, _, wc, hs, he⟩ := h
  exact ⟨c, ops, wc.long, hs, he⟩

/-- Cards never move backwards between two states. -/
structure Stable (g g' : Game) : Prop where
  deck : g'.opts.deck = g.opts.deck
  seats : g'.players.length = g.players.length
  pos : g.deckPos ≤ g'.deckPos
  holes : ∀ (k : Nat) (p p' : Player), g.players[k]? = some p → g'.players[k]? = some p' →
    p.hole ≠ [] → p'.hole = p.hole
  board : g.board <+: g'.board
  burned : g.burned <+: g'.burned

end Pokerface
