import Pokerface.Proofs.EngineReach
import Pokerface.Proofs.Bets
/-
  For the int64 statements (Int64Table, Properties/Int64Exact, Int64Full): the list predicate `AllFit`, and the chip
  fields of a seat and of the table against the chips in the hand (`total`).
-/
namespace Pokerface.I64
open Pokerface Game

def Fits (v : Int) : Prop := -(2^63) ≤ v ∧ v < 2^63

def AllFit (l : List Int) : Prop := ∀ v ∈ l, Fits v

theorem allFit_nil : AllFit [] := fun _ h => by cases h

theorem allFit_cons {a : Int} {l : List Int} (ha : Fits a) (hl : AllFit l) : AllFit (a :: l) := by
  intro v hv
  rcases List.mem_cons.mp hv with rfl | h
  · exact ha
  · exact hl v h

theorem allFit_append {l m : List Int} (hl : AllFit l) (hm : AllFit m) : AllFit (l ++ m) := by
  intro v hv
  rcases List.mem_append.mp hv with h | h
  · exact hl v h
  · exact hm v h

theorem allFit_ite {c : Prop} [Decidable c] {l m : List Int} (hl : c → AllFit l) (hm : ¬ c → AllFit m) :
    AllFit (if c then l else m) := by
  split
  · rename_i h
    exact hl h
  · rename_i h
    exact hm h

theorem allFit_one {a : Int} (ha : Fits a) : AllFit [a] := allFit_cons ha allFit_nil

/-- the chips in the hand: the sum of the bankrolls -/
def total (g : Game) : Int := (g.players.map (·.bankroll)).sum

theorem bankroll_nonneg {p : Player} (h : PInv p) : 0 ≤ p.bankroll := by
  have hsplit := h.split
  have hstack0 := h.stack0
  have hwager0 := h.wager0
  have hpot0 := h.pot0
  omega

theorem wager_le_bankroll {p : Player} (h : PInv p) : p.wager ≤ p.bankroll := by
  have hsplit := h.split
  have hstack0 := h.stack0
  have hpot0 := h.pot0
  omega

/-- per-player facts in the form `omega` uses -/
theorem pinv_facts {g : Game} (pinv : ∀ p ∈ g.players, PInv p) (p : Player) (hp : p ∈ g.players) :
    0 ≤ p.stack ∧ 0 ≤ p.wager ∧ 0 ≤ p.pot ∧ p.bankroll = p.stack + p.wager + p.pot ∧
    p.stack = p.initial - p.wager ∧ p.bankroll ≤ total g := by
  have h := pinv p hp
  refine ⟨h.stack0, h.wager0, h.pot0, h.split, h.rebase, ?_⟩
  exact le_sum_of_mem (·.bankroll) g.players (fun a ha => bankroll_nonneg (pinv a ha)) p hp

theorem roundPot_bounds {g : Game} (ok : ChipsOK0 g) : 0 ≤ g.roundPot ∧ g.roundPot ≤ total g := by
  rw [ok.rp]
  constructor
  · exact sum_map_nonneg_int g.players (·.wager) (fun a ha => (ok.pinv a ha).wager0)
  · exact sum_map_le_int g.players (·.wager) (·.bankroll) (fun a ha => wager_le_bankroll (ok.pinv a ha))

theorem roundPot_stack {g : Game} (ok : ChipsOK0 g) (p : Player) (hp : p ∈ g.players) :
    g.roundPot + p.stack ≤ total g := by
  rw [ok.rp]
  have := sum_add_le (·.wager) (·.bankroll) g.players (fun a ha => wager_le_bankroll (ok.pinv a ha)) p hp
  have q := ok.pinv p hp
  have hsplit := q.split
  have hpot0 := q.pot0
  simp only [Game.wagerSum, total] at *
  omega

end Pokerface.I64
