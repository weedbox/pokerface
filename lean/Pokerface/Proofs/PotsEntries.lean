import Pokerface.Proofs.PotsFinal
/-
  The domain of C16 — entry lists `(idx, contribution, folded)` with distinct idx and contributions ≥ 0
  (`C16.Valid`) — and the bridge from such a list to the level list `llOf` it produces
  (`mem_live_llOf`: who is still in at a level).
-/
namespace Pokerface.C16
open Pokerface

/-- An entry is `(idx, contribution, folded)`. -/
abbrev Entry := Nat × Int × Bool

/-- The domain of C16: distinct player indices, contributions ≥ 0 (zero and equal amounts allowed). -/
def Valid (es : List Entry) : Prop := (es.map (·.1)).Nodup ∧ ∀ e ∈ es, 0 ≤ e.2.1

instance (es : List Entry) : Decidable (Valid es) := by unfold Valid; infer_instance

/-- Level of the pot before this one (`L₋₁ = 0` for the main pot); `pre` = the pots before it. -/
def prevLevel (pre : List Pot) : Int := (pre.getLast?.map (·.level)).getD 0

/-- `i` is entered as folded. -/
def isFolded (es : List Entry) (i : Nat) : Bool := es.any (fun e => e.1 == i && e.2.2)

/-- Number of eligible (= listed and not folded) players of a pot. -/
def eligibleCount (es : List Entry) (p : Pot) : Nat :=
  (p.contributors.filter (fun kv => !isFolded es kv.1)).length

theorem Valid.unique {es : List Entry} (h : Valid es) {i : Nat} {c c' : Int} {f f' : Bool}
    (h1 : (i, c, f) ∈ es) (h2 : (i, c', f') ∈ es) : c = c' ∧ f = f' := by
  have := eq_of_nodup_map (·.1) h.1 h1 h2 rfl
  simpa using this

theorem isFolded_iff {es : List Entry} {i : Nat} : isFolded es i = true ↔ ∃ c, (i, c, true) ∈ es := by
  simp only [isFolded, List.any_eq_true, Bool.and_eq_true, beq_iff_eq]
  constructor
  · rintro ⟨⟨j, c, f⟩, he, h1, h2⟩
    simp only at h1 h2
    subst h1 h2
    exact ⟨c, he⟩
  · rintro ⟨c, hc⟩
    exact ⟨_, hc, rfl, rfl⟩

theorem isFolded_false {es : List Entry} (h : Valid es) {i : Nat} {c : Int} (hi : (i, c, false) ∈ es) :
    isFolded es i = false := by
  rw [Bool.eq_false_iff, Ne, isFolded_iff]
  rintro ⟨c', hc'⟩
  exact Bool.noConfusion (h.unique hi hc').2

theorem potsOf_eq (es : List Entry) : potsOf es = (llOf es).getPots := rfl

theorem prevLevel_eq (pre : List Pot) : prevLevel pre = lastD 0 (pre.map (·.level)) := by
  simp [prevLevel, lastD, List.getLast?_map]

theorem Valid.levelsOK {es : List Entry} (h : Valid es) : LevelsOK (llOf es) where
  toLLInv := llOf_inv es
  mem_levels kv hkv := by
    obtain ⟨f, hf⟩ := (llOf_contribs es h.1 kv).1 hkv
    exact (llOf_levels es kv.2).2 ⟨_, hf, rfl⟩
  nonneg L hL := by
    obtain ⟨e, he, rfl⟩ := (llOf_levels es L).1 hL
    exact h.2 e he

theorem mem_folded {es : List Entry} {i : Nat} : i ∈ (llOf es).folded ↔ isFolded es i = true := by
  rw [isFolded_iff, llOf_folded]

theorem folded_contains (es : List Entry) (i : Nat) : (llOf es).folded.contains i = isFolded es i := by
  rw [Bool.eq_iff_iff, List.contains_eq_mem, decide_eq_true_eq, mem_folded]

theorem mem_live_llOf {es : List Entry} (h : Valid es) {L : Int} {i : Nat} :
    i ∈ live (llOf es) L ↔ ∃ c, (i, c, false) ∈ es ∧ L ≤ c := by
  rw [mem_live, llOf_folded]
  constructor
  · rintro ⟨hnf, v, hv, hle⟩
    obtain ⟨f, hf⟩ := (llOf_contribs es h.1 (i, v)).1 hv
    cases f with
    | false => exact ⟨v, hf, hle⟩
    | true => exact absurd ⟨v, hf⟩ hnf
  · rintro ⟨c, hc, hle⟩
    refine ⟨fun ⟨c', hc'⟩ => ?_, c, (llOf_contribs es h.1 (i, c)).2 ⟨false, hc⟩, hle⟩
    exact Bool.noConfusion (h.unique hc hc').2

theorem contribs_perm {es : List Entry} (h : Valid es) :
    (llOf es).contribs.Perm (es.map (fun e => (e.1, e.2.1))) := by
  have n1 : (llOf es).contribs.Nodup := (llOf_inv es).contribs.nodup
  have n2 : (es.map (fun e : Entry => (e.1, e.2.1))).Nodup := by
    have : (es.map (fun e : Entry => (e.1, e.2.1))).map (·.1) = es.map (·.1) := by
      simp [List.map_map, Function.comp_def]
    exact List.Pairwise.of_map (·.1) (fun _ _ h e => h (congrArg _ e)) (this ▸ h.1)
  rw [List.perm_ext_iff_of_nodup n1 n2]
  intro x
  rw [llOf_contribs es h.1]
  simp only [List.mem_map]
  constructor
  · rintro ⟨f, hf⟩
    exact ⟨_, hf, rfl⟩
  · rintro ⟨⟨j, c, f⟩, he, rfl⟩
    exact ⟨f, he⟩

theorem sum_contribs {es : List Entry} (h : Valid es) (g : Int → Int) :
    ((llOf es).contribs.map (fun kv => g kv.2)).sum = (es.map (fun e => g e.2.1)).sum := by
  have := perm_sum_int ((contribs_perm h).map (fun kv => g kv.2))
  simpa [List.map_map, Function.comp_def] using this

theorem potsOf_levels_sorted (es : List Entry) : ((potsOf es).map (·.level)).Pairwise (· < ·) := by
  rw [potsOf_eq, getPots_levels]
  exact mergedPots_levels_sorted (llOf_inv es)

theorem potsOf_totals_sum {es : List Entry} (h : Valid es) :
    ((potsOf es).map (·.total)).sum = (es.map (·.2.1)).sum := by
  rw [potsOf_eq, getPots_totals_sum h.levelsOK]
  exact sum_contribs h id

end Pokerface.C16
