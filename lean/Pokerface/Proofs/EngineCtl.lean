import Pokerface.Proofs.EnginePay
/-
  Control part of the engine invariant: who is offered actions, and at which
  events the chain stops.
-/
namespace Pokerface
open Game

def Ev.isWait : Ev → Bool
  | .readyRequested | .anteRequested | .blindsRequested | .roundStarted | .roundClosed | .gameClosed => true
  | _ => false

def NoneAllowed (g : Game) : Prop := ∀ p ∈ g.players, p.allowed = []

def OnlyCur (g : Game) : Prop :=
  ∀ (i : Nat) (p : Player), g.players[i]? = some p → i ≠ g.cur → p.allowed = []

def Offered (g : Game) : Prop :=
  ∀ (i : Nat) (p : Player), g.players[i]? = some p → p.allowed = if i = g.cur then g.availableActions p else []

/-- what holds whenever the chain has stopped -/
structure Post (g : Game) : Prop where
  wait : g.event.isWait = true
  allowed : if g.event = .roundStarted then Offered g else NoneAllowed g

theorem Post.noneAllowed {g : Game} (h : Post g) (he : g.event ≠ .roundStarted) : NoneAllowed g := by
  have := h.allowed
  rwa [if_neg he] at this

theorem Post.offered {g : Game} (h : Post g) (he : g.event = .roundStarted) : Offered g := by
  have := h.allowed
  rwa [if_pos he] at this

theorem NoneAllowed.onlyCur {g : Game} (h : NoneAllowed g) : OnlyCur g :=
  fun _ p hp _ => h p (List.mem_of_getElem? hp)

theorem allows_false_of_noneAllowed {g : Game} (hn : NoneAllowed g) (i : Nat) (a : Act) : g.allows i a = false :=
  Bool.eq_false_iff.mpr fun h => by
    obtain ⟨p, hp, ha⟩ := allows_iff.mp h
    rw [hn p (List.mem_of_getElem? hp)] at ha
    cases ha

theorem Offered.onlyCur {g : Game} (h : Offered g) : OnlyCur g := by
  intro i p hp hne
  have := h i p hp
  simpa [hne] using this

/-- the offers, the seat to act and the street are as they were (so `NoneAllowed` and `OnlyCur` carry over); not to
    be confused with the footprint of the betting, `Fp.betting`, which writes two of the three -/
structure Soft (g g' : Game) : Prop where
  allowed : g'.players.map (·.allowed) = g.players.map (·.allowed)
  cur : g'.cur = g.cur
  round : g'.round = g.round

theorem Soft.refl (g : Game) : Soft g g := ⟨rfl, rfl, rfl⟩
theorem Soft.trans {a b c : Game} (h1 : Soft a b) (h2 : Soft b c) : Soft a c :=
  ⟨h2.allowed.trans h1.allowed, h2.cur.trans h1.cur, h2.round.trans h1.round⟩

theorem Soft.noneAllowed {g g' : Game} (h : Soft g g') (hn : NoneAllowed g) : NoneAllowed g' := by
  intro p hp
  obtain ⟨q, hq, hqe⟩ := mem_of_map_eq h.allowed hp
  rw [← hqe]
  exact hn q hq

theorem Soft.onlyCur {g g' : Game} (h : Soft g g') (hn : OnlyCur g) : OnlyCur g' := by
  intro i p hp hne
  obtain ⟨q, hq, hqe⟩ := getElem?_of_map_eq h.allowed hp
  rw [← hqe]
  exact hn i q hq ((h.cur ▸ hne))

theorem soft_burn (g : Game) (k : Nat) : Soft g (g.burn k) := ⟨rfl, rfl, rfl⟩
theorem soft_dealBoard (g : Game) (k : Nat) : Soft g (g.dealBoard k) := ⟨rfl, rfl, rfl⟩

theorem Wr.soft {W : Fp} {g g' : Game} (h : Wr W g g') (hW : (W.allowed || W.cur || W.round) = false := by rfl) :
    Soft g g' := by
  simp only [Bool.or_eq_false_iff] at hW
  exact ⟨h.map (·.allowed) fun p => by simp only [Player.erase, hW.1.1, cond_false], h.cur hW.1.2, h.round hW.2⟩

theorem noneAllowed_resetAllAllowed (g : Game) : NoneAllowed g.resetAllAllowed := by
  intro p hp
  simp [Game.resetAllAllowed, Game.mapP] at hp
  obtain ⟨q, _, rfl⟩ := hp
  rfl

theorem noneAllowed_resetAllPlayerStatus (g : Game) : NoneAllowed g.resetAllPlayerStatus := by
  intro p hp
  simp [Game.resetAllPlayerStatus, Game.mapP] at hp
  obtain ⟨q, _, rfl⟩ := hp
  rfl

theorem Post.of_noneAllowed {g : Game} (hw : g.event.isWait = true) (hne : g.event ≠ .roundStarted)
    (h : NoneAllowed g) : Post g :=
  ⟨hw, (if_neg hne ▸ h)⟩

theorem post_roundClosed (g : Game) : Post g.roundClosed :=
  .of_noneAllowed rfl (fun h => by cases h) ((wr_updatePots _).soft.noneAllowed (noneAllowed_resetAllAllowed _))

theorem post_requestReady (g : Game) : Post g.requestReady :=
  .of_noneAllowed rfl (fun h => by cases h) ((wr_setEvent _ _).soft.noneAllowed (noneAllowed_resetAllAllowed _))

theorem availableActions_congr (g g' : Game) (p p' : Player)
    (hg : g'.cw = g.cw ∧ g'.prev = g.prev ∧ g'.miniBet = g.miniBet)
    (hp : p'.fold = p.fold ∧ p'.stack = p.stack ∧ p'.wager = p.wager ∧ p'.initial = p.initial) :
    g'.availableActions p' = g.availableActions p := by
  unfold Game.availableActions
  rw [hg.1, hg.2.1, hg.2.2, hp.1, hp.2.1, hp.2.2.1, hp.2.2.2]

/-- `setCurrentPlayer g i` clears the old seat to act, moves the turn to `i`, then writes `i`'s offers (computed on a
    state with the same wager to match, raise size and `miniBet`, and on `i`'s own chips, hence the `congr`).  Seat by
    seat: `i` carries its offers whether or not it was the old seat; the old seat, if another, has just been cleared;
    any other seat is untouched and had nothing by `OnlyCur`. -/
theorem offered_setCurrentPlayer (g : Game) (i : Nat) (h : OnlyCur g) : Offered (g.setCurrentPlayer i) := by
  intro j p hp
  have hcur : (g.setCurrentPlayer i).cur = i := rfl
  rw [hcur]
  simp only [Game.setCurrentPlayer, Game.offer, Game.modP, Game.setCur, List.getElem?_modify] at hp
  cases hq : g.players[j]? with
  | none => simp [hq] at hp
  | some q =>
    simp [hq] at hp
    by_cases hji : i = j
    · subst hji
      simp at hp
      subst hp
      simp only [if_true]
      split <;> exact (availableActions_congr _ _ _ _ ⟨rfl, rfl, rfl⟩ ⟨rfl, rfl, rfl, rfl⟩)
    · simp [hji] at hp
      have hji' : ¬ j = i := fun h => hji h.symm
      simp only [hji', if_false]
      by_cases hc : g.cur = j
      · simp [hc] at hp
        subst hp
        rfl
      · simp [hc] at hp
        subst hp
        exact h j q hq (fun h => hc h.symm)

theorem post_requestPlayerAction (g : Game) (hs : Struct g) (he : g.event = .roundStarted) (h : OnlyCur g) :
    Post g.requestPlayerAction := by
  rcases g.requestPlayerAction_cases hs with ⟨e, _⟩ | ⟨e, _⟩
  · rw [e]
    exact post_roundClosed g
  · rw [e]
    have hev : (g.setCurrentPlayer g.nextIdx).event = .roundStarted := he
    refine ⟨hev ▸ rfl, ?_⟩
    simp only [hev, if_true]
    exact offered_setCurrentPlayer g _ h

theorem post_prepareRound (g : Game) : Post g.prepareRound :=
  g.prepareRound_cases (fun _ => post_requestReady g) fun _ _ => post_roundClosed g

theorem post_requestBlinds (g : Game) (h : NoneAllowed g) : Post g.requestBlinds :=
  g.requestBlinds_cases (fun _ => post_prepareRound _) fun _ => .of_noneAllowed rfl (fun h => by cases h) h

theorem post_afterRoundInitialized (g : Game) (h : g.round = .preflop → NoneAllowed g) :
    Post g.afterRoundInitialized :=
  g.afterRoundInitialized_cases (fun hr => post_requestBlinds g (h hr)) fun _ => post_prepareRound g

theorem dealStreet_round (g : Game) : g.dealStreet.round = g.round := (wr_dealStreet g).round

/-- only the pre-flop can end at `BlindsRequested`, and there the dealing is `dealHoles`, which offers nothing -/
theorem post_initializeRound (g : Game) (h : g.round = .preflop → NoneAllowed g) : Post g.initializeRound := by
  refine post_afterRoundInitialized _ fun hr => ?_
  have hr' : g.round = .preflop := (dealStreet_round g).symm.trans hr
  exact g.dealStreet_cases (motive := fun d => NoneAllowed ((d.updateCombinations).setEvent .roundInitialized))
    (fun _ => ((wr_dealHoles _ _ g).trans ((wr_updateCombinations _).trans (wr_setEvent _ _))).soft.noneAllowed (h hr'))
    (fun hn => nomatch hn.symm.trans hr') fun _ _ hp => absurd hr' hp

theorem post_enterRound (g : Game) (r : Round) (h : r = .preflop → NoneAllowed g) : Post (g.enterRound r) := by
  unfold Game.enterRound
  exact post_initializeRound _ (fun hr => h hr)

theorem onlyCur_seekBB (k : Nat) (g : Game) : OnlyCur g → OnlyCur (seekBB k g) :=
  Game.seekBB_steps (R := fun a b => OnlyCur a → OnlyCur b) (fun _ h => h) (fun h1 h2 h => h2 (h1 h))
    (fun g h => (offered_setCurrentPlayer g _ h).onlyCur) k g

theorem post_openRound (g : Game) (hs : Struct g) (h : OnlyCur g) : Post g.openRound := by
  unfold Game.openRound
  exact post_requestPlayerAction _ ((wr_setEvent g .roundStarted).struct hs) rfl ((wr_setEvent g _).soft.onlyCur h)

theorem post_startRound' (g : Game) (hs : Struct g) (h : NoneAllowed g) : Post g.startRound' := by
  have h1 := wr_askDealer g
  have o1 : OnlyCur (g.setCurrentPlayer g.dealerIdx) := (offered_setCurrentPlayer g _ h.onlyCur).onlyCur
  exact g.startRound'_cases (fun _ _ => post_roundClosed g)
    (fun _ _ => post_openRound _ ((wr_seekBB _ _).struct (h1.struct hs)) (onlyCur_seekBB _ _ o1))
    fun _ => post_openRound _ (h1.struct hs) o1

theorem post_startRound (g : Game) (hs : Struct g) : Post g.startRound :=
  post_startRound' _ ((wr_resetAllAllowed g).struct hs) (noneAllowed_resetAllAllowed g)

theorem post_gameCompleted (g : Game) (h : NoneAllowed g) : Post g.gameCompleted :=
  .of_noneAllowed rfl (fun h => by cases h) ((wr_gameCompleted g).soft.noneAllowed h)

theorem post_nextRound' (g : Game) (h : NoneAllowed g) (hr : g.round ≠ .none) : Post g.nextRound' :=
  g.nextRound'_cases (fun _ => post_gameCompleted g h) (fun _ _ _ => post_enterRound g _ fun _ => h)
    fun _ hn => absurd hn hr

end Pokerface
