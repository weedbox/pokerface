import Pokerface.Model.Game
/-
  K1, translated logic: the strings of game.go / event.go for the street and the event, which the translated code
  compares and the model does not have.

  Conventions of the K1 modules (Proofs/GeneratedLogic*.lean, Proofs/HopFields.lean).  Generated/Logic*.lean is printed
  from the Go AST by harness/cmd/genlogic on every check run (one file per group of source files); each proof module
  states what the translated definitions are, and its header says only what is particular to it.  A loop of the Go code is
  translated as a function of one iteration (`fooStep`, start values `fooInit`), the statements around it are pinned (see
  below), and the theorem states the model's recursion / fold / map in terms of that iteration.
  Names.  The rule, and below it, by name, the theorems that do not follow it.
  * `foo_eq`, `foo` a translated function the model has a counterpart of: the model's function is the reading of the
    translated `foo` on the model state (the obligation).  Most of these proofs unfold the translated definition
    directly.  In GeneratedLogic, -Flow and for the loops of Pots the name is the MODEL's function where that is the
    familiar one (`pay_eq`, `aliveCount_eq`, `nextIdx_eq`, `bumpPlayer_eq`, `payWinners_eq`, `settleLevel_eq`, `settlePot_eq`,
    `playerPower_eq`): left side the model, right side the reading of the translated step.
  * `foo_eq` where `foo` itself is not translated, only the iteration of its loop (`fooStep`, `fooInit`, or the steps the
    docstring names: there is no `Generated.Logic.foo`, and `foo` abbreviates the Go function's name behind the file's
    prefix): the model's loop as the run of that iteration (`sm2PlayableCount_eq`, `sm2Reset_eq`, `tbAssignGameIdx_eq`,
    `tbMatchLeft_eq`, `regLowCount_eq`, `regLower_eq`, `regTakeQueue_eq`, `potsMerge_eq`, `settleCalculate_eq`,
    `combosGosper_eq`, `combosBits_eq`, `viewSteps_eq`, `powerCalls_eq` and their like).  `sm2Getters_eq` and `sm2Queries_eq`
    collect the one-line functions of seat_manager.go, one statement each.
  * `foo_eq`, `foo` a translated fragment without a counterpart (one iteration of a loop `fooStep`, its start values
    `fooInit`, a comparison, a table of handlers): what it computes, for all arguments — its closed form (the
    `…Step_eq`, `…Init_eq` of Glue, Pots, Reg, Hop, Drv; Flow's `chain_eq`, `dispatch_eq`, `triggerEvent_eq`).
  * `foo_closed` (`fooClosed_eq` in the regulator file: the same thing): the closed form of a translated `foo` whose
    name `foo_eq` is taken by the obligation against the model — the translated `foo` alone, for all arguments, as an
    `if`-tree without the repeated tails of the generated text; `foo_eq` is then proved through it (SM `smJoin`; SM2
    `sm2ApplyStates`; Tb; Reg `regDispatchPlayer`, `regAllocStep`, `regSyncState`; Pots `viewHeads_closed`).  Three of
    them give the form on the model's own terms, as their users need it: `findStep_closed` (`SM.playable`),
    `tbCopyPos_closed`, `viewOn_closed` (`hidePlayer`).
  * Not by the rule.  Closed forms of a step spelled `_closed` although no obligation takes the `_eq`: Tb
    `tbAssignStep_closed`, `tbPlayableSeatsStep_closed`, `tbByGameIdxStep_closed`, `tbMatchLeftStep_closed`,
    `tbMatchPlayersStep_closed`; closed forms under another name: `regTakeStep_eq` (of `regRequestPlayersStep` and
    `regGetPlayersStep`), `drvClose_eq`.  Obligations against the model under a step's name: `regAllocInit_eq`,
    `regAllocStep_eq` (closed form: `regAllocStepClosed_eq`), `combosGosperStep_eq`, `tbSetupStep_eq` (closed form:
    `tbSetupStep_closed`), `tbUpdateStep_eq`; under another name: `regReleaseStep_loop` (closed form:
    `regReleaseStep_eq`), `drvBlindsParticipant_eq` (of `drvBlindsStep`), `winnerUpdate_eq` (of `winnerStep` / `winnerNew`).
    Readings on the model in Hop without the suffix `_model`: `hopLoad_dealer`, `hopLoad_dealer_any`,
    `hopLoad_dealer_state`, `hopLoad_map`, `hopApplyOptions_players`, `hopApplyOptions_idxOK`, `hopCheckPosition_holds`,
    `hopCheckPosition_contains`.
  * Functions that are about WHICH object an operation is applied to are translated as programs over uninterpreted
    primitives.  In Hop every translated function is one, so there `foo_eq` is the equation with the reference
    program (or value) for ALL types and primitives, and `foo_model` what it is with the primitives read on the
    model.  In Drv the wrappers have a reading on the model that is the obligation proper, so there `foo_prog` is
    the equation for all interpretations and `foo_eq` the reading (`= Drv.call …`).
  * `fooT`: the translated function applied to the model's state-reading functions ("as translated": `nextDealerT`,
    `renewT`, `findActiveT`, `normalizeT`).  The run of a translated one-iteration step over a list, i.e. the loop, is
    `fooRun` in Pots (`mergeRun`, `payRun`), `loopAll` / `loopBreak` / `findLoop` / `normLoop` in SM2, `runTake` in Reg.
  * "pinned", of a statement of the Go source: the translator demands its printed form to be the recorded one (a
    loop header, the statements around a translated loop), so any edit of it makes the translation fail.
  * A translated effectful function is a list of step names (or of named effects with arguments).  An interpreter
    (`effect` / `runEffects` / `interp`, `gameStep` / `runSteps`, `curStep`, `playerStep`, `llStep`, `resStep`, `resPotStep`,
    `addStep`, `getPotsStep`, `addLevelStep`, `updStep`, `doUpdate`, `calcPotStep`, `drainStep`, `seatStep`, `enterStep`, `tbUpdEff`,
    `DrvM.handleInterp`) reads one recorded step as a state
    change.  A name it does not know is read as no change; the readers that can fail answer with an error instead
    (`effect`: `.unknownRound`; in Tb the reading of the whole list is `.badInput`; `DrvM.handleInterp`: `none`).  So an
    `_eq` can hold only if every step the translation emits is one the reader knows, or one the model ignores as well.
  * Imports.  A K1 module imports the model, its generated file, Base / Loops, and at most modules that state the model's
    functions as equations without any invariant (SMStep, SMNext, SMButton; RegEq; Clockwise; Assoc; CombosBest;
    EngineHop for `Game.json`; EngineFrame, what each function of the engine writes; ListLemmas), so that an obligation
    cannot break through the proofs of a property.  GeneratedLogicHop also imports Generated/Tables.lean, for
    `Generated.standardOptions` in `hopStandardOptions_eq`.
    No property imports these modules (only C07 imports GeneratedLogicHop).  They are obligations of the properties
    through the table `EXTRA` in /verif/check, which builds them together with the property's module.
-/
namespace Pokerface.GeneratedLogic
open Pokerface Game

/-- `Status.Round` as the string of game.go -/
def roundString : Round → String
  | .none => "" | .preflop => "preflop" | .flop => "flop" | .turn => "turn" | .river => "river"

/-- `Status.CurrentEvent` as the string of event.go (`GameEventSymbols`) -/
def evString : Ev → String
  | .none => "" | .started => "Started" | .initialized => "Initialized" | .prepared => "Prepared"
  | .anteRequested => "AnteRequested" | .antePaid => "AntePaid" | .blindsRequested => "BlindsRequested"
  | .blindsPaid => "BlindsPaid" | .readyRequested => "ReadyRequested" | .readiness => "Readiness"
  | .preflopRoundEntered => "PreflopRoundEntered" | .flopRoundEntered => "FlopRoundEntered"
  | .turnRoundEntered => "TurnRoundEntered" | .riverRoundEntered => "RiverRoundEntered"
  | .roundInitialized => "RoundInitialized" | .roundPrepared => "RoundPrepared" | .roundStarted => "RoundStarted"
  | .roundClosed => "RoundClosed" | .gameCompleted => "GameCompleted" | .settlementRequested => "SettlementRequested"
  | .settlementCompleted => "SettlementCompleted" | .gameClosed => "GameClosed"

/-- the event a string of event.go names (the left inverse of `evString`) -/
def evOfString : String → Ev
  | "Started" => .started | "Initialized" => .initialized | "Prepared" => .prepared
  | "AnteRequested" => .anteRequested | "AntePaid" => .antePaid | "BlindsRequested" => .blindsRequested
  | "BlindsPaid" => .blindsPaid | "ReadyRequested" => .readyRequested | "Readiness" => .readiness
  | "PreflopRoundEntered" => .preflopRoundEntered | "FlopRoundEntered" => .flopRoundEntered
  | "TurnRoundEntered" => .turnRoundEntered | "RiverRoundEntered" => .riverRoundEntered
  | "RoundInitialized" => .roundInitialized | "RoundPrepared" => .roundPrepared | "RoundStarted" => .roundStarted
  | "RoundClosed" => .roundClosed | "GameCompleted" => .gameCompleted | "SettlementRequested" => .settlementRequested
  | "SettlementCompleted" => .settlementCompleted | "GameClosed" => .gameClosed | _ => .none

theorem evOfString_evString (e : Ev) : evOfString (evString e) = e := by
  cases e <;> decide

theorem evString_inj {a b : Ev} : evString a = evString b ↔ a = b :=
  ⟨fun h => by simpa only [evOfString_evString] using congrArg evOfString h, congrArg evString⟩

theorem roundString_inj {a b : Round} : roundString a = roundString b ↔ a = b := by
  cases a <;> cases b <;> decide

/-! ### a test of the translated code is the test of the model

The translated code compares the street and the event as strings (and counts as `Int`s: Proofs/GeneratedLogicLoops.lean);
the model compares constructors.  With these `simp` turns the one test into the other, so that a translated function and
the model's function unfold to the same `if`-tree.  (One lemma per string the sources compare with: `simp` does not match
a string literal against `evString c` with `c` a variable.) -/

section
variable (r : Round) (e : Ev)

@[simp] theorem roundString_preflop : roundString r = "preflop" ↔ r = .preflop := roundString_inj (b := .preflop)

@[simp] theorem evString_roundClosed : evString e = "RoundClosed" ↔ e = .roundClosed := evString_inj (b := .roundClosed)
@[simp] theorem evString_readyRequested : evString e = "ReadyRequested" ↔ e = .readyRequested := evString_inj (b := .readyRequested)
@[simp] theorem evString_anteRequested : evString e = "AnteRequested" ↔ e = .anteRequested := evString_inj (b := .anteRequested)
@[simp] theorem evString_blindsRequested : evString e = "BlindsRequested" ↔ e = .blindsRequested := evString_inj (b := .blindsRequested)
@[simp] theorem evString_gameClosed : evString e = "GameClosed" ↔ e = .gameClosed := evString_inj (b := .gameClosed)

end

end Pokerface.GeneratedLogic
