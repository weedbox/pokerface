import Pokerface.Proofs.BetsActs
import Pokerface.Proofs.FlowStep
/-
  The forced bets (C13): what the ante loop and the blinds loop do to every seat.
  Players are observed through `Player.frame = ((idx, dealer, sb, bb), (bankroll, initial, stack, pot, wager))`.
  The path `start → ReadyForAll → [PayAnte] → [PayBlinds]` is followed once, tracking the frames of all seats
  (`forcedSpec`); the frame of a seat after the ante and after the blinds is then given as a function of the frame it
  was configured with (`LA_eq`, `LB_eq`), and the fields of a seat are read off (`ante_seat`, `forced_seat`).  Last:
  every history of a hand passes through the state after the forced bets (`run_through_forced`).
-/
namespace Pokerface
open Game

/-- A frame `fr = ((idx, dealer, sb, bb), (bankroll, initial, stack, pot, wager))`: `fr.1` is the key of the seat, and
    `fr.2.1` its bankroll, `fr.2.2.1` the round-start stack, `fr.2.2.2.1` the stack, `fr.2.2.2.2.1` what it has in the
    pot, `fr.2.2.2.2.2` its wager. -/
abbrev Fr := (Nat × Bool × Bool × Bool) × (Int × Int × Int × Int × Int)

/-- `payF` on frames -/
def payFr (c : Int) (fr : Fr) : Fr :=
  if fr.2.2.2.1 ≤ c then (fr.1, (fr.2.1, fr.2.2.1, 0, fr.2.2.2.2.1, fr.2.2.1))
  else (fr.1, (fr.2.1, fr.2.2.1, fr.2.2.1 - (fr.2.2.2.2.2 + c), fr.2.2.2.2.1, fr.2.2.2.2.2 + c))

theorem payF_frame (c : Int) (p : Player) : (payF c p).frame = payFr c p.frame := by
  unfold payF payFr
  by_cases h : p.stack ≤ c
  · rw [if_pos h, if_pos (show p.frame.2.2.2.1 ≤ c from h)]
    rfl
  · rw [if_neg h, if_neg (show ¬ p.frame.2.2.2.1 ≤ c from h)]
    rfl

/-- `ResetAllPlayerStatus` on frames -/
def sweepFr (fr : Fr) : Fr :=
  (fr.1, (fr.2.1, fr.2.2.2.1, fr.2.2.2.1, fr.2.2.2.2.1 + fr.2.2.2.2.2, 0))

/-- `blindOf` on frames -/
def blindOfFr (m : Meta) (fr : Fr) : Int :=
  if m.blindBB > 0 ∧ fr.1.2.2.2 = true then m.blindBB
  else if m.blindSB > 0 ∧ fr.1.2.2.1 = true then m.blindSB
  else if m.blindDealer > 0 ∧ fr.1.2.1 = true then m.blindDealer
  else 0

theorem blindOf_frame (m : Meta) (p : Player) : blindOf m p = blindOfFr m p.frame := rfl

/-- `payBlind` on frames -/
def blindFr (m : Meta) (fr : Fr) : Fr :=
  payFr (if fr.2.2.2.1 < blindOfFr m fr then fr.2.2.2.1 else blindOfFr m fr) fr

theorem map_frame_modify (f : Player → Player) (f' : Fr → Fr) (hf : ∀ p, (f p).frame = f' p.frame)
    (l : List Player) (i : Nat) : (l.modify i f).map Player.frame = (l.map Player.frame).modify i f' := by
  apply List.ext_getElem?
  intro j
  simp only [List.getElem?_map, List.getElem?_modify]
  cases l[j]? with
  | none => simp
  | some p =>
    by_cases h : i = j
    · simp [h, hf]
    · simp [h]

theorem pay_frames {g : Game} {i : Nat} {p : Player} (hp : g.players[i]? = some p) (c : Int) (w : Bool) :
    (g.pay i c w).players.map Player.frame = (g.players.map Player.frame).modify i (payFr c) := by
  rw [pay_frame hp c w]
  exact map_frame_modify _ _ (payF_frame c) _ _

theorem payBlind_frames (g : Game) (i : Nat) :
    (g.payBlind i).players.map Player.frame = (g.players.map Player.frame).modify i (blindFr g.opts) := by
  unfold Game.payBlind
  cases hp : g.players[i]? with
  | none =>
    rw [List.modify_eq_self]
    simpa using hp
  | some p =>
    simp only
    rw [pay_frames hp]
    exact modify_congr_at (a := p.frame) (by simp [hp]) _ _ rfl

theorem foldl_payBlind_frames : ∀ (is : List Nat) (g : Game),
    (is.foldl payBlind g).players.map Player.frame =
      is.foldl (fun L i => L.modify i (blindFr g.opts)) (g.players.map Player.frame)
  | [], _ => rfl
  | i :: is, g => by
    have h := foldl_payBlind_frames is (g.payBlind i)
    rw [(wr_payBlind g i).opts, payBlind_frames] at h
    exact h

/-- the ante loop on frames, on seats met once and without a wager -/
theorem payAnteLoop_frames : ∀ (is : List Nat) (g : Game),
    is.Nodup → (∀ i ∈ is, i < g.n) → (∀ i ∈ is, ∀ p, g.players[i]? = some p → p.wager = 0) →
    (payAnteLoop is g).1.players.map Player.frame =
      is.foldl (fun L i => L.modify i (payFr g.opts.ante)) (g.players.map Player.frame)
  | [], _, _, _, _ => rfl
  | i :: is, g, hnd, hlt, hw => by
    have ⟨hi, hnd'⟩ := List.nodup_cons.mp hnd
    have hin : i < g.players.length := hlt i (by simp)
    have hp : g.players[i]? = some g.players[i] := by simp [List.getElem?_eq_getElem hin]
    have hwi := hw i (by simp) _ hp
    unfold Game.payAnteLoop
    rw [hp]
    simp only
    rw [if_neg (by omega)]
    have w := wr_pay g i g.opts.ante false
    have r := payAnteLoop_frames is (g.pay i g.opts.ante false) hnd'
      (fun j hj => by rw [w.n]; exact hlt j (by simp [hj]))
      (fun j hj q hq => hw j (by simp [hj]) q (by rwa [pay_false_getElem_ne g i j _ fun h => hi (h ▸ hj)] at hq))
    rw [w.opts, pay_frames hp] at r
    exact r

/-- the operations that take a freshly started hand through the forced bets -/
def forcedOps (m : Meta) : List Op :=
  .ready :: ((if m.ante > 0 then [.payAnte] else []) ++ (if m.noBlinds then [] else [.payBlinds]))

/-- state after `ReadyForAll` on the freshly started hand -/
def afterReady (c : Config) : Game := ((start c).1.step .ready).1
/-- the state after `PayAnte`, when there is an ante; else `afterReady c` -/
def afterAnte (c : Config) : Game := if c.opts.ante > 0 then ((afterReady c).step .payAnte).1 else afterReady c
/-- the state after `PayBlinds`, when there are blinds: it waits for `ReadyForAll` before the first betting round -/
def afterForcedBets (c : Config) : Game :=
  if c.opts.noBlinds then afterAnte c else ((afterAnte c).step .payBlinds).1

theorem afterForcedBets_eq_run (c : Config) : afterForcedBets c = (start c).1.run (forcedOps c.opts) := by
  unfold afterForcedBets afterAnte afterReady forcedOps Game.run
  by_cases h1 : c.opts.ante > 0
  · by_cases h2 : c.opts.noBlinds
    · simp [h1, h2]
    · simp [h1, h2]
  · by_cases h2 : c.opts.noBlinds
    · simp [h1, h2]
    · simp [h1, h2]

/-- `ForcedPre m L g`: what is tracked along the path up to the blinds — the options of `g` are `m`, the frames of its seats
    are `L`, and nothing is to match yet -/
structure ForcedPre (m : Meta) (L : List Fr) (g : Game) : Prop where
  opts : g.opts = m
  frames : g.players.map Player.frame = L
  cw : g.cw = 0

theorem ForcedPre.of_noChip {m : Meta} {L : List Fr} {g g' : Game} (h : ForcedPre m L g) (nc : NoChip g g') : ForcedPre m L g' :=
  ⟨nc.opts.trans h.opts, nc.frame.trans h.frames, nc.cw.trans h.cw⟩

theorem pre_start (c : Config) (hs : (start c).2 = none) :
    ForcedPre c.opts (c.players.map Player.frame) (start c).1 ∧ (start c).1.event = .readyRequested ∧
    (start c).1.round = .none := by
  obtain ⟨_, _, he⟩ := start_ok c hs
  rw [he]
  refine ⟨?_, rfl, rfl⟩
  have h0 : ForcedPre c.opts (c.players.map Player.frame) c.game0.resetRoundStatus := ⟨rfl, rfl, rfl⟩
  exact h0.of_noChip (wr_requestReady _).noChip

theorem mapP_frames (g : Game) (f : Player → Player) (f' : Fr → Fr) (hf : ∀ p, (f p).frame = f' p.frame) :
    (g.mapP f).players.map Player.frame = (g.players.map Player.frame).map f' := by
  simp [Game.mapP, List.map_map, Function.comp_def, hf]

theorem pre_anteSwept {m : Meta} {L : List Fr} {g : Game} (ho : g.opts = m) (hf : g.players.map Player.frame = L) :
    ForcedPre m (L.map sweepFr) g.anteSwept := by
  refine ⟨ho, ?_, rfl⟩
  have n1 : NoChip g ((g.resetAllAllowed.setEvent .antePaid).updatePots) :=
    (((wr_resetAllAllowed g).trans (wr_setEvent _ _)).trans (wr_updatePots _)).noChip
  -- `anteSwept` is `resetAllPlayerStatus` of the state `n1` speaks of, then `resetRoundStatus`, which keeps the players
  show (Game.resetAllPlayerStatus _).players.map Player.frame = _
  unfold Game.resetAllPlayerStatus
  rw [mapP_frames _ _ sweepFr (fun _ => rfl), n1.frame, hf]

theorem payAnte_fresh {g : Game} (he : g.event = .anteRequested) (ha : g.opts.ante > 0)
    (hw : ∀ p ∈ g.players, p.wager = 0) :
    g.step .payAnte = ((payAnteLoop g.seatsFromDealer g).1.anteSwept.enterRound .preflop, none) ∧
    (payAnteLoop g.seatsFromDealer g).1.players.map Player.frame =
      (g.players.map Player.frame).map (payFr g.opts.ante) := by
  have hw' : ∀ i ∈ g.seatsFromDealer, ∀ p, g.players[i]? = some p → p.wager = 0 :=
    fun i _ p hp => hw p (List.mem_of_getElem? hp)
  refine ⟨step_payAnte_ok he (by omega) (payAnteLoop_ok _ g g.nodup_seatsFromDealer hw'), ?_⟩
  rw [payAnteLoop_frames g.seatsFromDealer g g.nodup_seatsFromDealer (fun i hi => g.mem_seatsFromDealer.mp hi) hw',
    foldl_modify_eq_map _ _ _ g.nodup_seatsFromDealer (fun j hj => g.mem_seatsFromDealer.mpr (by simpa [Game.n] using hj))]

theorem payBlind_event (g : Game) (i : Nat) : (g.payBlind i).event = g.event :=
  (wr_payBlind g i).event

/-- `L0`: the frames of the seats as configured; `LA`: after the ante loop and its sweep into the pot (when there is an
    ante); `LB`: after the blinds loop (when there are blinds) — as the engine computes them, `payFr` seat by seat -/
def Config.L0 (c : Config) : List Fr := c.players.map Player.frame
def Config.LA (c : Config) : List Fr :=
  if c.opts.ante > 0 then (c.L0.map (payFr c.opts.ante)).map sweepFr else c.L0
def Config.LB (c : Config) : List Fr :=
  if c.opts.noBlinds then c.LA else c.LA.map (blindFr c.opts)

theorem config_frame (c : Config) (hs : (start c).2 = none) :
    ∀ fr ∈ c.L0, 0 < fr.2.1 ∧ fr = (fr.1, (fr.2.1, fr.2.1, fr.2.1, 0, 0)) := by
  intro fr hfr
  obtain ⟨p, hp, rfl⟩ := List.mem_map.mp hfr
  have h := config_players_mem c hp
  refine ⟨(start_ok c hs).2.1 p hp, ?_⟩
  simp only [Player.frame, Player.chips]
  rw [h.1, h.2.1, h.2.2.1, h.2.2.2.1]

theorem pre_enterPreflop {m : Meta} {L : List Fr} {g : Game} (h : ForcedPre m L g) :
    ForcedPre m L (g.enterRound .preflop) ∧ (g.enterRound .preflop).round = .preflop ∧
    (g.enterRound .preflop).event = if m.noBlinds then .readyRequested else .blindsRequested := by
  obtain ⟨e1, e2⟩ := enterRound_phase g .preflop
  exact ⟨h.of_noChip (wr_enterRound g _).noChip, e2, by rw [e1, entryEvent_preflop, h.opts]⟩

/-- `ReadyForAll` on the fresh hand moves no chip; it requests the ante, or enters the preflop round -/
theorem readyStep_spec (c : Config) (hs : (start c).2 = none) :
    ((start c).1.step .ready).2 = none ∧ ForcedPre c.opts c.L0 (afterReady c) ∧
    ((afterReady c).event, (afterReady c).round) =
      if c.opts.ante > 0 then (.anteRequested, .none)
      else (if c.opts.noBlinds then .readyRequested else .blindsRequested, .preflop) := by
  obtain ⟨hpre, hev, hrd⟩ := pre_start c hs
  have hp := ready_fresh_phase hev hrd
  rw [entryEvent_preflop, hpre.opts] at hp
  exact ⟨by rw [step_ready hev], hpre.of_noChip (wr_step _ .ready).noChip, hp⟩

/-- after the ante (when there is one) the preflop round has been entered: the blinds are requested, or readiness -/
theorem afterAnte_spec (c : Config) (hs : (start c).2 = none) :
    (c.opts.ante > 0 → (afterReady c).event = .anteRequested ∧ ((afterReady c).step .payAnte).2 = none) ∧
    ForcedPre c.opts c.LA (afterAnte c) ∧ (afterAnte c).round = .preflop ∧
    (afterAnte c).event = if c.opts.noBlinds then .readyRequested else .blindsRequested := by
  obtain ⟨_, hpre, hp⟩ := readyStep_spec c hs
  unfold afterAnte Config.LA
  by_cases ha : c.opts.ante > 0
  · rw [if_pos ha] at hp
    rw [if_pos ha, if_pos ha]
    have hev : (afterReady c).event = .anteRequested := congrArg Prod.fst hp
    have hw : ∀ p ∈ (afterReady c).players, p.wager = 0 := by
      intro p hp
      have : p.frame ∈ c.L0 := by
        rw [← hpre.frames]
        exact List.mem_map_of_mem hp
      exact congrArg (·.2.2.2.2.2) (config_frame c hs _ this).2
    obtain ⟨r1, r3⟩ := payAnte_fresh hev (by rw [hpre.opts]; exact ha) hw
    rw [hpre.frames, hpre.opts] at r3
    rw [r1]
    -- reduce `(_, none).1` first: `exact` would unfold the chain to compare
    dsimp only
    exact ⟨fun _ => ⟨hev, rfl⟩,
      pre_enterPreflop (pre_anteSwept ((wr_payAnteLoop _ _).opts.trans hpre.opts) r3)⟩
  · rw [if_neg ha] at hp
    rw [if_neg ha, if_neg ha]
    exact ⟨fun h => absurd h ha, hpre, congrArg Prod.snd hp, congrArg Prod.fst hp⟩

theorem payBlinds_fresh {m : Meta} {L : List Fr} {g : Game} (h : ForcedPre m L g) (he : g.event = .blindsRequested)
    (hr : g.round = .preflop) :
    (g.step .payBlinds).1.event = .readyRequested ∧ (g.step .payBlinds).1.round = .preflop ∧
    (g.step .payBlinds).1.opts = m ∧ (g.step .payBlinds).1.players.map Player.frame = L.map (blindFr m) := by
  have row := payBlinds_phase he hr
  rw [step_payBlinds he] at row ⊢
  have f1 := (wr_foldl_payBlind g.seatsFromDealer g).opts.trans h.opts
  have f2 := foldl_payBlind_frames g.seatsFromDealer g
  rw [foldl_modify_eq_map _ _ _ g.nodup_seatsFromDealer
    (fun j hj => g.mem_seatsFromDealer.mpr (by simpa [Game.n] using hj)), h.frames, h.opts] at f2
  have w := wr_blindsPaid_rest (g.seatsFromDealer.foldl payBlind g)
  refine ⟨?_, ?_, w.opts.trans f1, w.noChip.frame.trans f2⟩
  all_goals
    generalize (Game.blindsPaid _).event = e, (Game.blindsPaid _).round = r at row
    cases row with
    | blinds hop | noBlinds hop => exact hop.elim nofun fun h => nomatch h.1
    | payBlinds => rfl

/-- Everything about the state that waits for `ReadyForAll` before the first betting round. -/
structure ForcedSpec (c : Config) : Prop where
  ready_ok : ((start c).1.step .ready).2 = none
  ante_ok : c.opts.ante > 0 → ((afterReady c).step .payAnte).2 = none
  ante_ev : c.opts.ante > 0 → (afterReady c).event = .anteRequested
  blinds_ok : ¬ c.opts.noBlinds → ((afterAnte c).step .payBlinds).2 = none
  blinds_ev : ¬ c.opts.noBlinds → (afterAnte c).event = .blindsRequested
  anteFrames : (afterAnte c).players.map Player.frame = c.LA
  anteCw : (afterAnte c).cw = 0
  ev : (afterForcedBets c).event = .readyRequested
  round : (afterForcedBets c).round = .preflop
  opts : (afterForcedBets c).opts = c.opts
  frames : (afterForcedBets c).players.map Player.frame = c.LB

theorem forcedSpec (c : Config) (hs : (start c).2 = none) : ForcedSpec c := by
  obtain ⟨hr, _, _⟩ := readyStep_spec c hs
  obtain ⟨ha, hP, hPr, hPe⟩ := afterAnte_spec c hs
  have hev : ¬ c.opts.noBlinds → (afterAnte c).event = .blindsRequested := fun hb => by rw [hPe, if_neg hb]
  have h5 : (afterForcedBets c).event = .readyRequested ∧ (afterForcedBets c).round = .preflop ∧
      (afterForcedBets c).opts = c.opts ∧ (afterForcedBets c).players.map Player.frame = c.LB := by
    unfold afterForcedBets Config.LB
    split
    · rename_i hb
      rw [if_pos hb] at hPe
      exact ⟨hPe, hPr, hP.opts, hP.frames⟩
    · rename_i hb
      exact payBlinds_fresh hP (hev hb) hPr
  exact ⟨hr, fun h => (ha h).2, fun h => (ha h).1, fun hb => by rw [step_payBlinds (hev hb)], hev, hP.frames, hP.cw,
    h5.1, h5.2.1, h5.2.2.1, h5.2.2.2⟩

theorem blindOfFr_congr (m : Meta) {a b : Fr} (h : a.1 = b.1) : blindOfFr m a = blindOfFr m b := by
  unfold blindOfFr
  rw [h]

/-- With `stack = initial − wager`, a payment of `c` moves `min stack c` chips from the stack to the wager. -/
theorem payFr_min (c : Int) (k : Nat × Bool × Bool × Bool) (b ini st pot w : Int) (h : st = ini - w) :
    payFr c (k, (b, ini, st, pot, w)) = (k, (b, ini, st - min st c, pot, w + min st c)) := by
  unfold payFr
  dsimp only
  split
  · rw [Int.min_eq_left (by assumption)]
    simp only [Prod.mk.injEq, true_and]
    omega
  · rw [Int.min_eq_right (by omega)]
    simp only [Prod.mk.injEq, true_and, and_true]
    omega

/-- the frame of a seat after the ante, from the frame it was configured with: `min ante bankroll` is in the pot -/
def anteFr (m : Meta) (fr0 : Fr) : Fr :=
  (fr0.1, (fr0.2.1, fr0.2.1 - min m.ante fr0.2.1, fr0.2.1 - min m.ante fr0.2.1, min m.ante fr0.2.1, 0))

/-- the frame of a seat after the blinds: of what the ante left, `min rest (blind owed)` is the wager -/
def forcedFr (m : Meta) (fr0 : Fr) : Fr :=
  (fr0.1, (fr0.2.1, fr0.2.1 - min m.ante fr0.2.1,
    fr0.2.1 - min m.ante fr0.2.1 - min (fr0.2.1 - min m.ante fr0.2.1) (blindOfFr m fr0),
    min m.ante fr0.2.1, min (fr0.2.1 - min m.ante fr0.2.1) (blindOfFr m fr0)))

theorem sweep_pay_fresh (m : Meta) (k : Nat × Bool × Bool × Bool) (b : Int) :
    sweepFr (payFr m.ante (k, (b, b, b, 0, 0))) = anteFr m (k, (b, b, b, 0, 0)) := by
  rw [payFr_min _ _ _ _ _ _ _ (Int.sub_zero b).symm]
  unfold sweepFr anteFr
  dsimp only
  rw [Int.zero_add, Int.zero_add, Int.min_comm]

/-- `payBlind`'s own cap `min stack blind` is absorbed by that of `pay` -/
theorem blind_ante (m : Meta) (fr : Fr) : blindFr m (anteFr m fr) = forcedFr m fr := by
  unfold blindFr
  rw [blindOfFr_congr m (show (anteFr m fr).1 = fr.1 from rfl)]
  unfold anteFr forcedFr
  rw [payFr_min _ _ _ _ _ _ _ (Int.sub_zero _).symm]
  dsimp only
  rw [Int.zero_add]
  split
  · rename_i h
    rw [Int.min_self, Int.min_eq_left (Int.le_of_lt h)]
  · rename_i h
    rw [Int.min_eq_right (Int.not_lt.mp h)]

theorem LA_eq (c : Config) (ho : OptsOK c.opts) (hs : (start c).2 = none) : c.LA = c.L0.map (anteFr c.opts) := by
  unfold Config.LA
  have ha0 := ho.ante0
  split
  · rw [List.map_map]
    apply List.map_congr_left
    intro fr hfr
    obtain ⟨_, e⟩ := config_frame c hs fr hfr
    rw [e]
    exact sweep_pay_fresh _ _ _
  · rw [← List.map_id c.L0, List.map_map]
    apply List.map_congr_left
    intro fr hfr
    obtain ⟨hb, e⟩ := config_frame c hs fr hfr
    rw [e]
    unfold anteFr
    simp only [Function.comp, id]
    rw [Int.min_eq_left (by omega), show c.opts.ante = 0 by omega, Int.sub_zero]

theorem LB_eq (c : Config) (ho : OptsOK c.opts) (hs : (start c).2 = none) : c.LB = c.L0.map (forcedFr c.opts) := by
  unfold Config.LB
  rw [LA_eq c ho hs]
  split
  · rename_i hb
    apply List.map_congr_left
    intro fr _
    have hbl : blindOfFr c.opts fr = 0 := by
      obtain ⟨b1, b2, b3⟩ := hb
      simp [blindOfFr, b1, b2, b3]
    have h0 : min (fr.2.1 - min c.opts.ante fr.2.1) 0 = 0 :=
      Int.min_eq_right (Int.sub_nonneg_of_le (Int.min_le_right _ _))
    unfold anteFr forcedFr
    rw [hbl, h0, Int.sub_zero]
  · rw [List.map_map]
    exact List.map_congr_left fun fr _ => blind_ante c.opts fr

theorem reachable_afterReady (c : Config) (wf : WFConfig c) (hs : (start c).2 = none) : Reachable (afterReady c) :=
  (reachable_run wf hs []).step .ready

theorem reachable_afterAnte (c : Config) (wf : WFConfig c) (hs : (start c).2 = none) : Reachable (afterAnte c) := by
  unfold afterAnte
  split
  · exact (reachable_afterReady c wf hs).step _
  · exact reachable_afterReady c wf hs

theorem reachable_afterForcedBets (c : Config) (wf : WFConfig c) (hs : (start c).2 = none) :
    Reachable (afterForcedBets c) :=
  afterForcedBets_eq_run c ▸ reachable_run wf hs _

theorem bInv_afterAnte (c : Config) (wf : WFConfig c) (hs : (start c).2 = none) (hb : ¬ c.opts.noBlinds) :
    BInv (afterAnte c) := by
  exact (inv_reachable (reachable_afterAnte c wf hs)).bInv ((forcedSpec c hs).blinds_ev hb)

theorem config_seat (c : Config) (j : Nat) (p0 : Player) (h : c.players[j]? = some p0) :
    ∃ s, c.seats[j]? = some s ∧ p0.idx = j ∧ p0.posDealer = s.dealer ∧ p0.posSB = s.sb ∧ p0.posBB = s.bb ∧
      p0.bankroll = s.bankroll := by
  rw [config_players_getElem?] at h
  obtain ⟨s, hs, rfl⟩ := Option.map_eq_some_iff.1 h
  exact ⟨s, hs, rfl, rfl, rfl, rfl, rfl⟩

theorem seat_of_frames (c : Config) {g : Game} {f : Fr → Fr} (hf : g.players.map Player.frame = c.L0.map f)
    {j : Nat} {q : Player} (hq : g.players[j]? = some q) :
    ∃ s fr0, c.seats[j]? = some s ∧ fr0.1 = (j, s.dealer, s.sb, s.bb) ∧ fr0.2.1 = s.bankroll ∧ q.frame = f fr0 := by
  have h : (c.L0.map f)[j]? = some q.frame := by
    rw [← hf]
    simp [hq]
  simp only [Config.L0, List.getElem?_map, Option.map_eq_some_iff] at h
  obtain ⟨_, ⟨p0, hp0, rfl⟩, he⟩ := h
  obtain ⟨s, hs, h1, h2, h3, h4, h5⟩ := config_seat c j p0 hp0
  refine ⟨s, p0.frame, hs, ?_, h5, he.symm⟩
  simp [Player.frame, h1, h2, h3, h4]

theorem forced_seat (c : Config) (wf : WFConfig c) (hs : (start c).2 = none) {j : Nat} {q : Player}
    (hq : (afterForcedBets c).players[j]? = some q) :
    ∃ s, c.seats[j]? = some s ∧ q.idx = j ∧ q.posDealer = s.dealer ∧ q.posSB = s.sb ∧ q.posBB = s.bb ∧
      q.bankroll = s.bankroll ∧ q.pot = min c.opts.ante s.bankroll ∧
      q.wager = min (s.bankroll - q.pot) (blindOf c.opts q) ∧
      q.stack = s.bankroll - q.pot - q.wager ∧ q.initial = s.bankroll - q.pot := by
  obtain ⟨s, fr0, hs', e1, e2, e⟩ := seat_of_frames c ((forcedSpec c hs).frames.trans (LB_eq c wf.opts hs)) hq
  have hbl : blindOf c.opts q = blindOfFr c.opts fr0 := by
    rw [blindOf_frame]
    exact blindOfFr_congr _ (show q.frame.1 = (forcedFr c.opts fr0).1 by rw [e])
  simp only [forcedFr, e1, e2, Player.frame, Player.chips, Prod.mk.injEq] at e
  obtain ⟨⟨i1, i2, i3, i4⟩, a2, a6, a5, a3, a4⟩ := e
  refine ⟨s, hs', i1, i2, i3, i4, a2, a3, ?_, ?_, ?_⟩
  · rw [hbl, a3]
    exact a4
  · rw [a5, a3, a4]
  · rw [a6, a3]

theorem afterForcedBets_n (c : Config) (hs : (start c).2 = none) : (afterForcedBets c).n = c.seats.length := by
  rw [afterForcedBets_eq_run, (wr_run _ _).n, (wr_start c hs).n]
  exact config_players_length c

theorem ante_seat (c : Config) (wf : WFConfig c) (hs : (start c).2 = none) {j : Nat} {q : Player}
    (hq : (afterAnte c).players[j]? = some q) :
    ∃ s, c.seats[j]? = some s ∧ q.bankroll = s.bankroll ∧ q.pot = min c.opts.ante s.bankroll ∧ q.wager = 0 ∧
      q.stack = s.bankroll - q.pot ∧ q.initial = s.bankroll - q.pot := by
  obtain ⟨s, fr0, hs', _, e2, e⟩ := seat_of_frames c ((forcedSpec c hs).anteFrames.trans (LA_eq c wf.opts hs)) hq
  simp only [anteFr, e2, Player.frame, Player.chips, Prod.mk.injEq] at e
  obtain ⟨_, a2, a6, a5, a3, a4⟩ := e
  exact ⟨s, hs', a2, a3, a4, by rw [a5, a3], by rw [a6, a3]⟩

def BeforeForced (c : Config) (g : Game) : Prop :=
  g = (start c).1 ∨ (c.opts.ante > 0 ∧ g = afterReady c) ∨ (¬ c.opts.noBlinds ∧ g = afterAnte c)

theorem afterAnte_next (c : Config) : BeforeForced c (afterAnte c) ∨ afterAnte c = afterForcedBets c := by
  by_cases hb : c.opts.noBlinds
  · right
    unfold afterForcedBets
    rw [if_pos hb]
  · exact Or.inl (Or.inr (Or.inr ⟨hb, rfl⟩))

theorem beforeForced_step (c : Config) (wf : WFConfig c) (hs : (start c).2 = none) {g : Game}
    (h : BeforeForced c g) (op : Op) :
    BeforeForced c (g.step op).1 ∨ (g.step op).1 = afterForcedBets c := by
  have sp := forcedSpec c hs
  rcases h with rfl | ⟨ha, rfl⟩ | ⟨hb, rfl⟩
  · by_cases hop : op = .ready
    · subst hop
      by_cases ha : c.opts.ante > 0
      · exact Or.inl (Or.inr (Or.inl ⟨ha, rfl⟩))
      · have : ((start c).1.step .ready).1 = afterAnte c := by
          unfold afterAnte afterReady
          rw [if_neg ha]
        rw [this]
        exact afterAnte_next c
    · rw [step_other_awaited (inv_start c wf hs) (flow_start c hs) (o := .ready) nofun (pre_start c hs).2.1 hop]
      exact Or.inl (Or.inl rfl)
  · by_cases hop : op = .payAnte
    · subst hop
      have : ((afterReady c).step .payAnte).1 = afterAnte c := by
        unfold afterAnte
        rw [if_pos ha]
      rw [this]
      exact afterAnte_next c
    · have hR := reachable_afterReady c wf hs
      rw [step_other_awaited (inv_reachable hR) (flow_reachable hR) (o := .payAnte) nofun (sp.ante_ev ha) hop]
      exact Or.inl (Or.inr (Or.inl ⟨ha, rfl⟩))
  · by_cases hop : op = .payBlinds
    · subst hop
      right
      unfold afterForcedBets
      rw [if_neg hb]
    · have hR := reachable_afterAnte c wf hs
      rw [step_other_awaited (inv_reachable hR) (flow_reachable hR) (o := .payBlinds) nofun (sp.blinds_ev hb) hop]
      exact Or.inl (Or.inr (Or.inr ⟨hb, rfl⟩))

theorem run_through_forced (c : Config) (wf : WFConfig c) (hs : (start c).2 = none) :
    ∀ (ops : List Op) (g : Game), BeforeForced c g →
      BeforeForced c (g.run ops) ∨ ∃ ops1 ops2, ops = ops1 ++ ops2 ∧ g.run ops1 = afterForcedBets c
  | [], g, h => Or.inl h
  | op :: ops, g, h => by
    rcases beforeForced_step c wf hs h op with h1 | h1
    · rcases run_through_forced c wf hs ops _ h1 with h2 | ⟨o1, o2, e1, e2⟩
      · exact Or.inl h2
      · exact Or.inr ⟨op :: o1, o2, by rw [e1]; rfl, e2⟩
    · exact Or.inr ⟨[op], ops, rfl, h1⟩

theorem beforeForced_not_preflop_ready (c : Config) (hs : (start c).2 = none) {g : Game} (h : BeforeForced c g) :
    ¬ (g.round = .preflop ∧ g.event = .readyRequested) := by
  have sp := forcedSpec c hs
  rcases h with rfl | ⟨ha, rfl⟩ | ⟨hb, rfl⟩
  · rw [(pre_start c hs).2.2]
    simp
  · rw [sp.ante_ev ha]
    simp
  · rw [sp.blinds_ev hb]
    simp

end Pokerface
