/-
  The game `startGame` creates (Model/Table.lean):
  game indices (`assignGameIdx`, `seatOfGameIdx`), the player settings (`gameSeats`), `getPlayableSeats`.
-/
import Pokerface.Proofs.TableGlue

namespace Pokerface
namespace Table

theorem assignFold_playerAt (t : Table) (seats : List Nat) (k0 : Nat) (hnd : seats.Nodup) (j : Nat) :
    (t.assignFold seats k0).playerAt j =
      (t.playerAt j).map fun p => if j ∈ seats then { p with gameIdx := ((k0 + seats.idxOf j : Nat) : Int) } else p := by
  induction seats generalizing t k0 with
  | nil => simp [assignFold]
  | cons s seats ih =>
    rw [assignFold_cons, ih _ _ (List.nodup_cons.mp hnd).2, playerAt_modPl]
    by_cases hsj : s = j
    · subst hsj
      have hns : s ∉ seats := (List.nodup_cons.mp hnd).1
      simp only [hns, if_false, if_true, List.mem_cons, true_or, List.idxOf_cons_self, Nat.add_zero]
      cases t.playerAt s <;> simp
    · have hne : (s == j) = false := by simpa using hsj
      have hjs : ¬ j = s := fun h => hsj h.symm
      simp only [hsj, if_false, List.mem_cons, hjs, false_or, List.idxOf_cons, hne, cond_false]
      cases t.playerAt j with
      | none => rfl
      | some p =>
        simp only [Option.map_some]
        split
        · have : k0 + 1 + List.idxOf j seats = k0 + (List.idxOf j seats + 1) := by omega
          rw [this]
        · rfl

theorem assignGameIdx_playerAt (t : Table) (seats : List Nat) (hnd : seats.Nodup) (j : Nat) :
    (t.assignGameIdx seats).playerAt j =
      (t.playerAt j).map fun p => { p with gameIdx := if j ∈ seats then ((seats.idxOf j : Nat) : Int) else -1 } := by
  rw [assignGameIdx_eq, assignFold_playerAt _ _ _ hnd, clearIdx_playerAt]
  cases t.playerAt j with
  | none => rfl
  | some p =>
    simp only [Option.map_some, Nat.zero_add]
    split <;> rfl

theorem assignGameIdx_gameIdx_of_not_mem (t : Table) {seats : List Nat} (hnd : seats.Nodup) {j : Nat} {q : TPlayer}
    (hj : j ∉ seats) (hq : (t.assignGameIdx seats).playerAt j = some q) : q.gameIdx = -1 := by
  rw [assignGameIdx_playerAt _ _ hnd, Option.map_eq_some_iff] at hq
  obtain ⟨q0, _, rfl⟩ := hq
  exact if_neg hj

theorem seatOfGameIdx_some {t : Table} {k s : Nat} {q : TPlayer} (hq : t.players[s]? = some (some q))
    (hk : q.gameIdx = (k : Int))
    (huniq : ∀ j q', t.players[j]? = some (some q') → q'.gameIdx = (k : Int) → j = s) :
    t.seatOfGameIdx k = some s := by
  unfold seatOfGameIdx
  cases hf : t.players.zipIdx.find? (fun x : Option TPlayer × Nat => match x.1 with
      | some p => p.gameIdx == (k : Int)
      | none => false) with
  | none =>
    exfalso
    rw [List.find?_eq_none] at hf
    have hm : ((some q, s) : Option TPlayer × Nat) ∈ t.players.zipIdx := List.mem_zipIdx_iff_getElem?.mpr hq
    have := hf _ hm
    simp [hk] at this
  | some x =>
    obtain ⟨o, i⟩ := x
    have hp := List.find?_some hf
    have hm := List.mem_zipIdx_iff_getElem?.mp (List.mem_of_find?_eq_some hf)
    simp only at hm hp
    cases o with
    | none => simp at hp
    | some q' =>
      simp only [beq_iff_eq] at hp
      have := huniq i q' hm hp
      subst this
      rfl

/-- the `PlayerSetting` made from one sheet entry -/
def _root_.Pokerface.TPlayer.cfg (p : TPlayer) : SeatCfg :=
  { bankroll := p.bankroll, dealer := p.dealer, sb := p.sb, bb := p.bb }

/-- the `PlayerSetting` of seat `s` (all-zero where the sheet has nobody: the Go code would dereference nil) -/
def seatCfgAt (t : Table) (s : Nat) : SeatCfg :=
  ((t.playerAt s).map TPlayer.cfg).getD { bankroll := 0, dealer := false, sb := false, bb := false }

theorem gameSeats_eq_map (t : Table) (seats : List Nat) : t.gameSeats seats = seats.map t.seatCfgAt := by
  unfold gameSeats
  apply List.map_congr_left
  intro s _
  unfold seatCfgAt playerAt
  cases h : t.players[s]? with
  | none => rfl
  | some o => cases o <;> rfl

theorem gameSeats_length (t : Table) (seats : List Nat) : (t.gameSeats seats).length = seats.length := by
  simp [gameSeats]

theorem gameSeats_getElem? (t : Table) (seats : List Nat) (k : Nat) :
    (t.gameSeats seats)[k]? = (seats[k]?).map t.seatCfgAt := by
  rw [gameSeats_eq_map, List.getElem?_map]

theorem seatCfgAt_of_player {t : Table} {s : Nat} {p : TPlayer} (h : t.players[s]? = some (some p)) :
    t.seatCfgAt s = p.cfg := by
  unfold seatCfgAt
  rw [playerAt_eq_some.mpr h]
  rfl

theorem gameSeats_assignGameIdx (t : Table) (seats l : List Nat) :
    (t.assignGameIdx seats).gameSeats l = t.gameSeats l := by
  rw [gameSeats_eq_map, gameSeats_eq_map]
  apply List.map_congr_left
  intro s _
  unfold seatCfgAt
  rw [assignGameIdx_proj TPlayer.cfg fun _ _ => rfl]

theorem playableSeats_eq {sm : SM} {d : Nat} (hd : sm.dealer = some d) :
    playableSeats sm = some ((sm.normalize d).filter sm.playable) := by
  unfold playableSeats
  rw [hd]
  rfl

theorem playableSeats_spec {sm : SM} {seats : List Nat} (h : playableSeats sm = some seats) :
    ∃ d, sm.dealer = some d ∧ seats = (sm.normalize d).filter sm.playable ∧ seats.Nodup ∧
      seats.length = sm.playableCount ∧ ∀ s, s ∈ seats ↔ (s < sm.max ∧ sm.playable s = true) := by
  unfold playableSeats at h
  cases hd : sm.dealer with
  | none =>
    rw [hd] at h
    cases h
  | some d =>
    rw [hd] at h
    simp only [Option.map_some, Option.some.injEq] at h
    subst h
    refine ⟨d, rfl, rfl, (SM.normalize_nodup sm d).filter _, ?_, ?_⟩
    · rw [SM.playableCount_eq_normalize sm d, List.countP_eq_length_filter]
    · intro s
      rw [List.mem_filter, SM.mem_normalize]

end Table
end Pokerface
