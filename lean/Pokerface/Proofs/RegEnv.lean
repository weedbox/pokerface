/-
  The synchronous system regulator × environment (Model/RegulatorEnv.lean) as the special case
  "every sync is followed at once by its report" of the asynchronous one: its invariants `SInv0`
  (widest domain) and `SInv` (status moving forward only) ARE the asynchronous invariants `AInv`,
  `AInvF` of the state with nobody on the way (`SInv0.iff_async`, `SInv.iff_async`), a synchronous
  step is the run of its asynchronous script (`ASys.run_expand`), so preservation is a corollary
  (`SInv0.step`, `SInv.step`), and what happened inside the step (`StepFacts`) is read off the
  facts of the one or two asynchronous steps (`StepFacts.of_async`).
-/
import Pokerface.Proofs.RegAsyncCapEnv

namespace Pokerface
open Reg

namespace RSys
open ASys

/-- invariant of the combined system at quiescent points, widest domain -/
structure SInv0 (s : RSys) : Prop where
  rinv : RInv0 s.r
  sim : tview s.r.tables = mview s.env.members
  cons : s.env.alive.Perm (s.r.queue ++ seatedOf s.env.members)
  nodup : s.env.alive.Nodup
  sub : ∀ p ∈ s.env.alive, p ∈ s.env.registered
  lenle : s.env.alive.length ≤ s.env.registered.length

/-- invariant of the combined system at quiescent points -/
structure SInv (s : RSys) : Prop where
  rinv : RInv s.r
  sim : tview s.r.tables = mview s.env.members
  cons : s.env.alive.Perm (s.r.queue ++ seatedOf s.env.members)
  nodup : s.env.alive.Nodup
  sub : ∀ p ∈ s.env.alive, p ∈ s.env.registered
  lenle : s.env.alive.length ≤ s.env.registered.length
  regmin : s.r.tables ≠ [] → s.r.min ≤ s.env.registered.length

theorem SInv.toSInv0 {s : RSys} (h : SInv s) : SInv0 s :=
  ⟨h.rinv.toRInv0, h.sim, h.cons, h.nodup, h.sub, h.lenle⟩

/-- `SInv` is `SInv0`, the capacity invariant of the regulator and the registration count -/
theorem SInv0.toSInv {s : RSys} (h : SInv0 s) (hf : FInv s.r)
    (hreg : s.r.tables ≠ [] → s.r.min ≤ s.env.registered.length) : SInv s :=
  ⟨h.rinv.toRInv hf, h.sim, h.cons, h.nodup, h.sub, h.lenle, hreg⟩

/-! ### the invariants are the asynchronous ones with nobody on the way -/

theorem SInv0.iff_async {s : RSys} : SInv0 s ↔ AInv (ofRSys s) := by
  constructor
  · intro h
    refine AInv.of_parts h.rinv.wf ?_ h.sim ?_ h.nodup h.sub
    · rw [h.rinv.cnt]
      simp [seatedOf]
    · simpa [seatedOf] using h.cons
  · intro h
    refine ⟨⟨h.wf, ?_⟩, h.sim, ?_, h.nodup, h.sub, h.lenle⟩
    · simpa [ofRSys, flying] using h.cnt
    · simpa [ofRSys, flying] using h.cons

theorem SInv0.async {s : RSys} (h : SInv0 s) : AInv (ofRSys s) := SInv0.iff_async.1 h

theorem SInv.iff_async {s : RSys} : SInv s ↔ AInvF (ofRSys s) :=
  ⟨fun h => ⟨h.toSInv0.async, h.rinv.toFInv, h.regmin, fun _ => rfl⟩,
    fun h => (SInv0.iff_async.2 h.a).toSInv h.f h.regmin⟩

theorem SInv.async {s : RSys} (h : SInv s) : AInvF (ofRSys s) := SInv.iff_async.1 h

theorem SInv0.ids_nodup {s : RSys} (h : SInv0 s) : (s.env.members.map (·.1)).Nodup := h.async.ids_nodup

theorem SInv0.init (max min : Nat) : SInv0 (RSys.init max min) := SInv0.iff_async.2 (AInv.init max min)

theorem SInv.init (max min : Nat) (h1 : 1 ≤ max) : SInv (RSys.init max min) :=
  SInv.iff_async.2 (AInvF.init max min h1)

theorem SInv0.unknown_iff {s : RSys} (h : SInv0 s) (t : Nat) :
    s.env.membersOf t = none ↔ s.r.findTable t = none :=
  h.async.unknown_iff t

/-! ### what one operation does to the system state -/

theorem step_add_r (s : RSys) (ps ch : List Nat) : (s.step (.add ps ch)).r = (s.r.addPlayers ps ch).1 := by
  simp only [step]
  generalize s.r.addPlayers ps ch = p
  obtain ⟨r', e⟩ := p
  cases e <;> rfl

theorem step_add_refused (s : RSys) (ps ch : List Nat) (hs : s.r.status = .afterRegDeadline) :
    s.step (.add ps ch) = { r := s.r.beginOp ch, env := s.env } := by
  simp only [step, addPlayers_refused s.r ps ch hs]

theorem step_add_accepted (s : RSys) (ps ch : List Nat) (hs : s.r.status ≠ .afterRegDeadline) :
    s.step (.add ps ch) =
      { r := (s.r.addPlayers ps ch).1,
        env := { members := Env.applyCalls s.env.members (s.r.addPlayers ps ch).1.calls,
                 alive := s.env.alive ++ ps, registered := s.env.registered ++ ps } } := by
  simp only [step, addPlayers_accepted s.r ps ch hs]

/-- the regulator after a sync: the answer of `SyncState`, followed by `ReleasePlayers` when the
    table exists and released somebody or was broken -/
theorem step_sync_eq (s : RSys) (t : Nat) (elim stay rel keep ch : List Nat) :
    (s.step (.sync t elim stay rel keep ch)).r =
      if s.env.membersOf t = none ∨ (rel.isEmpty ∧ s.broken t elim = false) then (s.syncAnswer t elim).1
      else (s.syncAnswer t elim).1.releasePlayers rel ch := by
  simp only [step]
  cases hm : s.env.membersOf t with
  | none => simp
  | some ms =>
    simp only [reduceCtorEq, false_or]
    split <;> rfl

theorem ok_sync_known {s : RSys} {t : Nat} {ms : List Nat} (hm : s.env.membersOf t = some ms)
    (elim stay rel keep ch : List Nat) :
    s.ok (.sync t elim stay rel keep ch) ↔
      ms.Perm (elim ++ stay) ∧ (stay ++ (s.syncAnswer t elim).2.2.2).Perm (rel ++ keep) ∧
      (rel.length : Int) = (s.syncAnswer t elim).2.2.1 ∧ (s.broken t elim = true → keep = []) ∧
      ((rel.isEmpty ∧ s.broken t elim = false) ∨
        ((s.syncAnswer t elim).1.releasePlayers rel ch).badChoice = false) := by
  simp only [ok, hm]

theorem SInv0.step_sync_unknown {s : RSys} (h : SInv0 s) (t : Nat) (elim stay rel keep ch : List Nat)
    (hm : s.env.membersOf t = none) :
    s.step (.sync t elim stay rel keep ch) = { r := s.r.beginOp [], env := s.env } := by
  have := syncState_unknown s.r t elim.length ((h.unknown_iff t).1 hm)
  simp only [step, hm, syncAnswer, this]

/-- what happened inside one step, in terms of the observation functions of the model -/
structure StepFacts (s : RSys) (op : EOp) : Prop where
  max_eq : (s.step op).r.max = s.r.max
  min_eq : (s.step op).r.min = s.r.min
  members : (s.step op).env.members = Env.applyCalls (s.baseMembers op) (s.step op).r.calls
  valid : validCalls (mview (s.baseMembers op)) (s.step op).r.calls
  base_nodup : ((s.baseMembers op).map (·.1)).Nodup
  reqmax : ∀ id ps, RCall.requestTable id ps ∈ (s.step op).r.calls → ps.length ≤ s.r.max
  handout : s.r.queue ++ s.incoming op = s.returned op ++ handed (s.step op).r.calls ++ (s.step op).r.queue
  status_eq : (s.step op).r.status = (match op with | .status st _ => st | _ => s.r.status)
  newids : ∀ id ps, RCall.requestTable id ps ∈ (s.step op).r.calls → s.r.nextId ≤ id

/-- a synchronous operation whose script is one asynchronous operation with the same observations -/
theorem StepFacts.of_single {s : RSys} {op : EOp} {a : AOp} (hA : AInv (ofRSys s)) (hok : (ofRSys s).okRe a)
    (hst : (ofRSys s).statusAfter a = (match op with | .status st _ => st | _ => s.r.status))
    (hstep : (ofRSys s).step a = ofRSys (s.step op))
    (hb : (ofRSys s).baseMembers a = s.baseMembers op) (hi : (ofRSys s).incoming a = s.incoming op)
    (hr : (ofRSys s).returned a = s.returned op)
    (hn : ((s.baseMembers op).map (·.1)).Nodup) : StepFacts s op := by
  have hF := (hA.step_full_re a hok).2
  have hG := hA.step_members a hok
  have hr' : ((ofRSys s).step a).r = (s.step op).r := by rw [hstep]; rfl
  have he' : ((ofRSys s).step a).env = (s.step op).env := by rw [hstep]; rfl
  exact ⟨hr' ▸ hF.max_eq, hr' ▸ hF.min_eq, hb ▸ he' ▸ hr' ▸ hG.members, hb ▸ hr' ▸ hG.valid, hn,
    hr' ▸ hF.reqmax, hi ▸ hr ▸ hr' ▸ hF.handout, hr' ▸ hF.status_eq.trans hst, hr' ▸ hF.newids⟩

/-- the facts of a synchronous step from those of the asynchronous steps of its script: a sync makes
    no callback, so the sheet it leaves behind is the sheet the callbacks of the report start from -/
theorem StepFacts.of_async {s : RSys} (hA : AInv (ofRSys s)) (op : EOp) (hok : s.okRe op) : StepFacts s op := by
  have hall := allOkRe_expand s op hok
  have hrun := run_expand s op
  cases op with
  | add ps ch => exact .of_single hA hall.1 rfl hrun rfl rfl rfl hA.ids_nodup
  | status st ch => exact .of_single hA hall.1 rfl hrun rfl rfl rfl hA.ids_nodup
  | sync t elim stay rel keep ch =>
    have hbase : ∀ hok1 : (ofRSys s).okRe (.sync t elim stay rel keep),
        ((ofRSys s).step (.sync t elim stay rel keep)).env.members = s.baseMembers (.sync t elim stay rel keep ch) ∧
        ((s.baseMembers (.sync t elim stay rel keep ch)).map (·.1)).Nodup := by
      intro hok1
      have hm : _ = s.baseMembers (.sync t elim stay rel keep ch) :=
        (hA.step_members _ hok1).members.trans (by rw [(sync_quiet _ t elim stay rel keep).1]; rfl)
      exact ⟨hm, hm ▸ (hA.step_full_re _ hok1).1.ids_nodup⟩
    cases hm : s.env.membersOf t with
    | none =>
      simp only [expand, hm] at hall hrun
      exact .of_single hA hall.1 rfl hrun rfl (by simp only [RSys.incoming, hm]; rfl) rfl (hbase hall.1).2
    | some ms =>
      simp only [expand, hm] at hall hrun
      by_cases hq : rel.isEmpty ∧ s.broken t elim = false
      · rw [if_pos hq] at hall hrun
        have hrel : rel = [] := by simpa using hq.1
        exact .of_single hA hall.1 rfl hrun rfl (by simp only [RSys.incoming, hm, hrel]; rfl) rfl (hbase hall.1).2
      · rw [if_neg hq] at hall hrun
        obtain ⟨hok1, hok2, _⟩ := hall
        obtain ⟨hA1, hF1⟩ := hA.step_full_re _ hok1
        obtain ⟨hc1, hn1⟩ := sync_quiet (ofRSys s) t elim stay rel keep
        obtain ⟨hb1, hnd⟩ := hbase hok1
        obtain ⟨f_max, f_min, f_hand, f_st, _, f_req, f_new⟩ := (hA1.step_full_re _ hok2).2
        obtain ⟨g_mem, g_val⟩ := hA1.step_members _ hok2
        have hr' : (((ofRSys s).step (.sync t elim stay rel keep)).step (.report t rel [] ch)).r =
            (s.step (.sync t elim stay rel keep ch)).r := congrArg ASys.r hrun
        have he' : (((ofRSys s).step (.sync t elim stay rel keep)).step (.report t rel [] ch)).env =
            (s.step (.sync t elim stay rel keep ch)).env := congrArg ASys.env hrun
        rw [hr'] at f_max f_min f_hand f_st f_req f_new g_mem g_val
        rw [he'] at g_mem
        refine ⟨f_max.trans hF1.max_eq, f_min.trans hF1.min_eq, ?_, ?_, hnd, ?_, ?_, ?_, ?_⟩
        · rw [g_mem]
          exact congrArg (Env.applyCalls · _) hb1
        · exact hb1 ▸ g_val
        · exact fun id ps h => hF1.max_eq ▸ f_req id ps h
        · have h1 := hF1.handout
          have hm' : (ofRSys s).env.membersOf t = some ms := hm
          rw [hc1] at h1
          simp only [ASys.incoming, ASys.returned, hm', List.append_nil, handed_nil, List.nil_append] at h1 f_hand
          have h1' : s.r.queue = (s.syncAnswer t elim).2.2.2 ++ _ := h1
          simp only [RSys.incoming, RSys.returned, hm]
          rw [h1', List.append_assoc, f_hand, List.append_assoc]
        · exact f_st.trans hF1.status_eq
        · exact fun id ps h => hn1 ▸ f_new id ps h

/-! ### the widest domain -/

theorem SInv0.step {s : RSys} (h : SInv0 s) (op : EOp) (hok : s.okRe op) : SInv0 (s.step op) :=
  SInv0.iff_async.2 (run_expand s op ▸ h.async.run_re (allOkRe_expand s op hok))

theorem SInv0.step_full_re {s : RSys} (h : SInv0 s) (op : EOp) (hok : s.okRe op) :
    SInv0 (s.step op) ∧ StepFacts s op :=
  ⟨h.step op hok, .of_async h.async op hok⟩

theorem SInv0.of_reachableRe {s : RSys} (h : ReachableRe s) : SInv0 s := by
  induction h with
  | init max min _ => exact SInv0.init max min
  | step op _ hok ih => exact ih.step op hok

theorem SInv0.okRe_of_okAny {s : RSys} (h : SInv0 s) {op : EOp} (hok : s.okAny op) : s.okRe op := by
  cases op with
  | status st ch => exact hok
  | sync t elim stay rel keep ch => exact hok
  | add ps ch =>
    obtain ⟨hnd, hfresh, hbad⟩ : s.ok (.add ps ch) := hok
    exact ⟨hnd, fun p hp ha => hfresh p hp (h.sub p ha), hbad⟩

theorem SInv0.step_full {s : RSys} (h : SInv0 s) (op : EOp) (hok : s.okAny op) :
    SInv0 (s.step op) ∧ StepFacts s op :=
  h.step_full_re op (h.okRe_of_okAny hok)

theorem SInv0.of_reachable {s : RSys} (h : ReachableAny s) : SInv0 s := by
  induction h with
  | init max min _ => exact SInv0.init max min
  | step op _ hok ih => exact (ih.step_full op hok).1

theorem ReachableAny.re {s : RSys} (h : ReachableAny s) : ReachableRe s := by
  induction h with
  | init max min h1 => exact .init max min h1
  | step op hr hok ih => exact .step op ih ((SInv0.of_reachable hr).okRe_of_okAny hok)

theorem allOkRe_of_allOkAny : ∀ (ops : List EOp) (s : RSys), SInv0 s → s.allOkAny ops → s.allOkRe ops := by
  intro ops
  induction ops with
  | nil =>
    intro _ _ _
    trivial
  | cons op ops ih =>
    intro s h hok
    exact ⟨h.okRe_of_okAny hok.1, ih _ (h.step_full op hok.1).1 hok.2⟩

/-- `max` never changes, so it stays positive on the widest domain with re-entries -/
theorem ReachableRe.max_pos {s : RSys} (h : ReachableRe s) : 0 < s.r.max := by
  induction h with
  | init max min h1 => exact h1
  | step op hr hok ih =>
    have := ((SInv0.of_reachableRe hr).step_full_re op hok).2.max_eq
    omega

theorem ReachableAny.max_pos {s : RSys} (h : ReachableAny s) : 0 < s.r.max := h.re.max_pos

/-! ### the forward domain -/

theorem SInv.step {s : RSys} (h : SInv s) (op : EOp) (hok : s.okReFwd op) : SInv (s.step op) :=
  SInv.iff_async.2 (run_expand s op ▸ h.async.run_re (allOkReFwd_expand s op hok))

theorem SInv.step_full_re {s : RSys} (h : SInv s) (op : EOp) (hok : s.okReFwd op) :
    SInv (s.step op) ∧ StepFacts s op :=
  ⟨h.step op hok, .of_async h.toSInv0.async op (okRe_of_okReFwd hok)⟩

theorem SInv.of_reachableReFwd {s : RSys} (h : ReachableReFwd s) : SInv s := by
  induction h with
  | init max min h1 => exact SInv.init max min h1
  | step op _ hok ih => exact ih.step op hok

theorem SInv.okReFwd_of_ok {s : RSys} (h : SInv s) {op : EOp} (hok : s.ok op) : s.okReFwd op := by
  cases op with
  | status st ch => exact hok
  | sync t elim stay rel keep ch => exact hok
  | add ps ch =>
    obtain ⟨hnd, hfresh, hbad⟩ := hok
    exact ⟨hnd, fun p hp ha => hfresh p hp (h.sub p ha), hbad⟩

theorem SInv.step_full {s : RSys} (h : SInv s) (op : EOp) (hok : s.ok op) :
    SInv (s.step op) ∧ StepFacts s op :=
  h.step_full_re op (h.okReFwd_of_ok hok)

theorem SInv.of_reachable {s : RSys} (h : Reachable s) : SInv s := by
  induction h with
  | init max min h1 => exact SInv.init max min h1
  | step op _ hok ih => exact (ih.step_full op hok).1

theorem SInv.run {s : RSys} (h : SInv s) : ∀ (ops : List EOp), s.allOk ops → SInv (s.run ops) := by
  intro ops
  induction ops generalizing s with
  | nil => exact fun _ => h
  | cons op ops ih => exact fun hok => ih (h.step_full op hok.1).1 hok.2

theorem Reachable.reFwd {s : RSys} (h : Reachable s) : ReachableReFwd s := by
  induction h with
  | init max min h1 => exact .init max min h1
  | step op hr hok ih => exact .step op ih ((SInv.of_reachable hr).okReFwd_of_ok hok)

theorem allOkReFwd_of_allOk : ∀ (ops : List EOp) (s : RSys), SInv s → s.allOk ops → s.allOkReFwd ops := by
  intro ops
  induction ops with
  | nil =>
    intro _ _ _
    trivial
  | cons op ops ih =>
    intro s hS hok
    exact ⟨hS.okReFwd_of_ok hok.1, ih _ (hS.step_full op hok.1).1 hok.2⟩

/-- a sync on a known table on the forward domain, with all of `SyncPost`; the proofs take the
    asynchronous `ASys.SyncKnown` (with `SyncPostD`) apart instead -/
structure SyncFacts (s : RSys) (t : Nat) (elim stay rel keep : List Nat) (ms : List Nat)
    (r1 : Reg) (relc : Int) (nw : List Nat) (t0 : RTable) : Prop where
  find : s.r.findTable t = some t0
  count0 : t0.count = ms.length
  ans : s.syncAnswer t elim = (r1, none, relc, nw)
  post : SyncPost (syncBase s.r t elim.length) t (adj (-(elim.length : Int)) none t0) r1 relc nw

end RSys
end Pokerface
