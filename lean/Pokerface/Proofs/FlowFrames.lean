import Pokerface.Proofs.EngineReach
/-
  Frames used by the flow properties (C05, C06):
  `Quiet`  – street, board, deck cursor, result, options, number of seats unchanged;
  `Mov`    – per seat (fold, stack) unchanged;
  `Acts`   – per seat `acted` unchanged,
  each with what it keeps (`Mov.alive`, `Mov.movable`, `Mov.stackSum` for `Game.stackSum`, `Acts.unacted` for
  `Game.unacted`, the number of seats that have not acted) and its view of a footprint; and `Game.step_next_street`,
  the equation of `Next` on a dealt street, which needs `Mov` of the sweep.
-/
namespace Pokerface
open Game

structure Quiet (g g' : Game) : Prop where
  round : g'.round = g.round
  board : g'.board = g.board
  deckPos : g'.deckPos = g.deckPos
  result : g'.result = g.result
  opts : g'.opts = g.opts
  n : g'.n = g.n

theorem Quiet.refl (g : Game) : Quiet g g := ⟨rfl, rfl, rfl, rfl, rfl, rfl⟩
theorem Quiet.trans {a b c : Game} (h1 : Quiet a b) (h2 : Quiet b c) : Quiet a c :=
  ⟨h2.round.trans h1.round, h2.board.trans h1.board, h2.deckPos.trans h1.deckPos, h2.result.trans h1.result,
   h2.opts.trans h1.opts, h2.n.trans h1.n⟩

/-- a footprint without the street, the board, the deck cursor and the result -/
theorem Wr.quiet {W : Fp} {g g' : Game} (h : Wr W g g')
    (hW : (W.round || W.board || W.deckPos || W.result) = false := by rfl) : Quiet g g' := by
  simp only [Bool.or_eq_false_iff] at hW
  obtain ⟨⟨⟨h1, h2⟩, h3⟩, h4⟩ := hW
  exact ⟨h.round h1, h.board h2, h.deckPos h3, h.result h4, h.opts, h.n⟩

def Player.mov (p : Player) : Bool × Int := (p.fold, p.stack)

structure Mov (g g' : Game) : Prop where
  mov : g'.players.map Player.mov = g.players.map Player.mov

theorem Mov.refl (g : Game) : Mov g g := ⟨rfl⟩
theorem Mov.trans {a b c : Game} (h1 : Mov a b) (h2 : Mov b c) : Mov a c := ⟨h2.mov.trans h1.mov⟩

theorem Mov.n {g g' : Game} (h : Mov g g') : g'.n = g.n := by
  have := congrArg List.length h.mov
  simpa [Game.n] using this

theorem aliveCount_eq_map (g : Game) :
    g.aliveCount = ((g.players.map Player.mov).filter (fun x => !x.1)).length := by
  unfold Game.aliveCount
  rw [List.filter_map]
  simp [Function.comp_def, Player.mov]

theorem movableCount_eq_map (g : Game) :
    g.movableCount = ((g.players.map Player.mov).filter (fun x => !(x.1 || x.2 == 0))).length := by
  unfold Game.movableCount
  rw [List.filter_map]
  simp [Function.comp_def, Player.mov]

theorem Mov.alive {g g' : Game} (h : Mov g g') : g'.aliveCount = g.aliveCount := by
  rw [aliveCount_eq_map, aliveCount_eq_map, h.mov]

theorem Mov.movable {g g' : Game} (h : Mov g g') : g'.movableCount = g.movableCount := by
  rw [movableCount_eq_map, movableCount_eq_map, h.mov]

def Game.stackSum (g : Game) : Int := (g.players.map (·.stack)).sum

theorem Mov.stackSum {g g' : Game} (h : Mov g g') : g'.stackSum = g.stackSum := by
  have := congrArg (List.map Prod.snd) h.mov
  simp only [List.map_map, Function.comp_def, Player.mov] at this
  simp only [Game.stackSum, this]

/-- a footprint without the fold flags and the stacks -/
theorem Wr.mov {W : Fp} {g g' : Game} (h : Wr W g g') (hW : (W.fold || W.stack) = false := by rfl) : Mov g g' := by
  simp only [Bool.or_eq_false_iff] at hW
  exact ⟨h.map Player.mov fun p => by simp only [Player.erase, Player.mov, hW.1, hW.2, cond_false]⟩

/-- `Next` on a dealt street, state and guard together: the hand is settled or the next street entered, from the
    swept state `g.sweep`.  (It stands here, not beside `step_next`, because the guard of `nextRound'` counts the players
    left after the sweep, and that the sweep folds nobody is `Mov`.) -/
theorem Game.step_next_street {g : Game} (he : g.event = .roundClosed) (hr : g.round ≠ .none) :
    g.step .next = (if g.aliveCount = 1 ∨ g.round = .river then g.sweep.gameCompleted
      else g.sweep.enterRound g.round.succ, none) := by
  have h := nextRound'_eq g.sweep hr
  rw [(wr_sweep g).mov.alive] at h
  rw [step_next he hr]
  exact congrArg (·, none) h

structure Acts (g g' : Game) : Prop where
  acted : g'.players.map (·.acted) = g.players.map (·.acted)

theorem Acts.refl (g : Game) : Acts g g := ⟨rfl⟩
theorem Acts.trans {a b c : Game} (h1 : Acts a b) (h2 : Acts b c) : Acts a c := ⟨h2.acted.trans h1.acted⟩

/-- number of seats that have not acted -/
def Game.unacted (g : Game) : Nat := (g.players.filter (fun p => !p.acted)).length

theorem unacted_eq_map (g : Game) :
    g.unacted = ((g.players.map (·.acted)).filter (fun x => !x)).length := by
  unfold Game.unacted
  rw [List.filter_map]
  simp [Function.comp_def]

theorem Acts.unacted {g g' : Game} (h : Acts g g') : g'.unacted = g.unacted := by
  rw [unacted_eq_map, unacted_eq_map, h.acted]

theorem unacted_le (g : Game) : g.unacted ≤ g.n := List.length_filter_le _ _

theorem acts_setEvent (g : Game) (e : Ev) : Acts g (g.setEvent e) := ⟨rfl⟩
theorem acts_setPrev (g : Game) (x : Int) : Acts g (g.setPrev x) := ⟨rfl⟩

/-- a footprint without the `acted` flags -/
theorem Wr.acts {W : Fp} {g g' : Game} (h : Wr W g g') (hW : W.acted = false := by rfl) : Acts g g' :=
  ⟨h.map (·.acted) fun p => by simp only [Player.erase, hW, cond_false]⟩

theorem Acts.getElem {g g' : Game} (h : Acts g g') (i : Nat) :
    (g'.players[i]?).map (·.acted) = (g.players[i]?).map (·.acted) := by
  have := congrArg (fun l => l[i]?) h.acted
  simpa [List.getElem?_map] using this

end Pokerface
