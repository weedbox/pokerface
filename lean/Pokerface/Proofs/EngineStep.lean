import Pokerface.Proofs.EngineFrame
/-
  What one operation does, once for all invariants that are a frame plus a few marked points.

  Between the points at which something else happens — the ante is requested, a street is dealt, the pots are
  published, the wagers are swept, the hand is settled — an operation only writes the betting fields and the
  event (`Fp.betting`).  `Tail g g'` says where the chain of handlers comes to rest after such steps: at a wait point
  other than `RoundClosed`, or in `onRoundClosed`.  `StepForm g g'` lists the forms of `(g.step op).1`
  (`step_form`); an invariant reads its own frame off the footprints (`.potsKeep`, `.keeps`, `.cf`, …).
  `HandStep` (`handStep_step`) is the coarser list for what does not care where the chain comes to rest.
-/
namespace Pokerface

namespace Fp
/-- the betting fields and the event -/
def betting : Fp := .body ∪ .ask ∪ { event := true }
/-- everything but the street, the cards, the published combinations, the result and a new `AnteRequested` -/
def hand : Fp := .betting ∪ .closed ∪ .sweep
end Fp

namespace Game

/-- Where the chain of handlers started in `g` comes to rest: at a wait point other than `RoundClosed` after steps on
    the betting fields only, or in `onRoundClosed` run after such steps. -/
inductive Tail (g : Game) : Game → Prop
  | wait {g' : Game} (k : Wr .betting g g') (he : g'.event ≠ .roundClosed) : Tail g g'
  | closed {g1 : Game} (k : Wr .betting g g1) : Tail g g1.roundClosed

theorem Tail.of {W : Fp} {g g1 g2 : Game} (k : Wr W g g1) (t : Tail g1 g2) (hW : W ∪ .betting = .betting := by rfl) :
    Tail g g2 := by
  cases t with
  | wait k' he => exact .wait ((k.mono hW).trans' k') he
  | closed k' => exact .closed ((k.mono hW).trans' k')

theorem tail_requestPlayerAction (g : Game) (he : g.event ≠ .roundClosed) : Tail g g.requestPlayerAction :=
  requestPlayerAction_steps (.wait (.refl _ g) he) (.closed (.refl _ g)) (.wait (wr_askNext g).mono he)

theorem tail_requestReady (g : Game) : Tail g g.requestReady :=
  .wait (wr_requestReady g).mono (fun h => nomatch h)

theorem tail_prepareRound (g : Game) : Tail g g.prepareRound :=
  g.prepareRound_cases (fun _ => tail_requestReady g) fun _ _ => .closed (.refl _ g)

theorem tail_afterRoundInitialized (g : Game) : Tail g g.afterRoundInitialized :=
  g.afterRoundInitialized_cases
    (fun _ => g.requestBlinds_cases (fun _ => Tail.of (wr_setEvent g _) (tail_prepareRound _))
      fun _ => .wait (wr_setEvent g _).mono (show Ev.blindsRequested ≠ .roundClosed from fun h => nomatch h))
    fun _ => tail_prepareRound g

theorem tail_enterRound (g : Game) (r : Round) : Tail (g.setRound r).dealStreet.updateCombinations (g.enterRound r) :=
  Tail.of (wr_setEvent _ _) (tail_afterRoundInitialized _)

theorem tail_openRound (g : Game) : Tail g g.openRound :=
  Tail.of (wr_setEvent g _) (tail_requestPlayerAction _ (show Ev.roundStarted ≠ .roundClosed from fun h => nomatch h))

theorem tail_startRound (g : Game) : Tail g g.startRound :=
  Tail.of (wr_resetAllAllowed g) (g.resetAllAllowed.startRound'_cases (fun _ _ => .closed (.refl _ _))
    (fun _ _ => Tail.of ((wr_askDealer _).trans (wr_seekBB _ _)) (tail_openRound _))
    fun _ => Tail.of (wr_askDealer _) (tail_openRound _))

theorem tail_blindsPaid (g : Game) : Tail g g.blindsPaid :=
  Tail.of (((wr_setPrev g _).trans (wr_resetAllAllowed _)).trans (wr_setEvent _ _)) (tail_prepareRound _)

theorem tail_resume (g : Game) : Tail g g.resume :=
  g.resume_cases (fun he => tail_requestPlayerAction g (he ▸ nofun)) (fun _ => .closed (.refl _ g))
    fun _ h => .wait (.refl _ g) h

/-- What one operation does.  `g0` stands for a state reached from `g` by steps on the betting fields; the states at which
    something else happens are spelled out. -/
inductive StepForm (g : Game) : Game → Prop
  /-- refused, or `Next` before the first street -/
  | same : StepForm g g
  /-- `ReadyForAll` in a street, `PayBlinds`, `PayAnte` stopped by an error -/
  | tail {g' : Game} (he : g.event ≠ .roundClosed) (t : Tail g g') : StepForm g g'
  /-- `ReadyForAll` before the first street, with an ante -/
  | askAnte {g0 : Game} (he : g.event = .readyRequested) (k : Wr .betting g g0) (hr : g0.round = .none) :
      StepForm g (g0.setEvent .anteRequested)
  /-- `ReadyForAll` before the first street, without an ante -/
  | enter {g0 : Game} (he : g.event = .readyRequested) (k : Wr .betting g g0) (hr : g0.round = .none) :
      StepForm g (g0.enterRound .preflop)
  /-- `PayAnte`: the loop, the publication of the pots, the sweep, the pre-flop -/
  | antePaid (he : g.event = .anteRequested) (k : Wr .betting g (payAnteLoop g.seatsFromDealer g).1) :
      StepForm g ((payAnteLoop g.seatsFromDealer g).1.anteSwept.enterRound .preflop)
  /-- `Next` on a dealt street with more than one player left, before the river (the guard itself is not carried:
      it speaks of `aliveCount`, whose frame lemma comes later; `Game.step_next_street` has state and guard) -/
  | next {r : Round} (he : g.event = .roundClosed) (hn : Nxt g.round r) (hr : g.round ≠ .none) :
      StepForm g (g.sweep.enterRound r)
  /-- `Next` on a dealt street with one player left or after the river -/
  | complete (he : g.event = .roundClosed) (hr : g.round ≠ .none) : StepForm g g.sweep.gameCompleted
  /-- a player action: a body that leaves the event alone, then `resume`.  `hc`: an action on a closed round (the
      model does not refuse it if the seat still carries offers) ends on a closed round again — what lets the
      invariants about the published pots go through without knowing that this cannot happen -/
  | act {g1 g' : Game} (k : Wr .betting g g1) (t : Tail g1 g') (hc : g.event = .roundClosed → g'.event = .roundClosed) :
      StepForm g g'

theorem step_form (g : Game) (op : Op) : StepForm g (g.step op).1 := by
  refine g.step_cases op (motive := fun r => StepForm g r.1) (fun _ => .same) ?_ ?_ ?_ ?_ (fun _ _ _ => .same) ?_
  · intro _ he
    have h0 := wr_resetAllAllowed g
    exact g.resetAllAllowed.readiness_cases (fun hr _ => .askAnte he h0.mono hr) (fun hr _ => .enter he h0.mono hr)
      fun _ => .tail (he ▸ nofun) (Tail.of h0 (tail_startRound _))
  · intro _ he _
    have k := wr_payAnteLoop g.seatsFromDealer g
    split
    · next g' e h =>
      rw [h] at k
      exact .tail (he ▸ nofun) (.wait k.mono (by rw [k.event, he]; exact fun h => nomatch h))
    · next g' h =>
      have := StepForm.antePaid he k.mono
      rw [h] at this
      show StepForm g g'.antePaid
      rw [antePaid_eq]
      exact this
  · intro _ he
    exact .tail (he ▸ nofun) (Tail.of (wr_foldl_payBlind _ g) (tail_blindsPaid _))
  · intro _ he hr
    exact g.sweep.nextRound'_cases (fun _ => .complete he hr)
      (fun _ _ h => .next he (nxt_iff_succ.mpr ⟨h, rfl⟩) hr) fun _ h => absurd h hr
  · intro seat a x _
    rcases g.act_body (seat.getD g.cur) a x with h | ⟨g1, k, h⟩
    · rw [h]
      exact .same
    · rw [h]
      exact .act k.mono (tail_resume g1) fun h' => resume_closed (k.event.trans h') ▸ rfl

theorem Tail.hand {g g' : Game} (t : Tail g g') : Wr .hand g g' := by
  cases t with
  | wait k _ => exact k.mono
  | closed k => exact (k.trans (wr_roundClosed _)).mono

/-- What one operation does to a hand: nothing but the betting, the publication of the pots and the sweep
    (`Fp.hand`), or one of three things after steps of that kind — the ante is requested (before the first street),
    a street is entered (the one after the current street; the pre-flop also when the antes have been paid), the
    hand is completed. -/
inductive HandStep (g : Game) : Game → Prop
  | keep {g' : Game} : Wr .hand g g' → HandStep g g'
  /-- `ReadyForAll` before the first street, with an ante -/
  | askAnte {g0 : Game} : Wr .hand g g0 → g0.round = .none → HandStep g (g0.setEvent .anteRequested)
  | enter {g0 : Game} {r : Round} : Wr .hand g g0 → Nxt g0.round r → HandStep g (g0.enterRound r)
  | antePaid {g0 : Game} : Wr .hand g g0 → g.event = .anteRequested → HandStep g (g0.enterRound .preflop)
  | complete {g0 : Game} : Wr .hand g g0 → g0.round ≠ .none → HandStep g g0.gameCompleted

theorem handStep_step (g : Game) (op : Op) : HandStep g (g.step op).1 := by
  have h := step_form g op
  generalize (g.step op).1 = g' at h ⊢
  cases h with
  | same => exact .keep (.refl _ g)
  | tail _ t => exact .keep t.hand
  | askAnte _ k hr => exact .askAnte k.mono hr
  | enter _ k hr => exact .enter k.mono (.inl ⟨hr, rfl⟩)
  | antePaid he k => exact .antePaid (k.trans (wr_anteSwept _)).mono he
  | next _ hn _ => exact .enter (wr_sweep g).mono hn
  | complete _ hr => exact .complete (wr_sweep g).mono hr
  | act k t _ => exact .keep (k.mono.trans' t.hand)

end Game
end Pokerface
