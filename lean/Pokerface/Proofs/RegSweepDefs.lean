/-
  C20, the SMALL bound.  A numeric potential `phi` of the regulator state that
    * never rises in an elimination-free sync (followed by the `ReleasePlayers` it triggers), and
    * drops by at least one whenever that sync asks its table to release, receive or break.
  Hence at most `phi` syncs — a fortiori at most `phi` sweeps — ask for anything.

  With `N` players, `R = ⌈N/max⌉`, `F = ⌊N/R⌋`, `T` tables (count `c`, Required `ρ`):

      phi = 2·psi + D + [queue ≠ ∅]
      psi = G + (T if not calm) + (T − R)⁺ + (max + 2)·(R − T)⁺
      G   = Σ (c + ρ − F)⁺        players a table holds or may still be handed beyond the level `F`
      D   = #{ c < F }            tables in deficit
      calm: T = R and every table is covered (c + ρ ≥ F) — then `updateTableRequirements`
            can no longer hand out fresh `Required`s.

  This file: definitions and their behaviour under the elementary table updates.
-/
import Pokerface.Proofs.RegTot

namespace Pokerface
namespace Reg

/-- what a table holds or may still be handed beyond the level `F` -/
def gF (F : Int) (t : RTable) : Nat := (t.count + t.required - F).toNat
/-- the table is not covered: even with its `Required` it stays below `F` -/
def uF (F : Int) (t : RTable) : Nat := if t.count + t.required < F then 1 else 0
/-- `Required` as a natural number -/
def rF (t : RTable) : Nat := t.required.toNat
/-- the table's deficit with respect to `F` -/
def eF (F : Int) (t : RTable) : Nat := (F - t.count).toNat

def Gs (r : Reg) : Nat := tot (gF (flr r)) r.tables
def Us (r : Reg) : Nat := tot (uF (flr r)) r.tables
def Ds (r : Reg) : Nat := tot (dF (flr r)) r.tables

/-- exactly the tables needed and every table covered -/
def calm (r : Reg) : Prop := r.tableCount = r.requiredTables ∧ Us r = 0

instance (r : Reg) : Decidable (calm r) := inferInstanceAs (Decidable (_ ∧ _))

def TP (r : Reg) : Nat := if calm r then 0 else r.tables.length
def dTR (r : Reg) : Nat := (r.tableCount - r.requiredTables).toNat
def dRT (r : Reg) : Nat := (r.requiredTables - r.tableCount).toNat

/-- `psi` with the calm-bonus ignored -/
def psi1 (r : Reg) : Nat := Gs r + r.tables.length + dTR r + (r.max + 2) * dRT r
def psi (r : Reg) : Nat := Gs r + TP r + dTR r + (r.max + 2) * dRT r
def qind (r : Reg) : Nat := if r.queue = [] then 0 else 1
def phi (r : Reg) : Nat := 2 * psi r + Ds r + qind r

theorem TP_le (r : Reg) : TP r ≤ r.tables.length := by
  unfold TP
  split <;> omega
theorem psi_le_psi1 (r : Reg) : psi r ≤ psi1 r := by
  have := TP_le r
  unfold psi psi1
  omega
theorem qind_le (r : Reg) : qind r ≤ 1 := by
  unfold qind
  split <;> omega
/-- what the table part `2·psi + D` of the potential pays: `c`, and one more for the queue
    indicator, which may have appeared -/
theorem phi_add_le {r' r : Reg} {c : Nat} (h : 2 * psi r' + Ds r' + (c + 1) ≤ 2 * psi r + Ds r) :
    phi r' + c ≤ phi r := by
  have := qind_le r'
  unfold phi
  omega

theorem phi_add_le_of_queue {r' r : Reg} {c : Nat} (hq : r'.queue = r.queue)
    (h : 2 * psi r' + Ds r' + c ≤ 2 * psi r + Ds r) : phi r' + c ≤ phi r := by
  unfold phi qind
  rw [hq]
  omega

theorem psi1_eq (r : Reg) : psi1 r = psi r + (if calm r then r.tables.length else 0) := by
  unfold psi1 psi TP
  split <;> omega

theorem TP_calm {r : Reg} (h : calm r) : TP r = 0 := by
  unfold TP
  rw [if_pos h]
theorem TP_not_calm {r : Reg} (h : ¬ calm r) : TP r = r.tables.length := by
  unfold TP
  rw [if_neg h]

theorem TP_congr {r r' : Reg} (hc : calm r' ↔ calm r) (hl : r'.tables.length = r.tables.length) :
    TP r' = TP r := by
  unfold TP
  by_cases c : calm r
  · rw [if_pos c, if_pos (hc.2 c)]
  · rw [if_neg c, if_neg fun c' => c (hc.1 c'), hl]

theorem dTR_dRT_congr {r r' : Reg} (hs : SameNeeds r r') (htc : r'.tableCount = r.tableCount) :
    dTR r' = dTR r ∧ dRT r' = dRT r := by
  unfold dTR dRT
  rw [htc, hs.req]
  exact ⟨rfl, rfl⟩

theorem gF_give (F k : Int) (t : RTable) : gF F (give k t) = gF F t := by
  simp only [gF, give]
  congr 1
  omega
theorem uF_give (F k : Int) (t : RTable) : uF F (give k t) = uF F t := by
  have e : (give k t).count + (give k t).required = t.count + t.required := by
    simp only [give]
    omega
  simp only [uF, e]
theorem dF_give (F k : Int) (t : RTable) (hk : 0 ≤ k) : dF F (give k t) ≤ dF F t := by
  simp only [dF, give]
  omega
theorem rF_give (k : Int) (t : RTable) (hk : 0 ≤ k) (hr : k ≤ t.required) : rF (give k t) + k.toNat = rF t := by
  simp only [rF, give]
  omega

end Reg
end Pokerface
