import Pokerface.Proofs.Cards
/-
  The cards invariant through whole operations (`step`), runs and reachable states, and what it
  says about where a card can be.
-/
namespace Pokerface
open Game

/-- after the dealing, `enterRound` only evaluates hands, records events and offers actions -/
theorem cf_enterRound_tail (g : Game) (r : Round) : CF (g.setRound r).dealStreet (g.enterRound r) :=
  ((wr_updateCombinations _).trans (tail_enterRound g r).hand).cf

theorem ccoreL_enterRound (g : Game) (hc : CCoreL g) (r : Round) (hn : Nxt g.round r) : CCoreL (g.enterRound r) :=
  (cf_enterRound_tail g r).coreL (ccoreL_dealStreet g hc r hn)

theorem stable_enterRound (g : Game) (hc : CCoreL g) (r : Round) (hn : Nxt g.round r) : Stable g (g.enterRound r) :=
  (stable_dealStreet g hc r hn).trans (cf_enterRound_tail g r).stable

/-- what an operation can do to the cards: nothing, deal the next street, or ask for antes
    while nothing has been dealt -/
inductive CStep (g : Game) : Game → Prop
  | frame {g' : Game} : CF g g' → CStep g g'
  | deal {g1 : Game} (r : Round) : CF g g1 → Nxt g1.round r → CStep g (g1.enterRound r)
  | ante {g1 : Game} : CF g g1 → g1.round = .none → CStep g (g1.setEvent .anteRequested)

theorem CStep.invL {g g' : Game} (s : CStep g g') (hi : CInvL g) : CInvL g' := by
  cases s with
  | frame h => exact h.invL hi
  | deal r h hn =>
    exact ⟨ccoreL_enterRound _ (h.coreL hi.core) r hn, fun he => absurd he (enterRound_not_ante _ r)⟩
  | ante h hr =>
    have hc := h.coreL hi.core
    -- `setEvent` writes no field that `CCoreL` reads
    exact ⟨⟨hc.long, hc.holes, hc.board, hc.burned, hc.pos, hc.pref⟩, fun _ => hr⟩

theorem CStep.stableL {g g' : Game} (s : CStep g g') (hi : CInvL g) : Stable g g' := by
  cases s with
  | frame h => exact h.stable
  | deal r h hn => exact h.stable.trans (stable_enterRound _ (h.coreL hi.core) r hn)
  | ante h hr =>
    -- nor one that `Stable` reads
    exact h.stable.trans (Stable.of_players rfl rfl (Nat.le_refl _) (List.prefix_refl _) (List.prefix_refl _))

theorem CStep.stable {g g' : Game} (s : CStep g g') (hi : CInv g) : Stable g g' := s.stableL hi.toL

theorem cstep_step (g : Game) (hante : g.event = .anteRequested → g.round = .none) (op : Op) :
    CStep g (g.step op).1 := by
  have h := handStep_step g op
  generalize (g.step op).1 = g' at h ⊢
  cases h with
  | keep h => exact .frame h.cf
  | askAnte h hr => exact .ante h.cf hr
  | enter h hn => exact .deal _ h.cf hn
  | antePaid h he => exact .deal .preflop h.cf (.inl ⟨h.round.trans (hante he), rfl⟩)
  | complete h _ => exact .frame (h.trans (wr_gameCompleted _)).cf

theorem cinvL_step (g : Game) (hi : CInvL g) (op : Op) : CInvL (g.step op).1 := (cstep_step g hi.ante op).invL hi

theorem stable_step (g : Game) (hi : CInvL g) (op : Op) : Stable g (g.step op).1 := (cstep_step g hi.ante op).stableL hi

theorem cinvL_run (g : Game) (hi : CInvL g) (ops : List Op) : CInvL (g.run ops) :=
  run_induction (fun g op hi => cinvL_step g hi op) hi ops

theorem stable_run (g : Game) (hi : CInvL g) (ops : List Op) : Stable g (g.run ops) :=
  (run_induction (P := fun g' => CInvL g' ∧ Stable g g')
    (fun g' op h => ⟨cinvL_step g' h.1 op, h.2.trans (stable_step g' h.1 op)⟩) ⟨hi, Stable.refl g⟩ ops).2

theorem cinvL_game0 (c : Config) (hlong : c.seats.length * c.opts.holeCount + 8 ≤ c.opts.deck.length) :
    CInvL c.game0 := by
  have hh : ∀ p ∈ c.players, p.hole = [] := fun p hp => (config_players_mem c hp).2.2.2.2.2.1
  refine ⟨⟨?_, ?_, rfl, rfl, ?_, ?_⟩, fun he => by cases he⟩
  · show c.players.length * c.opts.holeCount + 8 ≤ c.opts.deck.length
    rw [config_players_length]
    exact hlong
  · intro p hp
    rw [hh p hp]
    rfl
  · show 0 = c.game0.n * 0 + 0 + 0
    simp
  · show c.players.flatMap (·.hole) ++ streetCards [] [] = c.opts.deck.take 0
    rw [List.flatMap_eq_nil_iff.mpr hh]
    rfl

theorem cinvL_start (c : Config) (hlong : c.seats.length * c.opts.holeCount + 8 ≤ c.opts.deck.length)
    (h : (start c).2 = none) : CInvL (start c).1 := by
  rw [(start_ok c h).2.2]
  exact ((wr_resetRoundStatus _).trans (wr_requestReady _)).cf.invL (cinvL_game0 c hlong)

theorem cinvL_reachable {g : Game} (h : ReachableL g) : CInvL g := by
  obtain ⟨c, ops, hl, hs, rfl⟩ := h
  exact cinvL_run _ (cinvL_start c hl hs) ops

theorem cinv_reachable {g : Game} (h : ReachableC g) : CInv g := by
  refine (cinvL_reachable h.toL).withNodup ?_
  obtain ⟨c, ops, _, wc, hs, rfl⟩ := h
  rw [run_opts, (start_ok c hs).2.2]
  exact wc.nodup

theorem length_flatMap_const {α β : Type} (f : α → List β) (k : Nat) :
    ∀ (l : List α), (∀ x ∈ l, (f x).length = k) → (l.flatMap f).length = l.length * k
  | [], _ => by simp
  | a :: l, h => by
    have := length_flatMap_const f k l (fun x hx => h x (by simp [hx]))
    simp only [List.flatMap_cons, List.length_append, this, h a (by simp), List.length_cons, Nat.succ_mul]
    omega

theorem CCoreL.holeCards_length {g : Game} (hc : CCoreL g) : g.holeCards.length = g.n * g.holeCountNow :=
  length_flatMap_const _ _ _ hc.holes

theorem holeCountNow_le (g : Game) : g.holeCountNow ≤ g.opts.holeCount := by
  unfold Game.holeCountNow
  split
  · exact Nat.zero_le _
  · exact Nat.le_refl _

theorem CCoreL.pos_le {g : Game} (hc : CCoreL g) : g.deckPos ≤ g.opts.deck.length := by
  have hpos := hc.pos
  have hlong := hc.long
  have hholes : g.n * g.holeCountNow ≤ g.n * g.opts.holeCount := Nat.mul_le_mul_left g.n (holeCountNow_le g)
  have htable := round_counts g.round
  omega

theorem CCoreL.segments {g : Game} (hc : CCoreL g) :
    g.holeCards = g.opts.deck.take (g.n * g.holeCountNow) ∧
    streetCards g.burned g.board =
      (g.opts.deck.drop (g.n * g.holeCountNow)).take (g.board.length + g.burned.length) := by
  have hp := hc.pref
  have hpos : g.deckPos = g.n * g.holeCountNow + (g.board.length + g.burned.length) := by
    rw [hc.pos, hc.board, hc.burned]
    omega
  rw [hpos, List.take_add] at hp
  have hlen : g.holeCards.length = (g.opts.deck.take (g.n * g.holeCountNow)).length := by
    rw [hc.holeCards_length, List.length_take]
    have hlong := hc.long
    have hholes : g.n * g.holeCountNow ≤ g.n * g.opts.holeCount := Nat.mul_le_mul_left g.n (holeCountNow_le g)
    omega
  exact List.append_inj hp hlen

theorem CCoreL.burned_le {g : Game} (hc : CCoreL g) : g.burned.length ≤ 3 := by
  rw [hc.burned]
  have := round_counts g.round
  omega

theorem CCoreL.board_le {g : Game} (hc : CCoreL g) : g.board.length ≤ 5 := by
  rw [hc.board]
  exact Round.boardCount_le _

theorem mem_holeCards {g : Game} {p : Player} (hp : p ∈ g.players) {x : Card} (hx : x ∈ p.hole) : x ∈ g.holeCards :=
  List.mem_flatMap.mpr ⟨p, hp, hx⟩

theorem CCoreL.mem_dealt {g : Game} (hc : CCoreL g) (x : Card) :
    x ∈ g.dealtCards ↔ x ∈ g.holeCards ∨ x ∈ g.board ∨ x ∈ g.burned := by
  simp only [Game.dealtCards, List.mem_append, mem_streetCards hc.burned_le hc.board_le]

theorem CCore.nodup_places {g : Game} (hc : CCore g) : (g.holeCards ++ g.board ++ g.burned).Nodup := by
  have h : (g.holeCards ++ streetCards g.burned g.board).Nodup := by
    have := hc.pref
    unfold Game.dealtCards at this
    rw [this]
    exact hc.nodup.sublist (List.take_sublist _ _)
  rw [List.append_assoc]
  exact (((streetCards_perm hc.toL.burned_le hc.toL.board_le).append_left _).nodup_iff).mp h

theorem CCore.dealt_not_undealt {g : Game} (hc : CCore g) :
    ∀ c ∈ g.dealtCards, c ∉ g.opts.deck.drop g.deckPos := by
  have hn := hc.nodup
  rw [← List.take_append_drop g.deckPos g.opts.deck, List.nodup_append] at hn
  intro c hcm hcd
  rw [hc.pref] at hcm
  exact hn.2.2 c hcm c hcd rfl

/-- `nodup_places`, place by place -/
theorem CCore.places {g : Game} (hc : CCore g) :
    (∀ (i j : Nat) (p q : Player), i < j → g.players[i]? = some p → g.players[j]? = some q →
      ∀ c ∈ p.hole, c ∉ q.hole) ∧
    (∀ p ∈ g.players, p.hole.Nodup ∧ ∀ c ∈ p.hole, c ∉ g.board ∧ c ∉ g.burned) ∧
    g.board.Nodup ∧ g.burned.Nodup ∧ (∀ c ∈ g.board, c ∉ g.burned) := by
  have hn := hc.nodup_places
  rw [List.nodup_append] at hn
  obtain ⟨hn1, hburn, hx⟩ := hn
  rw [List.nodup_append] at hn1
  obtain ⟨hholes, hboard, hy⟩ := hn1
  have hpw := (List.pairwise_flatMap (R := (· ≠ ·))).mp hholes
  refine ⟨?_, ?_, hboard, hburn, ?_⟩
  · intro i j p q hij hp hq c hc hc'
    obtain ⟨hi, rfl⟩ := List.getElem?_eq_some_iff.mp hp
    obtain ⟨hj, rfl⟩ := List.getElem?_eq_some_iff.mp hq
    exact (List.pairwise_iff_getElem.mp hpw.2 i j hi hj hij) c hc c hc' rfl
  · intro p hp
    refine ⟨hpw.1 p hp, ?_⟩
    intro c hc
    have hm : c ∈ g.holeCards := mem_holeCards hp hc
    exact ⟨fun hb => hy c hm c hb rfl, fun hb => hx c (List.mem_append_left _ hm) c hb rfl⟩
  · intro c hc hb
    exact hx c (List.mem_append_right _ hc) c hb rfl

theorem CCore.holes_disjoint {g : Game} (hc : CCore g) {p q : Player} (hp : p ∈ g.players) (hq : q ∈ g.players)
    (hne : p ≠ q) {x : Card} (hxp : x ∈ p.hole) : x ∉ q.hole := by
  obtain ⟨i, hi, rfl⟩ := List.mem_iff_getElem.mp hp
  obtain ⟨j, hj, rfl⟩ := List.mem_iff_getElem.mp hq
  have hij : i ≠ j := by
    intro e
    subst e
    exact hne rfl
  intro hxq
  rcases Nat.lt_or_gt_of_ne hij with h | h
  · exact hc.places.1 i j _ _ h (List.getElem?_eq_getElem hi) (List.getElem?_eq_getElem hj) x hxp hxq
  · exact hc.places.1 j i _ _ h (List.getElem?_eq_getElem hj) (List.getElem?_eq_getElem hi) x hxq hxp

/-- From the preflop round on, nobody's hole cards change any more (also when `holeCount = 0`,
    where `Stable.holes` says nothing). -/
theorem holes_fixed (g : Game) (hi : CInvL g) (hr : g.round ≠ .none) (ops : List Op) :
    (g.run ops).players.map (·.hole) = g.players.map (·.hole) := by
  have hs := stable_run g hi ops
  have hi' := cinvL_run g hi ops
  apply List.ext_getElem?
  intro k
  simp only [List.getElem?_map]
  by_cases hk : k < g.players.length
  · have hk' : k < (g.run ops).players.length := by simpa only [hs.seats] using hk
    rw [List.getElem?_eq_getElem hk, List.getElem?_eq_getElem hk']
    simp only [Option.map_some, Option.some.injEq]
    by_cases hne : g.players[k].hole = []
    · -- holeCount = 0: every hand is empty, before and after
      have h0 := hi.core.holes _ (List.getElem_mem hk)
      rw [hne, holeCountNow_of_ne hr] at h0
      have h1 := hi'.core.holes _ (List.getElem_mem hk')
      have := holeCountNow_le (g.run ops)
      rw [run_opts g ops] at this
      rw [hne]
      apply List.eq_nil_of_length_eq_zero
      simp only [List.length_nil] at h0
      omega
    · exact hs.holes k _ _ (List.getElem?_eq_getElem hk) (List.getElem?_eq_getElem hk') hne
  · have hk' : ¬ k < (g.run ops).players.length := by simpa only [hs.seats] using hk
    rw [List.getElem?_eq_none (by omega), List.getElem?_eq_none (by omega)]

end Pokerface
