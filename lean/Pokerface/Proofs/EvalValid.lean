import Pokerface.Proofs.EvalSort
/-!
  C03: what five distinct cards of a four-suit deck need to form a `Valid` hand (`C03.valid_of_distinct`): no rank
  more often than there are suits, and distinct ranks within one suit.
-/
namespace Pokerface.C03

theorem Card.eq_of {a b : Card} (hs : a.suit = b.suit) (hr : a.rank = b.rank) : a = b := by
  obtain ⟨s₁, r₁⟩ := a
  obtain ⟨s₂, r₂⟩ := b
  obtain rfl : s₁ = s₂ := hs
  obtain rfl : r₁ = r₂ := hr
  rfl

theorem count_rank_le (suits : List Nat) (h : List Card) (hd : h.Nodup)
    (hs : ∀ c ∈ h, c.suit ∈ suits) (r : Nat) : (ranks h).count r ≤ suits.length := by
  unfold ranks
  rw [List.count_eq_countP, List.countP_map, List.countP_eq_length_filter,
    ← List.length_map (f := fun c : Card => c.suit)]
  apply List.Nodup.length_le_of_subset
  · -- the suits of the cards of rank `r` are distinct
    have hf : (h.filter ((· == r) ∘ fun c : Card => c.rank)).Nodup := hd.sublist List.filter_sublist
    unfold List.Nodup at hf ⊢
    rw [List.pairwise_map]
    refine hf.imp_of_mem ?_
    intro a b ha hb hab hsuit
    have ra := (List.mem_filter.1 ha).2
    have rb := (List.mem_filter.1 hb).2
    simp only [Function.comp_apply, beq_iff_eq] at ra rb
    exact hab (Card.eq_of hsuit (ra.trans rb.symm))
  · intro s hs'
    obtain ⟨c, hc, rfl⟩ := List.mem_map.1 hs'
    exact hs c (List.mem_filter.1 hc).1

theorem ranks_nodup_of_sameSuit (h : List Card) (hd : h.Nodup) (hf : sameSuit h = true) :
    (ranks h).Nodup := by
  have hf := (sameSuit_iff h).1 hf
  unfold ranks
  unfold List.Nodup at hd ⊢
  rw [List.pairwise_map]
  refine hd.imp_of_mem ?_
  intro a b ha hb hab hrank
  exact hab (Card.eq_of (hf a ha b hb) hrank)

end Pokerface.C03
