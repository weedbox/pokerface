import Pokerface.Proofs.FlowC05
import Pokerface.Proofs.FlowDecr
import Pokerface.Proofs.BetsActs
import Pokerface.Proofs.EngineFirst
/-
  C05, ghost history.  The specification's own record of a betting round (`Ghost`: `turnSince`, `quiet`) with its rules
  (`Ghost.turn`, `Ghost.step`), run alongside the engine (`Game.runG`, `GReachable`).  `RoundInv` ties the engine's
  `acted` marks to the record; it is kept by a turn (`roundInv_quiet`, `roundInv_reset`, `shape_roundInv`) and so holds
  in every open round (`GhostInv`, `gi_step`, `greachable_inv`).  From it: a closing action leaves everybody level and with a
  turn since the last rise (`closes_level`), and a round lasts less than a lap after it (`ghost_quiet_lt`).
-/
namespace Pokerface
open Game

/-- ghost history of the betting round in progress: `turnSince[i]` — seat `i` has had a turn since
    the wager to match last went up (or raised it); `quiet` — accepted turns since the last wager
    increase or all-in -/
structure Ghost where
  turnSince : List Bool
  quiet : Nat
deriving Repr, DecidableEq

def Ghost.fresh (n : Nat) : Ghost := ⟨List.replicate n false, 0⟩

/-- stack of seat `i` (0 when there is no such seat) -/
def Game.stackOf (g : Game) (i : Nat) : Int := ((g.players[i]?).map (·.stack)).getD 0

/-- the record after an accepted action by the seat to act, the new state being `g'`
    (rules of the specification, same as the run-time monitor): a wager increase clears every
    `turnSince`; the actor has had its turn; `quiet` restarts on an increase or an all-in -/
def Ghost.turn (gh : Ghost) (g g' : Game) : Ghost :=
  { turnSince := (if g.cw < g'.cw then List.replicate g.n false else gh.turnSince).set g.cur true,
    quiet := if g.cw < g'.cw ∨ (0 < g.stackOf g.cur ∧ g'.stackOf g.cur = 0) then 0 else gh.quiet + 1 }

/-- the record after operation `op` applied in state `g`: refused operations change nothing; an
    operation that opens a betting round starts a fresh record; an accepted action in an open
    round is a turn of the seat to act -/
def Ghost.step (gh : Ghost) (g : Game) (op : Op) : Ghost :=
  if (g.step op).2 ≠ none then gh
  else if g.event ≠ .roundStarted then (if (g.step op).1.event = .roundStarted then Ghost.fresh g.n else gh)
  else gh.turn g (g.step op).1

/-- run of operations with the ghost record alongside -/
def Game.runG : Game → Ghost → List Op → Game × Ghost
  | g, gh, [] => (g, gh)
  | g, gh, op :: ops => Game.runG (g.step op).1 (gh.step g op) ops

/-- reachable state together with its ghost record -/
def GReachable (g : Game) (gh : Ghost) : Prop :=
  ∃ (c : Config) (ops : List Op), WFConfig c ∧ (start c).2 = none ∧
    (g, gh) = (start c).1.runG (Ghost.fresh c.seats.length) ops

/-- ties the `acted` marks to the ghost record; `tgt` is the seat where the chain of acted seats
    ends (the seat to act, or — mid-action — the next seat) -/
structure RoundInv (g : Game) (ts : List Bool) (k : Nat) (tgt : Nat) : Prop where
  len : ts.length = g.n
  seen : ∀ (j : Nat) (p : Player), g.players[j]? = some p → p.acted = true → ts[j]? = some true
  level : ∀ (j : Nat) (p : Player), g.players[j]? = some p → p.acted = true → p.fold = false → 0 < p.stack →
    p.wager = g.cw
  lap : k + g.unacted ≤ g.n
  chain : ∀ (j : Nat) (p q : Player), g.players[j]? = some p → p.acted = true → g.players[cwNext g.n j]? = some q →
    cwNext g.n j = tgt ∨ q.acted = true

theorem lt_of_getElem? {g : Game} {i : Nat} {p : Player} (h : g.players[i]? = some p) : i < g.n := by
  unfold Game.n
  have := List.getElem?_eq_some_iff.mp h
  exact this.1

/-- the chain of acted seats, once it reaches the seat `s` it ends at, covers the table -/
theorem all_acted {g : Game} {ts : List Bool} {k : Nat} {s : Nat} (h : RoundInv g ts k s)
    (q : Player) (hq : g.players[s]? = some q) (ha : q.acted = true) :
    ∀ (j : Nat) (p : Player), g.players[j]? = some p → p.acted = true := by
  have key : ∀ (m t : Nat) (pt : Player), g.players[t]? = some pt → pt.acted = true →
      ∀ p, g.players[cwIter g.n m t]? = some p → p.acted = true := by
    intro m
    induction m with
    | zero =>
      intro t pt ht hta p hp
      rw [show cwIter g.n 0 t = t from rfl, ht] at hp
      cases hp
      exact hta
    | succ m ih =>
      intro t pt ht hta
      have hlt : cwNext g.n t < g.players.length := cwIter_lt 1 (lt_of_getElem? ht)
      obtain ⟨r, hr⟩ : ∃ r, g.players[cwNext g.n t]? = some r := ⟨_, List.getElem?_eq_getElem hlt⟩
      refine ih _ r hr ?_
      rcases h.chain t pt r ht hta hr with h1 | h1
      · rw [h1, hq] at hr
        cases hr
        exact ha
      · exact h1
  intro j p hp
  refine key (j + g.n - s) s q hq ha p ?_
  have hs := lt_of_getElem? hq
  have hj := lt_of_getElem? hp
  rw [cwIter_eq_mod _ hs, show s + (j + g.n - s) = j + g.n by omega, Nat.add_mod_right, Nat.mod_eq_of_lt hj]
  exact hp

theorem stackOf_of {g : Game} {i : Nat} {p : Player} (h : g.players[i]? = some p) : g.stackOf i = p.stack := by
  simp [Game.stackOf, h]

/-- a turn that neither raises the wager to match nor is an all-in: the seat to act, holding `p`, is rewritten by
    `F`, which marks it; the ghost record gains the seat and one quiet turn -/
theorem roundInv_quiet {g g1 : Game} (gh : Ghost) {p : Player} (F : Player → Player)
    (hinv : RoundInv g gh.turnSince gh.quiet g.cur) (hp : g.players[g.cur]? = some p) (hpa : p.acted = false)
    (hpl : g1.players = g.players.modify g.cur F) (hcw : g1.cw = g.cw) (hF : (F p).acted = true)
    (hst : (F p).stack = 0 → p.stack ≤ 0)
    (hlevel : (F p).fold = false → 0 < (F p).stack → (F p).wager = g.cw) :
    RoundInv g1 (gh.turn g g1).turnSince (gh.turn g g1).quiet (cwNext g.n g.cur) := by
  have hi : g.cur < g.n := lt_of_getElem? hp
  have hlen := hinv.len
  have hn : g1.n = g.n := by simp [Game.n, hpl]
  have hself : g1.players[g.cur]? = some (F p) := by
    rw [hpl, List.getElem?_modify_eq, hp]
    rfl
  have hoth : ∀ j, g.cur ≠ j → g1.players[j]? = g.players[j]? := fun j h => by
    rw [hpl, List.getElem?_modify_ne _ _ h]
  have ht : gh.turn g g1 = ⟨gh.turnSince.set g.cur true, gh.quiet + 1⟩ := by
    unfold Ghost.turn
    have h1 : ¬ g.cw < g1.cw := by omega
    have h2 : ¬ (0 < g.stackOf g.cur ∧ g1.stackOf g.cur = 0) := by
      rw [stackOf_of hp, stackOf_of hself]
      omega
    simp [h1, h2]
  rw [ht]
  refine ⟨?_, ?_, ?_, ?_, ?_⟩
  · rw [List.length_set, hn]
    exact hlen
  · intro j q1 hq1 ha
    by_cases hij : g.cur = j
    · subst hij
      simp [hlen, hi]
    · rw [hoth j hij] at hq1
      rw [List.getElem?_set_ne hij]
      exact hinv.seen j q1 hq1 ha
  · intro j q1 hq1 ha hf hs
    rw [hcw]
    by_cases hij : g.cur = j
    · subst hij
      rw [hself] at hq1
      cases hq1
      exact hlevel hf hs
    · rw [hoth j hij] at hq1
      exact hinv.level j q1 hq1 ha hf hs
  · have h1 := hinv.lap
    have h2 := unactedL_mark g.players g.cur p F hp hpa hF
    rw [unacted_eq_L] at h1 ⊢
    rw [hpl, hn]
    show gh.quiet + 1 + _ ≤ g.n
    omega
  · intro j q1 r1 hq1 ha hr1
    rw [hn] at hr1 ⊢
    by_cases hij : g.cur = j
    · exact .inl (congrArg _ hij.symm)
    · rw [hoth j hij] at hq1
      right
      by_cases hin : g.cur = cwNext g.n j
      · rw [← hin, hself] at hr1
        cases hr1
        exact hF
      · rw [hoth _ hin] at hr1
        exact (hinv.chain j q1 r1 hq1 ha hr1).resolve_left fun h => hin h.symm

/-- a turn that raises the wager to match or is an all-in: afterwards no seat but the one that acted is marked;
    the ghost record starts again with that seat -/
theorem roundInv_reset {g g1 : Game} (gh : Ghost) {p p1 : Player} (hlen : gh.turnSince.length = g.n)
    (hp : g.players[g.cur]? = some p) (hn : g1.n = g.n) (hp1 : g1.players[g.cur]? = some p1)
    (hup : g.cw < g1.cw ∨ 0 < p.stack ∧ p1.stack = 0) (hlevel : 0 < p1.stack → p1.wager = g1.cw)
    (hoth : ∀ j q, g1.players[j]? = some q → q.acted = true → j = g.cur) :
    RoundInv g1 (gh.turn g g1).turnSince (gh.turn g g1).quiet (cwNext g.n g.cur) := by
  have hi : g.cur < g.n := lt_of_getElem? hp
  have hup' : g.cw < g1.cw ∨ (0 < g.stackOf g.cur ∧ g1.stackOf g.cur = 0) := by
    rw [stackOf_of hp, stackOf_of hp1]
    exact hup
  unfold Ghost.turn
  simp only [if_pos hup']
  refine ⟨?_, ?_, ?_, ?_, ?_⟩
  · rw [hn]
    split <;> simp [hlen]
  · intro j q hq ha
    rw [hoth j q hq ha]
    split <;> simp [hlen, hi]
  · intro j q hq ha _ hs
    have := hoth j q hq ha
    subst this
    rw [hp1] at hq
    cases hq
    exact hlevel hs
  · have := unacted_le g1
    omega
  · intro j q _ hq ha _
    rw [hn, hoth j q hq ha]
    exact .inl rfl

/-- the invariant after the marking/paying part of an accepted action of the seat to act -/
theorem shape_roundInv {g g1 : Game} (hi : Inv g) (hf : Flow g) (he : g.event = .roundStarted) (gh : Ghost) {p : Player}
    (hinv : RoundInv g gh.turnSince gh.quiet g.cur) (hp : g.players[g.cur]? = some p)
    (sh : ActShape g g.cur p g1) :
    RoundInv g1 (gh.turn g g1).turnSince (gh.turn g g1).quiet (cwNext g.n g.cur) := by
  have ok := hi.chips (by rw [he]; simp)
  have hpa : p.acted = false := hf.acted he p hp
  have hrb := (ok.pinv p (List.mem_of_getElem? hp)).rebase
  have hpw := ok.wle p (List.mem_of_getElem? hp)
  have hn1 := sh.wr.n
  cases sh with
  | mark h =>
    refine roundInv_quiet gh markA hinv hp hpa rfl rfl rfl Int.le_of_eq fun hf' hs' => ?_
    rcases h with h | h | h
    · exact absurd (h.symm.trans hf') nofun
    · exact absurd hs' (by rw [show (markA p).stack = 0 from h]; omega)
    · exact h
  | fold _ _ => exact roundInv_quiet gh foldMark hinv hp hpa rfl rfl rfl Int.le_of_eq fun hf' _ => nomatch hf'
  | pay a b c ha hb hc hl hw =>
    -- what is known of the paid state: the wager to match, the payer's wager and stack (through `payF`), the marks
    have hp0 : ((g.setActed g.cur).setPrev a).players[g.cur]? = some (markA p) := setActed_self hp
    have hcw : ((((g.setActed g.cur).setPrev a).pay g.cur c true).setPrev b).cw = max g.cw (payF c (markA p)).wager :=
      pay_cw_max hp0 c
    have hw1 : (payF c (markA p)).wager = if p.stack ≤ c then p.initial else p.wager + c := payF_wager c (markA p)
    have hs1 : (payF c (markA p)).stack = if p.stack ≤ c then 0 else p.initial - (p.wager + c) := payF_stack c (markA p)
    have hm := pay_acted hp0 c
    obtain ⟨q, hq, hqf⟩ := pay_self hp0 c true
    obtain ⟨_, _, hqs, _, hqw, _⟩ := frame_chips hqf
    by_cases h1 : p.stack ≤ c
    · -- the payment takes the whole stack: the marks are reset, the seat is all-in
      rw [if_pos h1] at hs1
      refine roundInv_reset gh hinv.len hp hn1 hq (.inr ⟨hl.2, hqs.trans hs1⟩) (fun h0 => ?_) (hm.1 (.inl h1))
      rw [hqs, hs1] at h0
      exact absurd h0 (Int.lt_irrefl 0)
    · rw [if_neg h1] at hw1 hs1
      by_cases h2 : g.cw < p.wager + c
      · -- the payment lifts the wager to match: the marks are reset
        rw [← hw1] at h2
        rw [Int.max_eq_right (Int.le_of_lt h2)] at hcw
        refine roundInv_reset gh hinv.len hp hn1 hq (.inl ?_) (fun _ => hqw.trans hcw.symm) (hm.1 (.inr (hw1 ▸ h2)))
        rw [hcw]
        exact h2
      · -- the payment levels the seat with the wager to match: a quiet turn
        have hwc : p.wager + c = g.cw := by omega
        refine roundInv_quiet gh (fun x => payF c (markA x)) hinv hp hpa
          ((hm.2 fun h => h.elim h1 h2).trans (List.modify_modify_eq ..)) ?_ (payF_acted c (markA p)) ?_
          (fun _ _ => hw1.trans hwc)
        · rw [hcw, hw1, hwc]
          exact Int.max_self _
        · omega

theorem roundInv_congr {g g' : Game} {ts : List Bool} {k tgt : Nat} (hn : g'.n = g.n) (hcw : g'.cw = g.cw)
    (hu : g'.unacted = g.unacted)
    (hpl : ∀ (j : Nat) (p' : Player), g'.players[j]? = some p' → ∃ q, g.players[j]? = some q ∧ p'.acted = q.acted ∧
      p'.fold = q.fold ∧ p'.stack = q.stack ∧ p'.wager = q.wager)
    (h : RoundInv g ts k tgt) : RoundInv g' ts k tgt := by
  refine ⟨by rw [hn]; exact h.len, ?_, ?_, by rw [hu, hn]; exact h.lap, ?_⟩
  · intro j p' hp' ha
    obtain ⟨q, hq, e1, _⟩ := hpl j p' hp'
    exact h.seen j q hq (by rw [← e1]; exact ha)
  · intro j p' hp' ha hf hs
    obtain ⟨q, hq, e1, e2, e3, e4⟩ := hpl j p' hp'
    rw [hcw, e4]
    exact h.level j q hq (by rw [← e1]; exact ha) (by rw [← e2]; exact hf) (by rw [← e3]; exact hs)
  · intro j p' q' hp' ha hq'
    rw [hn] at hq' ⊢
    obtain ⟨q, hq, e1, _⟩ := hpl j p' hp'
    obtain ⟨r, hr, f1, _⟩ := hpl _ q' hq'
    rcases h.chain j q r hq (by rw [← e1]; exact ha) hr with h1 | h1
    · exact Or.inl h1
    · exact Or.inr (by rw [f1]; exact h1)

theorem roundInv_askNext {g : Game} {ts : List Bool} {k tgt : Nat} (h : RoundInv g ts k tgt) :
    RoundInv (g.setCurrentPlayer g.nextIdx) ts k tgt := by
  have w := wr_askNext g
  refine roundInv_congr w.n rfl w.acts.unacted (fun j p' hp' => ?_) h
  obtain ⟨q, hq, e⟩ := getElem?_of_map_eq (w.map (fun p => (p.acted, p.fold, p.stack, p.wager)) fun _ => rfl) hp'
  simp only [Prod.mk.injEq] at e
  exact ⟨q, hq, e.1.symm, e.2.1.symm, e.2.2.1.symm, e.2.2.2.symm⟩

theorem Mov.stackOf {g g' : Game} (h : Mov g g') (i : Nat) : g'.stackOf i = g.stackOf i := by
  have := congrArg (fun l => (l[i]?).map Prod.snd) h.mov
  simp only [List.getElem?_map, Option.map_map, Function.comp_def, Player.mov] at this
  unfold Game.stackOf
  rw [this]

theorem turn_congr (gh : Ghost) (g g1 g' : Game) (hcw : g'.cw = g1.cw) (hs : g'.stackOf g.cur = g1.stackOf g.cur) :
    gh.turn g g' = gh.turn g g1 := by
  unfold Ghost.turn
  rw [hcw, hs]

theorem fresh_roundInv {g : Game} (hu : AllUnacted g) (n tgt : Nat) (hn : g.n = n) :
    RoundInv g (Ghost.fresh n).turnSince (Ghost.fresh n).quiet tgt := by
  refine ⟨by simp [Ghost.fresh, hn], ?_, ?_, ?_, ?_⟩
  · intro j p hp ha
    rw [hu p (List.mem_of_getElem? hp)] at ha
    cases ha
  · intro j p hp ha
    rw [hu p (List.mem_of_getElem? hp)] at ha
    cases ha
  · have := unacted_le g
    simp only [Ghost.fresh]
    omega
  · intro j p q hp ha
    rw [hu p (List.mem_of_getElem? hp)] at ha
    cases ha

/-- in an open betting round the ghost record and the `acted` marks agree -/
def GhostInv (g : Game) (gh : Ghost) : Prop := g.event = .roundStarted → RoundInv g gh.turnSince gh.quiet g.cur

/-- an accepted action in an open round: the new state is `requestPlayerAction` of a mid-action
    state on which the invariant holds for the updated ghost record -/
theorem act_ghost (g : Game) (gh : Ghost) (hi : Inv g) (hf : Flow g) (he : g.event = .roundStarted)
    (hG : RoundInv g gh.turnSince gh.quiet g.cur) (i : Nat) (a : Act) (x : Int) (hacc : (g.act i a x).2 = none) :
    ∃ g1, (g.act i a x).1 = g1.requestPlayerAction ∧ Struct g1 ∧ g1.event = .roundStarted ∧
      RoundInv g1 (gh.turn g (g.act i a x).1).turnSince (gh.turn g (g.act i a x).1).quiet g1.nextIdx := by
  obtain ⟨p, g1, hp, _, hc, e, sh, hm, hq, hcur⟩ := act_turn g hi i a x hacc
  subst hc
  refine ⟨g1, e, hm.struct, hm.ev, ?_⟩
  rw [nextIdx_eq, hq.n, hcur, e, turn_congr gh g g1 g1.requestPlayerAction (wr_requestPlayerAction g1).cw
    ((wr_requestPlayerAction g1).mov.stackOf g.cur)]
  exact shape_roundInv hi hf he gh hG hp sh

theorem ghost_step_refused {gh : Ghost} {g : Game} {op : Op} (h : (g.step op).2 ≠ none) : gh.step g op = gh :=
  if_pos h

theorem ghost_step_open {gh : Ghost} {g : Game} {op : Op} (he : g.event ≠ .roundStarted) (hacc : (g.step op).2 = none) :
    gh.step g op = if (g.step op).1.event = .roundStarted then Ghost.fresh g.n else gh := by
  unfold Ghost.step
  rw [if_neg (fun h => h hacc), if_pos he]

theorem ghost_step_act {g : Game} (gh : Ghost) (he : g.event = .roundStarted) (op : Op) (hacc : (g.step op).2 = none) :
    gh.step g op = gh.turn g (g.step op).1 := by
  unfold Ghost.step
  rw [if_neg (fun h => h hacc), if_neg (fun h => h he)]

theorem gi_step (g : Game) (gh : Ghost) (hi : Inv g) (hf : Flow g) (hG : GhostInv g gh) (op : Op) :
    GhostInv (g.step op).1 (gh.step g op) := by
  induction op using step_split hi hf with
  | refused op hacc e =>
    rw [ghost_step_refused hacc, e]
    exact hG
  | act seat a x he hacc =>
    rw [ghost_step_act gh he _ hacc]
    rw [g.step_act] at hacc ⊢
    intro he'
    obtain ⟨g1, e, hs1, hev1, hinv⟩ := act_ghost g gh hi hf he (hG he) _ a x hacc
    generalize gh.turn g (g.act (seat.getD g.cur) a x).1 = gh' at hinv ⊢
    rw [e] at he' ⊢
    rcases g1.requestPlayerAction_cases hs1 with ⟨h, _⟩ | ⟨h, _⟩
    · rw [h] at he'
      cases he'
    · rw [h]
      exact roundInv_askNext hinv
  | table op _ he hacc =>
    rw [ghost_step_open he hacc]
    intro he'
    rw [if_pos he']
    exact fresh_roundInv (opens_from_outside hi hf he hacc he').2.2.2.2 g.n _ (wr_step g op).n

/-- `Game.runG` carries the record by `Ghost.step`; `GReachable g gh` unfolds to `RecRun.Reach Game.runG _ g gh`, which is
    how the lemmas of `RecRun` apply to it below -/
theorem runG_rec : RecRun Ghost.step Game.runG := ⟨fun _ _ => rfl, fun _ _ _ _ => rfl⟩

theorem greachable_inv {g : Game} {gh : Ghost} (h : GReachable g gh) : Reachable g ∧ GhostInv g gh :=
  ⟨runG_rec.reachable h, runG_rec.induct (P := GhostInv) (fun c _ hs he => nomatch (start_ok c hs).2.2 ▸ he)
    (fun g gh hR hG op => gi_step g gh (inv_reachable hR) (flow_reachable hR) hG op) h⟩

theorem greachable_of_reachable {g : Game} (h : Reachable g) : ∃ gh, GReachable g gh := runG_rec.of_reachable _ h

theorem greachable_step {g : Game} {gh : Ghost} (h : GReachable g gh) (op : Op) :
    GReachable (g.step op).1 (gh.step g op) := runG_rec.step h op

theorem roundClosed_seat (g : Game) (j : Nat) (p' : Player) (h : g.roundClosed.players[j]? = some p') :
    ∃ q, g.players[j]? = some q ∧ p'.fold = q.fold ∧ p'.stack = q.stack ∧ p'.wager = q.wager := by
  obtain ⟨q, hq, e⟩ := getElem?_of_map_eq ((wr_roundClosed g).map (fun p => (p.fold, p.stack, p.wager)) fun _ => rfl) h
  simp only [Prod.mk.injEq] at e
  exact ⟨q, hq, e.1.symm, e.2.1.symm, e.2.2.symm⟩

theorem movable_pos_of_seat {g : Game} {j : Nat} {q : Player} (hq : g.players[j]? = some q) (hf : q.fold = false)
    (hs : 0 < q.stack) : g.movableCount ≠ 0 := by
  unfold Game.movableCount
  have hm : q ∈ g.players.filter (fun p => !(p.fold || p.stack == 0)) := by
    rw [List.mem_filter]
    refine ⟨List.mem_of_getElem? hq, ?_⟩
    have : ¬ q.stack = 0 := by omega
    simp [hf, this]
  intro h0
  rw [List.length_eq_zero_iff] at h0
  rw [h0] at hm
  cases hm

/-- (for `C05.no_premature_close`) An accepted action that closes the round with two players left leaves every
    non-folded seat with chips level with the wager to match and with a turn since it last rose -/
theorem closes_level (g : Game) (gh : Ghost) (hi : Inv g) (hf : Flow g) (he : g.event = .roundStarted)
    (hG : RoundInv g gh.turnSince gh.quiet g.cur) (i : Nat) (a : Act) (x : Int) (hacc : (g.act i a x).2 = none)
    (hclosed : (g.act i a x).1.event ≠ .roundStarted) (h2 : 2 ≤ (g.act i a x).1.aliveCount) :
    ∀ (j : Nat) (p : Player), (g.act i a x).1.players[j]? = some p → p.fold = false → 0 < p.stack →
      p.wager = (g.act i a x).1.cw ∧ (gh.turn g (g.act i a x).1).turnSince[j]? = some true := by
  obtain ⟨g1, e, hs1, hev1, hinv⟩ := act_ghost g gh hi hf he hG i a x hacc
  generalize gh.turn g (g.act i a x).1 = gh' at hinv ⊢
  rw [e] at hclosed h2 ⊢
  have hal : g1.requestPlayerAction.aliveCount = g1.aliveCount := (wr_requestPlayerAction g1).mov.alive
  rw [hal] at h2
  rcases g1.requestPlayerAction_cases hs1 with ⟨ec, hwhy⟩ | ⟨ea, _⟩
  · rw [ec]
    intro j p hp hfo hst
    obtain ⟨q, hq, e1, e2, e3⟩ := roundClosed_seat g1 j p hp
    rw [e1] at hfo
    rw [e2] at hst
    rcases hwhy with h1 | hm | ⟨qn, hqn, ha⟩
    · omega
    · exact absurd hm (movable_pos_of_seat hq hfo hst)
    · have hqa := all_acted hinv qn hqn ha j q hq
      rw [e3]
      exact ⟨hinv.level j q hq hqa hfo hst, hinv.seen j q hq hqa⟩
  · rw [ea, (wr_askNext g1).event] at hclosed
    exact absurd hev1 hclosed

/-- (for `C05.one_lap`) In an open betting round fewer than `n` turns have passed since the last wager increase
    or all-in -/
theorem ghost_quiet_lt (g : Game) (gh : Ghost) (hi : Inv g) (hf : Flow g) (he : g.event = .roundStarted) (hG : GhostInv g gh) :
    gh.quiet < g.n := by
  have hinv := hG he
  have hlt := hi.struct.cur
  have hlt' := hlt
  unfold Game.n at hlt'
  have hp : g.players[g.cur]? = some g.players[g.cur] := List.getElem?_eq_getElem hlt'
  have hpa := hf.acted he _ hp
  have h1 : 1 ≤ g.unacted := by
    unfold Game.unacted
    have hm : g.players[g.cur] ∈ g.players.filter (fun p => !p.acted) := by
      rw [List.mem_filter]
      exact ⟨List.getElem_mem hlt', by simp [hpa]⟩
    exact List.length_pos_of_mem hm
  have := hinv.lap
  omega

end Pokerface
