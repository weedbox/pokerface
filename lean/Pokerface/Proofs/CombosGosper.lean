import Pokerface.Model.Combos
/-
  `gospersHack k n` enumerates exactly the `n`-bit words with `k`
  one-bits, in ascending order, on the whole domain the engine reaches
  (`n ≤ 9`: at most 4 hole cards + 5 board cards).  Kernel-evaluated finite table.
-/
namespace Pokerface

/-- Specification-level: the number of one-bits of `v` among bit positions `< n`. -/
def bitCount (v n : Nat) : Nat := ((List.range n).filter (fun i => v.testBit i)).length

/-- Specification-level: the numbers below `2^n` with exactly `k` one-bits, ascending, each once. -/
def wordsOfWeight (k n : Nat) : List Nat := (List.range (2 ^ n)).filter (fun v => bitCount v n == k)

/-- `gospersLoop` with an extra flag telling whether the fuel ran out while `cur < limit`
    still held (`true` = the loop was cut short by the fuel). -/
def gospersCut (limit : Nat) : Nat → Nat → Bool
  | 0, cur => decide (cur < limit)
  | fuel + 1, cur =>
    if cur < limit then
      let lb := lowbit cur
      let r := cur + lb
      gospersCut limit fuel ((((r ^^^ cur) >>> 2) / lb) ||| r)
    else false

/-- The number of one-bits among the lowest `n` bits, by halving (what the table evaluates). -/
def popCount : Nat → Nat → Nat
  | 0, _ => 0
  | n + 1, v => v % 2 + popCount n (v / 2)

theorem bitCount_eq_popCount : ∀ n v, bitCount v n = popCount n v
  | 0, _ => rfl
  | n + 1, v => by
    have ih := bitCount_eq_popCount n (v / 2)
    unfold bitCount at ih ⊢
    rw [popCount, ← ih, List.range_succ_eq_map, List.filter_cons, List.filter_map]
    have h0 : v.testBit 0 = decide (v % 2 = 1) := Nat.testBit_zero v
    have hs : (fun i => v.testBit i) ∘ Nat.succ = fun i => (v / 2).testBit i :=
      funext fun i => Nat.testBit_succ v i
    rw [h0, hs]
    have : v % 2 = 0 ∨ v % 2 = 1 := by omega
    rcases this with h | h
    · simp [h]
    · simp [h]
      omega

def gospersCheck (n k : Nat) : Bool :=
  (gospersHack k n == (List.range (2 ^ n)).filter (fun v => popCount n v == k)) &&
    !(gospersCut (1 <<< n) (1 <<< n) ((1 <<< k) - 1))

theorem gospers_table :
    (List.range 10).all (fun n => (List.range (n + 1)).all (fun k => k == 0 || gospersCheck n k)) = true := by
  decide +kernel

theorem gospersCheck_of_le {n k : Nat} (hn : n ≤ 9) (hk : 0 < k) (hkn : k ≤ n) : gospersCheck n k = true := by
  have h := gospers_table
  rw [List.all_eq_true] at h
  have h1 := h n (List.mem_range.mpr (by omega))
  rw [List.all_eq_true] at h1
  have h2 := h1 k (List.mem_range.mpr (by omega))
  have : (k == 0) = false := by
    simp
    omega
  simpa [this] using h2

end Pokerface
