import Pokerface.Proofs.TableDriverBackend
import Pokerface.Proofs.Forced
import Pokerface.Properties.C06
/-
  What `handleState` arms at the three request events (`Drv.arm`): the marked state, the "ready" marks and the
  ready group, event by event, and what follows for the group's participants and its callback.
-/
namespace Pokerface.Drv
open Pokerface Game

theorem arm_eq_some {g g' : Game} {m : List Nat} {grp : Group} (h : arm g = some (g', m, grp)) :
    (g.event = .readyRequested ∧ g' = g ∧ m = g.players.map (·.idx) ∧
      grp = { parts := allParts g, fire := .readyForAll }) ∨
    (g.event = .anteRequested ∧ g.opts.ante ≠ 0 ∧ g' = g.mapP (allowAction .pay) ∧ m = [] ∧
      grp = { parts := allParts g, fire := .payAnte }) ∨
    (g.event = .blindsRequested ∧
      g' = g.mapP (fun p => if owesBlind g.opts p then allowAction .pay p else p) ∧ m = [] ∧
      grp = { parts := blindParts g, fire := .payBlinds }) := by
  unfold arm at h
  split at h
  · rename_i he
    cases h
    exact Or.inl ⟨he, rfl, rfl, rfl⟩
  · rename_i he
    split at h
    · cases h
    · rename_i ha
      cases h
      exact Or.inr (Or.inl ⟨he, ha, rfl, rfl, rfl⟩)
  · rename_i he
    cases h
    exact Or.inr (Or.inr ⟨he, rfl, rfl, rfl⟩)
  · cases h

theorem arm_none_of {g : Game} (h1 : g.event ≠ .readyRequested) (h2 : g.event ≠ .anteRequested)
    (h3 : g.event ≠ .blindsRequested) : arm g = none := by
  cases ha : arm g with
  | none => rfl
  | some t =>
    obtain ⟨g', m, grp⟩ := t
    rcases arm_eq_some ha with ⟨he, _⟩ | ⟨he, _⟩ | ⟨he, _⟩
    · exact absurd he h1
    · exact absurd he h2
    · exact absurd he h3

/-- the engine requests an ante only when there is one (`Flow.ante`), so every request event arms a group -/
theorem arm_isSome {e : Game} (hf : Flow e)
    (he : e.event = .readyRequested ∨ e.event = .anteRequested ∨ e.event = .blindsRequested) : arm e.hop ≠ none := by
  have hev : e.hop.event = e.event := rfl
  unfold arm
  rcases he with he | he | he
  · simp [hev, he]
  · have := (hf.ante he).1
    have h2 : e.hop.opts.ante ≠ 0 := by
      show e.opts.ante ≠ 0
      omega
    simp [hev, he, h2]
  · simp [hev, he]

section
variable {g g' : Game} {m : List Nat} {grp : Group} (h : arm g = some (g', m, grp))
include h

theorem arm_completed : grp.completed = false := by
  rcases arm_eq_some h with ⟨_, _, _, rfl⟩ | ⟨_, _, _, _, rfl⟩ | ⟨_, _, _, rfl⟩ <;> rfl

theorem arm_event :
    g'.event = g.event ∧ (g.event = .readyRequested ∨ g.event = .anteRequested ∨ g.event = .blindsRequested) := by
  rcases arm_eq_some h with ⟨he, rfl, _⟩ | ⟨he, _, rfl, _⟩ | ⟨he, rfl, _⟩
  · exact ⟨rfl, Or.inl he⟩
  · exact ⟨rfl, Or.inr (Or.inl he)⟩
  · exact ⟨rfl, Or.inr (Or.inr he)⟩

theorem arm_event_ne : g.event ≠ .roundStarted ∧ g.event ≠ .gameClosed := by
  rcases (arm_event h).2 with he | he | he
  all_goals
    rw [he]
    exact ⟨by simp, by simp⟩

theorem arm_clr : clr g' = clr g := by
  rcases arm_eq_some h with ⟨_, rfl, _⟩ | ⟨_, _, rfl, _⟩ | ⟨_, rfl, _⟩
  · rfl
  · exact clr_mapP g _ (clearAllowed_allowAction .pay)
  · refine clr_mapP g _ fun p => ?_
    split
    · exact clearAllowed_allowAction .pay p
    · rfl

theorem arm_ready (h2 : g.event ≠ .anteRequested) (h3 : g.event ≠ .blindsRequested) : g' = g := by
  rcases arm_eq_some h with ⟨_, rfl, _⟩ | ⟨he, _⟩ | ⟨he, _⟩
  · rfl
  · exact absurd he h2
  · exact absurd he h3

theorem arm_flags : ∀ pr ∈ grp.parts, pr.2 = false := by
  intro pr hpr
  rcases arm_eq_some h with ⟨_, _, _, rfl⟩ | ⟨_, _, _, _, rfl⟩ | ⟨_, _, _, rfl⟩
  all_goals
    obtain ⟨_, _, rfl⟩ := List.mem_map.mp hpr
    rfl

end

/-- a started, not completed, non-empty group has a participant who is not ready yet
    (otherwise `validate` would have completed it) -/
def GOK (o : Option Group) : Prop :=
  ∀ G, o = some G → G.completed = false → G.parts ≠ [] → ∃ pr ∈ G.parts, pr.2 = false

theorem arm_gok {g g' : Game} {m : List Nat} {grp : Group} (h : arm g = some (g', m, grp)) : GOK (some grp) := by
  intro G hG _ hne
  cases hG
  cases hl : grp.parts with
  | nil => exact absurd hl hne
  | cons pr rest => exact ⟨pr, by simp, arm_flags h pr (by simp [hl])⟩

theorem gok_completed (G : Group) (h : G.completed = true) : GOK (some G) := by
  intro G' hG hc _
  cases hG
  rw [h] at hc
  cases hc

theorem allowAction_pay (p : Player) : (allowAction .pay p).allowed.contains .pay = true := by
  unfold allowAction
  split
  · assumption
  · simp

theorem allows_mapP_pay {g : Game} (hna : NoneAllowed g) (f : Player → Player)
    (hf : ∀ p, f p = p ∨ f p = allowAction .pay p) {i : Nat} {a : Act} (hal : (g.mapP f).allows i a = true) :
    a = .pay := by
  unfold Game.allows at hal
  simp only [Game.mapP, List.getElem?_map] at hal
  cases hp : g.players[i]? with
  | none => simp [hp] at hal
  | some p =>
    have hn := hna p (List.mem_of_getElem? hp)
    simp only [hp, Option.map_some] at hal
    rcases hf p with h | h
    · rw [h, hn] at hal
      cases hal
    · rw [h] at hal
      simpa [allowAction, hn] using hal

theorem arm_allows {g g' : Game} {m : List Nat} {grp : Group} (hna : NoneAllowed g)
    (h : arm g = some (g', m, grp)) (i : Nat) (a : Act) (hal : g'.allows i a = true) :
    a = .pay ∧ (g'.event = .anteRequested ∨ g'.event = .blindsRequested) := by
  rcases arm_eq_some h with ⟨_, rfl, _⟩ | ⟨he, _, rfl, _⟩ | ⟨he, rfl, _⟩
  · rw [allows_false_of_noneAllowed hna] at hal
    cases hal
  · exact ⟨allows_mapP_pay hna _ (fun _ => Or.inr rfl) hal, Or.inl he⟩
  · refine ⟨allows_mapP_pay hna _ (fun p => ?_) hal, Or.inr he⟩
    split
    · exact Or.inr rfl
    · exact Or.inl rfl

/-- a participant of the group `handleState` arms passes the wrapper's checks -/
theorem arm_part {e g' : Game} {m : List Nat} {grp : Group} (hs : Struct e) (h : arm e.hop = some (g', m, grp))
    (i : Nat) (hi : i ∈ grp.parts.map (·.1)) :
    i < g'.players.length ∧ (e.event = .readyRequested → m.contains i = true) ∧
    (e.event ≠ .readyRequested → g'.allows i .pay = true) := by
  have key : ∀ p ∈ e.players, p.idx < e.players.length ∧ e.players[p.idx]? = some p := by
    intro p hp
    obtain ⟨j, hj, hpj⟩ := List.getElem_of_mem hp
    have h1 : e.players[j]? = some p := by
      rw [List.getElem?_eq_getElem hj]
      exact congrArg some hpj
    rw [hs.idx j p h1]
    exact ⟨hj, h1⟩
  have marked : ∀ (f : Player → Player) (p : Player), p ∈ e.players → f p = allowAction .pay p →
      p.idx < (e.hop.mapP f).players.length ∧ (e.hop.mapP f).allows p.idx .pay = true := by
    intro f p hp hfp
    refine ⟨?_, ?_⟩
    · simp only [Game.mapP, List.length_map]
      exact (key p hp).1
    · unfold Game.allows
      show (match (e.players.map f)[p.idx]? with | some p => p.allowed.contains .pay | none => false) = true
      rw [List.getElem?_map, (key p hp).2, Option.map_some, hfp]
      exact allowAction_pay p
  rcases arm_eq_some h with ⟨he, rfl, rfl, rfl⟩ | ⟨he, _, rfl, rfl, rfl⟩ | ⟨he, rfl, rfl, rfl⟩
  · simp only [allParts, List.map_map, List.mem_map, Function.comp] at hi
    obtain ⟨p, hp, rfl⟩ := hi
    refine ⟨(key p hp).1, fun _ => ?_, fun hne => absurd he hne⟩
    simp only [List.contains_eq_mem, List.mem_map, decide_eq_true_eq]
    exact ⟨p, hp, rfl⟩
  · simp only [allParts, List.map_map, List.mem_map, Function.comp] at hi
    obtain ⟨p, hp, rfl⟩ := hi
    obtain ⟨m1, m2⟩ := marked (allowAction .pay) p hp rfl
    refine ⟨m1, fun hr => ?_, fun _ => m2⟩
    rw [show e.event = _ from he] at hr
    cases hr
  · simp only [blindParts, List.map_map, List.mem_map, Function.comp, List.mem_filter] at hi
    obtain ⟨p, ⟨hp, how⟩, rfl⟩ := hi
    obtain ⟨m1, m2⟩ := marked (fun p => if owesBlind e.hop.opts p then allowAction .pay p else p) p hp (if_pos how)
    refine ⟨m1, fun hr => ?_, fun _ => m2⟩
    rw [show e.event = _ from he] at hr
    cases hr

theorem arm_parts_ne {e g' : Game} {m : List Nat} {grp : Group} (hs : Struct e) (h : arm e.hop = some (g', m, grp))
    (hb : e.event = .blindsRequested → ∃ p ∈ e.players, owesBlind e.opts p = true) : grp.parts ≠ [] := by
  have hpos : e.hop.players ≠ [] := by
    intro h0
    have := hs.pos
    rw [Game.n, show e.players = [] from h0] at this
    cases this
  rcases arm_eq_some h with ⟨_, _, _, rfl⟩ | ⟨_, _, _, _, rfl⟩ | ⟨he, _, _, rfl⟩
  · simpa only [allParts, ne_eq, List.map_eq_nil_iff] using hpos
  · simpa only [allParts, ne_eq, List.map_eq_nil_iff] using hpos
  · obtain ⟨p, hp, how⟩ := hb he
    have : p ∈ e.hop.players.filter (owesBlind e.hop.opts) := List.mem_filter.mpr ⟨hp, how⟩
    intro hnil
    rw [blindParts, List.map_eq_nil_iff] at hnil
    rw [hnil] at this
    cases this

theorem fire_ok {e g' : Game} {m : List Nat} {grp : Group} (hR : Reachable e) (h : arm e.hop = some (g', m, grp)) :
    (e.step (fireOp grp.fire)).2 = none ∧ backend g' (fireOp grp.fire) = .ok (e.step (fireOp grp.fire)).1.hop := by
  obtain ⟨x1, x2, x3, _, _⟩ := C06.expected_step_succeeds hR
  have hc := arm_clr h
  rcases arm_eq_some h with ⟨he, rfl, _, rfl⟩ | ⟨he, _, _, _, rfl⟩ | ⟨he, _, _, rfl⟩
  · exact ⟨x1 he, (backend_hop e .ready).trans (backend_ok (x1 he))⟩
  · exact ⟨x2 he, backend_marked hc (Or.inl rfl) (x2 he)⟩
  · exact ⟨x3 he, backend_marked hc (Or.inr rfl) (x3 he)⟩

end Pokerface.Drv
