import Pokerface.Proofs.FlowCards
/-
  Helper lemmas for C05: the hand ends at once when one player is left; later streets open for
  betting only with two stacks.
-/
namespace Pokerface
open Game

theorem act_alone_closed (g : Game) (hi : Inv g) (i : Nat) (a : Act) (x : Int) (hacc : (g.act i a x).2 = none)
    (h1 : (g.act i a x).1.aliveCount = 1) : (g.act i a x).1.event = .roundClosed := by
  obtain ⟨_, g1, _, _, _, e, _, hm, _⟩ := act_turn g hi i a x hacc
  rw [e] at h1 ⊢
  rw [(wr_requestPlayerAction g1).mov.alive] at h1
  rcases g1.requestPlayerAction_cases hm.struct with ⟨e', _⟩ | ⟨_, h, _⟩
  · rw [e']
    rfl
  · exact absurd h1 h

/-- `Next` on a closed round with one player left, or on the river (the row `close` of the phase table): the hand is
    closed, no card is dealt, nobody folds -/
theorem next_closes (g : Game) (he : g.event = .roundClosed) (hr : g.round ≠ .none)
    (hc : g.aliveCount = 1 ∨ g.round = .river) :
    (g.step .next).2 = none ∧ (g.step .next).1.event = .gameClosed ∧ (g.step .next).1.aliveCount = g.aliveCount ∧
    (g.step .next).1.deckPos = g.deckPos ∧ (g.step .next).1.board = g.board ∧ (g.step .next).1.burned = g.burned := by
  have m := (wr_step g .next).mov
  rw [step_next_street he hr, if_pos hc] at m ⊢
  have w := (wr_sweep g).trans (wr_gameCompleted _)
  exact ⟨rfl, rfl, m.alive, w.deckPos, w.board, w.burned⟩

/-- `Next` on a closed round with at least two players left, before the river: the next street is
    dealt, and it is opened for betting exactly when two players still have chips -/
theorem next_street (g : Game) (he : g.event = .roundClosed) (h1 : g.aliveCount ≠ 1)
    (hr : g.round = .preflop ∨ g.round = .flop ∨ g.round = .turn) :
    (g.step .next).2 = none ∧ (g.step .next).1.round.idx = g.round.idx + 1 ∧
    (g.movableCount ≤ 1 → (g.step .next).1.event = .roundClosed) ∧
    (2 ≤ g.movableCount → (g.step .next).1.event = .readyRequested) ∧
    (g.step .next).1.movableCount = g.movableCount ∧ (g.step .next).1.aliveCount = g.aliveCount := by
  have hrn := Round.before_river.mp hr
  obtain ⟨row, _⟩ := next_phase he hrn.1
  have m := (wr_step g .next).mov
  have key : (g.step .next).1.round = g.round.succ ∧
      (g.movableCount ≤ 1 → (g.step .next).1.event = .roundClosed) ∧
      (2 ≤ g.movableCount → (g.step .next).1.event = .readyRequested) := by
    generalize (g.step .next).1.event = e, (g.step .next).1.round = r at row ⊢
    cases row with
    | blinds hop | noBlinds hop => exact hop.elim nofun fun h => nomatch h.1
    | close _ hc => exact absurd hc (not_or.mpr ⟨h1, hrn.2⟩)
    | street _ _ h2 => exact ⟨rfl, fun h => absurd h2 (by omega), fun _ => rfl⟩
    | allin _ _ h2 => exact ⟨rfl, fun _ => rfl, fun h => absurd h (by omega)⟩
  refine ⟨by rw [step_next he hrn.1], ?_, key.2.1, key.2.2, m.movable, m.alive⟩
  rw [key.1]
  exact Round.succ_idx hrn.2

/-- `ready` on a dealt street (the preflop round included) runs `StartRound`: same stacks, same street -/
theorem ready_dealt (g : Game) (he : g.event = .readyRequested) (hr : g.round ≠ .none) :
    (g.step .ready).1.movableCount = g.movableCount ∧ (g.step .ready).1.aliveCount = g.aliveCount ∧
    (g.step .ready).1.round = g.round := by
  have m := (wr_step g .ready).mov
  refine ⟨m.movable, m.alive, ?_⟩
  rw [step_ready_street he hr]
  exact (wr_startRound _).round

end Pokerface
