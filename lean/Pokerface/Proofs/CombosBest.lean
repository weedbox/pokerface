import Pokerface.Model.Combos
/-
  The outcomes of `sort.Slice(powers, Score >)` as a relation (`SortedDescPermOf`); the model's `bestPower` picks a
  candidate of maximal score (`bestPower_spec`).
-/
namespace Pokerface

/-- Specification-level: `l'` is a possible outcome of `sort.Slice(l, Score >)`:
    a permutation of `l` in which scores never increase. -/
def SortedDescPermOf (l l' : List Power) : Prop :=
  l'.Perm l ∧ l'.Pairwise (fun a b => a.score ≥ b.score)

theorem bestPower_eq_none {l : List Power} : bestPower l = none ↔ l = [] := by
  induction l with
  | nil => simp [bestPower]
  | cons p ps ih =>
    simp only [bestPower, reduceCtorEq, iff_false]
    split
    · simp
    · split <;> simp

theorem bestPower_spec {l : List Power} {p : Power} (h : bestPower l = some p) :
    p ∈ l ∧ ∀ q ∈ l, q.score ≤ p.score := by
  -- along the recursion of `bestPower`: the head is kept unless the best of the tail is strictly better
  induction l generalizing p with
  | nil => simp [bestPower] at h
  | cons a t ih =>
    simp only [bestPower] at h
    split at h
    · next hn =>
      have := bestPower_eq_none.mp hn
      subst this
      simp only [Option.some.injEq] at h
      subst h
      simp
    · next q hq =>
      have ⟨hm, hmax⟩ := ih hq
      split at h
      · next hgt =>
        simp only [Option.some.injEq] at h
        subst h
        refine ⟨List.mem_cons_of_mem _ hm, ?_⟩
        intro r hr
        rcases List.mem_cons.mp hr with rfl | hr
        · omega
        · exact hmax r hr
      · next hgt =>
        simp only [Option.some.injEq] at h
        subst h
        refine ⟨List.mem_cons_self .., ?_⟩
        intro r hr
        rcases List.mem_cons.mp hr with rfl | hr
        · exact Nat.le_refl _
        · have := hmax r hr
          omega

end Pokerface
