/-
  How the regulator's functions move the termination measure (C20): the queue-draining half, and
  `SyncState(t, 0)`.
-/
import Pokerface.Proofs.RegMeasure
import Pokerface.Proofs.RegOps

namespace Pokerface
namespace Reg

theorem vec_setReq (F C : Int) (hFC : F ≤ C) (ts : List RTable) (hall : ∀ t ∈ ts, t.required ≤ 0) :
    (vecOf F (setReq C ts)).m2 = (vecOf F ts).m2 ∧ (vecOf F (setReq C ts)).b = 0 ∧
    (vecOf F (setReq C ts)).a = 0 ∧ (vecOf F ts).b = 0 ∧ (vecOf F ts).a = (vecOf F ts).m2 := by
  refine ⟨dF_setReq F C ts, ?_⟩
  simp only [vecOf, setReq, tot_map]
  refine ⟨?_, ?_, ?_, ?_⟩
  · apply tot_zero
    intro t ht
    have := hall t ht
    simp only [Function.comp, bF]
    split
    · simp only
      split <;> omega
    · split <;> omega
  · apply tot_zero
    intro t ht
    have := hall t ht
    simp only [Function.comp, aF]
    split
    · simp only
      omega
    · omega
  · apply tot_zero
    intro t ht
    have := hall t ht
    simp only [bF]
    split <;> omega
  · apply tot_congr
    intro t ht
    have := hall t ht
    simp only [aF, dF]
    omega

theorem fire_meas (r : Reg) (hwf : WF r) (hall : ∀ t ∈ r.tables, t.required ≤ 0) :
    MLe r.updateTableRequirements r := by
  rw [updateTableRequirements_eq]
  split
  · rename_i hreq
    have hR0 : 0 ≤ r.requiredTables := by omega
    obtain ⟨e1, e2, e3, e4, e5⟩ := vec_setReq (flr r) r.ceilWl (flr_le_ceilWl r hR0) r.tables hall
    have hT : r.tableCount = r.requiredTables := by rw [hwf.tc, hreq]
    by_cases z : zeroed r
    · have z' : zeroed ({ r with tables := setReq r.ceilWl r.tables } : Reg) := by
        unfold zeroed at z ⊢
        exact ⟨by show (vecOf (flr r) (setReq r.ceilWl r.tables)).m2 = 0; rw [e1]; exact z.1, z.2⟩
      refine Or.inr ⟨by rw [mu1_eq, mu1_eq]; rfl, ?_⟩
      rw [muv_pos z, muv_pos z']
      exact lexLe_refl _
    · have hm2 : (vecOf (flr r) r.tables).m2 ≠ 0 := fun h => z ⟨h, hT⟩
      apply MLe_of_vec (r := r) (r' := { r with tables := setReq r.ceilWl r.tables }) rfl ⟨rfl, rfl⟩
      show lexLe (vecOf (flr r) (setReq r.ceilWl r.tables)) (vecOf (flr r) r.tables)
      unfold lexLe
      omega
  · exact MLe_refl r

theorem dispatchPlayer_meas {r r' : Reg} {cands rest : List Nat} (hwf : WF r) (hc : cands ≠ [])
    (h : r.dispatchPlayer cands = some (rest, r')) (hb : r'.badChoice = false) (F : Int) :
    lexLe (vecOf F r'.tables) (vecOf F r.tables) := by
  obtain ⟨t0, ht0, k, hk1, hk2, _, htab⟩ := dispatchPlayer_shape hc h hb
  rw [htab]
  exact lexLe_of_upd hwf.nodup ht0 rfl _ (cv_dispatch F t0 k hk1 hk2)

theorem dispatchLoop_meas (fuel : Nat) {cands rest : List Nat} {r r' : Reg} (hwf : WF r)
    (h : dispatchLoop fuel cands r = (rest, r')) (hb : r'.badChoice = false) (F : Int) :
    lexLe (vecOf F r'.tables) (vecOf F r.tables) :=
  (dispatchLoop_induct (I := WF) (P := fun _ r _ r' => lexLe (vecOf F r'.tables) (vecOf F r.tables))
    (fun _ _ => lexLe_refl _) (fun h1 h2 => lexLe_trans h2 h1)
    (fun hwf hc hs hb' =>
      have hsp := dispatchPlayer_spec hwf hc hs hb'
      ⟨hsp.1, dispatchPlayer_meas hwf hc hs hb' F, hsp.2.2.1⟩)
    fuel hwf h hb).2.1

theorem allocateTables_meas (r : Reg) (hm : 0 < r.max) : MLe r.allocateTables r := by
  obtain ⟨hs, h1, h2⟩ := allocateTables_tc r hm
  by_cases hsame : r.allocateTables.tableCount = r.tableCount
  · exact MLe_of_congr ((allocateTables_opens r hm).same hsame) hsame hs
  · apply MLt_le
    apply MLt_of_m1 hs
    rcases h2 with h2 | h2
    · exact absurd h2 hsame
    · omega

theorem dispatchLoop_MLe {fuel : Nat} {cands rest : List Nat} {r r' : Reg} (hwf : WF r)
    (h : dispatchLoop fuel cands r = (rest, r')) (hb : r'.badChoice = false) : MLe r' r := by
  have h1 := dispatchLoop_tc fuel cands r
  rw [h] at h1
  exact MLe_of_vec h1.2 h1.1 (dispatchLoop_meas fuel hwf h hb (flr r))

theorem drainWaitingQueue_meas (r : Reg) (hwf : WF r) (hb : r.drainWaitingQueue.badChoice = false) :
    MLe r.drainWaitingQueue r := by
  by_cases hpos : r.tableCount > 0
  · obtain ⟨c1, r1, hp1, hb1, hwf1, hcase⟩ := drainWaitingQueue_cases r hwf hpos hb
    have m1 : MLe r1 r := dispatchLoop_MLe hwf hp1 hb1
    rcases hcase with ⟨_, he⟩ | ⟨_, hall, hwf2, c2, r3, hp3, hb3, hwf3, he⟩
    · rw [he]
      exact MLe_trans (MLe_of_congr rfl rfl ⟨rfl, rfl⟩) m1
    · rw [he]
      have m3 : MLe r3 r1 := MLe_trans (dispatchLoop_MLe hwf2 hp3 hb3) (fire_meas r1 hwf1 hall)
      have m04 : MLe ({ r3 with queue := c2 } : Reg) r :=
        MLe_trans (MLe_of_congr rfl rfl ⟨rfl, rfl⟩) (MLe_trans m3 m1)
      split
      · exact m04
      · exact MLe_trans (allocateTables_meas _ (hwf3.setQueue c2).maxpos) m04
  · rw [drainWaitingQueue_eq]
    split
    · exact allocateTables_meas r hwf.maxpos
    · exact MLe_refl r

theorem releasePlayers_meas (r : Reg) (rel ch : List Nat) (hwf : WF r)
    (hb : (r.releasePlayers rel ch).badChoice = false) : MLe (r.releasePlayers rel ch) r := by
  rcases releasePlayers_cases r rel ch with h | h
  · rw [h]
    exact MLe_of_congr rfl rfl ⟨rfl, rfl⟩
  · rw [h] at hb ⊢
    have hwf' : WF ({ r.beginOp ch with queue := r.queue ++ rel } : Reg) := (hwf.beginOp ch).setQueue _
    exact MLe_trans (drainWaitingQueue_meas _ hwf' hb) (MLe_of_congr rfl rfl ⟨rfl, rfl⟩)

theorem reached_of_zeroed (r : Reg) (hwf : WF r) (hcnt : r.playerCount = r.queue.length + sumCount r.tables)
    (hreq : 0 < r.requiredTables) (z : zeroed r) :
    r.lowerWaterLevelReached (flr r) = true := by
  obtain ⟨z1, z2⟩ := z
  have hall : ∀ tb ∈ r.tables, r.playerCount / r.requiredTables ≤ tb.count := by
    intro tb htb
    have := tot_eq_zero (g := dF (flr r)) z1 tb htb
    simp only [dF, flr] at this
    omega
  exact lowerWaterLevelReached_of_balanced r hreq (by rw [← z2, hwf.tc]) (by omega) hall

theorem syncState_zero_meas (r : Reg) (t : Nat) (t0 : RTable) (hwf : WF r)
    (hcnt : r.playerCount = r.queue.length + sumCount r.tables) (hf : r.findTable t = some t0) :
    MLe (r.syncState t 0).1 r ∧
    (((r.syncState t 0).2.2.1 ≠ 0 ∨ (r.syncState t 0).2.2.2 ≠ [] ∨ (r.syncState t 0).1.findTable t = none) →
      MLt (r.syncState t 0).1 r) := by
  obtain ⟨ht0, hid0⟩ := findTable_some hf
  have hbt := hwf.bnd t0 ht0
  have hidm : t ∈ r.tables.map (·.id) := List.mem_map.2 ⟨t0, ht0, hid0⟩
  obtain ⟨r1, rel, nw, he, hc⟩ := syncState_zero_cases r t t0 hf
  rw [he]
  cases hc with
  | brk hlt =>
    -- a break lowers |T − R|
    have : MLt ((r.beginOp []).breakTable t) r := by
      apply MLt_of_m1 (r := r) (r' := (r.beginOp []).breakTable t) ⟨rfl, rfl⟩
      show (r.tableCount - 1 - r.requiredTables).natAbs < _
      have e1 : (r.beginOp []).requiredTables = r.requiredTables := rfl
      have e2 : (r.beginOp []).tableCount = r.tableCount := rfl
      omega
    exact ⟨MLt_le this, fun _ => this⟩
  | same =>
    refine ⟨MLe_of_congr rfl rfl ⟨rfl, rfl⟩, fun hask => ?_⟩
    rcases hask with h1 | h1 | h1
    · exact absurd rfl h1
    · exact absurd rfl h1
    · rw [show (r.beginOp []).findTable t = some t0 from hf] at h1
      cases h1
  | take n rq hreq hlow hn hrq =>
    have hF : flr (r.beginOp []) = flr r := rfl
    rw [hF] at hn hrq
    generalize hk : ((r.beginOp []).queue.take n).length = k at hrq
    have hk0 := List.length_take_le n (r.beginOp []).queue
    obtain ⟨c1, c2⟩ := cv_take (flr r) t0 k (by omega) (by omega) hbt.2.1
    rw [← hrq] at c1 c2
    refine ⟨MLe_of_vec (r := r) rfl ⟨rfl, rfl⟩ (lexLe_of_upd hwf.nodup ht0 hid0 _ c1), fun hask => ?_⟩
    have hk1 : 1 ≤ (k : Int) := by
      rcases hask with h1 | h1 | h1
      · exact absurd rfl h1
      · have : 0 < ((r.beginOp []).queue.take n).length := List.length_pos_iff.2 h1
        omega
      · exact absurd h1 (findTable_upd_adj hidm rfl)
    have hnz : ¬ zeroed r := fun z => by
      have := tot_eq_zero (g := dF (flr r)) z.1 t0 ht0
      simp only [dF] at this
      omega
    exact MLt_of_vec (r := r) rfl ⟨rfl, rfl⟩ hnz (lexLt_of_upd hwf.nodup ht0 hid0 _ (c2 hk1))
  | release j hreq hhigh hj hfirst _ =>
    have hF : flr (r.beginOp []) = flr r := rfl
    rw [hF] at hj hfirst
    obtain ⟨c1, c2⟩ := cv_release (flr r) t0 j (by omega) (by omega) hbt.2.1
    refine ⟨MLe_of_vec (r := r) rfl ⟨rfl, rfl⟩ (lexLe_of_upd hwf.nodup ht0 hid0 _ c1), fun hask => ?_⟩
    have hj1 : 1 ≤ j := by
      rcases hask with h1 | h1 | h1
      · have : (j : Int) ≠ 0 := h1
        omega
      · exact absurd rfl h1
      · exact absurd h1 (findTable_upd_adj hidm rfl)
    -- a release happened, so the first test of the loop failed: the state is not `zeroed`
    have hnz : ¬ zeroed r := fun z => by
      have h1 := reached_of_zeroed r hwf hcnt hreq z
      have h2 : r.lowerWaterLevelReached (flr r) = false := hfirst hj1
      rw [h1] at h2
      cases h2
    exact MLt_of_vec (r := r) rfl ⟨rfl, rfl⟩ hnz (lexLt_of_upd hwf.nodup ht0 hid0 _ (c2 (by omega)))

end Reg
end Pokerface
