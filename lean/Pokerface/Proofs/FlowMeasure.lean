import Pokerface.Proofs.FlowStep
/-
  Termination measure of a hand (C06), `mu g = n · Σ stacks + phase g`, and what a payment does to the
  stacks and to the `acted` marks.
-/
namespace Pokerface
open Game

/-- streets still to come -/
def Round.left : Round → Int
  | .none => 4 | .preflop => 3 | .flop => 2 | .turn => 1 | .river => 0

/-- Position inside the hand.  Every street `r` owns a band of `n + 2` values above `r.left · (n + 2)`, in the
    order the hand runs through them: waiting for `ReadyForAll` at the top of the band (`+ n + 2`), the open
    betting round at `1 +` the number of seats that have not acted (at most `n`), the closed round at `1`; so the
    closed round of the street before, `1 + (r.left + 1) · (n + 2)`, lies just above.  Before the first street
    (`left = 4`) come, downwards, the first `ReadyForAll` (`4(n+2) + 4`), `PayAnte` (`+ 3`) and `PayBlinds` (`+ 2`),
    all above the preflop `ReadyForAll` at `4(n+2)`.  (The proofs go through `phaseOf`, the same table on four
    arguments: `phase_eq`.) -/
def Game.phase (g : Game) : Int :=
  match g.event with
  | .gameClosed => 0
  | .roundClosed => 1 + g.round.left * (g.n + 2)
  | .roundStarted => 1 + g.round.left * (g.n + 2) + g.unacted
  | .readyRequested => if g.round = .none then 4 * ((g.n : Int) + 2) + 4 else g.round.left * (g.n + 2) + g.n + 2
  | .blindsRequested => 4 * ((g.n : Int) + 2) + 2
  | .anteRequested => 4 * ((g.n : Int) + 2) + 3
  | _ => 0

/-- `Game.phase` as a function of event, street, number of seats and of seats that have not acted -/
def phaseOf (e : Ev) (r : Round) (n u : Int) : Int :=
  match e with
  | .gameClosed => 0
  | .roundClosed => 1 + r.left * (n + 2)
  | .roundStarted => 1 + r.left * (n + 2) + u
  | .readyRequested => if r = .none then 4 * (n + 2) + 4 else r.left * (n + 2) + n + 2
  | .blindsRequested => 4 * (n + 2) + 2
  | .anteRequested => 4 * (n + 2) + 3
  | _ => 0

theorem phase_eq (g : Game) : g.phase = phaseOf g.event g.round g.n g.unacted := by
  unfold Game.phase phaseOf
  rfl

/-- the termination measure -/
def Game.mu (g : Game) : Int := g.n * g.stackSum + g.phase

theorem stackSum_of_players {g g' : Game} (h : g'.players.map (·.stack) = g.players.map (·.stack)) :
    g'.stackSum = g.stackSum := by
  simp only [Game.stackSum, h]

theorem NoChip.stackSum {g g' : Game} (h : NoChip g g') : g'.stackSum = g.stackSum := by
  have := congrArg (List.map fun c : Int × Int × Int × Int × Int => c.2.2.1) h.chips
  simp only [List.map_map, Function.comp_def, Player.chips] at this
  exact stackSum_of_players this

theorem stackSum_pay (g : Game) (i : Nat) (p : Player) (c : Int) (w : Bool) (hp : g.players[i]? = some p)
    (hr : p.stack = p.initial - p.wager) :
    (g.pay i c w).stackSum = g.stackSum - (if p.stack ≤ c then p.stack else c) := by
  obtain ⟨gc, nc, hpl, _⟩ := pay_core hp c w
  rw [nc.stackSum]
  unfold Game.stackSum
  rw [hpl, sum_map_modify (·.stack) (payF c) g.players i p hp]
  unfold payF
  split
  · simp only [goAllin]
    omega
  · simp only [putWager]
    omega

theorem stackSum_pay_le (g : Game) (i : Nat) (c : Int) (w : Bool) (hpi : ∀ p ∈ g.players, PInv p) (hc : 0 ≤ c) :
    (g.pay i c w).stackSum ≤ g.stackSum := by
  cases hp : g.players[i]? with
  | none =>
    rw [g.pay_none hp]
    exact Int.le_refl _
  | some p =>
    have h := hpi p (List.mem_of_getElem? hp)
    rw [stackSum_pay g i p c w hp h.rebase]
    have := h.stack0
    split <;> omega

def unactedL (l : List Player) : Nat := (l.filter (fun p => !p.acted)).length

theorem unacted_eq_L (g : Game) : g.unacted = unactedL g.players := rfl

theorem unactedL_mark (l : List Player) (i : Nat) (p : Player) (f : Player → Player) (hp : l[i]? = some p)
    (h0 : p.acted = false) (h1 : (f p).acted = true) : unactedL (l.modify i f) + 1 = unactedL l := by
  have := length_filter_modify (fun p : Player => !p.acted) f l i p hp
  simp only [h0, h1, Bool.not_false, Bool.not_true, if_true, Bool.false_eq_true, if_false] at this
  exact this

theorem unacted_mark (g : Game) (i : Nat) (p : Player) (f : Player → Player) (hp : g.players[i]? = some p)
    (h0 : p.acted = false) (h1 : (f p).acted = true) : (g.modP i f).unacted + 1 = g.unacted :=
  unactedL_mark g.players i p f hp h0 h1

theorem stackSum_modP (g : Game) (i : Nat) (f : Player → Player) (hf : ∀ p, (f p).stack = p.stack) :
    (g.modP i f).stackSum = g.stackSum :=
  stackSum_of_players (by simp [Game.modP, map_modify_of_proj (·.stack) f hf])

/-- a wager payment of nothing by a seat with chips that is not above the wager to match clears no mark -/
theorem acts_pay_zero (g : Game) (i : Nat) (p : Player) (hp : g.players[i]? = some p) (hs : 0 < p.stack)
    (hw : p.wager ≤ g.cw) : Acts g (g.pay i 0 true) := by
  rw [pay_wager_eq hp, if_neg (by omega), if_neg (by omega)]
  exact (((wr_modP g i (payF 0) (W := { stack := true, wager := true }) fun q => by
    unfold payF
    split <;> rfl).trans (wr_addRoundPot _ _)).trans (wr_setCw _ _)).acts

theorem pay_prog (g : Game) (ok : ChipsOK g) (i : Nat) (p : Player) (c : Int) (hp : g.players[i]? = some p)
    (hs : 0 < p.stack) (hc : 0 ≤ c) :
    (g.n : Int) * (g.pay i c true).stackSum + (g.pay i c true).unacted ≤ (g.n : Int) * g.stackSum + g.unacted := by
  have hpi := ok.pinv p (List.mem_of_getElem? hp)
  by_cases h0 : c = 0
  · subst h0
    rw [(acts_pay_zero g i p hp hs (ok.wle p (List.mem_of_getElem? hp))).unacted, stackSum_pay g i p 0 true hp hpi.rebase]
    have : ¬ p.stack ≤ 0 := by omega
    simp [this]
  · have hn : (g.pay i c true).n = g.n := (wr_pay g i c true).n
    have hu := unacted_le (g.pay i c true)
    rw [hn] at hu
    rw [stackSum_pay g i p c true hp hpi.rebase]
    have hd : 1 ≤ (if p.stack ≤ c then p.stack else c) := by split <;> omega
    have h1 : (g.n : Int) * 1 ≤ (g.n : Int) * (if p.stack ≤ c then p.stack else c) :=
      Int.mul_le_mul_of_nonneg_left hd (by omega)
    rw [Int.mul_sub]
    omega

end Pokerface
