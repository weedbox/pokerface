/-
  The glue between the seat manager and the hand engine (Model/Table.lean): each operation of the table restated,
  `prepareNextGame` cut into "a game is created" and "the hand is played", and the invariant that the sheet and the
  seat map agree, kept by every operation.
-/
import Pokerface.Model.Table
import Pokerface.Proofs.FlowC06
import Pokerface.Proofs.SMBook
import Pokerface.Proofs.SMLayout

namespace Pokerface
namespace Table

theorem startRefusal_eq (ps : List SeatCfg) : startRefusal ps =
    if ps.length < 2 then some .insufficientPlayers
    else if ¬ ∃ s ∈ ps, s.dealer = true then some .noDealer
    else if ∃ s ∈ ps, s.bankroll ≤ 0 then some .notEnoughBankroll
    else none := by
  unfold startRefusal
  have e2 : (!(ps.any (·.dealer))) = true ↔ ¬ ∃ s ∈ ps, s.dealer = true := by simp
  have e3 : (ps.any (fun p => decide (p.bankroll ≤ 0))) = true ↔ ∃ s ∈ ps, s.bankroll ≤ 0 := by simp
  simp only [e2, e3]

theorem startRefusal_eq_start (c : Config) (hd : c.opts.deck ≠ []) : (start c).2 = startRefusal c.seats := by
  rw [start_err, startRefusal_eq, if_neg hd]

theorem startRefusal_none_iff (ps : List SeatCfg) :
    startRefusal ps = none ↔ 2 ≤ ps.length ∧ (∃ s ∈ ps, s.dealer = true) ∧ ∀ s ∈ ps, 0 < s.bankroll := by
  rw [startRefusal_eq]
  by_cases h1 : ps.length < 2
  · rw [if_pos h1]
    exact ⟨nofun, fun h => absurd h.1 (Nat.not_le.mpr h1)⟩
  rw [if_neg h1]
  by_cases h2 : ∃ s ∈ ps, s.dealer = true
  · rw [if_neg (fun h => h h2)]
    by_cases h3 : ∃ s ∈ ps, s.bankroll ≤ 0
    · rw [if_pos h3]
      obtain ⟨s, hs, hle⟩ := h3
      exact ⟨nofun, fun h => absurd (h.2.2 s hs) (Int.not_lt.mpr hle)⟩
    · rw [if_neg h3]
      exact ⟨fun _ => ⟨Nat.le_of_not_lt h1, h2, fun s hs => Int.lt_of_not_ge fun hle => h3 ⟨s, hs, hle⟩⟩, fun _ => rfl⟩
  · rw [if_pos h2]
    exact ⟨nofun, fun h => absurd h.2.1 h2⟩

def pidAt (t : Table) (i : Nat) : Option Nat := (t.players[i]?).bind (·.map (·.pid))

def playerAt (t : Table) (i : Nat) : Option TPlayer := (t.players[i]?).join

theorem playerAt_eq_some {t : Table} {i : Nat} {p : TPlayer} :
    t.playerAt i = some p ↔ t.players[i]? = some (some p) := by
  unfold playerAt
  cases h : t.players[i]? with
  | none => simp
  | some o => cases o <;> simp

theorem pidAt_eq (t : Table) (i : Nat) : t.pidAt i = (t.playerAt i).map (·.pid) := by
  unfold pidAt playerAt
  cases h : t.players[i]? with
  | none => rfl
  | some o => cases o <;> rfl

theorem pidAt_of_map {t t' : Table} {i : Nat} {f : TPlayer → TPlayer}
    (h : t'.players[i]? = (t.players[i]?).map (·.map f)) (hf : ∀ p, (f p).pid = p.pid) : t'.pidAt i = t.pidAt i := by
  unfold pidAt
  rw [h]
  cases t.players[i]? with
  | none => rfl
  | some o => cases o <;> simp [hf]

theorem playerAt_setPl (t : Table) (i : Nat) (p : Option TPlayer) (j : Nat) :
    (t.setPl i p).playerAt j = if i = j ∧ j < t.players.length then p else t.playerAt j := by
  unfold playerAt setPl
  simp only [List.getElem?_set]
  by_cases hij : i = j
  · subst hij
    by_cases hl : i < t.players.length
    · simp [hl]
    · simp [hl]
  · simp [hij]

theorem playerAt_modPl (t : Table) (i : Nat) (f : TPlayer → TPlayer) (j : Nat) :
    (t.modPl i f).playerAt j = if i = j then (t.playerAt j).map f else t.playerAt j := by
  unfold playerAt modPl
  simp only [List.getElem?_modify]
  by_cases hij : i = j
  · subst hij
    cases h : t.players[i]? with
    | none => simp
    | some o => cases o <;> simp
  · simp [hij]

@[simp] theorem setPl_sm (t : Table) (i p) : (t.setPl i p).sm = t.sm := rfl
@[simp] theorem modPl_sm (t : Table) (i f) : (t.modPl i f).sm = t.sm := rfl
@[simp] theorem setPl_opts (t : Table) (i p) : (t.setPl i p).opts = t.opts := rfl
@[simp] theorem modPl_opts (t : Table) (i f) : (t.modPl i f).opts = t.opts := rfl
@[simp] theorem setPl_length (t : Table) (i p) : (t.setPl i p).players.length = t.players.length := by
  simp [setPl]
@[simp] theorem modPl_length (t : Table) (i f) : (t.modPl i f).players.length = t.players.length := by
  simp [modPl]
@[simp] theorem setPl_inPosition (t : Table) (i p) : (t.setPl i p).inPosition = t.inPosition := rfl
@[simp] theorem modPl_inPosition (t : Table) (i f) : (t.modPl i f).inPosition = t.inPosition := rfl
@[simp] theorem setPl_gameCount (t : Table) (i p) : (t.setPl i p).gameCount = t.gameCount := rfl
@[simp] theorem modPl_gameCount (t : Table) (i f) : (t.modPl i f).gameCount = t.gameCount := rfl

/-- how `setupPosition` passes on an error of `Next()` -/
def nextErr : SMErr → TErr
  | .insufficientPlayers => .insufficient
  | .panic => .panic
  | e => .sm e

/-- the positions a seat gets from the seat manager -/
def posOf (sm : SM) (s : Nat) : Bool × Bool × Bool :=
  (decide (sm.dealer = some s), decide (sm.sb = some s), decide (sm.sb ≠ some s) && decide (sm.bb = some s))

/-- the positions of the seat manager `sm'` written onto one sheet entry of seat `i` -/
def copyPos (sm' : SM) (i : Nat) (p : TPlayer) : TPlayer :=
  { p with dealer := (posOf sm' i).1, sb := (posOf sm' i).2.1, bb := (posOf sm' i).2.2, playable := sm'.playable i }

/-- the loop of `setupPosition` -/
def copyPositions (sm' : SM) (pls : List (Option TPlayer)) : List (Option TPlayer) :=
  pls.zipIdx.map fun (p, i) => p.map (copyPos sm' i)

theorem setupPosition_eq (t : Table) : t.setupPosition =
    if t.inPosition then (t, none)
    else match (t.sm.step .next).2.1 with
      | some e => ({ t with sm := (t.sm.step .next).1 }, some (nextErr e))
      | none => ({ t with sm := (t.sm.step .next).1, players := copyPositions (t.sm.step .next).1 t.players,
                          inPosition := true }, none) := by
  unfold setupPosition
  split
  · rfl
  · rcases h : t.sm.step .next with ⟨sm', e, r⟩
    cases e with
    | none => rfl
    | some e => cases e <;> rfl

theorem copyPositions_length (sm' : SM) (pls) : (copyPositions sm' pls).length = pls.length := by
  simp [copyPositions]

theorem copyPositions_getElem? (sm' : SM) (pls : List (Option TPlayer)) (i : Nat) :
    (copyPositions sm' pls)[i]? = (pls[i]?).map (·.map (copyPos sm' i)) := by
  unfold copyPositions
  rw [List.getElem?_map, List.getElem?_zipIdx]
  cases pls[i]? <;> simp

theorem setupPosition_ok {t t' : Table} (hp : t.inPosition = false) (h : t.setupPosition = (t', none)) :
    (t.sm.step .next).2.1 = none ∧
    t' = { t with sm := (t.sm.step .next).1, players := copyPositions (t.sm.step .next).1 t.players,
                  inPosition := true } := by
  rw [setupPosition_eq, if_neg (by simp [hp])] at h
  split at h
  · cases h
  · next he => exact ⟨he, (Prod.mk.inj h).1.symm⟩

theorem setupPosition_of_inPosition {t : Table} (hp : t.inPosition = true) : t.setupPosition = (t, none) := by
  rw [setupPosition_eq, if_pos hp]

theorem setupPosition_ok_inPosition {t t1 : Table} (h : t.setupPosition = (t1, none)) : t1.inPosition = true := by
  by_cases hp : t.inPosition = true
  · rw [setupPosition_of_inPosition hp] at h
    cases h
    exact hp
  · obtain ⟨_, rfl⟩ := setupPosition_ok (by simpa using hp) h
    rfl

theorem setupPosition_failed_inPosition {t : Table} (hp : t.inPosition = false) (he : t.setupPosition.2 ≠ none) :
    t.setupPosition.1.inPosition = false := by
  rw [setupPosition_eq, if_neg (by simp [hp])] at he ⊢
  split
  · exact hp
  · next h =>
    rw [h] at he
    exact absurd rfl he

theorem setupPosition_ok_playerAt {t t' : Table} (hp : t.inPosition = false) (hs : t.setupPosition = (t', none))
    (i : Nat) : t'.playerAt i = (t.playerAt i).map (copyPos t'.sm i) := by
  obtain ⟨_, he⟩ := setupPosition_ok hp hs
  have hpl : t'.players = copyPositions t'.sm t.players := by rw [he]
  unfold playerAt
  rw [hpl, copyPositions_getElem?]
  cases t.players[i]? with
  | none => rfl
  | some o => cases o <;> rfl

theorem setupPosition_sm (t : Table) :
    t.setupPosition.1.sm = t.sm ∨ t.setupPosition.1.sm = (t.sm.step .next).1 := by
  rw [setupPosition_eq]
  split
  · left
    rfl
  · right
    split <;> rfl

theorem setupPosition_opts (t : Table) : t.setupPosition.1.opts = t.opts := by
  rw [setupPosition_eq]
  split
  · rfl
  · split <;> rfl

theorem setupPosition_gameCount (t : Table) : t.setupPosition.1.gameCount = t.gameCount := by
  rw [setupPosition_eq]
  split
  · rfl
  · split <;> rfl

theorem setupPosition_playerAt (t : Table) (i : Nat) :
    t.setupPosition.1.playerAt i = t.playerAt i ∨
    t.setupPosition.1.playerAt i = (t.playerAt i).map (copyPos (t.sm.step .next).1 i) := by
  rw [setupPosition_eq]
  split
  · left
    rfl
  · split
    · left
      rfl
    · right
      unfold playerAt
      simp only [copyPositions_getElem?]
      cases h : t.players[i]? with
      | none => rfl
      | some o => cases o <;> rfl

/-- Invariant of a table: the sheet has one slot per seat, it shows a player exactly where the seat manager has
one (with the same id), and the seat manager is in a state reachable from a fresh one by its own operations. -/
structure TInv (t : Table) : Prop where
  len : t.players.length = t.sm.max
  smr : SM.Reachable t.sm
  sync : ∀ i, t.pidAt i = t.sm.pidAt i

theorem TInv.seats_len {t : Table} (h : TInv t) : t.sm.seats.length = t.sm.max := h.smr.inv.wf

theorem TInv.lt_len {t : Table} (h : TInv t) {i : Nat} {s : Seat} (hs : t.sm.seats[i]? = some s) :
    i < t.players.length :=
  h.len ▸ h.smr.inv.wf.lt_max hs

theorem tinv_new (max : Nat) (o : TOpts) : TInv (Table.new max o) := by
  refine ⟨by simp [Table.new, SM.new], ⟨max, [], rfl⟩, ?_⟩
  intro i
  rw [show (Table.new max o).sm = SM.new max from rfl, SM.pidAt_new]
  unfold pidAt Table.new
  simp only [List.getElem?_replicate]
  split <;> rfl

theorem TInv.player_of_sm {t : Table} (h : TInv t) {i : Nat} {s : Seat} (hs : t.sm.seats[i]? = some s)
    (hp : s.player.isSome = true) : ∃ p, t.players[i]? = some (some p) ∧ s.player = some p.pid := by
  have := h.sync i
  rw [pidAt_eq] at this
  unfold SM.pidAt at this
  rw [hs] at this
  simp only [Option.bind_some] at this
  cases hq : t.playerAt i with
  | none =>
    rw [hq] at this
    rw [← this] at hp
    cases hp
  | some p =>
    rw [hq] at this
    exact ⟨p, playerAt_eq_some.mp hq, this.symm⟩

theorem TInv.player_of_playable {t : Table} (h : TInv t) {i : Nat} (hp : t.sm.playable i = true) :
    ∃ p, t.players[i]? = some (some p) := by
  obtain ⟨s, hs, _, _, ho⟩ := SM.playable_iff.mp hp
  obtain ⟨p, hp', _⟩ := h.player_of_sm hs ho
  exact ⟨p, hp'⟩

theorem TInv.sm_of_player {t : Table} (h : TInv t) {i : Nat} {p : TPlayer} (hp : t.players[i]? = some (some p)) :
    ∃ s, t.sm.seats[i]? = some s ∧ s.player = some p.pid := by
  have := h.sync i
  rw [pidAt_eq, playerAt_eq_some.mpr hp] at this
  unfold SM.pidAt at this
  cases hs : t.sm.seats[i]? with
  | none =>
    rw [hs] at this
    cases this
  | some s =>
    rw [hs] at this
    exact ⟨s, rfl, this.symm⟩

theorem TInv.sm_step_same {t : Table} (h : TInv t) (op : SMOp)
    (hpid : ∀ j, (t.sm.step op).1.pidAt j = t.sm.pidAt j) : TInv { t with sm := (t.sm.step op).1 } := by
  refine ⟨?_, h.smr.step op, fun i => ?_⟩
  · show t.players.length = (t.sm.step op).1.max
    rw [SM.step_max h.smr.inv]
    exact h.len
  · show t.pidAt i = _
    rw [hpid i]
    exact h.sync i

theorem TInv.of_same_pids {t t' : Table} (h : TInv t) (hsm : t'.sm = t.sm) (hl : t'.players.length = t.players.length)
    (hp : ∀ i, t'.pidAt i = t.pidAt i) : TInv t' := by
  refine ⟨?_, ?_, fun i => ?_⟩
  · rw [hl, hsm]
    exact h.len
  · rw [hsm]
    exact h.smr
  · rw [hp i, hsm]
    exact h.sync i

theorem TInv.modPl {t : Table} (h : TInv t) (i : Nat) (f : TPlayer → TPlayer) (hf : ∀ p, (f p).pid = p.pid) :
    TInv (t.modPl i f) := by
  refine h.of_same_pids rfl (by simp) ?_
  intro j
  rw [pidAt_eq, pidAt_eq, playerAt_modPl]
  split
  · cases t.playerAt j <;> simp [hf]
  · rfl

theorem leave_cases (t : Table) (seat : Int) :
    (∃ e, t.leave seat = (t, some e)) ∨
    (∃ (i : Nat) (s : Seat), seat = (i : Int) ∧ t.sm.seats[i]? = some s ∧
      t.sm.step (.leave seat) = (t.sm.setSeat i { s with player := none, reserved := false }, none, none) ∧
      t.leave seat = (({ t with sm := (t.sm.step (.leave seat)).1 }).setPl i none, none)) := by
  rcases SM.step_local t.sm (op := .leave seat) nofun with ⟨e, he⟩ | ⟨i, _, hi, he, _, hl⟩
  · left
    refine ⟨.sm e, ?_⟩
    unfold leave
    rw [he]
  · right
    obtain ⟨s, hs, _⟩ := hl rfl
    have hseat : seat = (i : Int) := by
      rcases hi with hi | ⟨_, hi, _⟩
      · exact hi
      · cases hi
    rw [SM.modSeat_eq_setSeat _ hs] at he
    refine ⟨i, s, hseat, hs, he, ?_⟩
    unfold leave
    rw [he]
    subst hseat
    simp

theorem TInv.setSeat {t : Table} (h : TInv t) {i : Nat} {s : Seat} (hs : t.sm.seats[i]? = some s) (s' : Seat)
    (o : Option TPlayer) (ho : s'.player = o.map (·.pid)) (hr : SM.Reachable (t.sm.setSeat i s')) :
    TInv (({ t with sm := t.sm.setSeat i s' } : Table).setPl i o) := by
  have hil := h.lt_len hs
  refine ⟨(setPl_length _ i o).trans h.len, hr, fun j => ?_⟩
  show _ = (t.sm.setSeat i s').pidAt j
  rw [SM.pidAt_setSeat _ hs, pidAt_eq, playerAt_setPl]
  by_cases hij : i = j
  · subst hij
    rw [if_pos ⟨rfl, hil⟩, if_pos rfl, ho]
  · rw [if_neg (fun hc => hij hc.1), if_neg hij, ← h.sync j, pidAt_eq]
    rfl

theorem TInv.leave {t : Table} (h : TInv t) (seat : Int) : TInv (t.leave seat).1 := by
  rcases leave_cases t seat with ⟨e, he⟩ | ⟨i, s, hi, hs, he, hl⟩
  · rw [he]
    exact h
  · have hsm : (t.sm.step (.leave seat)).1 = t.sm.setSeat i { s with player := none, reserved := false } := by rw [he]
    rw [hl, hsm]
    exact h.setSeat hs _ none rfl (hsm ▸ h.smr.step _)

theorem TInv.setupPosition {t : Table} (h : TInv t) : TInv t.setupPosition.1 := by
  rw [setupPosition_eq]
  split
  · exact h
  · have hpid := fun j => (SM.next_samePlayers h.smr.inv).pidAt j
    split
    · exact h.sm_step_same .next hpid
    · refine (h.sm_step_same .next hpid).of_same_pids rfl (by simp [copyPositions_length]) ?_
      exact fun i => pidAt_of_map (copyPositions_getElem? _ _ i) fun _ => rfl

theorem TInv.of_setup {t t' : Table} {e : Option TErr} (h : TInv t) (hs : t.setupPosition = (t', e)) : TInv t' := by
  have := h.setupPosition
  rwa [hs] at this

/-- the loop of `startGame` that hands out the game indices -/
def assignFold (t : Table) (seats : List Nat) (k0 : Nat) : Table :=
  (seats.zipIdx k0).foldl (fun t (s, i) => t.modPl s fun p => { p with gameIdx := (i : Int) }) t

/-- `startGame`'s first loop -/
def clearIdx (t : Table) : Table := { t with players := t.players.map (·.map fun p => { p with gameIdx := -1 }) }

theorem assignGameIdx_eq (t : Table) (seats : List Nat) : t.assignGameIdx seats = t.clearIdx.assignFold seats 0 := rfl

theorem assignFold_cons (t : Table) (s : Nat) (seats : List Nat) (k0 : Nat) :
    t.assignFold (s :: seats) k0 = (t.modPl s fun p => { p with gameIdx := (k0 : Int) }).assignFold seats (k0 + 1) := by
  simp [assignFold, List.zipIdx_cons]

theorem clearIdx_playerAt (t : Table) (j : Nat) :
    t.clearIdx.playerAt j = (t.playerAt j).map fun p => { p with gameIdx := -1 } := by
  unfold playerAt Table.clearIdx
  simp only [List.getElem?_map]
  cases t.players[j]? with
  | none => rfl
  | some o => cases o <;> rfl

theorem assignGameIdx_proj {α : Type} (π : TPlayer → α) (hπ : ∀ p g, π { p with gameIdx := g } = π p)
    (t : Table) (seats : List Nat) (j : Nat) :
    ((t.assignGameIdx seats).playerAt j).map π = (t.playerAt j).map π := by
  have fold : ∀ (seats : List Nat) (t : Table) (k0 : Nat),
      ((t.assignFold seats k0).playerAt j).map π = (t.playerAt j).map π := by
    intro seats
    induction seats with
    | nil => exact fun _ _ => rfl
    | cons s seats ih =>
      intro t k0
      rw [assignFold_cons, ih, playerAt_modPl]
      split
      · cases t.playerAt j with
        | none => rfl
        | some p => exact congrArg some (hπ p _)
      · rfl
  rw [assignGameIdx_eq, fold, clearIdx_playerAt]
  cases t.playerAt j with
  | none => rfl
  | some p => exact congrArg some (hπ p _)

theorem assignFold_eq (t : Table) (seats : List Nat) (k0 : Nat) :
    t.assignFold seats k0 = { t with players := (t.assignFold seats k0).players } := by
  induction seats generalizing t k0 with
  | nil => rfl
  | cons s seats ih =>
    rw [assignFold_cons, ih]
    rfl

theorem assignFold_length (t : Table) (seats : List Nat) (k0 : Nat) :
    (t.assignFold seats k0).players.length = t.players.length := by
  induction seats generalizing t k0 with
  | nil => rfl
  | cons s seats ih => rw [assignFold_cons, ih, modPl_length]

@[simp] theorem assignGameIdx_sm (t : Table) (seats : List Nat) : (t.assignGameIdx seats).sm = t.sm := by
  rw [assignGameIdx_eq, assignFold_eq]
  rfl
@[simp] theorem assignGameIdx_opts (t : Table) (seats : List Nat) : (t.assignGameIdx seats).opts = t.opts := by
  rw [assignGameIdx_eq, assignFold_eq]
  rfl
@[simp] theorem assignGameIdx_gameCount (t : Table) (seats : List Nat) : (t.assignGameIdx seats).gameCount = t.gameCount := by
  rw [assignGameIdx_eq, assignFold_eq]
  rfl
@[simp] theorem assignGameIdx_inPosition (t : Table) (seats : List Nat) :
    (t.assignGameIdx seats).inPosition = t.inPosition := by
  rw [assignGameIdx_eq, assignFold_eq]
  rfl
@[simp] theorem assignGameIdx_length (t : Table) (seats : List Nat) :
    (t.assignGameIdx seats).players.length = t.players.length := by
  rw [assignGameIdx_eq, assignFold_length]
  exact List.length_map _

theorem TInv.assignGameIdx {t : Table} (h : TInv t) (seats : List Nat) : TInv (t.assignGameIdx seats) := by
  refine h.of_same_pids (assignGameIdx_sm t seats) (assignGameIdx_length t seats) fun i => ?_
  rw [pidAt_eq, pidAt_eq, assignGameIdx_proj (·.pid) fun _ _ => rfl]

/-- the state inside `updatePlayerStates` after a closing stack is written and the seat reserved -/
theorem TInv.reserved {t : Table} (h : TInv t) (s : Nat) (f : Int) :
    TInv ({ t.modPl s (fun p => { p with bankroll := f }) with sm := (t.sm.step (.reserve (s : Int))).1 } : Table) :=
  (h.modPl s (fun p => { p with bankroll := f }) (fun _ => rfl)).sm_step_same (.reserve (s : Int))
    (SM.step_pidAt_same h.smr.inv rfl rfl)

theorem TInv.applyFinal {t : Table} (h : TInv t) (k : Nat) (final : Int) : TInv (t.applyFinal k final) := by
  unfold Table.applyFinal
  split
  · exact h
  · next s _ =>
    simp only
    split
    · split
      · exact (h.reserved s final).leave _
      · exact h.reserved s final
    · exact h.modPl s _ (fun _ => rfl)

theorem applyResult_append (t : Table) (fs : List Int) (f : Int) :
    t.applyResult (fs ++ [f]) = (t.applyResult fs).applyFinal fs.length f := by
  simp [Table.applyResult, List.zipIdx_append, List.foldl_append]

theorem TInv.applyResult {t : Table} (h : TInv t) (finals : List Int) : TInv (t.applyResult finals) := by
  induction finals using snoc_induction with
  | nil => exact h
  | snoc fs f ih =>
    rw [applyResult_append]
    exact ih.applyFinal _ _

/-- `prepareNextGame` gets as far as creating a game: not over the game limit, positions set up (state `t1`), enough
playable seats, `seats` = `getPlayableSeats()` -/
structure Created (t t1 : Table) (seats : List Nat) : Prop where
  notMax : t.maxGamesReached = false
  setup : t.setupPosition = (t1, none)
  enough : ¬ ((t1.gameCount = 0 ∧ t1.sm.playableCount < t1.opts.initialPlayers) ∨
    t1.sm.playableCount < t1.opts.minPlayers)
  seats : playableSeats t1.sm = some seats

/-- the state in which the hand is over: closing stacks written back, game counted -/
def closed (t2 : Table) (finals : List Int) : Table :=
  { t2.applyResult finals with gameCount := (t2.applyResult finals).gameCount + 1, inPosition := false }

/-- `startGame` from `g.Start()` on, and the rest of `prepareNextGame` -/
def playHand (t2 : Table) (cfg : List SeatCfg) (finals : List Int) : Table × TOut :=
  match startRefusal cfg with
  | some e => (t2, { err := some (.game e), cfg := some cfg })
  | none =>
    if finals.length ≠ cfg.length then (t2, { err := some .badInput, cfg := some cfg })
    else if (t2.closed finals).maxGamesReached then (t2.closed finals, { err := some .maxGames, cfg := some cfg })
    else ((t2.closed finals).setupPosition.1, { err := (t2.closed finals).setupPosition.2, cfg := some cfg })

theorem prepareNextGame_created {t t1 : Table} {seats : List Nat} (h : Created t t1 seats) (finals : List Int) :
    t.prepareNextGame finals =
      playHand (t1.assignGameIdx seats) ((t1.assignGameIdx seats).gameSeats seats) finals := by
  unfold Table.prepareNextGame
  rw [if_neg (by simp [h.notMax]), h.setup]
  simp only
  rw [if_neg h.enough, h.seats]
  simp only
  unfold playHand
  cases startRefusal ((t1.assignGameIdx seats).gameSeats seats) with
  | some e => rfl
  | none =>
    simp only
    by_cases hl : finals.length ≠ ((t1.assignGameIdx seats).gameSeats seats).length
    · rw [if_pos hl, if_pos hl]
    · rw [if_neg hl, if_neg hl]
      by_cases hm : ((t1.assignGameIdx seats).closed finals).maxGamesReached = true
      · rw [if_pos hm]
        exact if_pos hm
      · rw [if_neg hm]
        exact if_neg hm

theorem playHand_refused {t2 : Table} {cfg : List SeatCfg} {finals : List Int} {e : Err} (hr : startRefusal cfg = some e) :
    playHand t2 cfg finals = (t2, { err := some (.game e), cfg := some cfg }) := by
  unfold playHand
  rw [hr]

theorem playHand_badInput {t2 : Table} {cfg : List SeatCfg} {finals : List Int} (hok : startRefusal cfg = none)
    (hl : finals.length ≠ cfg.length) : playHand t2 cfg finals = (t2, { err := some .badInput, cfg := some cfg }) := by
  unfold playHand
  rw [hok]
  exact if_pos hl

theorem playHand_played {t2 : Table} {cfg : List SeatCfg} {finals : List Int} (hok : startRefusal cfg = none)
    (hl : finals.length = cfg.length) :
    playHand t2 cfg finals =
      if (t2.closed finals).maxGamesReached then (t2.closed finals, { err := some .maxGames, cfg := some cfg })
      else ((t2.closed finals).setupPosition.1, { err := (t2.closed finals).setupPosition.2, cfg := some cfg }) := by
  unfold playHand
  rw [hok]
  exact if_neg (fun h => h hl)

theorem playHand_trichotomy (cfg : List SeatCfg) (finals : List Int) :
    (∃ e, startRefusal cfg = some e) ∨ (startRefusal cfg = none ∧ finals.length ≠ cfg.length) ∨
      (startRefusal cfg = none ∧ finals.length = cfg.length) := by
  cases startRefusal cfg with
  | some e => exact Or.inl ⟨e, rfl⟩
  | none =>
    by_cases hl : finals.length = cfg.length
    · exact Or.inr (Or.inr ⟨rfl, hl⟩)
    · exact Or.inr (Or.inl ⟨rfl, hl⟩)

theorem playHand_cfg (t2 : Table) (cfg : List SeatCfg) (finals : List Int) : (playHand t2 cfg finals).2.cfg = some cfg := by
  rcases playHand_trichotomy cfg finals with ⟨e, hr⟩ | ⟨hok, hl⟩ | ⟨hok, hl⟩
  · rw [playHand_refused hr]
  · rw [playHand_badInput hok hl]
  · rw [playHand_played hok hl]
    split <;> rfl

theorem played_state {t2 : Table} {cfg : List SeatCfg} {finals : List Int} (hok : startRefusal cfg = none)
    (hl : finals.length = cfg.length) :
    (playHand t2 cfg finals).1 = t2.closed finals ∨ (playHand t2 cfg finals).1 = (t2.closed finals).setupPosition.1 := by
  rw [playHand_played hok hl]
  split
  · exact Or.inl rfl
  · exact Or.inr rfl

theorem playHand_cases (t2 : Table) (cfg : List SeatCfg) (finals : List Int) :
    (playHand t2 cfg finals).1 = t2 ∨ (playHand t2 cfg finals).1 = t2.closed finals ∨
      (playHand t2 cfg finals).1 = (t2.closed finals).setupPosition.1 := by
  rcases playHand_trichotomy cfg finals with ⟨e, hr⟩ | ⟨hok, hl⟩ | ⟨hok, hl⟩
  · rw [playHand_refused hr]
    exact Or.inl rfl
  · rw [playHand_badInput hok hl]
    exact Or.inl rfl
  · exact Or.inr (played_state hok hl)

theorem setupPosition_err {t : Table} {e : TErr} (h : t.setupPosition.2 = some e) : ∃ e0, e = nextErr e0 := by
  rw [setupPosition_eq] at h
  split at h
  · cases h
  · split at h
    · next e0 _ => exact ⟨e0, (Option.some.inj h).symm⟩
    · cases h

theorem nextErr_ne_game (e0 : SMErr) (e : Err) : nextErr e0 ≠ .game e := by
  cases e0 <;> exact TErr.noConfusion

theorem prepareNextGame_cases (t : Table) (finals : List Int) :
    (∃ t1 seats, Created t t1 seats ∧ t.prepareNextGame finals =
      playHand (t1.assignGameIdx seats) ((t1.assignGameIdx seats).gameSeats seats) finals) ∨
    (((t.prepareNextGame finals).1 = t ∨ (t.prepareNextGame finals).1 = t.setupPosition.1) ∧
      (t.prepareNextGame finals).2.cfg = none ∧ ∀ e, (t.prepareNextGame finals).2.err ≠ some (.game e)) := by
  by_cases hmax : t.maxGamesReached = true
  · right
    unfold Table.prepareNextGame
    rw [if_pos hmax]
    exact ⟨Or.inl rfl, rfl, nofun⟩
  · rcases hs : t.setupPosition with ⟨t1, e1⟩
    cases e1 with
    | some e1 =>
      right
      unfold Table.prepareNextGame
      rw [if_neg hmax, hs]
      refine ⟨Or.inr rfl, rfl, fun e he => ?_⟩
      obtain ⟨e0, he0⟩ := setupPosition_err (t := t) (e := e1) (by rw [hs])
      rw [he0] at he
      exact nextErr_ne_game e0 e (Option.some.inj he)
    | none =>
      by_cases hen : (t1.gameCount = 0 ∧ t1.sm.playableCount < t1.opts.initialPlayers) ∨
          t1.sm.playableCount < t1.opts.minPlayers
      · right
        unfold Table.prepareNextGame
        rw [if_neg hmax, hs]
        simp only
        rw [if_pos hen]
        exact ⟨Or.inr rfl, rfl, nofun⟩
      · cases hps : playableSeats t1.sm with
        | none =>
          right
          unfold Table.prepareNextGame
          rw [if_neg hmax, hs]
          simp only
          rw [if_neg hen, hps]
          exact ⟨Or.inr rfl, rfl, nofun⟩
        | some seats =>
          have hcr : Created t t1 seats := ⟨by simpa using hmax, hs, hen, hps⟩
          exact Or.inl ⟨t1, seats, hcr, prepareNextGame_created hcr finals⟩

theorem prepareNextGame_cfg {t : Table} {finals : List Int} {cfg : List SeatCfg}
    (h : (t.prepareNextGame finals).2.cfg = some cfg) :
    ∃ t1 seats, Created t t1 seats ∧ cfg = (t1.assignGameIdx seats).gameSeats seats := by
  rcases prepareNextGame_cases t finals with ⟨t1, seats, hcr, he⟩ | ⟨_, hn, _⟩
  · rw [he, playHand_cfg] at h
    exact ⟨t1, seats, hcr, (Option.some.inj h).symm⟩
  · rw [hn] at h
    cases h

theorem Created.t1_eq {t t1 : Table} {seats : List Nat} (hc : Created t t1 seats) : t1 = t.setupPosition.1 := by
  rw [hc.setup]

theorem prepareNextGame_preserves {P : Table → Prop} (hs : ∀ t, P t → P t.setupPosition.1)
    (ha : ∀ t seats, P t → P (t.assignGameIdx seats)) (hc : ∀ t f, P t → P (t.closed f))
    {t : Table} (h : P t) (finals : List Int) : P (t.prepareNextGame finals).1 := by
  rcases prepareNextGame_cases t finals with ⟨t1, seats, hcr, he⟩ | ⟨he | he, _⟩
  · have h2 := ha t1 seats (hcr.t1_eq ▸ hs t h)
    rw [he]
    rcases playHand_cases (t1.assignGameIdx seats) ((t1.assignGameIdx seats).gameSeats seats) finals with e | e | e
    · rw [e]
      exact h2
    · rw [e]
      exact hc _ _ h2
    · rw [e]
      exact hs _ (hc _ _ h2)
  · rw [he]
    exact h
  · rw [he]
    exact hs t h

theorem TInv.closed {t2 : Table} (h : TInv t2) (finals : List Int) : TInv (t2.closed finals) :=
  (h.applyResult finals).of_same_pids rfl rfl (fun _ => rfl)

theorem TInv.prepareNextGame {t : Table} (h : TInv t) (finals : List Int) : TInv (t.prepareNextGame finals).1 :=
  prepareNextGame_preserves (P := TInv) (fun _ => TInv.setupPosition) (fun _ seats h => h.assignGameIdx seats)
    (fun _ f h => TInv.closed h f) h finals

theorem join_cases (t : Table) (seat : Int) (pid : Nat) (bankroll : Int) (chose : Option Nat) :
    (∃ e, t.step (.join seat pid bankroll chose) = (t, { err := some e })) ∨
    (∃ (i : Nat) (s : Seat), t.sm.seats[i]? = some s ∧ s.player = none ∧
      (t.sm.step (.join seat pid chose)).1 = t.sm.setSeat i { s with reserved := true, player := some pid } ∧
      t.step (.join seat pid bankroll chose) =
        (({ t with sm := t.sm.setSeat i { s with reserved := true, player := some pid } } : Table).setPl i
          (some { pid := pid, bankroll := bankroll }), { ret := some i })) := by
  rcases SM.step_local t.sm (op := .join seat pid chose) nofun with ⟨e, he⟩ | ⟨i, _, _, he, hj, _⟩
  · left
    exact ⟨.sm e, by simp only [Table.step, he]⟩
  · right
    obtain ⟨s, hs, hp⟩ := hj rfl
    rw [SM.modSeat_eq_setSeat _ hs] at he
    refine ⟨i, s, hs, hp, congrArg Prod.fst he, ?_⟩
    simp only [Table.step, he]
    rfl

/-- table.go `Reserve`: the seat manager's `Reserve` (which leaves the seat manager alone when it fails) -/
theorem step_reserve (t : Table) (seat : Int) :
    (t.step (.reserve seat)).1 = { t with sm := (t.sm.step (.reserve seat)).1 } := by
  rcases SM.step_local t.sm (op := .reserve seat) nofun with ⟨e, he⟩ | ⟨i, _, _, he, _⟩
  · simp only [Table.step, he]
  · simp only [Table.step, he]

theorem TInv.step {t : Table} (h : TInv t) (op : TOp) : TInv (t.step op).1 := by
  cases op with
  | join seat pid bankroll chose =>
    rcases join_cases t seat pid bankroll chose with ⟨e, he⟩ | ⟨i, s, hs, _, hsm, he⟩
    · rw [he]
      exact h
    · rw [he]
      exact h.setSeat hs _ _ rfl (hsm ▸ h.smr.step _)
  | leave seat => exact h.leave seat
  | activate seat => exact h.sm_step_same (.seat seat) (SM.step_pidAt_same h.smr.inv rfl rfl)
  | reserve seat =>
    rw [step_reserve]
    exact h.sm_step_same (.reserve seat) (SM.step_pidAt_same h.smr.inv rfl rfl)
  | setup => exact h.setupPosition
  | hand finals => exact h.prepareNextGame finals

theorem TInv.run {t : Table} (h : TInv t) (ops : List TOp) : TInv (t.run ops) := by
  induction ops generalizing t with
  | nil => exact h
  | cons op ops ih => exact ih (h.step op)

/-- The tables reachable from a fresh one (`Table.new`, Go `NewTable`) by any sequence of `Join` / `Leave` / `Activate` /
`Reserve` / `setupPosition` / `prepareNextGame` (the latter with any closing stacks). -/
def TReachable (t : Table) : Prop := ∃ (max : Nat) (o : TOpts) (ops : List TOp), t = (Table.new max o).run ops

theorem TReachable.inv {t : Table} (h : TReachable t) : TInv t := by
  obtain ⟨max, o, ops, rfl⟩ := h
  exact (tinv_new max o).run ops

theorem TReachable.step {t : Table} (h : TReachable t) (op : TOp) : TReachable (t.step op).1 := by
  obtain ⟨max, o, ops, rfl⟩ := h
  exact ⟨max, o, ops ++ [op], by simp [Table.run, List.foldl_append]⟩

theorem TReachable.run {t : Table} (h : TReachable t) (ops : List TOp) : TReachable (t.run ops) := by
  obtain ⟨max, o, ops0, rfl⟩ := h
  exact ⟨max, o, ops0 ++ ops, by simp [Table.run, List.foldl_append]⟩

theorem run_cons (t : Table) (op : TOp) (ops : List TOp) : t.run (op :: ops) = (t.step op).1.run ops := rfl

end Table
end Pokerface
