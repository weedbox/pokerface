import Pokerface.Proofs.PotsEntries
/-
  Positions of the published pots relative to the players'
  contributions (every non-folded contribution is a pot boundary), telescoping of per-owner slices.
-/
namespace Pokerface
open C16

theorem getPots_levels_le {ll : LevelList} (h : LLInv ll) {p : Pot} (hp : p ∈ ll.getPots) :
    ∀ l ∈ p.levels, l.level ≤ p.level := by
  obtain ⟨pre, post, hsplit⟩ := List.append_of_mem hp
  obtain ⟨preM, q, postM, hM, _, hpq⟩ := getPots_split hsplit
  have hq : q ∈ mergedPots ll := by
    rw [hM]
    simp
  obtain ⟨_, gq⟩ := (mergedPots_spec h).1 q hq
  intro l hl
  subst hpq
  have h1 := le_lastD_of_sorted ((mergedPots_runs_sorted h).1 q hq) 0 l.level (List.mem_map_of_mem hl)
  have h2 := gq.lastD_level 0
  simp only at hl ⊢
  omega

theorem getPots_level_mem {ll : LevelList} (h : LevelsOK ll) {p : Pot} (hp : p ∈ ll.getPots) :
    p.level ∈ ll.levels.map (·.level) := by
  obtain ⟨pre, post, hsplit⟩ := List.append_of_mem hp
  obtain ⟨l, hl, hlev⟩ := (getPots_at h hsplit).level_mem
  rw [← getPots_flatMap_levels h.toLLInv, ← hlev]
  apply List.mem_map_of_mem
  simp only [List.mem_flatMap]
  exact ⟨p, hp, hl⟩

theorem getPots_last_level {ll : LevelList} (h : LLInv ll) :
    lastD 0 (ll.getPots.map (·.level)) = lastD 0 (ll.levels.map (·.level)) := by
  obtain ⟨hg, hflat, _⟩ := mergedPots_spec h
  rw [getPots_levels, ← lastD_flatMap_levels _ hg, hflat]

theorem potsOf_level_entry (es : List Entry) (h : Valid es) {p : Pot} (hp : p ∈ potsOf es) :
    ∃ e ∈ es, e.2.1 = p.level := by
  rw [potsOf_eq] at hp
  have := getPots_level_mem h.levelsOK hp
  exact (llOf_levels es p.level).1 this

theorem potsOf_level_nonneg (es : List Entry) (h : Valid es) {p : Pot} (hp : p ∈ potsOf es) : 0 ≤ p.level := by
  obtain ⟨e, he, hl⟩ := potsOf_level_entry es h hp
  rw [← hl]
  exact h.2 e he

theorem prevLevel_nonneg (es : List Entry) (h : Valid es) {pre post : List Pot} {p : Pot}
    (hp : potsOf es = pre ++ p :: post) : 0 ≤ prevLevel pre := by
  rcases List.eq_nil_or_concat pre with rfl | ⟨init, q, rfl⟩
  · simp [prevLevel]
  · have : q ∈ potsOf es := by
      rw [hp]
      simp
    have := potsOf_level_nonneg es h this
    simpa [prevLevel] using this

theorem prevLevel_le (es : List Entry) (h : Valid es) {pre post : List Pot} {p : Pot}
    (hp : potsOf es = pre ++ p :: post) : prevLevel pre ≤ p.level := by
  have := (getPots_at h.levelsOK hp).le
  rwa [← prevLevel_eq] at this

theorem isFolded_true_of_mem {es : List Entry} {i : Nat} {c : Int}
    (hi : (i, c, true) ∈ es) : isFolded es i = true :=
  isFolded_iff.2 ⟨c, hi⟩

/-- The contribution of a NON-FOLDED player is the level of a published pot: the merge loop of
    `GetPots` never merges across the stake of a player who is still in. -/
theorem nonfolded_contrib_is_pot_level (es : List Entry) (h : Valid es) {i : Nat} {c : Int}
    (hi : (i, c, false) ∈ es) : ∃ p ∈ potsOf es, p.level = c := by
  have hinv := llOf_inv es
  have hic : (i, c) ∈ (llOf es).contribs := (llOf_contribs es h.1 (i, c)).2 ⟨false, hi⟩
  obtain ⟨l, hl, hlc⟩ := List.mem_map.1 (h.levelsOK.mem_levels _ hic)
  have hl' := hl
  rw [← getPots_flatMap_levels hinv] at hl'
  obtain ⟨p, hp, hlp⟩ := List.mem_flatMap.1 hl'
  refine ⟨p, hp, ?_⟩
  obtain ⟨pre, post, hsplit⟩ := List.append_of_mem hp
  have hle := getPots_levels_le hinv hp l hlp
  -- `i` is still in at the level `l`, so at the level of the pot, all of whose levels have the same players still in
  have hin : i ∈ nf (llOf es).folded l := by
    rw [hinv.nf_eq hl, mem_live_llOf h]
    exact ⟨c, hi, Int.le_of_eq hlc⟩
  rw [(getPots_at h.levelsOK hsplit).nf l hlp, mem_live_llOf h] at hin
  obtain ⟨c', hc', hpc⟩ := hin
  have := (h.unique hi hc').1
  simp only at hlc
  omega

theorem nonfolded_covers (es : List Entry) (h : Valid es) {pre post : List Pot} {p : Pot}
    (hp : potsOf es = pre ++ p :: post) {i : Nat} {c : Int} (hi : (i, c, false) ∈ es)
    (hlt : prevLevel pre < c) : p.level ≤ c := by
  obtain ⟨q, hq, hqc⟩ := nonfolded_contrib_is_pot_level es h hi
  have hs := potsOf_levels_sorted es
  rw [hp] at hq hs
  simp only [List.map_append, List.map_cons, List.pairwise_append, List.pairwise_cons] at hs
  simp only [List.mem_append, List.mem_cons] at hq
  rcases hq with hq | rfl | hq
  · -- q before p: its level is at most prevLevel pre
    have h1 := le_lastD_of_sorted hs.1 0 q.level (List.mem_map_of_mem hq)
    rw [← prevLevel_eq] at h1
    omega
  · omega
  · have := hs.2.1.1 q.level (List.mem_map_of_mem hq)
    omega

/-- Slices of an owner who paid `c` in consecutive pots with levels `Ls`, the first starting at `prev`. -/
def slicesFrom (c : Int) : Int → List Int → List Int
  | _, [] => []
  | prev, L :: Ls => slice c prev L :: slicesFrom c L Ls

theorem slicesFrom_length (c prev : Int) (Ls : List Int) : (slicesFrom c prev Ls).length = Ls.length := by
  induction Ls generalizing prev with
  | nil => rfl
  | cons L Ls ih => simp [slicesFrom, ih]

theorem slicesFrom_sum (c prev : Int) (Ls : List Int) :
    (slicesFrom c prev Ls).sum = min c (lastD prev Ls) - min c prev := by
  induction Ls generalizing prev with
  | nil => simp [slicesFrom]
  | cons L Ls ih =>
    simp only [slicesFrom, List.sum_cons, ih, lastD_cons, slice]
    omega

theorem slicesFrom_append (c prev : Int) (X Y : List Int) :
    slicesFrom c prev (X ++ Y) = slicesFrom c prev X ++ slicesFrom c (lastD prev X) Y := by
  induction X generalizing prev with
  | nil => rfl
  | cons x xs ih => simp [slicesFrom, ih]

theorem slicesFrom_getElem? (c prev : Int) (X : List Int) (L : Int) (Y : List Int) :
    (slicesFrom c prev (X ++ L :: Y))[X.length]? = some (slice c (lastD prev X) L) := by
  rw [slicesFrom_append, List.getElem?_append_right (by rw [slicesFrom_length]; exact Nat.le_refl _),
    slicesFrom_length]
  simp [slicesFrom]

end Pokerface
