/-
  The regulator's functions as equations: what the model (Model/Regulator.lean) computes, said
  without any hypothesis on the state.  Nothing here needs an invariant; the files that do
  (Proofs/RegDrain.lean on) and the proofs about the generated logic both start from here.

  * a table update `r.setTable id f` is `upd id f` on the list of tables (`setTable_eq`); the
    updates that `SyncState` makes are all of the form `adj a rq` (add `a` to the count, optionally
    overwrite `Required`: `fun_sub`, `fun_req`, `fun_add`), and two of them on one table are one
    (`upd_upd`, `adj_adj`);
  * `findTable` finds a table with that id, or there is none;
  * `enterWaitingQueue` appends to the queue and, unless pending, drains it;
  * `releaseLoop` takes `j ≤ k` players off the table (`releaseLoop_spec`);
  * `SyncState` books the eliminations (`syncBase`; field by field: `syncBase_playerCount`,
    `syncBase_queue`, `syncBase_tables`, …) and then decides (`syncStep`): `syncState_eq`.
-/
import Pokerface.Model.Regulator

namespace Pokerface
namespace Reg

def upd (id : Nat) (f : RTable → RTable) (ts : List RTable) : List RTable :=
  ts.map fun t => if t.id = id then f t else t

theorem setTable_eq (r : Reg) (id f) : r.setTable id f = { r with tables := upd id f r.tables } := rfl

theorem upd_length (id f ts) : (upd id f ts).length = ts.length := by simp [upd]

theorem upd_ids (id : Nat) (f : RTable → RTable) (ts : List RTable) (hid : ∀ t, (f t).id = t.id) :
    (upd id f ts).map (·.id) = ts.map (·.id) := by
  simp only [upd, List.map_map]
  apply List.map_congr_left
  intro t _
  simp only [Function.comp]
  split
  · exact hid t
  · rfl

theorem mem_upd {id : Nat} {f : RTable → RTable} {ts : List RTable} {t' : RTable} (h : t' ∈ upd id f ts) :
    t' ∈ ts ∨ ∃ t ∈ ts, t.id = id ∧ t' = f t := by
  simp only [upd, List.mem_map] at h
  obtain ⟨t, ht, rfl⟩ := h
  split
  · exact Or.inr ⟨t, ht, ‹_›, rfl⟩
  · exact Or.inl ht

theorem mem_upd' {id : Nat} {f : RTable → RTable} {ts : List RTable} {t' : RTable} (h : t' ∈ upd id f ts) :
    (t' ∈ ts ∧ t'.id ≠ id) ∨ ∃ t ∈ ts, t.id = id ∧ t' = f t := by
  simp only [upd, List.mem_map] at h
  obtain ⟨t, ht, rfl⟩ := h
  split
  · exact Or.inr ⟨t, ht, ‹_›, rfl⟩
  · exact Or.inl ⟨ht, ‹_›⟩

theorem upd_upd (id : Nat) (f g : RTable → RTable) (ts : List RTable) (hid : ∀ t, (f t).id = t.id) :
    upd id g (upd id f ts) = upd id (g ∘ f) ts := by
  simp only [upd, List.map_map]
  apply List.map_congr_left
  intro t _
  simp only [Function.comp]
  by_cases h : t.id = id
  · simp [h, hid]
  · simp [h]

theorem upd_congr (id : Nat) (f g : RTable → RTable) (ts : List RTable) (h : ∀ t, f t = g t) :
    upd id f ts = upd id g ts := by
  have : f = g := funext h
  rw [this]

/-! ### the updates made by `SyncState` -/

/-- add `a` to the count and optionally overwrite `Required` -/
def adj (a : Int) (rq : Option Int) (t : RTable) : RTable :=
  { t with count := t.count + a, required := rq.getD t.required }

theorem adj_id (a rq) (t : RTable) : (adj a rq t).id = t.id := rfl
theorem adj_count (a rq) (t : RTable) : (adj a rq t).count = t.count + a := rfl

theorem adj_adj (a1 a2 : Int) (rq1 rq2 : Option Int) :
    adj a2 rq2 ∘ adj a1 rq1 = adj (a1 + a2) (rq2.orElse fun _ => rq1) := by
  funext t
  cases rq2 with
  | none => simp [adj, Function.comp, Int.add_assoc]
  | some x => simp [adj, Function.comp, Int.add_assoc]

theorem upd_adj_zero (id : Nat) (ts : List RTable) : upd id (adj 0 none) ts = ts := by
  simp only [upd]
  conv => rhs; rw [← List.map_id ts]
  apply List.map_congr_left
  intro t _
  split
  · cases t
    simp [adj]
  · rfl

theorem fun_sub (out : Int) : (fun t : RTable => { t with count := t.count - out }) = adj (-out) none := by
  funext t
  simp [adj, Int.sub_eq_add_neg]
theorem fun_req (still : Int) : (fun t : RTable => { t with required := still }) = adj 0 (some still) := by
  funext t
  simp [adj]
theorem fun_add (n : Int) : (fun t : RTable => { t with count := t.count + n }) = adj n none := by
  funext t
  simp [adj]

theorem take_norm (b : Reg) (id : Nat) (still n : Int) :
    ((if still > 0 then b.setTable id (fun t => { t with required := still }) else b).setTable id
      (fun t => { t with count := t.count + n })) =
    { b with tables := upd id (adj n (if still > 0 then some still else none)) b.tables } := by
  split
  · simp only [setTable_eq, fun_req, fun_add, upd_upd _ _ _ _ (adj_id _ _), adj_adj]
    simp [Option.orElse]
  · simp only [setTable_eq, fun_add]

theorem findTable_some {r : Reg} {c : Nat} {t : RTable} (h : r.findTable c = some t) :
    t ∈ r.tables ∧ t.id = c := by
  unfold findTable at h
  refine ⟨List.mem_of_find?_eq_some h, ?_⟩
  have := List.find?_some h
  simpa using this

theorem findTable_none {r : Reg} {c : Nat} (h : r.findTable c = none) : c ∉ r.tables.map (·.id) := by
  unfold findTable at h
  rw [List.find?_eq_none] at h
  intro hm
  obtain ⟨t, ht, rfl⟩ := List.mem_map.1 hm
  exact h t ht (by simp)

theorem findTable_ne_none {r : Reg} {id : Nat} (h : id ∈ r.tables.map (·.id)) : r.findTable id ≠ none :=
  fun hn => findTable_none hn h

theorem breakTable_find (b : Reg) (t : Nat) : (b.breakTable t).findTable t = none := by
  simp only [breakTable, findTable]
  rw [List.find?_eq_none]
  intro x hx
  have := (List.mem_filter.1 hx).2
  simpa using this

/-! ### the two branches of `enterWaitingQueue` -/

theorem enterWaitingQueue_pending (r : Reg) (ps : List Nat) (h : r.status = .pending) :
    r.enterWaitingQueue ps = { r with queue := r.queue ++ ps } := by
  unfold enterWaitingQueue
  exact if_pos h

theorem enterWaitingQueue_running (r : Reg) (ps : List Nat) (h : r.status ≠ .pending) :
    r.enterWaitingQueue ps = ({ r with queue := r.queue ++ ps }).drainWaitingQueue := by
  unfold enterWaitingQueue
  exact if_neg h

theorem releaseLoop_spec (k : Nat) : ∀ (id : Nat) (fl : Int) (r : Reg) (p : Nat),
    ∃ j : Nat, j ≤ k ∧ releaseLoop k id fl r p =
      (p + j, { r with tables := upd id (adj (-(j : Int)) none) r.tables }) := by
  induction k with
  | zero =>
    intro id fl r p
    refine ⟨0, Nat.le_refl _, ?_⟩
    simp only [releaseLoop, Nat.add_zero, Int.natCast_zero, Int.neg_zero, upd_adj_zero]
  | succ n ih =>
    intro id fl r p
    rw [releaseLoop]
    split
    · refine ⟨0, Nat.zero_le _, ?_⟩
      simp only [Nat.add_zero, Int.natCast_zero, Int.neg_zero, upd_adj_zero]
    · obtain ⟨j, hj, he⟩ := ih id fl (r.setTable id fun t => { t with count := t.count - 1 }) (p + 1)
      refine ⟨j + 1, by omega, ?_⟩
      rw [he]
      simp only [setTable_eq, fun_sub 1, upd_upd _ _ _ _ (adj_id (-1) none), adj_adj]
      have : (-1 : Int) + -(j : Int) = -((j + 1 : Nat) : Int) := by omega
      simp only [this, Option.orElse]
      refine Prod.ext (by simp; omega) rfl

/-- the state seen by the last successful test of the release loop -/
theorem releaseLoop_last (k : Nat) : ∀ (id : Nat) (fl : Int) (r : Reg) (p j : Nat),
    (releaseLoop k id fl r p).1 = p + j → 1 ≤ j →
    ({ r with tables := upd id (adj (-((j : Int) - 1)) none) r.tables } : Reg).lowerWaterLevelReached fl = false := by
  induction k with
  | zero =>
    intro id fl r p j h hj
    simp only [releaseLoop] at h
    omega
  | succ n ih =>
    intro id fl r p j h hj
    rw [releaseLoop] at h
    cases hr : r.lowerWaterLevelReached fl with
    | true =>
      rw [hr] at h
      simp only [if_true] at h
      omega
    | false =>
      rw [hr] at h
      simp only [Bool.false_eq_true, if_false] at h
      obtain ⟨j2, _, he⟩ := releaseLoop_spec n id fl (r.setTable id fun t => { t with count := t.count - 1 }) (p + 1)
      rw [he] at h
      simp only at h
      have hjj : j = j2 + 1 := by omega
      by_cases h0 : j2 = 0
      · subst h0
        subst hjj
        have : ((0 + 1 : Nat) : Int) - 1 = 0 := by omega
        rw [this, Int.neg_zero, upd_adj_zero]
        exact hr
      · have h2 := ih id fl (r.setTable id fun t => { t with count := t.count - 1 }) (p + 1) j2
          (by rw [he]) (by omega)
        simp only [setTable_eq, fun_sub 1, upd_upd _ _ _ _ (adj_id (-1) none), adj_adj] at h2
        have e : (-1 : Int) + -((j2 : Int) - 1) = -((j : Int) - 1) := by omega
        simp only [e, Option.orElse] at h2
        exact h2

theorem releaseLoop_pos (k : Nat) (id : Nat) (fl : Int) (r : Reg)
    (h : 1 ≤ (releaseLoop k id fl r 0).1) : r.lowerWaterLevelReached fl = false := by
  cases k with
  | zero => simp [releaseLoop] at h
  | succ n =>
    rw [releaseLoop] at h
    cases hr : r.lowerWaterLevelReached fl with
    | false => rfl
    | true =>
      rw [hr] at h
      simp at h

/-! ### `SyncState`: booking, then one decision -/

/-- floor of the water level -/
def flr (r : Reg) : Int := r.playerCount / r.requiredTables

/-- the state after `SyncState` has booked the eliminations -/
def syncBase (r : Reg) (id : Nat) (out : Int) : Reg :=
  ({ (r.beginOp []) with playerCount := r.playerCount - out }).setTable id
    fun t => { t with count := t.count - out }

theorem syncBase_playerCount (r : Reg) (id : Nat) (out : Int) :
    (syncBase r id out).playerCount = r.playerCount - out := rfl
theorem syncBase_requiredTables (r : Reg) (id : Nat) (out : Int) :
    (syncBase r id out).requiredTables = ceilDiv (r.playerCount - out) r.max := rfl
theorem syncBase_queue (r : Reg) (id : Nat) (out : Int) : (syncBase r id out).queue = r.queue := rfl

theorem syncBase_tables (r : Reg) (id : Nat) (out : Int) :
    (syncBase r id out).tables = upd id (adj (-out) none) r.tables := by
  simp only [syncBase, setTable_eq, fun_sub, beginOp]

theorem syncBase_mem {r : Reg} {id : Nat} {t0 : RTable} (out : Int) (hf : r.findTable id = some t0) :
    adj (-out) none t0 ∈ (syncBase r id out).tables := by
  obtain ⟨ht0, hid0⟩ := findTable_some hf
  rw [syncBase_tables]
  simp only [upd, List.mem_map]
  exact ⟨t0, ht0, by simp [hid0]⟩

/-- `SyncState` after the booking of the eliminations -/
def syncStep (b : Reg) (id : Nat) (tc : Int) : Reg × Option RErr × Int × List Nat :=
  let req := b.requiredTables
  if b.status = .afterRegDeadline ∧ b.playerCount ≤ (b.max : Int) ∧ req < b.tableCount then
    (b.breakTable id, none, tc, [])
  else if req ≤ 0 then (b, none, 0, [])
  else
    let fl := b.playerCount / req
    if tc * req < b.playerCount then
      if b.lowWaterLevelTableCount ≥ 2 ∧ req < b.tableCount then (b.breakTable id, none, tc, [])
      else
        let players := b.queue.take (fl - tc).toNat
        let still := fl - tc - players.length
        ((if still > 0 then ({ b with queue := b.queue.drop (fl - tc).toNat }).setTable id
              fun t => { t with required := still }
          else { b with queue := b.queue.drop (fl - tc).toNat }).setTable id
            fun t => { t with count := t.count + players.length },
          none, 0, players)
    else if tc * req > b.playerCount then
      ((releaseLoop (tc - fl).toNat id fl b 0).2, none, (releaseLoop (tc - fl).toNat id fl b 0).1, [])
    else (b, none, 0, [])

theorem syncState_eq (r : Reg) (id : Nat) (out : Int) : r.syncState id out =
    match r.findTable id with
    | none => (r.beginOp [], some .notFoundTable, 0, [])
    | some t0 => syncStep (syncBase r id out) id (t0.count - out) := by
  rfl

theorem syncState_unknown (r : Reg) (id : Nat) (out : Int) (hf : r.findTable id = none) :
    (r.syncState id out).1 = r.beginOp [] := by
  simp only [syncState_eq, hf]

end Reg
end Pokerface
