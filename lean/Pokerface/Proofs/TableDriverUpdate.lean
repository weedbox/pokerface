import Pokerface.Proofs.TableDriverArm
import Pokerface.Proofs.Bets
/-
  `Drv.update` (`updateState` + `handleState`): its equations on the serialised state of an engine game, the chain
  `RoundClosed → backend.Next → …`, and independence of the fuel.
-/
namespace Pokerface.Drv
open Pokerface Game

/-- `update` reached its `0` case or the `fmt.Println(err); return` branch of `handleState` -/
def updateBad : Nat → D → Game → Bool
  | 0, _, _ => true
  | k + 1, d, s =>
    if d.closed then false else
    match s.hop.event with
    | .gameClosed => false
    | .roundClosed =>
      match backend s.hop .next with
      | .error _ => true
      | .ok s' => updateBad k { d with gs := s.hop, readyMarks := [] } s'
    | _ => false

theorem update_overwrites (k : Nat) (d d' : D) (s : Game) (h1 : d'.group = d.group) (h2 : d'.closed = d.closed)
    (h3 : d'.updates = d.updates) : update k d' s = update k d s ∧ updateBad k d' s = updateBad k d s := by
  obtain ⟨_, _, _, _, _⟩ := d
  obtain ⟨_, _, _, _, _⟩ := d'
  simp only at h1 h2 h3
  subst h1 h2 h3
  cases k <;> exact ⟨rfl, rfl⟩

theorem update_closed (k : Nat) (d : D) (s : Game) (hc : d.closed = true) :
    update k d s = { d with gs := s.hop, readyMarks := [] } := by
  cases k with
  | zero => rfl
  | succ k =>
    rw [update]
    simp [hc]

theorem update_of_final (k : Nat) (d : D) (e : Game) (hc : d.closed = false) (h : e.event ≠ .roundClosed) :
    update (k + 1) d e.hop = update 1 d e.hop ∧ updateBad (k + 1) d e.hop = false := by
  have hev : e.hop.hop.event = e.event := rfl
  refine ⟨?_, ?_⟩
  · rw [update, update]
    simp only [hc, hev, Bool.false_eq_true, if_false]
    split
    · rfl
    · rename_i h'
      exact absurd h' h
    · rfl
  · rw [updateBad]
    simp only [hc, hev, Bool.false_eq_true, if_false]
    split
    · rfl
    · rename_i h'
      exact absurd h' h
    · rfl

theorem update_of_next (k : Nat) (d : D) (e : Game) (hc : d.closed = false) (h : e.event = .roundClosed)
    (hacc : (e.step .next).2 = none) :
    update (k + 1) d e.hop =
      { update k d (e.step .next).1.hop with updates := (update k d (e.step .next).1.hop).updates + 1 } ∧
    updateBad (k + 1) d e.hop = updateBad k d (e.step .next).1.hop := by
  have hev : e.hop.event = e.event := rfl
  have hb : backend e.hop .next = .ok (e.step .next).1.hop := (backend_hop e .next).trans (backend_ok hacc)
  rw [update, updateBad]
  simp only [hc, C07.hop_idempotent, hev, h, Bool.false_eq_true, if_false, hb]
  obtain ⟨o1, o2⟩ := update_overwrites k d { gs := e.hop, group := d.group, updates := d.updates }
    (e.step .next).1.hop rfl hc.symm rfl
  rw [o1, o2]
  exact ⟨rfl, rfl⟩

theorem idx_le_four (r : Round) : r.idx ≤ 4 := by
  cases r <;> simp [Round.idx]

/-- the chain `RoundClosed → Next → RoundClosed → …` has at most four links: a `Next` that answers `RoundClosed`
    has entered the next street -/
theorem next_of_roundClosed {e : Game} (hR : Reachable e) (h : e.event = .roundClosed) :
    (e.step .next).2 = none ∧ 1 ≤ e.round.idx ∧
    ((e.step .next).1.event = .roundClosed → (e.step .next).1.round.idx = e.round.idx + 1) := by
  have hrn : e.round ≠ .none := by
    intro h0
    have := ((flow_reachable hR).rnd0 h0).1
    rw [h] at this
    rcases this with h | h
    · cases h
    · cases h
  refine ⟨(C06.expected_step_succeeds hR).2.2.2.1 h, ?_, ?_⟩
  · revert hrn
    cases e.round <;> simp [Round.idx]
  · -- event and street after `Next` are read off the phase table: the hand is closed, or the next street is entered
    obtain ⟨row, _⟩ := next_phase h hrn
    generalize (e.step .next).1.event = ev, (e.step .next).1.round = r at row ⊢
    rintro rfl
    cases row with
    | allin hr hc _ =>
      revert hr hc
      cases e.round <;> simp [Round.idx, Round.succ]

/-- fuel for the chain that starts at `e`: one link per street still to come, and one for the state that ends it -/
def Fuelled (k : Nat) (e : Game) : Prop := 1 ≤ k ∧ (e.event = .roundClosed → 6 ≤ k + e.round.idx)

theorem Fuelled.next {k : Nat} {e : Game} (hR : Reachable e) (h : e.event = .roundClosed) (hk : Fuelled (k + 1) e) :
    Fuelled k (e.step .next).1 := by
  obtain ⟨_, _, h3⟩ := next_of_roundClosed hR h
  have hfuel := hk.2 h
  have hidx := idx_le_four e.round
  refine ⟨by omega, fun hy => ?_⟩
  have hnext := h3 hy
  omega

theorem fuelled_of_le {k : Nat} {e : Game} (hR : Reachable e) (hk : 5 ≤ k) : Fuelled k e :=
  ⟨by omega, fun h => Nat.le_trans (Nat.add_le_add hk (next_of_roundClosed hR h).2.1) (Nat.le_refl _)⟩

theorem update_fuel_succ : ∀ (k : Nat) (d : D) (e : Game), Reachable e → d.closed = false → Fuelled k e →
    update (k + 1) d e.hop = update k d e.hop ∧ updateBad k d e.hop = false := by
  intro k
  induction k with
  | zero =>
    intro _ _ _ _ hk
    exact absurd hk.1 (by omega)
  | succ k ih =>
    intro d e hR hc hk
    by_cases h : e.event = .roundClosed
    · have hacc := (next_of_roundClosed hR h).1
      obtain ⟨i1, i2⟩ := ih d _ (hR.step .next) hc (hk.next hR h)
      rw [(update_of_next (k + 1) d e hc h hacc).1, (update_of_next k d e hc h hacc).1,
        (update_of_next k d e hc h hacc).2, i1]
      exact ⟨rfl, i2⟩
    · rw [(update_of_final (k + 1) d e hc h).1, (update_of_final k d e hc h).1]
      exact ⟨rfl, (update_of_final k d e hc h).2⟩

theorem update_any_fuel {e : Game} (hR : Reachable e) (d : D) (k : Nat) (hk : 5 ≤ k) :
    update k d e.hop = update fuel d e.hop ∧ updateBad k d e.hop = false := by
  cases hc : d.closed with
  | true =>
    refine ⟨by rw [update_closed _ _ _ hc, update_closed _ _ _ hc], ?_⟩
    obtain ⟨k', rfl⟩ : ∃ k', k = k' + 1 := ⟨k - 1, by omega⟩
    rw [updateBad]
    simp [hc]
  | false =>
    have h5 : ∀ j, 5 ≤ j → update j d e.hop = update 5 d e.hop := by
      intro j hj
      induction hj with
      | refl => rfl
      | step hj ih => rw [(update_fuel_succ _ d e hR hc (fuelled_of_le hR hj)).1, ih]
    exact ⟨(h5 k hk).trans (h5 fuel (by decide)).symm, (update_fuel_succ k d e hR hc (fuelled_of_le hR hk)).2⟩

end Pokerface.Drv
