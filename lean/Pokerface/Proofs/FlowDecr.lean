import Pokerface.Proofs.FlowMeasure
import Pokerface.Proofs.Bets
/-
  Every accepted operation strictly decreases the measure `mu` (C06 `terminates`).
-/
namespace Pokerface
open Game

theorem Round.left_nonneg (r : Round) : 0 ≤ r.left := by cases r <;> simp [Round.left]

theorem Round.left_succ {r : Round} (h1 : r ≠ .none) (h2 : r ≠ .river) : r.left = r.succ.left + 1 := by
  cases r with
  | none => exact absurd rfl h1
  | river => exact absurd rfl h2
  | preflop | flop | turn => rfl

/-- asking the next seat, or closing the round: the phase of an open round does not go up -/
theorem phase_requestPlayerAction (g : Game) (hs : Struct g) (he : g.event = .roundStarted) :
    g.requestPlayerAction.phase ≤ 1 + g.round.left * (g.n + 2) + g.unacted := by
  rcases g.requestPlayerAction_cases hs with ⟨h, _⟩ | ⟨h, _⟩
  · rw [h, phase_eq, show g.roundClosed.event = .roundClosed from rfl, (wr_roundClosed g).round, (wr_roundClosed g).n]
    simp only [phaseOf]
    omega
  · have w := wr_askNext g
    rw [h, phase_eq, w.event.trans he, w.round, w.n, w.acts.unacted]
    exact Int.le_refl _

/-- The table operations: the phase goes down.  Each street owns a band of `n + 2` values; a table operation moves
    down inside its band or into the band of the next street. -/
theorem phase_step_table {g : Game} (hi : Inv g) (hf : Flow g) (op : Op) (hop : ∀ s a x, op ≠ .act s a x)
    (hacc : (g.step op).2 = none) : (g.step op).1.phase < g.phase := by
  obtain ⟨haw, row, _⟩ := step_phase hi.struct hf op hop hacc
  have hu : ((g.step op).1.unacted : Int) ≤ g.n := by
    have := unacted_le (g.step op).1
    rw [(wr_step g op).n] at this
    omega
  rw [phase_eq, phase_eq g, (wr_step g op).n, haw]
  generalize ((g.step op).1.unacted : Int) = u at hu
  have hl := Round.left_nonneg g.round
  have hm : 0 ≤ g.round.left * ((g.n : Int) + 2) := Int.mul_nonneg hl (by omega)
  generalize (g.step op).1.event = e, (g.step op).1.round = r at row
  cases row with
  | ante hrn =>
    simp only [phaseOf, Op.awaited, hrn, if_true]
    omega
  | blinds hop =>
    rcases hop with rfl | ⟨rfl, hrn, _⟩
    · simp only [phaseOf, Op.awaited]
      omega
    · simp only [phaseOf, Op.awaited, hrn, if_true]
      omega
  | noBlinds hop =>
    rcases hop with rfl | ⟨rfl, hrn, _⟩
    · simp only [phaseOf, Op.awaited, Round.left, reduceCtorEq, if_false]
      omega
    · simp only [phaseOf, Op.awaited, Round.left, hrn, reduceCtorEq, if_false, if_true]
      omega
  | payBlinds =>
    simp only [phaseOf, Op.awaited, Round.left, reduceCtorEq, if_false]
    omega
  | skip hrn =>
    simp only [phaseOf, Op.awaited, hrn, if_false]
    omega
  | opens hrn =>
    simp only [phaseOf, Op.awaited, hrn, if_false]
    omega
  | close =>
    simp only [phaseOf, Op.awaited]
    omega
  | street hrn hc =>
    simp only [phaseOf, Op.awaited, Round.succ_ne_none, if_false]
    rw [Round.left_succ hrn (fun h => hc (.inr h)), Int.add_mul]
    omega
  | allin hrn hc =>
    simp only [phaseOf, Op.awaited]
    rw [Round.left_succ hrn (fun h => hc (.inr h)), Int.add_mul]
    omega

theorem mu_lt_of {g g' : Game} (hn : g'.n = g.n) (hs : g'.stackSum ≤ g.stackSum) (hp : g'.phase < g.phase) :
    g'.mu < g.mu := by
  unfold Game.mu
  rw [hn]
  have : (g.n : Int) * g'.stackSum ≤ (g.n : Int) * g.stackSum := Int.mul_le_mul_of_nonneg_left hs (by omega)
  omega

theorem stackSum_payAnteLoop (is : List Nat) (g : Game) (h : AnteInv g) : (payAnteLoop is g).1.stackSum ≤ g.stackSum :=
  (payAnteLoop_steps (R := fun a b => AnteInv a → AnteInv b ∧ b.stackSum ≤ a.stackSum) (fun _ h => ⟨h, Int.le_refl _⟩)
    (fun h1 h2 h => ⟨(h2 (h1 h).1).1, Int.le_trans (h2 (h1 h).1).2 (h1 h).2⟩)
    (fun g i _ _ _ h => ⟨anteInv_pay h i, stackSum_pay_le g i _ false h.chips0.pinv h.opts.ante0⟩) is g h).2

theorem stackSum_foldl_payBlind (is : List Nat) (g : Game) (h : BInv g) : (is.foldl payBlind g).stackSum ≤ g.stackSum :=
  bInv_foldl_keeps (P := fun b => b.stackSum ≤ g.stackSum)
    (fun a i _ hb hp h => Int.le_trans (stackSum_pay_le a i _ true hb.chips.pinv (blindPaid_nonneg hb hp)) h) is g h
    (Int.le_refl _)

/-- the potential of an open betting round -/
def Game.potential (g : Game) : Int := (g.n : Int) * g.stackSum + g.unacted

theorem shape_prog {g : Game} (hi : Inv g) (hf : Flow g) (he : g.event = .roundStarted) {p : Player} {g1 : Game}
    (hp : g.players[g.cur]? = some p) (h : ActShape g g.cur p g1) : g1.potential + 1 ≤ g.potential := by
  have hm := hi.midAct he
  have hpa : p.acted = false := hf.acted he p hp
  unfold Game.potential
  rw [h.wr.n]
  -- marking the seat, its stack untouched
  have hmark : ∀ f : Player → Player, (f p).acted = true → (∀ q, (f q).stack = q.stack) →
      (g.n : Int) * (g.modP g.cur f).stackSum + (g.modP g.cur f).unacted + 1 = g.n * g.stackSum + g.unacted := by
    intro f h1 h2
    have := unacted_mark g g.cur p f hp hpa h1
    rw [stackSum_modP g g.cur f h2]
    omega
  cases h with
  | mark _ => exact Int.le_of_eq (hmark _ rfl fun _ => rfl)
  | fold _ _ => exact Int.le_of_eq (hmark foldMark rfl fun _ => rfl)
  | pay a b c ha hb hc hl _ =>
    have h1 := pay_prog ((g.setActed g.cur).setPrev a) (midAct_setPrev (midAct_setActed hm g.cur) a ha).chips g.cur _ c
      (setActed_self hp) hl.2 hc
    rw [show ((g.setActed g.cur).setPrev a).n = g.n from (wr_setActed g g.cur).n] at h1
    exact Int.le_trans (Int.add_le_add_right h1 1) (Int.le_of_eq (hmark _ rfl fun _ => rfl))

theorem mu_act (g : Game) (hi : Inv g) (hf : Flow g) (i : Nat) (a : Act) (x : Int) (hacc : (g.act i a x).2 = none) :
    (g.act i a x).1.mu < g.mu := by
  obtain ⟨p, g1, hp, he, _, e, sh, hm, hq, _⟩ := act_turn g hi i a x hacc
  have hprog := shape_prog hi hf he hp sh
  rw [e]
  have hph := phase_requestPlayerAction g1 hm.struct hm.ev
  have m := (wr_requestPlayerAction g1).mov
  unfold Game.mu
  rw [phase_eq g, he, m.n, m.stackSum]
  simp only [phaseOf]
  rw [hq.round, hq.n] at hph
  unfold Game.potential at hprog
  rw [hq.n] at hprog ⊢
  omega

theorem mu_step (g : Game) (hi : Inv g) (hf : Flow g) (op : Op) (hacc : (g.step op).2 = none) :
    (g.step op).1.mu < g.mu := by
  have hn := (wr_step g op).n
  cases op with
  | act s a x =>
    rw [g.step_act] at hacc ⊢
    exact mu_act g hi hf _ a x hacc
  | ready => exact mu_lt_of hn (Int.le_of_eq (wr_step g .ready).mov.stackSum) (phase_step_table hi hf _ nofun hacc)
  | next => exact mu_lt_of hn (Int.le_of_eq (wr_step g .next).mov.stackSum) (phase_step_table hi hf _ nofun hacc)
  | payAnte =>
    refine mu_lt_of hn ?_ (phase_step_table hi hf _ nofun hacc)
    obtain ⟨he, e⟩ := step_payAnte_accepted hacc
    rw [e]
    dsimp only
    rw [(wr_antePaid _).mov.stackSum]
    exact stackSum_payAnteLoop g.seatsFromDealer g (hi.anteInv he)
  | payBlinds =>
    refine mu_lt_of hn ?_ (phase_step_table hi hf _ nofun hacc)
    have he : g.event = .blindsRequested := (step_phase hi.struct hf .payBlinds nofun hacc).1
    have hb := hi.bInv he
    rw [step_payBlinds he, (wr_blindsPaid _).mov.stackSum]
    exact stackSum_foldl_payBlind g.seatsFromDealer g hb

theorem stackSum_nonneg {g : Game} (h : ∀ p ∈ g.players, PInv p) : 0 ≤ g.stackSum :=
  sum_map_nonneg_int _ _ fun p hp => (h p hp).stack0

theorem phase_nonneg (g : Game) : 0 ≤ g.phase := by
  have hl := Round.left_nonneg g.round
  have hm : 0 ≤ g.round.left * ((g.n : Int) + 2) := Int.mul_nonneg hl (by omega)
  unfold Game.phase
  split <;> omega

theorem mu_nonneg {g : Game} (hi : Inv g) : 0 ≤ g.mu := by
  unfold Game.mu
  have := Int.mul_nonneg (by omega : (0 : Int) ≤ (g.n : Int)) (stackSum_nonneg hi.chips0.pinv)
  have := phase_nonneg g
  omega

/-- number of accepted operations in a run -/
def Game.accepted (g : Game) : List Op → Nat
  | [] => 0
  | op :: ops => (if (g.step op).2 = none then 1 else 0) + Game.accepted (g.step op).1 ops

/-- accepted operations are paid for by the measure -/
theorem accepted_le_mu : ∀ (ops : List Op) (g : Game), Inv g → Flow g →
    (g.accepted ops : Int) + (g.run ops).mu ≤ g.mu
  | [], g, _, _ => by simp [Game.accepted, Game.run]
  | op :: ops, g, hi, hf => by
    have ih := accepted_le_mu ops _ (inv_step g hi op) (flow_step g hi hf op)
    have hrun : g.run (op :: ops) = (g.step op).1.run ops := rfl
    rw [hrun]
    unfold Game.accepted
    by_cases hacc : (g.step op).2 = none
    · have := mu_step g hi hf op hacc
      simp only [hacc, if_true]
      omega
    · have := refused_same g hf op hacc
      simp only [hacc, if_false]
      rw [this] at ih ⊢
      omega

end Pokerface
