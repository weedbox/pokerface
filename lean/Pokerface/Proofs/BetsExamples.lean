import Pokerface.Proofs.Bets
import Pokerface.Generated.Tables
/-
  Concrete 3-seat configurations used by the non-vacuity examples of C11, C12 (no-limit and pot-limit), C13.
-/
namespace Pokerface
open Game
namespace Ex

def deck : List Card :=
  [⟨83, 2⟩, ⟨83, 3⟩, ⟨72, 4⟩, ⟨72, 9⟩, ⟨68, 11⟩, ⟨68, 14⟩, ⟨67, 7⟩, ⟨67, 8⟩, ⟨83, 10⟩, ⟨72, 12⟩, ⟨68, 5⟩,
   ⟨67, 6⟩, ⟨83, 13⟩, ⟨72, 14⟩, ⟨68, 2⟩, ⟨67, 3⟩]

/-- no-limit hold'em options: ante, dealer blind, small blind, big blind -/
def opts (ante bd sb bb : Int) : Meta :=
  { ante := ante, blindDealer := bd, blindSB := sb, blindBB := bb, potLimit := false, holeCount := 2, required := 0,
    lvl := Generated.combinationLevel, table := Generated.powerStandard, deck := deck }

/-- three seats: dealer, small blind, big blind with the given bankrolls -/
def cfg (m : Meta) (b0 b1 b2 : Int) : Config :=
  { opts := m, seats := [⟨b0, true, false, false⟩, ⟨b1, false, true, false⟩, ⟨b2, false, false, true⟩] }

/-- blinds 5/10, no ante, deep stacks -/
def c1 : Config := cfg (opts 0 0 5 10) 1000 1000 1000

/-- preflop, the dealer (seat 0) is asked to act facing the big blind -/
def g1 : Game := (start c1).1.run [.ready, .payBlinds, .ready]

/-- flop, nobody has bet: after three calls/checks preflop -/
def g2 : Game := g1.run [.act none .call 0, .act none .call 0, .act none .check 0, .next, .ready]

/-- short big blind: seat 2 has only 6 chips, so the wager to match after the blinds is 6 < BB = 10 -/
def c3 : Config := cfg (opts 0 0 5 10) 1000 1000 6

def g3 : Game := (start c3).1.run [.ready, .payBlinds, .ready]

/-- flop after a bet of 30 by seat 1: seat 2 faces 30, minimum raise 30 -/
def g4 : Game := g2.run [.act none .bet 30]

/-- pot-limit hold'em options -/
def plOpts (ante bd sb bb : Int) : Meta := { opts ante bd sb bb with potLimit := true }

/-- pot-limit, blinds 5/10, deep stacks -/
def cpl : Config := cfg (plOpts 0 0 5 10) 1000 1000 1000

/-- pot-limit flop after a bet of 30 by seat 1: seat 2 faces 30, minimum raise 30, cap: a raise by 60 (to 90) -/
def gpl : Game :=
  (start cpl).1.run [.ready, .payBlinds, .ready, .act none .call 0, .act none .call 0, .act none .check 0, .next, .ready,
    .act none .bet 30]

theorem optsOK (a d s b : Int) (h : 0 ≤ a ∧ 0 ≤ d ∧ 0 ≤ s ∧ 0 ≤ b) : OptsOK (opts a d s b) :=
  ⟨h.1, h.2.1, h.2.2.1, h.2.2.2⟩

theorem wf1 : WFConfig c1 := ⟨optsOK _ _ _ _ (by decide)⟩
theorem reach_g1 : Reachable g1 := reachable_run wf1 (by decide) _
theorem reach_g2 : Reachable g2 := reach_g1.run _
theorem wf3 : WFConfig c3 := ⟨optsOK _ _ _ _ (by decide)⟩
theorem reach_g3 : Reachable g3 := reachable_run wf3 (by decide) _
theorem reach_g4 : Reachable g4 := reach_g2.run _

theorem plOptsOK (a d s b : Int) (h : 0 ≤ a ∧ 0 ≤ d ∧ 0 ≤ s ∧ 0 ≤ b) : OptsOK (plOpts a d s b) :=
  ⟨h.1, h.2.1, h.2.2.1, h.2.2.2⟩

theorem reach_gpl : Reachable gpl := reachable_run ⟨plOptsOK _ _ _ _ (by decide)⟩ (by decide) _

end Ex
end Pokerface
