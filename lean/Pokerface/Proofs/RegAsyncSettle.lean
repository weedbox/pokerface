/-
  C20 on the ASYNCHRONOUS system (Model/RegulatorAsync.lean): everything but the potential.
  The notions of a rebalancing phase with late reports are defined here (`ASys.quietOp`,
  `ASys.asks`, `ASys.askCount`, as their `RSys` twins in Model/RegulatorEnv.lean).  A sync that asks
  for nothing changes nothing a `Frame` looks at, whoever is on the way.  Table ids are never
  reused - every batch on the way names an id that was handed out (`IdsIssued`) -, so a table that
  was broken stays unknown for ever, also on the synchronous system, through the embedding.  In
  namespace `C20`: the second sentence of the property on any state satisfying the invariant, the
  `_inv` forms that the theorems of Properties/C20.lean, C20Async.lean and C20Reentry.lean
  instantiate on their domains.
-/
import Pokerface.Proofs.RegAsyncCapEnv
import Pokerface.Proofs.RegSettleSys

namespace Pokerface
open Reg

namespace ASys

/-- the operations of a rebalancing phase: a sync without eliminations, or a release report -/
def quietOp : AOp → Bool
  | .sync _ elim _ _ _ => elim.isEmpty
  | .report _ _ _ _ => true
  | _ => false

/-- the sync asks its table to release, receive or break (as `RSys.asks`) -/
def asks (s : ASys) : AOp → Bool
  | .sync t elim _ _ _ =>
      (s.env.membersOf t).isSome &&
        (decide ((s.syncAnswer t elim).2.2.1 ≠ 0) || !(s.syncAnswer t elim).2.2.2.isEmpty || s.broken t elim)
  | _ => false

/-- number of operations of a script that ask for something -/
def askCount : ASys → List AOp → Nat
  | _, [] => 0
  | s, op :: ops => (if s.asks op then 1 else 0) + askCount (s.step op) ops

theorem quietOp_cases {op : AOp} (h : quietOp op = true) :
    (∃ t stay rel keep, op = .sync t [] stay rel keep) ∨ ∃ t ps rest ch, op = .report t ps rest ch := by
  cases op with
  | add ps ch => cases h
  | status st ch => cases h
  | sync t elim stay rel keep => exact Or.inl ⟨t, stay, rel, keep, by rw [List.isEmpty_iff.1 h]⟩
  | report t ps rest ch => exact Or.inr ⟨t, ps, rest, ch, rfl⟩

theorem run_append (s : ASys) (a b : List AOp) : s.run (a ++ b) = (s.run a).run b := by
  simp [run, List.foldl_append]

theorem askCount_append (s : ASys) (a b : List AOp) :
    s.askCount (a ++ b) = s.askCount a + (s.run a).askCount b := by
  induction a generalizing s with
  | nil => simp [askCount, run]
  | cons op a ih =>
    simp only [List.cons_append, askCount, run, List.foldl_cons]
    rw [ih (s.step op)]
    simp only [run]
    omega

theorem allOkFwd_append (s : ASys) (a b : List AOp) :
    s.allOkFwd (a ++ b) ↔ s.allOkFwd a ∧ (s.run a).allOkFwd b := by
  induction a generalizing s with
  | nil => simp [allOkFwd, run]
  | cons op a ih =>
    simp only [List.cons_append, allOkFwd, run, List.foldl_cons]
    rw [ih (s.step op)]
    simp only [run, and_assoc]

theorem asks_false_iff (s : ASys) (t : Nat) (stay rel keep : List Nat) :
    s.asks (.sync t [] stay rel keep) = false ↔
      ((s.env.membersOf t).isSome = true → answer0 s.r t = (0, [], false)) :=
  asked_false_iff _ s.r t

theorem noask_step {s : ASys} (h : AInv s) (t : Nat) (stay rel keep : List Nat)
    (hok : s.ok (.sync t [] stay rel keep)) (hna : s.asks (.sync t [] stay rel keep) = false) :
    Frame s.r (s.step (.sync t [] stay rel keep)).r ∧
    (s.step (.sync t [] stay rel keep)).env.members.map (·.1) = s.env.members.map (·.1) ∧
    s.departing (.sync t [] stay rel keep) = [] ∧
    (s.step (.sync t [] stay rel keep)).inflight = s.inflight := by
  cases hm : s.env.membersOf t with
  | none =>
    rw [h.step_sync_unknown hm]
    exact ⟨⟨rfl, rfl, rfl, rfl, rfl, rfl⟩, rfl, by simp only [departing, hm], rfl⟩
  | some ms =>
    have hq := (asks_false_iff s t stay rel keep).1 hna (by rw [hm]; rfl)
    have hb : s.broken t [] = false := congrArg (·.2.2) hq
    have hrel : rel = [] := by
      have h0 : (s.syncAnswer t []).2.2.1 = 0 := congrArg (·.1) hq
      have hrl := ((ok_sync_known hm [] stay rel keep).1 hok).2.2.1
      exact List.length_eq_zero_iff.1 (by omega)
    rw [step_sync_known hm, hb, hrel]
    exact ⟨frame_of_quiet s.r t hq, setMembers_fst t keep s.env.members, by simp only [departing, hm], rfl⟩

theorem report_of_nobody {s : ASys} (hf : s.inflight = []) (t : Nat) (ps rest ch : List Nat)
    (hok : s.ok (.report t ps rest ch)) :
    ps = [] ∧ rest = [] ∧
    (s.r.queue = [] → s.step (.report t ps rest ch) = { r := s.r.beginOp ch, env := s.env, inflight := [] }) := by
  have hnil : ps = [] ∧ rest = [] := by
    have := hok.1.length_eq
    rw [flyingOf_nil_of_inflight_nil hf] at this
    exact List.append_eq_nil_iff.1 (List.length_eq_zero_iff.1 this.symm)
  obtain ⟨hp0, hr0⟩ := hnil
  subst hp0 hr0
  refine ⟨rfl, rfl, fun hq0 => ?_⟩
  simp only [step, releasePlayers_nil s.r ch hq0, hf]
  rfl

theorem askCount_cons_eq_zero {s : ASys} {op : AOp} {ops : List AOp} (h : s.askCount (op :: ops) = 0) :
    s.asks op = false ∧ (s.step op).askCount ops = 0 := by
  simp only [askCount] at h
  cases ha : s.asks op with
  | false => exact ⟨rfl, by rw [ha] at h; simpa using h⟩
  | true =>
    rw [ha] at h
    simp at h

/-- an operation of a rebalancing phase that asks nothing, from a state with nobody on the way
    (a report is then a report of nobody: it is assumed that nothing is queued, or that no such
    report is made): the regulator changes nothing a `Frame` looks at, the same tables exist, and
    nobody is on the way afterwards -/
theorem noask_op {s : ASys} (h : AInv s) (hfl : s.inflight = []) (op : AOp) (hqo : quietOp op = true)
    (hok : s.ok op) (hna : s.asks op = false)
    (hH : s.r.queue = [] ∨ ∀ t ps rest ch, op = .report t ps rest ch → ps ≠ []) :
    Frame s.r (s.step op).r ∧ (s.step op).env.members.map (·.1) = s.env.members.map (·.1) ∧
    (s.step op).inflight = [] := by
  rcases quietOp_cases hqo with ⟨t, stay, rel, keep, rfl⟩ | ⟨t, ps, rest, ch, rfl⟩
  · obtain ⟨hfr, hids, _, hinf⟩ := noask_step h t stay rel keep hok hna
    exact ⟨hfr, hids, hinf.trans hfl⟩
  · obtain ⟨hp0, hr0, hstep⟩ := report_of_nobody hfl t ps rest ch hok
    have hq0 : s.r.queue = [] := hH.elim id fun h1 => absurd hp0 (h1 t ps rest ch rfl)
    rw [hstep hq0]
    exact ⟨⟨rfl, rfl, rfl, rfl, rfl, rfl⟩, rfl, rfl⟩

/-- in a valid script of elimination-free syncs and reports from a state with nobody on the way,
    in which no sync asks for anything and no report is spurious (each names somebody - or nothing
    is queued, so that a report of nobody is a no-op): every table that is synced at some point
    would also have been asked nothing at the start -/
theorem noask_script_answers_async : ∀ (ops : List AOp) (s : ASys), AInvF s → s.inflight = [] →
    (∀ op ∈ ops, quietOp op = true) → s.allOkFwd ops → s.askCount ops = 0 →
    (s.r.queue = [] ∨ ∀ t ps rest ch, AOp.report t ps rest ch ∈ ops → ps ≠ []) →
    ∀ t, (∃ stay rel keep, AOp.sync t [] stay rel keep ∈ ops) → (s.env.membersOf t).isSome = true →
    answer0 s.r t = (0, [], false) := by
  intro ops
  induction ops with
  | nil =>
    intro s _ _ _ _ _ _ t ⟨_, _, _, hm⟩ _
    cases hm
  | cons op ops ih =>
    intro s h hfl hq hok h0 hH t ⟨stay, rel, keep, hmem⟩ hs
    obtain ⟨hna, hrest⟩ := askCount_cons_eq_zero h0
    obtain ⟨hfr, hids, hfl'⟩ := noask_op h.a hfl op (hq op (List.mem_cons_self ..)) (ok_of_okFwd hok.1) hna
      (hH.imp_right fun h1 t ps rest ch e => h1 t ps rest ch (e ▸ List.mem_cons_self ..))
    rcases List.mem_cons.1 hmem with heq | hin
    · subst heq
      exact (asks_false_iff s t stay rel keep).1 hna hs
    · have hs' : ((s.step op).env.membersOf t).isSome = true := by
        rw [Env.membersOf_isSome_iff, hids, ← Env.membersOf_isSome_iff]
        exact hs
      have hH' : (s.step op).r.queue = [] ∨ ∀ t ps rest ch, AOp.report t ps rest ch ∈ ops → ps ≠ [] :=
        hH.imp (fun h1 => hfr.queue.trans h1) fun h1 t ps rest ch hm => h1 t ps rest ch (List.mem_cons_of_mem _ hm)
      rw [← frame_answer hfr t]
      exact ih _ (h.step_full op hok.1).1 hfl' (fun o ho => hq o (List.mem_cons_of_mem _ ho)) hok.2 hrest hH' t
        ⟨stay, rel, keep, hin⟩ hs'

/-- every batch on the way back comes from a table id that has been handed out already -/
def IdsIssued (s : ASys) : Prop := ∀ e ∈ s.inflight, e.1 < s.r.nextId

/-- one operation valid with re-entries keeps the table ids: every operation but a sync feeds the
    queue (`OpExt`), a sync opens no table -/
theorem AInv.step_idsKept {s : ASys} (h : AInv s) (op : AOp) (hok : s.okRe op) : IdsKept s.r (s.step op).r := by
  cases op with
  | add ps ch =>
    rw [step_add_r]
    by_cases hs : s.r.status = .afterRegDeadline
    · rw [addPlayers_refused s.r ps ch hs]
      exact .of_sub rfl fun _ ht => ht
    · exact (addPlayers_spec0 s.r ps ch h.wf hs hok.2.2).2.2.1.idsKept
  | status st ch => exact (setStatus_spec0 s.r st ch h.wf hok).2.1.idsKept
  | report t ps rest ch => exact (releasePlayers_spec0 s.r ps ch h.wf hok.2).2.1.idsKept
  | sync t elim stay rel keep =>
    rw [step_sync_r]
    exact syncState_idsKept s.r t _

theorem step_inflight_ids (s : ASys) (op : AOp) (hok : s.okRe op) :
    ∀ e ∈ (s.step op).inflight, (∃ e0 ∈ s.inflight, e0.1 = e.1) ∨ (s.env.membersOf e.1).isSome = true := by
  intro e he
  cases op with
  | add ps ch =>
    rw [step_add_inflight] at he
    exact Or.inl ⟨e, he, rfl⟩
  | status st ch => exact Or.inl ⟨e, he, rfl⟩
  | report t ps rest ch =>
    have he' : e ∈ s.inflight.filter (fun e => e.1 != t) ++ (if rest.isEmpty then [] else [(t, rest)]) := he
    rcases List.mem_append.1 he' with h1 | h1
    · exact Or.inl ⟨e, (List.mem_filter.1 h1).1, rfl⟩
    · split at h1
      · cases h1
      · rename_i hre
        rw [List.mem_singleton.1 h1]
        -- somebody stays on the way back from `t`, so a batch of `t` was on the way
        have hne : s.flyingOf t ≠ [] := fun hnil => by
          have hlen := hok.1.length_eq
          rw [hnil, List.length_nil, List.length_append] at hlen
          have hr : rest = [] := List.length_eq_zero_iff.1 (by omega)
          exact hre (by rw [hr]; rfl)
        obtain ⟨p, hp⟩ := List.exists_mem_of_ne_nil _ hne
        obtain ⟨e0, he0, het, _⟩ := mem_flyingOf hp
        exact Or.inl ⟨e0, he0, het⟩
  | sync t elim stay rel keep =>
    cases hm : s.env.membersOf t with
    | none =>
      have : (s.step (.sync t elim stay rel keep)).inflight = s.inflight := by simp only [step, hm]
      exact Or.inl ⟨e, this ▸ he, rfl⟩
    | some ms =>
      rw [step_sync_known hm] at he
      have he' : e ∈ (if rel.isEmpty then s.inflight else s.inflight ++ [(t, rel)]) := he
      split at he'
      · exact Or.inl ⟨e, he', rfl⟩
      · rcases List.mem_append.1 he' with h1 | h1
        · exact Or.inl ⟨e, h1, rfl⟩
        · rw [List.mem_singleton.1 h1, hm]
          exact Or.inr rfl

/-- one operation valid with re-entries (for a registration only `badChoice = false` is used, not
    the freshness of the names): the id counter does not go back, an id below it that names no
    table still names none afterwards, and `IdsIssued` is preserved -/
theorem AInv.step_ids {s : ASys} (h : AInv s) (op : AOp) (hok : s.okRe op) :
    s.r.nextId ≤ (s.step op).r.nextId ∧
    (∀ t, t < s.r.nextId → s.r.findTable t = none → (s.step op).r.findTable t = none) ∧
    (IdsIssued s → IdsIssued (s.step op)) := by
  have hk := h.step_idsKept op hok
  refine ⟨hk.next_le, fun t => hk.gone, fun hn e he => ?_⟩
  have := hk.next_le
  rcases step_inflight_ids s op hok e he with ⟨e0, he0, h0⟩ | hs
  · have := hn e0 he0
    omega
  · -- the batch comes from an existing table, whose id was handed out
    obtain ⟨ms, hm⟩ := Option.isSome_iff_exists.1 hs
    have := (h.known_table hm).2
    omega

theorem IdsIssued.run_re {s : ASys} (h : AInv s) (hn : IdsIssued s) {ops : List AOp} (hok : s.allOkRe ops) :
    IdsIssued (s.run ops) := by
  induction ops generalizing s with
  | nil => exact hn
  | cons op ops ih => exact ih (h.step_full_re op hok.1).1 ((h.step_ids op hok.1).2.2 hn) hok.2

theorem IdsIssued.of_reachableRe {s : ASys} (h : AReachableRe s) : IdsIssued s := by
  induction h with
  | init max min _ =>
    intro e he
    cases he
  | step op hr hok ih => exact ((AInv.of_reachableRe hr).step_ids op hok).2.2 ih

theorem IdsIssued.of_reachable {s : ASys} (h : AReachable s) : IdsIssued s := IdsIssued.of_reachableRe h.re

/-- a table id that has been handed out and names no table now names no table after any script
    valid with re-entries: broken tables do not come back -/
theorem gone_stays_gone_re : ∀ (ops : List AOp) (s : ASys), AInv s → s.allOkRe ops → ∀ t, t < s.r.nextId →
    s.env.membersOf t = none → (s.run ops).env.membersOf t = none ∧ t < (s.run ops).r.nextId := by
  intro ops
  induction ops with
  | nil =>
    intro s _ _ t hlt hun
    exact ⟨hun, hlt⟩
  | cons op ops ih =>
    intro s h hok t hlt hun
    obtain ⟨h1, h2, _⟩ := h.step_ids op hok.1
    have hS' := (h.step_full_re op hok.1).1
    have hun' : (s.step op).env.membersOf t = none :=
      (hS'.unknown_iff t).2 (h2 t hlt ((h.unknown_iff t).1 hun))
    exact ih (s.step op) hS' hok.2 t (by omega) hun'

theorem gone_stays_gone : ∀ (ops : List AOp) (s : ASys), AInv s → s.allOk ops → ∀ t, t < s.r.nextId →
    s.env.membersOf t = none → (s.run ops).env.membersOf t = none ∧ t < (s.run ops).r.nextId :=
  fun ops s h hok => gone_stays_gone_re ops s h (h.allOkRe_of_allOk hok)

theorem flying_step_sync_known {s : ASys} {t : Nat} {ms : List Nat} (hm : s.env.membersOf t = some ms)
    (elim stay rel keep : List Nat) :
    (s.step (.sync t elim stay rel keep)).flyingOf t = s.flyingOf t ++ rel ∧
    (s.step (.sync t elim stay rel keep)).flying = s.flying ++ rel := by
  rw [step_sync_known hm]
  exact ⟨(seatedOf_push s.inflight t rel).2, (seatedOf_push s.inflight t rel).1⟩

theorem flyingOf_step_report (s : ASys) (t : Nat) (ps rest ch : List Nat) :
    (s.step (.report t ps rest ch)).flyingOf t = rest := by
  have e1 : (s.inflight.filter (fun e => e.1 != t)).filter (·.1 == t) = [] :=
    List.filter_eq_nil_iff.2 fun a ha h => by
      have := (List.mem_filter.1 ha).2
      simp [beq_iff_eq.1 h] at this
  show seatedOf ((s.inflight.filter (fun e => e.1 != t) ++ (if rest.isEmpty then [] else [(t, rest)])).filter
    (·.1 == t)) = rest
  rw [List.filter_append, e1, List.nil_append]
  exact (seatedOf_push [] t rest).2

end ASys

/-! ### broken tables never come back, synchronous system

On its widest domain with re-entries, from `ASys.gone_stays_gone_re` through the embedding
"a sync is followed at once by its report". -/

namespace RSys
open ASys

theorem SInv0.gone_step_re {s : RSys} (hS : SInv0 s) (op : EOp) (hok : s.okRe op) (t : Nat)
    (hlt : t < s.r.nextId) (hun : s.env.membersOf t = none) :
    (s.step op).env.membersOf t = none ∧ t < (s.step op).r.nextId := by
  have := ASys.gone_stays_gone_re (expand s op) (ofRSys s) hS.async (allOkRe_expand s op hok) t hlt hun
  rw [run_expand] at this
  exact this

theorem gone_stays_gone_sync_re : ∀ (ops : List EOp) (s : RSys), SInv0 s → s.allOkRe ops → ∀ t, t < s.r.nextId →
    s.env.membersOf t = none → (s.run ops).env.membersOf t = none ∧ t < (s.run ops).r.nextId := by
  intro ops
  induction ops with
  | nil =>
    intro s _ _ t hlt hun
    exact ⟨hun, hlt⟩
  | cons op ops ih =>
    intro s h hok t hlt hun
    obtain ⟨h1, h2⟩ := h.gone_step_re op hok.1 t hlt hun
    exact ih (s.step op) (h.step_full_re op hok.1).1 hok.2 t h2 h1

end RSys
end Pokerface

/-! ### the second sentence of C20 on any state satisfying the invariant

    A broken table hands back everybody (`break_returns_all_async_inv`), and every reported player
    is queued or seated at a table in that operation, at another table if his table is gone
    (`reported_are_requeued_async_inv`, `requeued_elsewhere_inv`). -/

namespace Pokerface.C20
open Pokerface Reg ASys

theorem break_returns_all_async_inv {s : ASys} (hS : AInv s) (t : Nat) (elim stay rel keep ms : List Nat)
    (hm : s.env.membersOf t = some ms) (hok : s.ok (.sync t elim stay rel keep))
    (hb : s.broken t elim = true) :
    ((s.syncAnswer t elim).2.2.1 = stay.length ∧ (s.syncAnswer t elim).2.2.2 = [] ∧
      rel.Perm stay ∧ keep = []) ∧
    (t ∉ (s.step (.sync t elim stay rel keep)).env.members.map (·.1) ∧
      (s.step (.sync t elim stay rel keep)).r.findTable t = none ∧
      (s.step (.sync t elim stay rel keep)).env.membersOf t = none) ∧
    (s.departing (.sync t elim stay rel keep) = rel ∧
      (s.step (.sync t elim stay rel keep)).flyingOf t = s.flyingOf t ++ rel ∧
      (s.step (.sync t elim stay rel keep)).flying = s.flying ++ rel ∧
      (s.step (.sync t elim stay rel keep)).r.calls = [] ∧
      (s.step (.sync t elim stay rel keep)).r.queue = s.r.queue) := by
  obtain ⟨hp1, hp2, hrl, hkeep⟩ := (ok_sync_known hm elim stay rel keep).1 hok
  obtain ⟨r1, relc, nw, t0, k⟩ := hS.sync_known t elim stay ms hm hp1
  have hans := k.ans
  have hft := k.find
  have hq1 := k.queue
  have hc1 := k.calls
  have hbrk := k.broken
  obtain ⟨hrelc, hnw⟩ := hbrk hb
  have hk := hkeep hb
  rw [hans] at hp2 hrl ⊢
  simp only [] at hp2 hrl ⊢
  subst hnw hk
  simp only [List.append_nil] at hp2
  have hS' := (hS.step_full _ hok).1
  have hr : (s.step (.sync t elim stay rel [])).r = r1 := by rw [step_sync_r, hans]
  have hfind : (s.step (.sync t elim stay rel [])).r.findTable t = none := by
    have : (r1.findTable t).isNone = true := by
      have := hb
      simp only [broken, hans] at this
      exact this
    rw [hr]
    exact Option.isNone_iff_eq_none.1 this
  have hmo : (s.step (.sync t elim stay rel [])).env.membersOf t = none := (hS'.unknown_iff t).2 hfind
  obtain ⟨hfo, hfl⟩ := flying_step_sync_known hm elim stay rel []
  refine ⟨⟨hrelc, rfl, hp2.symm, rfl⟩, ⟨?_, hfind, hmo⟩, ?_, hfo, hfl, ?_, ?_⟩
  · intro hin
    have := (Env.membersOf_isSome_iff _ t).2 hin
    rw [hmo] at this
    cases this
  · simp only [departing, hm]
  · rw [hr]
    exact hc1
  · rw [hr]
    simpa using hq1.symm

theorem reported_are_requeued_async_inv {s : ASys} (hS : AInv s) (hN : IdsIssued s) (t : Nat) (ps rest ch : List Nat)
    (hok : s.ok (.report t ps rest ch)) :
    (ASys.reported (.report t ps rest ch) = ps ∧ s.incoming (.report t ps rest ch) = ps ∧
      (s.flyingOf t).Perm (ps ++ rest) ∧ ((s.step (.report t ps rest ch)).flyingOf t).Perm rest) ∧
    s.r.queue ++ ps = handed (s.step (.report t ps rest ch)).r.calls ++ (s.step (.report t ps rest ch)).r.queue ∧
    (∀ p ∈ ps,
      (p ∈ (s.step (.report t ps rest ch)).r.queue ∨ p ∈ handed (s.step (.report t ps rest ch)).r.calls) ∧
      (p ∈ (s.step (.report t ps rest ch)).r.queue ∨
        ∃ e ∈ (s.step (.report t ps rest ch)).env.members, p ∈ e.2 ∧ (s.env.membersOf t = none → e.1 ≠ t))) := by
  obtain ⟨hS', hF⟩ := hS.step_full _ hok
  have hho : s.r.queue ++ ps =
      handed (s.step (.report t ps rest ch)).r.calls ++ (s.step (.report t ps rest ch)).r.queue := by
    have := hF.handout
    simpa [incoming, returned] using this
  refine ⟨⟨rfl, rfl, hok.1, .of_eq (flyingOf_step_report s t ps rest ch)⟩, hho, ?_⟩
  intro p hp
  have hmem : p ∈ handed (s.step (.report t ps rest ch)).r.calls ++ (s.step (.report t ps rest ch)).r.queue := by
    rw [← hho]
    exact List.mem_append_right _ hp
  refine ⟨(List.mem_append.1 hmem).symm, ?_⟩
  -- where the player is afterwards: conservation of the successor state
  have hpf : p ∈ s.flyingOf t := hok.1.mem_iff.2 (List.mem_append_left _ hp)
  have hpfl : p ∈ s.flying := mem_flying_of_flyingOf hpf
  have hal : p ∈ s.env.alive := hS.cons.mem_iff.2 (List.mem_append_right _ hpfl)
  have hal' : p ∈ (s.step (.report t ps rest ch)).env.alive := hal
  -- those still on the way and those reported are, together, those who were on the way: no name twice
  have hnot : p ∉ (s.step (.report t ps rest ch)).flying := fun hin => by
    have hnd : ((s.step (.report t ps rest ch)).flying ++ ps).Nodup :=
      hF.flying.nodup_iff.2 (by
        have := (List.nodup_append.1 (hS.cons.nodup_iff.1 hS.nodup)).2.1
        simpa [departing] using this)
    exact (List.nodup_append.1 hnd).2.2 p hin p hp rfl
  rcases List.mem_append.1 (hS'.cons.mem_iff.1 hal') with h1 | h1
  · rcases List.mem_append.1 h1 with h2 | h2
    · exact Or.inl h2
    · right
      obtain ⟨e, he, hpe⟩ := Reg.mem_seatedOf.1 h2
      refine ⟨e, he, hpe, fun hun het => ?_⟩
      -- a batch of `t` is on the way, so `t` was handed out; unknown ids below the counter stay unknown
      obtain ⟨e0, he0, het0, _⟩ := mem_flyingOf hpf
      have hlt : t < s.r.nextId := het0 ▸ hN e0 he0
      have hun' := (hS.step_ids _ (hS.okRe_of_ok hok)).2.1 t hlt ((hS.unknown_iff t).1 hun)
      have := (hS'.unknown_iff t).2 hun'
      have hsome : ((s.step (.report t ps rest ch)).env.membersOf t).isSome = true :=
        (Env.membersOf_isSome_iff _ t).2 (List.mem_map.2 ⟨e, he, het⟩)
      rw [this] at hsome
      cases hsome
  · exact absurd h1 hnot

theorem sync_id_lt {s : ASys} (hS : AInv s) (t : Nat) (elim stay rel keep ms : List Nat)
    (hm : s.env.membersOf t = some ms) (hok : s.okRe (.sync t elim stay rel keep)) :
    t < (s.step (.sync t elim stay rel keep)).r.nextId := by
  have := (hS.known_table hm).2
  have := (hS.step_ids _ hok).1
  omega

theorem requeued_elsewhere_inv {s : ASys} (hS : AInv s) (hN : IdsIssued s) (t : Nat) (ps rest ch : List Nat)
    (hok : s.ok (.report t ps rest ch)) (hun : s.env.membersOf t = none) :
    ∀ p ∈ ps,
      (p ∈ (s.step (.report t ps rest ch)).r.queue ∨ p ∈ handed (s.step (.report t ps rest ch)).r.calls) ∧
      (p ∈ (s.step (.report t ps rest ch)).r.queue ∨
        ∃ e ∈ (s.step (.report t ps rest ch)).env.members, e.1 ≠ t ∧ p ∈ e.2) := by
  intro p hp
  obtain ⟨_, _, hall⟩ := reported_are_requeued_async_inv hS hN t ps rest ch hok
  obtain ⟨a, b⟩ := hall p hp
  refine ⟨a, ?_⟩
  rcases b with b | ⟨e, he, hpe, hne⟩
  · exact Or.inl b
  · exact Or.inr ⟨e, he, hne hun, hpe⟩

theorem broken_table_players_requeued_inv {s : ASys} (hS : AInv s) (hN : IdsIssued s) (t : Nat)
    (elim stay rel keep ms : List Nat) (hm : s.env.membersOf t = some ms)
    (hok : s.okRe (.sync t elim stay rel keep)) (hb : s.broken t elim = true)
    (ops : List AOp) (hops : (s.step (.sync t elim stay rel keep)).allOkRe ops)
    (ps rest ch : List Nat) (hokr : ((s.step (.sync t elim stay rel keep)).run ops).ok (.report t ps rest ch)) :
    ((s.step (.sync t elim stay rel keep)).run ops).env.membersOf t = none ∧
    ∀ p ∈ ps,
      (p ∈ (((s.step (.sync t elim stay rel keep)).run ops).step (.report t ps rest ch)).r.queue ∨
        p ∈ handed (((s.step (.sync t elim stay rel keep)).run ops).step (.report t ps rest ch)).r.calls) ∧
      (p ∈ (((s.step (.sync t elim stay rel keep)).run ops).step (.report t ps rest ch)).r.queue ∨
        ∃ e ∈ (((s.step (.sync t elim stay rel keep)).run ops).step (.report t ps rest ch)).env.members,
          e.1 ≠ t ∧ p ∈ e.2) := by
  have hS1 := (hS.step_full_re _ hok).1
  have hN1 := (hS.step_ids _ hok).2.2 hN
  obtain ⟨_, ⟨_, _, hgone⟩, _⟩ := break_returns_all_async_inv hS t elim stay rel keep ms hm hok hb
  obtain ⟨hun, _⟩ := gone_stays_gone_re ops _ hS1 hops t (sync_id_lt hS t elim stay rel keep ms hm hok) hgone
  exact ⟨hun, requeued_elsewhere_inv (hS1.run_re hops) (hN1.run_re hS1 hops) t ps rest ch hokr hun⟩

end Pokerface.C20
