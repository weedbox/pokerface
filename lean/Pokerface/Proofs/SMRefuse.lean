/-
  When `next` finds nobody: it is refused only when fewer than two seats are occupied and not reserved (this needs the
  extra invariant "the dealer's seat is active"), and it leaves the seat manager without a dealer exactly in the states
  `NoButtonAfterNext` — `nextDealer` resets the dealer to `none` when it finds nobody even after letting everybody in,
  so "no previous dealer" covers more than "before the first hand".  Both are read off `nextDealer_low`: what `nextDealer` does
  below two playable seats (from two on: `nextDealer_spec`).
-/
import Pokerface.Proofs.SMLayout

namespace Pokerface
namespace SM

def DealerActive (sm : SM) : Prop :=
  ∀ d, sm.dealer = some d → ∃ s, sm.seats[d]? = some s ∧ s.active = true

theorem dealerActive_of_playable {sm : SM} (h : ∀ d, sm.dealer = some d → sm.playable d = true) : DealerActive sm := by
  intro d hd
  obtain ⟨s, hs, ha, _⟩ := playable_iff.mp (h d hd)
  exact ⟨s, hs, ha⟩

theorem DealerActive.modSeat {sm : SM} (ha : DealerActive sm) (i : Nat) (f : Seat → Seat)
    (hf : ∀ s, (f s).active = s.active) : DealerActive (sm.modSeat i f) := by
  intro d hd
  obtain ⟨q, hq, hqa⟩ := ha d hd
  rw [modSeat_seats]
  by_cases hid : i = d
  · exact ⟨f q, by simp [hid, hq], by rw [hf]; exact hqa⟩
  · exact ⟨q, by simp [hid, hq], hqa⟩

theorem step_dealerActive {sm : SM} (h : Inv sm) (ha : DealerActive sm) (op : SMOp) :
    DealerActive (sm.step op).1 := by
  by_cases hop : op = .next
  · subst hop
    rcases step_next_cases h with ⟨he, _⟩ | ⟨_, d, ks, kb, hn⟩
    · rw [he]
      by_cases hf : sm.nextDealer.2 = true
      · obtain ⟨d, hd, hp⟩ := nextDealer_found sm hf
        apply dealerActive_of_playable
        intro d' hd'
        rw [hd] at hd'
        cases hd'
        exact hp
      · rcases nextDealer_notfound sm (by simpa using hf) with h' | h'
        · rw [h']
          exact ha
        · intro d hd
          rw [h'] at hd
          cases hd
    · apply dealerActive_of_playable
      intro d' hd'
      rw [hn.dealer] at hd'
      cases hd'
      exact hn.playable_dealer
  · obtain ⟨i, f, hf, he⟩ := step_eq_modSeat sm hop
    rw [he]
    exact ha.modSeat i f hf

theorem run_dealerActive {sm : SM} (h : Inv sm) (ha : DealerActive sm) (ops : List SMOp) :
    DealerActive (sm.run ops) := by
  induction ops generalizing sm with
  | nil => exact ha
  | cons op ops ih => exact ih (step_inv h op) (step_dealerActive h ha op)

theorem Reachable.dealerActive {sm : SM} (h : Reachable sm) : DealerActive sm := by
  obtain ⟨max, ops, rfl⟩ := h
  exact run_dealerActive (inv_new max) (by intro d hd; simp [SM.new] at hd) ops

theorem nonEmptyCount_eq_occ {sm : SM} (hw : sm.WF) : sm.nonEmptyCount = (List.range sm.max).countP sm.occ := by
  rw [nonEmptyCount_eq, ← countP_range_seats hw]
  rfl

theorem count_ge_of_occ {sm t : SM} (hw : sm.WF) (hm : t.max = sm.max)
    (h : ∀ i, i < sm.max → sm.occ i = true → t.playable i = true) : sm.nonEmptyCount ≤ t.playableCount := by
  rw [nonEmptyCount_eq_occ hw, playableCount_eq_countP, hm]
  apply List.countP_mono_left
  intro i hi
  exact h i (List.mem_range.mp hi)

theorem playable_of_occ_actv {sm t : SM} {i : Nat} (hocc : sm.occ i = true)
    (hs : t.seats[i]? = (sm.seats[i]?).map actv) : t.playable i = true := by
  obtain ⟨s, hq, hr, ho⟩ := occ_iff.mp hocc
  rw [hq] at hs
  exact playable_iff.mpr ⟨actv s, hs, rfl, hr, ho⟩

theorem playable_of_occ_active {sm : SM} {i : Nat} (hocc : sm.occ i = true) {s : Seat}
    (hs : sm.seats[i]? = some s) (ha : s.active = true) : sm.playable i = true := by
  obtain ⟨s', hs', hr, ho⟩ := occ_iff.mp hocc
  cases hs.symm.trans hs'
  exact playable_iff.mpr ⟨s, hs, ha, hr, ho⟩

theorem occ_false_of_nonEmpty_zero {sm : SM} (hw : sm.WF) (h0 : sm.nonEmptyCount = 0) (i : Nat) : sm.occ i = false := by
  by_cases hi : i < sm.max
  · rw [nonEmptyCount_eq_occ hw, List.countP_eq_zero] at h0
    have := h0 i (List.mem_range.mpr hi)
    simpa using this
  · unfold occ
    have : sm.seats[i]? = none := by
      rw [List.getElem?_eq_none_iff, hw]
      omega
    rw [this]

theorem exists_occ_of_nonEmpty_pos {sm : SM} (hw : sm.WF) (h : 0 < sm.nonEmptyCount) :
    ∃ i, i < sm.max ∧ sm.occ i = true := by
  rw [nonEmptyCount_eq_occ hw, List.countP_pos_iff] at h
  obtain ⟨i, hi, ho⟩ := h
  exact ⟨i, List.mem_range.mp hi, ho⟩

theorem occ_modAll_actv (sm : SM) (ids : List Nat) (i : Nat) : (sm.modAll ids actv).occ i = sm.occ i := by
  unfold occ
  rw [modAll_seats _ _ _ actv_actv]
  by_cases hm : i ∈ ids
  · rw [if_pos hm]
    cases sm.seats[i]? <;> simp [actv]
  · rw [if_neg hm]

theorem playable_false_of_count_zero {sm : SM} (hw : sm.WF) (h0 : sm.playableCount = 0) (i : Nat) :
    sm.playable i = false := by
  cases hp : sm.playable i with
  | false => rfl
  | true =>
    rw [playableCount_eq_countP, List.countP_eq_zero] at h0
    have := h0 i (List.mem_range.mpr (playable_lt hw hp))
    rw [hp] at this
    exact absurd rfl this

theorem nextDealer_of_one {sm : SM} (h1 : sm.playableCount = 1) (hne : ¬ sm.nonEmptyCount ≤ 1) :
    ∃ d, sm.playable d = true ∧
      sm.nextDealer = (({ sm with dealer := some d } : SM).modAll ((sm.normalize d).drop 1) actvOcc, true) := by
  cases hfp : sm.firstPlayable with
  | none =>
    exfalso
    unfold firstPlayable at hfp
    rw [List.find?_eq_none] at hfp
    have : sm.playableCount = 0 := by
      rw [playableCount_eq_countP, List.countP_eq_zero]
      intro i hi
      exact hfp i hi
    omega
  | some d =>
    refine ⟨d, by simpa using List.find?_some hfp, ?_⟩
    rw [nextDealer_eq, if_pos h1, if_neg hne, hfp]

theorem nextDealer_of_zero {sm : SM} (hw : sm.WF) (h0 : sm.playableCount = 0) :
    sm.nextDealer =
      match (sm.modAll sm.scanIds actv).findActive sm.scanIds with
      | some (d, _) => ({ sm.modAll sm.scanIds actv with dealer := some d }, true)
      | none => ({ sm.modAll sm.scanIds actv with dealer := none }, false) := by
  have hfa : sm.findActive sm.scanIds = none := by
    rw [findActive_none]
    intro x _
    exact playable_false_of_count_zero hw h0 x
  rw [nextDealer_eq, if_neg (by omega), hfa]
  rfl

/-- With nobody playable, every occupied non-reserved seat is in the scan range and hence playable once the range is
activated: the only seat outside the range is the dealer's own, and that one is active. -/
theorem playable_activated_of_occ {sm : SM} (h : Inv sm) (ha : DealerActive sm) (h0 : sm.playableCount = 0)
    {i : Nat} (hi : i < sm.max) (hocc : sm.occ i = true) :
    i ∈ sm.scanIds ∧ (sm.modAll sm.scanIds actv).playable i = true := by
  have hmem : i ∈ sm.scanIds := by
    apply Decidable.byContradiction
    intro hmem
    unfold scanIds at hmem
    cases hdl : sm.dealer with
    | none =>
      rw [hdl] at hmem
      exact hmem ((mem_normalize sm 0 i).mpr hi)
    | some d =>
      rw [hdl] at hmem
      simp only at hmem
      have hdlt := h.dealer_lt d hdl
      obtain ⟨j, hj, rfl⟩ := exists_offset d hi
      have hj0 : j = 0 := by
        apply Decidable.byContradiction
        intro hne
        exact hmem ((mem_normalize_drop sm d 1 hj).mpr (by omega))
      subst hj0
      have e0 : (d + 0) % sm.max = d := Nat.mod_eq_of_lt hdlt
      rw [e0] at hocc
      obtain ⟨s, hs, hsa⟩ := ha d hdl
      have := playable_of_occ_active hocc hs hsa
      rw [playable_false_of_count_zero h.wf h0 d] at this
      cases this
  refine ⟨hmem, playable_of_occ_actv hocc ?_⟩
  rw [modAll_seats _ _ _ actv_actv, if_pos hmem]

/-- `nextDealer` with fewer than two playable seats (the dealer's seat being active).  If somebody is waiting (occupied, not
reserved, not playable) everybody occupied and not reserved is let in and a dealer is found.  If nobody is, a lone playable
player is left alone and nothing is touched, and an empty table loses its dealer. -/
theorem nextDealer_low {sm : SM} (h : Inv sm) (ha : DealerActive sm) (h2 : sm.playableCount < 2) :
    (sm.nextDealer = (sm, false) ∧ sm.playableCount = 1 ∧ sm.nonEmptyCount = 1) ∨
    (sm.nextDealer.2 = false ∧ sm.nextDealer.1.dealer = none ∧ sm.nonEmptyCount = 0) ∨
    (sm.nextDealer.2 = true ∧ (∃ d, sm.nextDealer.1.dealer = some d) ∧
      sm.playableCount < sm.nonEmptyCount ∧ sm.nonEmptyCount ≤ sm.nextDealer.1.playableCount) := by
  have hple := playableCount_le_nonEmpty h.wf
  by_cases h1 : sm.playableCount = 1
  · by_cases hne : sm.nonEmptyCount ≤ 1
    · refine Or.inl ⟨?_, h1, by omega⟩
      rw [nextDealer_eq, if_pos h1, if_pos hne]
    · -- the playable seat gets the button, everybody behind it is let in
      obtain ⟨d, hpd, hnd⟩ := nextDealer_of_one h1 hne
      have hdlt := playable_lt h.wf hpd
      rw [hnd]
      refine Or.inr (Or.inr ⟨rfl, ⟨d, by simp⟩, by omega, count_ge_of_occ h.wf (by simp) ?_⟩)
      intro i hi hocc
      obtain ⟨j, hj, rfl⟩ := exists_offset d hi
      simp only
      by_cases hj0 : j = 0
      · subst hj0
        have e0 : (d + 0) % sm.max = d := Nat.mod_eq_of_lt hdlt
        rw [e0]
        exact (ActUp.modAll _ _ actvOcc actvOcc_up).playable (by simpa using hpd)
      · obtain ⟨s, hq, hr, ho⟩ := occ_iff.mp hocc
        have hmem : (d + j) % sm.max ∈ (sm.normalize d).drop 1 := (mem_normalize_drop sm d 1 hj).mpr (by omega)
        have hs : actvOcc s = { s with active := true } := by simp [actvOcc, hr, ho]
        refine playable_iff.mpr ⟨{ s with active := true }, ?_, rfl, hr, ho⟩
        rw [modAll_seats _ _ _ actvOcc_actvOcc, if_pos hmem, hq, Option.map_some, hs]
  · have h0 : sm.playableCount = 0 := by omega
    rw [nextDealer_of_zero h.wf h0]
    by_cases hz : sm.nonEmptyCount = 0
    · -- nobody can be let in: the retry fails as well
      have hfa2 : (sm.modAll sm.scanIds actv).findActive sm.scanIds = none := by
        rw [findActive_none]
        intro x _
        cases hp : (sm.modAll sm.scanIds actv).playable x with
        | false => rfl
        | true =>
          have := playable_le_occ _ _ hp
          rw [occ_modAll_actv, occ_false_of_nonEmpty_zero h.wf hz] at this
          cases this
      rw [hfa2]
      exact Or.inr (Or.inl ⟨rfl, rfl, hz⟩)
    · -- somebody occupied and not reserved is in the scan range: after activation he is found
      obtain ⟨i, hi, hocc⟩ := exists_occ_of_nonEmpty_pos h.wf (by omega)
      obtain ⟨hmem, hpi⟩ := playable_activated_of_occ h ha h0 hi hocc
      obtain ⟨e, k, hfa2⟩ := findActive_some_of_countP_pos _ _ (List.countP_pos_iff.mpr ⟨i, hmem, hpi⟩)
      rw [hfa2]
      exact Or.inr (Or.inr ⟨rfl, ⟨e, rfl⟩, by omega, count_ge_of_occ h.wf (by simp) fun i hi hocc =>
        (playable_activated_of_occ h ha h0 hi hocc).2⟩)

theorem next_succeeds_of_nonEmpty {sm : SM} (h : Inv sm) (ha : DealerActive sm) (hc : 2 ≤ sm.nonEmptyCount) :
    (sm.step .next).2.1 = none := by
  by_cases h2 : 2 ≤ sm.playableCount
  · exact next_succeeds_of_count h h2
  rcases nextDealer_low h ha (by omega) with ⟨_, _, h1⟩ | ⟨_, _, h0⟩ | ⟨hf, _, _, hle⟩
  · omega
  · omega
  · exact next_succeeds_of_found h hf (Nat.le_trans hc hle)

theorem run_dealer_of_no_next (sm : SM) (ops : List SMOp) (h : SMOp.next ∉ ops) : (sm.run ops).dealer = sm.dealer := by
  induction ops generalizing sm with
  | nil => rfl
  | cons op ops ih =>
    rw [run_cons, ih _ (fun hm => h (by simp [hm])), (step_dealer_max sm _).1]
    intro he
    exact h (by simp [he])

theorem split_last_next (ops : List SMOp) (h : SMOp.next ∈ ops) :
    ∃ pre post, ops = pre ++ SMOp.next :: post ∧ SMOp.next ∉ post := by
  induction ops with
  | nil => cases h
  | cons op ops ih =>
    by_cases ht : SMOp.next ∈ ops
    · obtain ⟨pre, post, he, hp⟩ := ih ht
      exact ⟨op :: pre, post, by rw [he]; rfl, hp⟩
    · have : op = .next := by
        rcases List.mem_cons.mp h with h' | h'
        · exact h'.symm
        · exact absurd h' ht
      subst this
      exact ⟨[], ops, rfl, ht⟩

/-- The state in which `Next()` leaves the seat manager without a dealer. -/
def NoButtonAfterNext (sm : SM) : Prop :=
  sm.nonEmptyCount = 0 ∨ (sm.dealer = none ∧ sm.nonEmptyCount = 1 ∧ sm.playableCount = 1)

theorem nextDealer_dealer_none_iff {sm : SM} (h : Inv sm) (ha : DealerActive sm) :
    sm.nextDealer.1.dealer = none ↔ NoButtonAfterNext sm := by
  have hple := playableCount_le_nonEmpty h.wf
  unfold NoButtonAfterNext
  by_cases h2 : 2 ≤ sm.playableCount
  · obtain ⟨k, hk⟩ := nextDealer_spec sm h2 rfl
    rw [hk.dealer]
    constructor
    · intro hc
      cases hc
    · rintro (h0 | ⟨_, h1, _⟩) <;> omega
  rcases nextDealer_low h ha (by omega) with ⟨he, h1, hn1⟩ | ⟨_, hd, h0⟩ | ⟨_, ⟨d, hd⟩, hlt, _⟩
  · rw [he]
    constructor
    · intro hd
      exact Or.inr ⟨hd, hn1, h1⟩
    · rintro (h0 | ⟨hd, _, _⟩)
      · omega
      · exact hd
  · exact ⟨fun _ => Or.inl h0, fun _ => hd⟩
  · rw [hd]
    constructor
    · intro hc
      cases hc
    · rintro (h0 | ⟨_, h1, h1'⟩) <;> omega

theorem step_next_dealer_none_iff {sm : SM} (h : Inv sm) (ha : DealerActive sm) :
    (sm.step .next).1.dealer = none ↔ NoButtonAfterNext sm := by
  rw [← nextDealer_dealer_none_iff h ha]
  rcases step_next_cases h with ⟨he, _⟩ | ⟨_, d, ks, kb, hn⟩
  · rw [he]
  · rw [hn.dealer, hn.mid_dealer]

end SM
end Pokerface
