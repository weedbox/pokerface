import Pokerface.Proofs.EngineReach
import Pokerface.Proofs.Available
/-
  Lemmas for C11 / C12: the situation "seat `cur` is asked to act" (`AtTurn`), the exact effect of
  `pay` on the paying seat, on the scalars of the round and on the `acted` marks, what `resume` keeps, and requests
  addressed to the seat to act (`ByCur`).
-/
namespace Pokerface
open Game

/-- The situation C11 and C12 speak about: a reachable state that waits for the action of
    the player `p` sitting at seat `g.cur`. -/
structure AtTurn (g : Game) (p : Player) : Prop where
  reach : Reachable g
  ev : g.event = .roundStarted
  seat : g.players[g.cur]? = some p

theorem AtTurn.inv {g : Game} {p : Player} (h : AtTurn g p) : Inv g := inv_reachable h.reach

theorem AtTurn.chips {g : Game} {p : Player} (h : AtTurn g p) : ChipsOK g :=
  h.inv.chips (by rw [h.ev]; simp)

theorem AtTurn.mem {g : Game} {p : Player} (h : AtTurn g p) : p ∈ g.players :=
  List.mem_of_getElem? h.seat

theorem AtTurn.pinv {g : Game} {p : Player} (h : AtTurn g p) : PInv p := h.chips.pinv p h.mem

theorem AtTurn.allowed_eq {g : Game} {p : Player} (h : AtTurn g p) : p.allowed = g.availableActions p :=
  (h.inv.post.offered h.ev g.cur p h.seat).trans (if_pos rfl)

theorem exists_cur {g : Game} (h : Reachable g) : ∃ p, g.players[g.cur]? = some p := by
  have hs := (inv_reachable h).struct
  have : g.cur < g.players.length := hs.cur
  exact ⟨g.players[g.cur], by simp [List.getElem?_eq_getElem this]⟩

theorem allows_of_mem {g : Game} {i : Nat} {p : Player} {a : Act} (hp : g.players[i]? = some p) (h : a ∈ p.allowed) :
    g.allows i a = true := Game.allows_iff.2 ⟨p, hp, h⟩

theorem AtTurn.allows {g : Game} {p : Player} (h : AtTurn g p) (a : Act) :
    g.allows g.cur a = decide (a ∈ g.availableActions p) := by
  unfold Game.allows
  rw [h.seat]
  simp only [List.contains_eq_mem, h.allowed_eq]

theorem frame_at {l l' : List Player} (h : l'.map Player.frame = l.map Player.frame) {i : Nat} {p : Player}
    (hp : l[i]? = some p) : ∃ q, l'[i]? = some q ∧ q.frame = p.frame :=
  getElem?_of_map_eq h.symm hp

theorem frame_at' {l l' : List Player} (h : l'.map Player.frame = l.map Player.frame) {i : Nat} {q : Player}
    (hq : l'[i]? = some q) : ∃ p, l[i]? = some p ∧ q.frame = p.frame := by
  obtain ⟨p, hp, hpe⟩ := frame_at h.symm hq
  exact ⟨p, hp, hpe.symm⟩

theorem NoChip.at {g g' : Game} (h : NoChip g g') {i : Nat} {p : Player} (hp : g.players[i]? = some p) :
    ∃ q, g'.players[i]? = some q ∧ q.frame = p.frame := frame_at h.frame hp

theorem pay_frame {g : Game} {i : Nat} {p : Player} (hp : g.players[i]? = some p) (c : Int) (w : Bool) :
    (g.pay i c w).players.map Player.frame = (g.players.modify i (payF c)).map Player.frame := by
  obtain ⟨gc, nc, hpl, _⟩ := pay_core hp c w
  rw [nc.frame, hpl]

theorem pay_frame_ne {g : Game} {i j : Nat} {p : Player} (hp : g.players[i]? = some p) (c : Int) (w : Bool) (hij : i ≠ j) :
    ((g.pay i c w).players.map Player.frame)[j]? = (g.players.map Player.frame)[j]? := by
  rw [pay_frame hp c w, List.getElem?_map, List.getElem?_map, List.getElem?_modify_ne _ _ hij]

theorem pay_self {g : Game} {i : Nat} {p : Player} (hp : g.players[i]? = some p) (c : Int) (w : Bool) :
    ∃ q, (g.pay i c w).players[i]? = some q ∧ q.frame = (payF c p).frame := by
  have h := pay_frame hp c w
  have : (g.players.modify i (payF c))[i]? = some (payF c p) := by simp [hp]
  exact frame_at h this

theorem pay_cw_max {g : Game} {i : Nat} {p : Player} (hp : g.players[i]? = some p) (c : Int) :
    (g.pay i c true).cw = max g.cw (payF c p).wager := by
  rw [pay_wager_eq hp]
  dsimp only
  split
  · split <;> rfl
  · split <;> rfl

/-- `pay_cw_max` with the maximum written out as the code has it -/
theorem pay_cw {g : Game} {i : Nat} {p : Player} (hp : g.players[i]? = some p) (c : Int) :
    (g.pay i c true).cw =
      if p.stack ≤ c then (if p.initial > g.cw then p.initial else g.cw)
      else (if g.cw < p.wager + c then p.wager + c else g.cw) := by
  rw [pay_cw_max hp, payF_wager]
  by_cases h : p.stack ≤ c
  · rw [if_pos h, if_pos h]
    split
    · omega
    · omega
  · rw [if_neg h, if_neg h]
    split
    · omega
    · omega

theorem payF_wager_mono {p : Player} (hp : PInv p) {c : Int} (hc : 0 ≤ c) : p.wager ≤ (payF c p).wager := by
  have hrebase := hp.rebase
  have hstack0 := hp.stack0
  rw [payF_wager]
  split
  · omega
  · omega

theorem pay_raiser {g : Game} {i : Nat} {p : Player} (hp : g.players[i]? = some p) (c : Int) :
    (g.pay i c true).raiser =
      if p.stack ≤ c then (if p.initial - g.cw ≥ g.cw + g.prev then i else g.raiser)
      else (if g.cw < p.wager + c then i else g.raiser) := by
  rw [pay_wager_eq hp]
  dsimp only
  split
  · split <;> rfl
  · split <;> rfl

theorem resetActed_acted {g : Game} {j : Nat} {q : Player} (h : g.resetActed.players[j]? = some q) : q.acted = false := by
  obtain ⟨q0, _, rfl⟩ := Option.map_eq_some_iff.1 ((List.getElem?_map ..).symm.trans h)
  rfl

theorem becomeRaiser_acted {g : Game} {i j : Nat} {q : Player} (h : (g.becomeRaiser i).players[j]? = some q)
    (ha : q.acted = true) : j = i := by
  refine Classical.byContradiction fun hij => ?_
  have h' : (g.setRaiser i).resetActed.players[j]? = some q :=
    (List.getElem?_modify_ne _ _ (fun e => hij e.symm)).symm.trans h
  rw [resetActed_acted h'] at ha
  cases ha

/-- the `acted` marks after a wager payment: an all-in or a raise leaves no seat but the payer marked, any other
    payment changes no mark -/
theorem pay_acted {g : Game} {i : Nat} {p : Player} (hp : g.players[i]? = some p) (c : Int) :
    (p.stack ≤ c ∨ g.cw < p.wager + c →
      ∀ j q, (g.pay i c true).players[j]? = some q → q.acted = true → j = i) ∧
    (¬ (p.stack ≤ c ∨ g.cw < p.wager + c) → (g.pay i c true).players = g.players.modify i (payF c)) := by
  rw [pay_wager_eq hp]
  dsimp only
  by_cases h1 : p.stack ≤ c
  · rw [if_pos h1]
    refine ⟨fun _ j q hq ha => ?_, fun h => absurd (.inl h1) h⟩
    split at hq
    · exact becomeRaiser_acted hq ha
    · rw [resetActed_acted hq] at ha
      cases ha
  · rw [if_neg h1]
    by_cases h2 : g.cw < p.wager + c
    · rw [if_pos h2]
      exact ⟨fun _ j q hq ha => becomeRaiser_acted hq ha, fun h => absurd (.inr h2) h⟩
    · rw [if_neg h2]
      exact ⟨fun h => absurd h fun h => h.elim h1 h2, fun _ => rfl⟩

theorem resume_raiser (g : Game) : g.resume.raiser = g.raiser := (wr_resume g).raiser

theorem resume_cw (g : Game) : g.resume.cw = g.cw := (wr_resume g).cw

theorem resume_prev (g : Game) : g.resume.prev = g.prev := (wr_resume g).prev

theorem setActed_self {g : Game} {i : Nat} {p : Player} (hp : g.players[i]? = some p) :
    (g.setActed i).players[i]? = some (markA p) := by
  simp [Game.setActed, Game.modP, hp, markA]

/-- an action addressed to the seat to act, either implicitly (`Game.X()`) or by naming it -/
def ByCur (g : Game) (seat : Option Nat) : Prop := seat = none ∨ seat = some g.cur

theorem step_byCur {g : Game} {seat : Option Nat} (h : ByCur g seat) (a : Act) (x : Int) :
    g.step (.act seat a x) = g.act g.cur a x := by
  rcases h with rfl | rfl <;> rfl

end Pokerface

