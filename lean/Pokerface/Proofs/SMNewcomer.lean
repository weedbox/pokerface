/-
  The newcomer on an inactive seat between dealer and big blind: he is dealt in from the first hand after the button
  has passed his seat (and he has sat in).  `Pending.step` (with `PendingNext`) says what one `next` does; everything else
  is bookkeeping along histories.

  Three situations are excluded throughout, under the names they have in `known_findings.json`.  D10: fewer than two
  playable seats are left, and `Next()` lets every waiting player in at once (excluded by `2 ≤ playableCount`).  D4: players
  sitting back in between the dealer and the newcomer put the big blind in front of him, and `renewSeatStatus` activates
  him early (excluded by `FewBetween`).  D9: a seat vacated after the last `next` stays active (excluded by asking for an
  inactive seat).

  The notions (`x` his seat; `r` his reservation flag: `true` = he has only joined, `false` = he has sat in):
  * `PendF T x d a r`, before the button has passed: the invariant, dealer `d`, `x` at offset `a` from him, the seat
    occupied and INACTIVE.  `F` for frame: nothing is said about the other seats, so other players' operations keep it
    (`PendF.asideRun`, ArrivalFrame).
  * `Arrived T x r`, after the button has passed: the invariant, the seat occupied and ACTIVE.
  * `ExclN U x`, the two exclusions D10 / D4 (below) as a predicate of a state `U` in which `next` is called (`N` for
    `next`): at least two playable seats and, while seat `x` is still inactive, `FewBetween`.
  * `Pending T x d a r` = `PendF` and the two exclusions, read for dealer `d` and offset `a`
    (`Pending.pendF`, `Pending.exclN`; back by `PendF.pending`).  `Waiting T x d a` is `Pending T x d a false` under the name
    the properties use (`Pending.of_waiting`, `Pending.waiting`).
  * `PhF T x r p`, his phase: `PendF` (for some `d`, `a`) as long as `¬ p`, `Arrived` once `p`, where `p` says that the
    button has passed his seat so far.  `Ph` = `PhF` and `ExclN`, as `Pending` = `PendF` and `ExclN`: for histories of the
    newcomer alone, in which the exclusions hold by themselves (`Ph.next`, `Ph.sit` re-establish them).
  * "The button passes `x`": `PassedStep U x` in the `next` called in `U`; `Passed T x n` is `PassedStep` in the `n`-th state
    of `nexts T`, `PassedN J x k n` the same along `nhand` / `npre` (`passed_iff`, `passedN_iff`).
  * Two more live downstream.  `Excl U x` (ArrivalFrame) is `ExclN` without the guard "while seat `x` is still inactive"
    (so `Excl` implies `ExclN`, `Excl.exclN`); `Calm` asks for it.  `Track x U sat passed ops` (ArrivalGeneral) is the
    timing statement along any history: seat `x` is playable iff he has sat in (`sat`, which is `!r`) and the button has
    passed (`passed`, the `p` of `PhF`); `track_of_phase` proves it from `PhF`.
-/
import Pokerface.Proofs.SMLayout

namespace Pokerface
namespace SM

/-- `x` lies strictly between `d` and `e` going clockwise round a table of `m` seats. -/
def StrictlyBetween (m d x e : Nat) : Prop :=
  ∃ a b, 0 < a ∧ a < b ∧ b < m ∧ x = (d + a) % m ∧ e = (d + b) % m

theorem strictlyBetween_iff {m d a k : Nat} (ha : a < m) (hk : k < m) (ha0 : 0 < a) :
    StrictlyBetween m d ((d + a) % m) ((d + k) % m) ↔ a < k := by
  constructor
  · rintro ⟨a', b', h1, h2, h3, h4, h5⟩
    have e1 := offset_inj ha (by omega) h4
    have e2 := offset_inj hk h3 h5
    omega
  · intro h
    exact ⟨a, k, ha0, h, hk, rfl, rfl⟩

/-- In the `next` called in state `U` the button passes seat `x`. -/
def PassedStep (U : SM) (x : Nat) : Prop :=
  ∃ d e, U.dealer = some d ∧ (U.step .next).1.dealer = some e ∧ StrictlyBetween U.max d x e

/-- D4 exclusion as a state predicate: at most one playable seat strictly between the dealer `d` and the seat `a`
places clockwise after him. -/
def FewBetween (T : SM) (d a : Nat) : Prop :=
  ∀ j1 j2, 0 < j1 → j1 < a → 0 < j2 → j2 < a →
    T.playable ((d + j1) % T.max) = true → T.playable ((d + j2) % T.max) = true → j1 = j2

theorem FewBetween.of_only {T : SM} {d a : Nat} (j0 : Nat)
    (h : ∀ j, 0 < j → j < a → T.playable ((d + j) % T.max) = true → j = j0) : FewBetween T d a := by
  intro j1 j2 a1 a2 a3 a4 p1 p2
  rw [h j1 a1 a2 p1, h j2 a3 a4 p2]

theorem FewBetween.mono {S T : SM} {d a : Nat} (h : FewBetween S d a) (hm : T.max = S.max)
    (hsub : ∀ j, 0 < j → j < a → T.playable ((d + j) % S.max) = true → S.playable ((d + j) % S.max) = true) :
    FewBetween T d a := by
  intro j1 j2 a1 a2 a3 a4 p1 p2
  rw [hm] at p1 p2
  exact h j1 j2 a1 a2 a3 a4 (hsub j1 a1 a2 p1) (hsub j2 a3 a4 p2)

/-- The newcomer before the button has passed, without the two exclusions: other players may break them between two
`next`s. -/
structure PendF (T : SM) (x d a : Nat) (r : Bool) : Prop where
  inv : Inv T
  dealer : T.dealer = some d
  a_pos : 0 < a
  a_lt : a < T.max
  x_eq : x = (d + a) % T.max
  seat : ∃ sx, T.seats[x]? = some sx ∧ sx.player.isSome = true ∧ sx.reserved = r ∧ sx.active = false

/-- The button has passed the seat: occupied and *active*, reservation flag `r`. -/
structure Arrived (T : SM) (x : Nat) (r : Bool) : Prop where
  inv : Inv T
  seat : ∃ sx, T.seats[x]? = some sx ∧ sx.player.isSome = true ∧ sx.reserved = r ∧ sx.active = true

theorem PendF.not_playable {T : SM} {x d a : Nat} {r : Bool} (w : PendF T x d a r) : T.playable x = false := by
  obtain ⟨sx, hs, _, _, ha⟩ := w.seat
  simp [playable_of_seat hs, ha]

theorem PendF.x_lt {T : SM} {x d a : Nat} {r : Bool} (w : PendF T x d a r) : x < T.max := by
  obtain ⟨sx, hs, _⟩ := w.seat
  exact w.inv.wf.lt_max hs

theorem Arrived.x_lt {T : SM} {x : Nat} {r : Bool} (w : Arrived T x r) : x < T.max := by
  obtain ⟨sx, hs, _⟩ := w.seat
  exact w.inv.wf.lt_max hs

/-- `PendF` with the two exclusions: a player sits at `x`, `a` seats clockwise after the dealer `d`, on an *inactive*
seat whose reservation flag is `r`; at least two seats are playable, at most one of them strictly between the dealer and
him. -/
structure Pending (T : SM) (x d a : Nat) (r : Bool) : Prop where
  inv : Inv T
  dealer : T.dealer = some d
  count : 2 ≤ T.playableCount
  a_pos : 0 < a
  a_lt : a < T.max
  x_eq : x = (d + a) % T.max
  seat : ∃ sx, T.seats[x]? = some sx ∧ sx.player.isSome = true ∧ sx.reserved = r ∧ sx.active = false
  atmost : ∀ j1 j2, 0 < j1 → j1 < a → 0 < j2 → j2 < a →
    T.playable ((d + j1) % T.max) = true → T.playable ((d + j2) % T.max) = true → j1 = j2

/-- The newcomer who has sat in and waits for the button: the fields of `Pending` with the reservation flag off. -/
structure Waiting (T : SM) (x d a : Nat) : Prop where
  inv : Inv T
  dealer : T.dealer = some d
  count : 2 ≤ T.playableCount
  a_pos : 0 < a
  a_lt : a < T.max
  x_eq : x = (d + a) % T.max
  seat : ∃ sx, T.seats[x]? = some sx ∧ sx.player.isSome = true ∧ sx.reserved = false ∧ sx.active = false
  atmost : ∀ j1 j2, 0 < j1 → j1 < a → 0 < j2 → j2 < a →
    T.playable ((d + j1) % T.max) = true → T.playable ((d + j2) % T.max) = true → j1 = j2

theorem Pending.of_waiting {T : SM} {x d a : Nat} (w : Waiting T x d a) : Pending T x d a false :=
  ⟨w.inv, w.dealer, w.count, w.a_pos, w.a_lt, w.x_eq, w.seat, w.atmost⟩

theorem Pending.waiting {T : SM} {x d a : Nat} (w : Pending T x d a false) : Waiting T x d a :=
  ⟨w.inv, w.dealer, w.count, w.a_pos, w.a_lt, w.x_eq, w.seat, w.atmost⟩

/-- The exclusions D10 / D4 for the state in which `next` is called: at least two playable seats; and, as long as seat
`x` is still inactive, at most one playable seat strictly between the dealer and `x`. -/
def ExclN (U : SM) (x : Nat) : Prop :=
  2 ≤ U.playableCount ∧
  ∀ d a sx, U.dealer = some d → 0 < a → a < U.max → x = (d + a) % U.max → U.seats[x]? = some sx → sx.active = false →
    FewBetween U d a

theorem Pending.pendF {T : SM} {x d a : Nat} {r : Bool} (w : Pending T x d a r) : PendF T x d a r :=
  ⟨w.inv, w.dealer, w.a_pos, w.a_lt, w.x_eq, w.seat⟩

theorem PendF.pending_of {T : SM} {x d a : Nat} {r : Bool} (w : PendF T x d a r) (hc : 2 ≤ T.playableCount)
    (hf : FewBetween T d a) : Pending T x d a r :=
  ⟨w.inv, w.dealer, hc, w.a_pos, w.a_lt, w.x_eq, w.seat, hf⟩

theorem PendF.pending {T : SM} {x d a : Nat} {r : Bool} (w : PendF T x d a r) (he : ExclN T x) : Pending T x d a r := by
  obtain ⟨sx, hs, _, _, ha⟩ := w.seat
  exact w.pending_of he.1 (he.2 d a sx w.dealer w.a_pos w.a_lt w.x_eq hs ha)

/-- the dealer and the distance of `x` from him are determined by the state, so `Pending` carries both exclusions -/
theorem Pending.exclN {T : SM} {x d a : Nat} {r : Bool} (w : Pending T x d a r) : ExclN T x := by
  refine ⟨w.count, fun d' a' sx hd' _ ha' hx' _ _ => ?_⟩
  have hdd : d' = d := Option.some.inj (hd'.symm.trans w.dealer)
  subst hdd
  have haa : a' = a := offset_inj ha' w.a_lt (hx'.symm.trans w.x_eq)
  subst haa
  exact w.atmost

/-- once the seat is active only the count is asked for -/
theorem Arrived.exclN {T : SM} {x : Nat} {r : Bool} (w : Arrived T x r) (hc : 2 ≤ T.playableCount) : ExclN T x := by
  refine ⟨hc, fun d a sx _ _ _ _ hs ha => ?_⟩
  obtain ⟨sx', hs', _, _, hact⟩ := w.seat
  rw [hs] at hs'
  cases hs'
  rw [ha] at hact
  cases hact

theorem Arrived.playable_iff {T : SM} {x : Nat} {r : Bool} (w : Arrived T x r) : T.playable x = true ↔ r = false := by
  obtain ⟨sx, hs, ho, hr, ha⟩ := w.seat
  cases r <;> simp [playable_of_seat hs, ho, hr, ha]

/-- Phase of the newcomer on seat `x` with reservation flag `r`: pending as long as the button has not passed his seat
(`¬ p`), arrived once it has.  Nothing is said about the two exclusions. -/
def PhF (T : SM) (x : Nat) (r : Bool) (p : Prop) : Prop :=
  (¬ p ∧ ∃ d a, PendF T x d a r) ∨ (p ∧ Arrived T x r)

theorem PhF.congr {T : SM} {x : Nat} {r : Bool} {p q : Prop} (h : PhF T x r p) (hpq : p ↔ q) : PhF T x r q := by
  rcases h with ⟨h1, h2⟩ | ⟨h1, h2⟩
  · exact Or.inl ⟨fun hq => h1 (hpq.mpr hq), h2⟩
  · exact Or.inr ⟨hpq.mp h1, h2⟩

theorem PhF.x_lt {T : SM} {x : Nat} {r : Bool} {p : Prop} (h : PhF T x r p) : x < T.max := by
  rcases h with ⟨_, _, _, w⟩ | ⟨_, w⟩
  · exact w.x_lt
  · exact w.x_lt

theorem PhF.playable_iff {T : SM} {x : Nat} {r : Bool} {p : Prop} (h : PhF T x r p) :
    T.playable x = true ↔ (r = false ∧ p) := by
  rcases h with ⟨h1, _, _, w⟩ | ⟨h1, w⟩
  · rw [w.not_playable]
    exact ⟨nofun, fun hq => absurd hq.2 h1⟩
  · rw [w.playable_iff]
    exact ⟨fun hr => ⟨hr, h1⟩, fun hc => hc.1⟩

theorem sit_seat {T : SM} {x : Nat} (hx : x < T.max) :
    (T.step (.seat (x : Int))).2.1 = none ∧
    (T.step (.seat (x : Int))).1.seats[x]? = (T.seats[x]?).map fun s => { s with reserved := false } := by
  rw [step_seat_nat T hx]
  exact ⟨rfl, (modSeat_seats T x _ x).trans (if_pos rfl)⟩

theorem PendF.sit {T : SM} {x d a : Nat} {r : Bool} (w : PendF T x d a r) :
    PendF (T.step (.seat (x : Int))).1 x d a false := by
  obtain ⟨sx, hs, ho, _, ha⟩ := w.seat
  obtain ⟨g1, g2⟩ := step_dealer_max T (op := .seat (x : Int)) (by simp)
  refine ⟨step_inv w.inv _, g1.trans w.dealer, w.a_pos, g2 ▸ w.a_lt, g2 ▸ w.x_eq, { sx with reserved := false }, ?_, ho, rfl, ha⟩
  rw [(sit_seat w.x_lt).2, hs]
  rfl

theorem Arrived.sit {T : SM} {x : Nat} {r : Bool} (w : Arrived T x r) : Arrived (T.step (.seat (x : Int))).1 x false := by
  obtain ⟨sx, hs, ho, _, ha⟩ := w.seat
  refine ⟨step_inv w.inv _, { sx with reserved := false }, ?_, ho, rfl, ha⟩
  rw [(sit_seat w.x_lt).2, hs]
  rfl

theorem PhF.sit {T : SM} {x : Nat} {r : Bool} {p : Prop} (h : PhF T x r p) :
    (T.step (.seat (x : Int))).2.1 = none ∧ PhF (T.step (.seat (x : Int))).1 x false p := by
  refine ⟨(sit_seat h.x_lt).1, ?_⟩
  rcases h with ⟨h1, d, a, w⟩ | ⟨h1, w⟩
  · exact Or.inl ⟨h1, d, a, w.sit⟩
  · exact Or.inr ⟨h1, w.sit⟩

theorem deact_occupied {s : Seat} (h : s.player.isSome = true) : deact s = s := by
  unfold deact
  cases hp : s.player with
  | none => simp [hp] at h
  | some p => simp

theorem actv_of_active {s : Seat} (h : s.active = true) : actv s = s := by
  cases s
  simp_all [actv]

theorem renewF_fix (kb j : Nat) {s : Seat} (hocc : s.player.isSome = true) (hact : s.active = true) :
    renewF kb j s = s := by
  unfold renewF
  split
  · exact deact_occupied hocc
  · split
    · rfl
    · exact actv_of_active hact

theorem NextOk.seat_fix {sm sm' : SM} {d ks kb : Nat} (hn : NextOk sm sm' d ks kb) (hinv : Inv sm) {i : Nat} {s : Seat}
    (hs : sm.nextDealer.1.seats[i]? = some s) (hocc : s.player.isSome = true) (hact : s.active = true) :
    sm'.seats[i]? = some s := by
  have hi : i < sm.max := (nextDealer_actUp sm).max ▸ (nextDealer_inv hinv).wf.lt_max hs
  obtain ⟨j, hj, rfl⟩ := exists_offset d hi
  rw [hn.seats j hj, hs]
  simp [renewF_fix kb j hocc hact]

theorem next_seat_fix {T : SM} (hinv : Inv T) (hok : (T.step .next).2.1 = none) {i : Nat} {s : Seat}
    (hs : T.seats[i]? = some s) (hocc : s.player.isSome = true) (hact : s.active = true) :
    (T.step .next).1.seats[i]? = some s := by
  obtain ⟨d, ks, kb, hn⟩ := next_ok hinv hok
  apply hn.seat_fix hinv _ hocc hact
  rcases (nextDealer_actUp T).seat i with h' | h'
  · rw [h', hs]
  · rw [h', hs]
    simp [actv_of_active hact]

theorem NextOk.keeps_pending {sm sm' : SM} {d ks kb b : Nat} (hn : NextOk sm sm' d ks kb) (hb : b < sm.max) {sx : Seat}
    (hsx : sm.nextDealer.1.seats[(d + b) % sm.max]? = some sx) (hocc : sx.player.isSome = true)
    (hact : sx.active = false)
    (hnone : ∀ j, 0 < j → j < b → sm.nextDealer.1.playable ((d + j) % sm.max) = false) :
    sm'.seats[(d + b) % sm.max]? = some sx ∧ ∀ j, 0 < j → j < b → sm'.playable ((d + j) % sm.max) = false := by
  have hks := hn.ks_lt
  -- the big blind is playable; this seat is not, nor is any seat in front of it: the big blind lies behind it
  have hlt : b < kb := by
    apply Decidable.byContradiction
    intro hcon
    have hbp := hn.bb_playable
    by_cases hkb : kb = b
    · rw [hkb] at hbp
      simp [playable_of_seat hsx, hact] at hbp
    · rw [hnone kb (by omega) (by omega)] at hbp
      cases hbp
  constructor
  · rw [hn.seats b hb, hsx]
    unfold renewF
    rw [if_pos hlt]
    simp [deact_occupied hocc]
  · intro j h1 h2
    rw [hn.playable_post (by omega), if_pos (by omega)]
    exact hnone j h1 h2

theorem Arrived.step {T : SM} {x : Nat} {r : Bool} (w : Arrived T x r) (hc : 2 ≤ T.playableCount) :
    (T.step .next).2.1 = none ∧ Arrived (T.step .next).1 x r ∧ 2 ≤ (T.step .next).1.playableCount := by
  have hok := next_succeeds_of_count w.inv hc
  obtain ⟨d, ks, kb, hn⟩ := next_ok w.inv hok
  obtain ⟨sx, hs, ho, hr, ha⟩ := w.seat
  exact ⟨hok, ⟨step_inv w.inv .next, sx, next_seat_fix w.inv hok hs ho ha, ho, hr, ha⟩,
    hn.count_ge w.inv⟩

/-- One `next` from a pending situation (any reservation flag): it succeeds, the button moves `k` seats; if it passes
`x` (`a < k`) the seat is activated (`Arrived`), otherwise the player is still pending and nobody playable sits between
the new dealer and him. -/
structure PendingNext (T : SM) (x d a : Nat) (r : Bool) (k : Nat) : Prop where
  ok : (T.step .next).2.1 = none
  max_eq : (T.step .next).1.max = T.max
  k_pos : 1 ≤ k
  k_lt : k < T.max
  k_ne : k ≠ a
  dealer : (T.step .next).1.dealer = some ((d + k) % T.max)
  playable : T.playable ((d + k) % T.max) = true
  passed_iff : PassedStep T x ↔ a < k
  arrived : a < k → Arrived (T.step .next).1 x r ∧ 2 ≤ (T.step .next).1.playableCount
  pending : k < a → Pending (T.step .next).1 x ((d + k) % T.max) (a - k) r ∧
    ∀ j, 0 < j → j < a - k → (T.step .next).1.playable (((d + k) % T.max + j) % T.max) = false

theorem PendingNext.lt_of_not_lt {T : SM} {x d a k : Nat} {r : Bool} (s : PendingNext T x d a r k) (h : ¬a < k) :
    k < a := by
  have := s.k_ne
  omega

theorem Pending.step {T : SM} {x d a : Nat} {r : Bool} (w : Pending T x d a r) : ∃ k, PendingNext T x d a r k := by
  have hinv := w.inv
  have ha := w.a_lt
  obtain ⟨hok, k, ks, kb, hk, hn⟩ := next_of_count hinv w.count (scanBase_of_dealer w.dealer)
  have hk1 := hk.k_ge
  have hk2 := hk.k_lt
  have hpk := hk.playable
  have hxnp := w.pendF.not_playable
  have hka : k ≠ a := by
    intro h
    subst h
    rw [← w.x_eq, hxnp] at hpk
    cases hpk
  have hiff : PassedStep T x ↔ a < k := by
    have key := strictlyBetween_iff (d := d) w.a_lt hk2 w.a_pos
    rw [← w.x_eq] at key
    constructor
    · rintro ⟨d0, e0, g1, g2, g3⟩
      rw [w.dealer] at g1
      cases g1
      rw [hn.dealer] at g2
      cases g2
      exact key.mp g3
    · intro hlt
      exact ⟨d, _, w.dealer, hn.dealer, key.mpr hlt⟩
  obtain ⟨sx, hsx, hocc, hres, hact⟩ := w.seat
  refine ⟨k, hok, hn.max_eq, hk1, hk2, hka, hn.dealer, hpk, hiff, ?_, ?_⟩
  · intro hak
    have hx' := hk.seats a w.a_lt
    rw [← w.x_eq, if_pos ⟨w.a_pos, hak⟩, hsx] at hx'
    have hfix : (T.step .next).1.seats[x]? = some (actv sx) :=
      hn.seat_fix hinv (s := actv sx) (by simpa using hx') hocc rfl
    exact ⟨⟨step_inv hinv .next, actv sx, hfix, hocc, hres, rfl⟩, hn.count_ge hinv⟩
  · intro hka'
    -- seats at offsets ≥ k from d are untouched by nextDealer
    have hmid_same : ∀ j, k ≤ j → j < T.max →
        T.nextDealer.1.seats[(d + j) % T.max]? = T.seats[(d + j) % T.max]? := by
      intro j hj1 hj2
      rw [hk.seats j hj2, if_neg (by omega)]
    have hxoff : x = ((d + k) % T.max + (a - k)) % T.max := by
      rw [offset_offset, w.x_eq, Nat.add_sub_cancel' (Nat.le_of_lt hka')]
    have hmidx : T.nextDealer.1.seats[((d + k) % T.max + (a - k)) % T.max]? = some sx := by
      rw [← hxoff, w.x_eq, hmid_same a (Nat.le_of_lt hka') ha, ← w.x_eq]
      exact hsx
    -- the new dealer is the one playable seat the old state had in front of `x`
    have hnone_mid : ∀ j, 0 < j → j < a - k →
        T.nextDealer.1.playable (((d + k) % T.max + j) % T.max) = false := by
      intro j h1 h2
      rw [offset_offset, playable_congr (hmid_same (k + j) (by omega) (by omega))]
      cases hp1 : T.playable ((d + (k + j)) % T.max) with
      | false => rfl
      | true =>
        have := w.atmost k (k + j) (by omega) (by omega) (by omega) (by omega) hpk hp1
        omega
    obtain ⟨hseatx, hnone⟩ := hn.keeps_pending (by omega) hmidx hocc hact hnone_mid
    rw [← hxoff] at hseatx
    have ha' : a - k < (T.step .next).1.max := by
      rw [hn.max_eq]
      omega
    have hx' : x = ((d + k) % T.max + (a - k)) % (T.step .next).1.max := by
      rw [hn.max_eq]
      exact hxoff
    refine ⟨⟨step_inv hinv .next, hn.dealer, hn.count_ge hinv, by omega, ha', hx',
      ⟨sx, hseatx, hocc, hres, hact⟩, ?_⟩, hnone⟩
    intro j1 j2 h1 h2 h3 h4 hp1 hp2
    rw [hn.max_eq, hnone j1 h1 h2] at hp1
    cases hp1

theorem Pending.passes_of_none {U : SM} {x d a : Nat} {r : Bool} (w : Pending U x d a r)
    (hnone : ∀ j, 0 < j → j < a → U.playable ((d + j) % U.max) = false) : PassedStep U x := by
  obtain ⟨k, s⟩ := w.step
  apply s.passed_iff.mpr
  apply Decidable.byContradiction
  intro hcon
  have hpk := s.playable
  rw [hnone k s.k_pos (s.lt_of_not_lt hcon)] at hpk
  cases hpk

/-- The button passes in this `next`, or in the one called next — in a state `U` that is the new state or differs from
it by his own sit-in: if it has not passed, nobody playable is left in front of him. -/
theorem Pending.passed_soon {T U : SM} {x d a : Nat} {r : Bool} (w : Pending T x d a r)
    (hU : ∀ {d' a' : Nat}, Pending (T.step .next).1 x d' a' r → ∃ r', Pending U x d' a' r' ∧
      U.max = (T.step .next).1.max ∧ ∀ j, U.playable j = (T.step .next).1.playable j) :
    PassedStep T x ∨ PassedStep U x := by
  obtain ⟨k, s⟩ := w.step
  by_cases h : a < k
  · exact Or.inl (s.passed_iff.mpr h)
  · obtain ⟨w1, hnone⟩ := s.pending (s.lt_of_not_lt h)
    obtain ⟨r', w1', hm, hp⟩ := hU w1
    refine Or.inr (w1'.passes_of_none fun j h1 h2 => ?_)
    rw [hp, hm, s.max_eq]
    exact hnone j h1 h2

theorem playable_modSeat_unreserve_of_inactive {T : SM} {x : Nat} {sx : Seat} (hs : T.seats[x]? = some sx)
    (hact : sx.active = false) (j : Nat) :
    (T.modSeat x fun s => { s with reserved := false }).playable j = T.playable j := by
  unfold playable
  rw [modSeat_seats]
  by_cases hxj : x = j
  · subst hxj
    rw [if_pos rfl, hs]
    simp [hact]
  · rw [if_neg hxj]

theorem playable_modSeat_unreserve_mono (T : SM) (x j : Nat) (hp : T.playable j = true) :
    (T.modSeat x fun s => { s with reserved := false }).playable j = true := by
  obtain ⟨s, hs, ha, hr, ho⟩ := playable_iff.mp hp
  by_cases hxj : x = j
  · refine playable_iff.mpr ⟨{ s with reserved := false }, ?_, ha, rfl, ho⟩
    rw [modSeat_seats, if_pos hxj, hs]
    rfl
  · refine playable_iff.mpr ⟨s, ?_, ha, hr, ho⟩
    rw [modSeat_seats, if_neg hxj, hs]

theorem Pending.sit {T : SM} {x d a : Nat} {r : Bool} (w : Pending T x d a r) :
    Pending (T.step (.seat (x : Int))).1 x d a false ∧ (T.step (.seat (x : Int))).1.max = T.max ∧
    ∀ j, (T.step (.seat (x : Int))).1.playable j = T.playable j := by
  obtain ⟨sx, hsx, _, _, hact⟩ := w.seat
  have hmax := (step_dealer_max T (op := .seat (x : Int)) (by simp)).2
  have hplay : ∀ j, (T.step (.seat (x : Int))).1.playable j = T.playable j := by
    rw [step_seat_nat T w.pendF.x_lt]
    exact playable_modSeat_unreserve_of_inactive hsx hact
  refine ⟨w.pendF.sit.pending_of ?_ ?_, hmax, hplay⟩
  · rw [playableCount_congr hmax fun j _ => hplay j]
    exact w.count
  · exact FewBetween.mono w.atmost hmax fun j _ _ hp => by rwa [hplay] at hp

theorem PendF.of_join {A : SM} (hA : Inv A) {d a x : Nat} {s : Seat}
    (hd : A.dealer = some d) (ha0 : 0 < a) (ha : a < A.max) (hx : x = (d + a) % A.max)
    (hs : A.seats[x]? = some s) (hina : s.active = false)
    {seat : Int} {pid : Nat} {c : Option Nat} (hj : (A.step (.join seat pid c)).2 = (none, some x)) :
    PendF (A.step (.join seat pid c)).1 x d a true ∧
    (A.step (.join seat pid c)).1.seats[x]? = some { player := some pid, active := false, reserved := true } ∧
    s.player = none := by
  obtain ⟨s', hs', hemp, _, hJ⟩ := join_landed hj
  rw [hs] at hs'
  cases hs'
  obtain ⟨j1, j2⟩ := step_dealer_max A (op := .join seat pid c) (by simp)
  have hJx : (A.step (.join seat pid c)).1.seats[x]? = some { player := some pid, active := false, reserved := true } := by
    rw [hJ, setSeat_seats, if_pos rfl, if_pos (List.getElem?_eq_some_iff.mp hs).1, hina]
  exact ⟨⟨step_inv hA _, j1.trans hd, ha0, j2 ▸ ha, j2 ▸ hx, _, hJx, rfl, rfl, rfl⟩, hJx, hemp⟩

/-- Nobody's playability changes in a `Join`, so both exclusions carry over. -/
theorem Pending.of_join {A : SM} (hA : Inv A) {d a x : Nat} {s : Seat}
    (hd : A.dealer = some d) (ha0 : 0 < a) (ha : a < A.max) (hx : x = (d + a) % A.max)
    (hs : A.seats[x]? = some s) (hina : s.active = false) (hc : 2 ≤ A.playableCount) (hfew : FewBetween A d a)
    {seat : Int} {pid : Nat} {c : Option Nat} (hj : (A.step (.join seat pid c)).2 = (none, some x)) :
    Pending (A.step (.join seat pid c)).1 x d a true ∧
    (A.step (.join seat pid c)).1.seats[x]? = some { player := some pid, active := false, reserved := true } := by
  obtain ⟨w, hJx, _⟩ := PendF.of_join hA hd ha0 ha hx hs hina hj
  have hmax := (step_dealer_max A (op := .join seat pid c) (by simp)).2
  have hplay := playable_step_join A seat pid c
  refine ⟨w.pending_of ?_ ?_, hJx⟩
  · rw [playableCount_congr hmax fun j _ => hplay j]
    exact hc
  · exact hfew.mono hmax fun j _ _ hp => by rwa [hplay] at hp

theorem fewBetween_after_next {sm : SM} {d ks kb : Nat} (hn : NextOk sm (sm.step .next).1 d ks kb) {jx : Nat}
    (h2 : jx < kb) : FewBetween (sm.step .next).1 d jx := by
  apply FewBetween.of_only ks
  intro j hj1 hj2 hp
  apply Decidable.byContradiction
  intro hne
  rw [hn.max_eq, hn.front hj1 (by omega) hne] at hp
  cases hp

theorem inactive_after_next {sm : SM} {d ks kb : Nat} (hn : NextOk sm (sm.step .next).1 d ks kb) {jx : Nat}
    (h2 : jx < kb) {s : Seat} (hs : (sm.step .next).1.seats[(d + jx) % sm.max]? = some s) (hemp : s.player = none) :
    s.active = false := by
  have hkb := hn.kb_lt
  have := hn.seats jx (by omega)
  rw [hs] at this
  cases hq : sm.nextDealer.1.seats[(d + jx) % sm.max]? with
  | none =>
    rw [hq] at this
    cases this
  | some q =>
    rw [hq] at this
    simp only [Option.map_some, Option.some.injEq, renewF, if_pos h2] at this
    unfold deact at this
    split at this
    · rw [this]
    · next hne =>
        rw [← this] at hne
        simp [hemp] at hne

theorem NextOk.offset_of_between {sm sm' : SM} {d ks kb : Nat} (hn : NextOk sm sm' d ks kb) {d0 b x : Nat}
    (hd : sm'.dealer = some d0) (hb : sm'.bb = some b) (hx : StrictlyBetween sm'.max d0 x b) :
    d0 = d ∧ ∃ a, 0 < a ∧ a < kb ∧ x = (d + a) % sm.max := by
  have hdd : d0 = d := by
    have := hn.dealer
    rw [hd] at this
    cases this
    rfl
  subst hdd
  have hbb : b = (d0 + kb) % sm.max := by
    have := hn.bb
    rw [hb] at this
    cases this
    rfl
  obtain ⟨a, b', ha0, hab, hb'm, hxa, hbe⟩ := hx
  rw [hn.max_eq] at hb'm hxa hbe
  have hkb : b' = kb := offset_inj hb'm hn.kb_lt (hbe.symm.trans hbb)
  subst hkb
  exact ⟨rfl, a, ha0, hab, hxa⟩

/-- The start of `C08.newcomer_timing` and `C08.newcomer_timing_interleaved`: right after a successful `next`, a `Join` on a seat that was empty when
`next` ran and lies in front of the big blind is accepted and leaves the newcomer `Pending` (the seat was deactivated, at
least two seats are playable, only the small blind can sit between the dealer and him). -/
theorem pending_init {sm : SM} (h : Inv sm) {d ks kb : Nat} (hn : NextOk sm (sm.step .next).1 d ks kb)
    {jx x : Nat} (h1 : 0 < jx) (h2 : jx < kb) (hx : x = (d + jx) % sm.max) {s : Seat}
    (hs : (sm.step .next).1.seats[x]? = some s) (hemp : s.player = none) (pid : Nat) (c : Option Nat) :
    Pending ((sm.step .next).1.step (.join (x : Int) pid c)).1 x d jx true ∧
    ((sm.step .next).1.step (.join (x : Int) pid c)).2 = (none, some x) ∧
    ((sm.step .next).1.step (.join (x : Int) pid c)).1.seats[x]? =
      some { player := some pid, active := false, reserved := true } := by
  subst hx
  have hkb := hn.kb_lt
  have hlt : jx < (sm.step .next).1.max := by
    rw [hn.max_eq]
    omega
  have hj := join_explicit_accepted hs hemp (by rw [hn.max_eq]; exact Nat.mod_lt _ (by omega)) pid c
  obtain ⟨w, hseat⟩ := Pending.of_join (step_inv h .next) hn.dealer h1 hlt (by rw [hn.max_eq]) hs
    (inactive_after_next hn h2 hs hemp) (hn.count_ge h) (fewBetween_after_next hn h2) hj
  exact ⟨w, hj, hseat⟩

/-- The newcomer's phase in a history in which both exclusions hold by themselves (nobody but him moves). -/
def Ph (T : SM) (x : Nat) (r : Bool) (p : Prop) : Prop := PhF T x r p ∧ ExclN T x

theorem Ph.congr {T : SM} {x : Nat} {r : Bool} {p q : Prop} (h : Ph T x r p) (hpq : p ↔ q) : Ph T x r q :=
  ⟨h.1.congr hpq, h.2⟩

theorem Ph.playable_iff {T : SM} {x : Nat} {r : Bool} {p : Prop} (h : Ph T x r p) :
    T.playable x = true ↔ (r = false ∧ p) :=
  h.1.playable_iff

theorem Pending.ph {T : SM} {x d a : Nat} {r : Bool} {p : Prop} (w : Pending T x d a r) (hnp : ¬ p) : Ph T x r p :=
  ⟨Or.inl ⟨hnp, d, a, w.pendF⟩, w.exclN⟩

/-- One `next` in a history of the newcomer alone: it succeeds, and both exclusions hold again — by `Pending.step`
while the seat is inactive, for the count alone once it is active. -/
theorem Ph.next {T : SM} {x : Nat} {r : Bool} {p : Prop} (h : Ph T x r p) :
    (T.step .next).2.1 = none ∧ Ph (T.step .next).1 x r (p ∨ PassedStep T x) := by
  obtain ⟨h, he⟩ := h
  rcases h with ⟨h1, d, a, w⟩ | ⟨h1, w⟩
  · obtain ⟨k, s⟩ := (w.pending he).step
    refine ⟨s.ok, ?_⟩
    by_cases hak : a < k
    · obtain ⟨w', hc'⟩ := s.arrived hak
      exact ⟨Or.inr ⟨Or.inr (s.passed_iff.mpr hak), w'⟩, w'.exclN hc'⟩
    · obtain ⟨w', _⟩ := s.pending (s.lt_of_not_lt hak)
      refine ⟨Or.inl ⟨?_, _, _, w'.pendF⟩, w'.exclN⟩
      rintro (hp | hp)
      · exact h1 hp
      · exact hak (s.passed_iff.mp hp)
  · obtain ⟨hok, w', hc'⟩ := w.step he.1
    exact ⟨hok, Or.inr ⟨Or.inl h1, w'⟩, w'.exclN hc'⟩

/-- `Ph.next` when "passed so far" counts the `next`s of a history: `P n` says that the button passes in this one. -/
theorem Ph.next_count {T : SM} {x n : Nat} {r : Bool} {P : Nat → Prop} (h : Ph T x r (∃ m, m < n ∧ P m))
    (hP : P n ↔ PassedStep T x) : Ph (T.step .next).1 x r (∃ m, m < n + 1 ∧ P m) := by
  refine h.next.2.congr ?_
  rw [← hP]
  exact Nat.exists_lt_succ_right.symm

theorem PhF.next {T : SM} {x : Nat} {r : Bool} {p : Prop} (h : PhF T x r p) (he : ExclN T x) :
    (T.step .next).2.1 = none ∧ PhF (T.step .next).1 x r (p ∨ PassedStep T x) :=
  ⟨(Ph.next ⟨h, he⟩).1, (Ph.next ⟨h, he⟩).2.1⟩

/-- Sitting in keeps both exclusions: on an inactive seat it changes nobody's playability, on an active one it can only
add a playable seat, and then only the count is asked for. -/
theorem Ph.sit {T : SM} {x : Nat} {r : Bool} {p : Prop} (h : Ph T x r p) :
    (T.step (.seat (x : Int))).2.1 = none ∧ Ph (T.step (.seat (x : Int))).1 x false p := by
  obtain ⟨h, he⟩ := h
  obtain ⟨hok, h'⟩ := h.sit
  have hx := h.x_lt
  refine ⟨hok, h', ?_⟩
  rcases h with ⟨_, d, a, w⟩ | ⟨_, w⟩
  · exact (w.pending he).sit.1.exclN
  · rcases h' with ⟨hnp, _⟩ | ⟨_, w'⟩
    · exact absurd ‹p› hnp
    · refine w'.exclN (Nat.le_trans he.1 ?_)
      rw [step_seat_nat T hx]
      exact playableCount_le_of rfl fun j _ hp => playable_modSeat_unreserve_mono T x j hp

def nexts (T : SM) (n : Nat) : SM := T.run (List.replicate n .next)

theorem nexts_zero (T : SM) : nexts T 0 = T := rfl

theorem nexts_succ (T : SM) (n : Nat) : nexts T (n + 1) = ((nexts T n).step .next).1 := by
  unfold nexts
  rw [List.replicate_succ', run, List.foldl_append]
  rfl

/-- The button passes seat `x` in the `(n+1)`-th `next` after `T`: `x` lies strictly between the dealer of hand `n`
and the dealer of hand `n+1`. -/
def Passed (T : SM) (x n : Nat) : Prop :=
  ∃ d e, (nexts T n).dealer = some d ∧ (nexts T (n + 1)).dealer = some e ∧ StrictlyBetween (nexts T n).max d x e

theorem passed_iff (T : SM) (x n : Nat) : Passed T x n ↔ PassedStep (nexts T n) x := by
  unfold Passed PassedStep
  rw [nexts_succ]

theorem waiting_phase {T : SM} {x d a : Nat} (w : Waiting T x d a) (n : Nat) :
    Ph (nexts T n) x false (∃ m, m < n ∧ Passed T x m) := by
  induction n with
  | zero => exact (Pending.of_waiting w).ph fun ⟨m, hm, _⟩ => absurd hm (Nat.not_lt_zero m)
  | succ n ih =>
    rw [nexts_succ]
    exact ih.next_count (passed_iff T x n)

theorem waiting_timing {T : SM} {x d a : Nat} (w : Waiting T x d a) (n : Nat)
    (hnp : ∀ m, m < n → ¬ Passed T x m) :
    (nexts T n).playable x = false ∧ ((nexts T n).step .next).2.1 = none ∧
    (Passed T x n → (nexts T (n + 1)).playable x = true) := by
  have hph := waiting_phase w n
  refine ⟨?_, hph.next.1, fun hp => ?_⟩
  · cases hq : (nexts T n).playable x with
    | false => rfl
    | true =>
      obtain ⟨_, m, hm, hpm⟩ := hph.playable_iff.mp hq
      exact absurd hpm (hnp m hm)
  · exact (waiting_phase w (n + 1)).playable_iff.mpr ⟨rfl, n, by omega, hp⟩

theorem waiting_passed_soon {T : SM} {x d a : Nat} (w : Waiting T x d a) : Passed T x 0 ∨ Passed T x 1 := by
  rw [passed_iff, passed_iff, nexts_succ, nexts_zero]
  exact (Pending.of_waiting w).passed_soon fun w1 => ⟨_, w1, rfl, fun _ => rfl⟩

/-- Start of hand `n` (state right after the `n`-th `next`; `n = 0`: right after the `Join`) when the newcomer sits in
after `k` hands: `J` is the state right after his `Join(x)`. -/
def nhand (J : SM) (x k n : Nat) : SM :=
  if n ≤ k then nexts J n else nexts ((nexts J k).step (.seat (x : Int))).1 (n - k)

/-- The state in which the `(n+1)`-th `next` is called: hand `n`, after the sit-in when `n = k`. -/
def npre (J : SM) (x k n : Nat) : SM :=
  if n = k then ((nhand J x k n).step (.seat (x : Int))).1 else nhand J x k n

theorem nhand_zero (J : SM) (x k : Nat) : nhand J x k 0 = J := by
  unfold nhand
  rw [if_pos (Nat.zero_le k)]
  rfl

theorem nhand_succ (J : SM) (x k n : Nat) : nhand J x k (n + 1) = ((npre J x k n).step .next).1 := by
  unfold npre nhand
  by_cases h1 : n + 1 ≤ k
  · rw [if_pos h1, if_neg (by omega), if_pos (by omega), nexts_succ]
  · rw [if_neg h1]
    by_cases h2 : n = k
    · subst h2
      rw [if_pos rfl, if_pos (Nat.le_refl n)]
      have : n + 1 - n = 0 + 1 := by omega
      rw [this, nexts_succ, nexts_zero]
    · rw [if_neg h2, if_neg (by omega)]
      have : n + 1 - k = (n - k) + 1 := by omega
      rw [this, nexts_succ]

/-- In the `(n+1)`-th `next` of the newcomer's history the button passes seat `x`. -/
def PassedN (J : SM) (x k n : Nat) : Prop :=
  ∃ d e, (nhand J x k n).dealer = some d ∧ (nhand J x k (n + 1)).dealer = some e ∧
    StrictlyBetween (nhand J x k n).max d x e

theorem passedN_iff (J : SM) (x k n : Nat) : PassedN J x k n ↔ PassedStep (npre J x k n) x := by
  have hdm : (npre J x k n).dealer = (nhand J x k n).dealer ∧ (npre J x k n).max = (nhand J x k n).max := by
    unfold npre
    split
    · exact step_dealer_max _ (by simp)
    · exact ⟨rfl, rfl⟩
  unfold PassedN PassedStep
  rw [nhand_succ, hdm.1, hdm.2]

theorem Ph.pre {J : SM} {x k n : Nat} {p : Prop} (h : Ph (nhand J x k n) x (decide (n ≤ k)) p) :
    Ph (npre J x k n) x (decide (n + 1 ≤ k)) p := by
  unfold npre
  by_cases hnk : n = k
  · rw [if_pos hnk]
    have : decide (n + 1 ≤ k) = false := by
      simp
      omega
    rw [this]
    exact h.sit.2
  · rw [if_neg hnk]
    have : decide (n + 1 ≤ k) = decide (n ≤ k) := by
      rw [decide_eq_decide]
      omega
    rw [this]
    exact h

theorem newcomer_phase {J : SM} {x d a : Nat} (w : Pending J x d a true) (k n : Nat) :
    Ph (nhand J x k n) x (decide (n ≤ k)) (∃ m, m < n ∧ PassedN J x k m) := by
  induction n with
  | zero =>
    rw [nhand_zero]
    have w' : Pending J x d a (decide (0 ≤ k)) := by simpa using w
    exact w'.ph fun ⟨m, hm, _⟩ => absurd hm (Nat.not_lt_zero m)
  | succ n ih =>
    rw [nhand_succ]
    exact ih.pre.next_count (passedN_iff J x k n)

theorem newcomer_playable_iff {J : SM} {x d a : Nat} (w : Pending J x d a true) (k n : Nat) :
    (nhand J x k n).playable x = true ↔ (k < n ∧ ∃ m, m < n ∧ PassedN J x k m) := by
  rw [(newcomer_phase w k n).playable_iff, decide_eq_false_iff_not, Nat.not_le]

theorem newcomer_sit_playable_iff {J : SM} {x d a : Nat} (w : Pending J x d a true) (k : Nat) :
    ((nhand J x k k).step (.seat (x : Int))).1.playable x = true ↔ ∃ m, m < k ∧ PassedN J x k m := by
  rw [(newcomer_phase w k k).sit.2.playable_iff]
  exact ⟨fun h => h.2, fun h => ⟨rfl, h⟩⟩

theorem Pending.pre {J : SM} {x k n d a : Nat} {r : Bool} (w : Pending (nhand J x k n) x d a r) :
    ∃ r', Pending (npre J x k n) x d a r' ∧ (npre J x k n).max = (nhand J x k n).max ∧
      ∀ j, (npre J x k n).playable j = (nhand J x k n).playable j := by
  unfold npre
  split
  · exact ⟨false, w.sit⟩
  · exact ⟨r, w, rfl, fun _ => rfl⟩

theorem newcomer_passed_soon {J : SM} {x d a : Nat} (w : Pending J x d a true) (k : Nat) :
    PassedN J x k 0 ∨ PassedN J x k 1 := by
  obtain ⟨r0, w0, _, _⟩ := Pending.pre (k := k) (n := 0) (by rw [nhand_zero]; exact w)
  rw [passedN_iff, passedN_iff]
  refine w0.passed_soon fun w1 => ?_
  rw [← nhand_succ] at w1 ⊢
  exact w1.pre

theorem newcomer_first_hand {J : SM} {x d a : Nat} (w : Pending J x d a true) (k : Nat) :
    ∃ n0, k < n0 ∧ (n0 = k + 1 ∨ n0 = 2) ∧ ∀ n, (nhand J x k n).playable x = true ↔ n0 ≤ n := by
  -- the first `next` that passes him is the first or the second
  obtain ⟨m0, hm0, hp0, hmin⟩ : ∃ m0, m0 ≤ 1 ∧ PassedN J x k m0 ∧ ∀ m, PassedN J x k m → m0 ≤ m := by
    by_cases h0 : PassedN J x k 0
    · exact ⟨0, by omega, h0, fun _ _ => Nat.zero_le _⟩
    · refine ⟨1, Nat.le_refl 1, (newcomer_passed_soon w k).resolve_left h0, fun m hm => ?_⟩
      cases m with
      | zero => exact absurd hm h0
      | succ m => omega
  refine ⟨Max.max k m0 + 1, by omega, by omega, fun n => ?_⟩
  rw [newcomer_playable_iff w]
  constructor
  · rintro ⟨hk, m, hmn, hpm⟩
    have := hmin m hpm
    omega
  · intro hn
    exact ⟨by omega, m0, by omega, hp0⟩

end SM
end Pokerface
