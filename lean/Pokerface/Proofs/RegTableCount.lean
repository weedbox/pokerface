/-
  Which tables exist after an operation of the regulator (C20); no invariant is needed.
  Their number: only `breakTable` lowers it (by one, and only while more tables exist than
  needed) and only an allocation raises it (never beyond the number needed).  Their ids: a list
  of callbacks leaves on the sheet the ids that were there or that it requests, so the tables are
  old ones or new ones with ids from `nextId` on (`IdsKept`), and the id of a table that is gone
  is not used again.
-/
import Pokerface.Proofs.RegSettle

namespace Pokerface
namespace Reg

/-- the fields that determine `requiredTables` -/
structure SameNeeds (r r' : Reg) : Prop where
  pc : r'.playerCount = r.playerCount
  max : r'.max = r.max

theorem SameNeeds.req {r r' : Reg} (h : SameNeeds r r') : r'.requiredTables = r.requiredTables := by
  unfold requiredTables
  rw [h.pc, h.max]

theorem SameNeeds.refl (r : Reg) : SameNeeds r r := ⟨rfl, rfl⟩
theorem SameNeeds.trans {a b c : Reg} (h1 : SameNeeds a b) (h2 : SameNeeds b c) : SameNeeds a c :=
  ⟨h2.pc.trans h1.pc, h2.max.trans h1.max⟩

theorem dispatchPlayer_tc {r r' : Reg} {cands rest : List Nat} (h : r.dispatchPlayer cands = some (rest, r')) :
    SameNeeds r r' ∧ r'.tableCount = r.tableCount := by
  unfold dispatchPlayer at h
  split at h
  · cases h
  · split at h
    · cases h
      exact ⟨⟨rfl, rfl⟩, rfl⟩
    · split at h
      · cases h
        exact ⟨⟨rfl, rfl⟩, rfl⟩
      · split at h
        · cases h
          exact ⟨⟨rfl, rfl⟩, rfl⟩
        · cases h
          exact ⟨⟨rfl, rfl⟩, rfl⟩

theorem dispatchLoop_tc (fuel : Nat) : ∀ (cands : List Nat) (r : Reg),
    SameNeeds r (dispatchLoop fuel cands r).2 ∧ (dispatchLoop fuel cands r).2.tableCount = r.tableCount := by
  induction fuel with
  | zero =>
    intro _ r
    exact ⟨SameNeeds.refl r, rfl⟩
  | succ n ih =>
    intro cands r
    rw [dispatchLoop]
    split
    · exact ⟨SameNeeds.refl r, rfl⟩
    · split
      · exact ⟨SameNeeds.refl r, rfl⟩
      · rename_i rest r1 hsome
        obtain ⟨h1, h2⟩ := dispatchPlayer_tc hsome
        obtain ⟨h3, h4⟩ := ih rest r1
        exact ⟨h1.trans h3, h4.trans h2⟩

theorem updateTableRequirements_tc (r : Reg) :
    SameNeeds r r.updateTableRequirements ∧ r.updateTableRequirements.tableCount = r.tableCount := by
  rw [updateTableRequirements_eq]
  split <;> exact ⟨⟨rfl, rfl⟩, rfl⟩

/-- what an allocation does to the sheet: it appends tables, one per unit of `tableCount`, and
    only while fewer than `reqT` exist -/
structure Opens (reqT : Int) (r r' : Reg) : Prop where
  needs : SameNeeds r r'
  tables : ∃ extra, r'.tables = r.tables ++ extra ∧ r'.tableCount = r.tableCount + extra.length ∧
    (extra = [] ∨ r'.tableCount ≤ reqT)

theorem Opens.refl (reqT : Int) (r : Reg) : Opens reqT r r :=
  ⟨SameNeeds.refl r, [], (List.append_nil _).symm, by simp, Or.inl rfl⟩

theorem Opens.trans {reqT : Int} {a b c : Reg} (h1 : Opens reqT a b) (h2 : Opens reqT b c) : Opens reqT a c := by
  obtain ⟨x, hx, hxc, hxr⟩ := h1.tables
  obtain ⟨y, hy, hyc, hyr⟩ := h2.tables
  refine ⟨h1.needs.trans h2.needs, x ++ y, by rw [hy, hx, List.append_assoc], ?_, ?_⟩
  · rw [hyc, hxc, List.length_append]
    omega
  · rcases hyr with rfl | hyr
    · rcases hxr with rfl | hxr
      · exact Or.inl rfl
      · exact Or.inr (by simpa [hyc] using hxr)
    · exact Or.inr hyr

theorem Opens.mono {reqT reqT' : Int} {r r' : Reg} (h : Opens reqT r r') (hle : reqT ≤ reqT') : Opens reqT' r r' :=
  ⟨h.needs, h.tables.imp fun _ ⟨a, b, c⟩ => ⟨a, b, c.imp_right fun c => by omega⟩⟩

theorem allocateLoop_opens (fuel : Nat) (wl reqT : Int) (r : Reg) : Opens reqT r (allocateLoop fuel wl reqT r) :=
  (allocateLoop_induct (I := fun _ => True) (P := Opens reqT) reqT (Opens.refl reqT) Opens.trans
    (fun {r wl k} _ hlt _ _ _ =>
      ⟨trivial, ⟨rfl, rfl⟩, _, rfl, rfl, Or.inr (show r.tableCount + 1 ≤ reqT by omega)⟩)
    fuel wl r trivial).2

theorem Opens.tc {reqT : Int} {r r' : Reg} (h : Opens reqT r r') :
    r.tableCount ≤ r'.tableCount ∧ (r'.tableCount = r.tableCount ∨ r'.tableCount ≤ reqT) := by
  obtain ⟨x, _, hc, hr⟩ := h.tables
  refine ⟨by omega, hr.imp (fun hx => by rw [hc, hx]; simp) id⟩

theorem Opens.same {reqT : Int} {r r' : Reg} (h : Opens reqT r r') (hc : r'.tableCount = r.tableCount) :
    r'.tables = r.tables := by
  obtain ⟨x, hx, hxc, _⟩ := h.tables
  have h0 : x = [] := List.length_eq_zero_iff.1 (by omega)
  rw [hx, h0, List.append_nil]

theorem allocateTables_opens (r : Reg) (hm : 0 < r.max) : Opens r.requiredTables r r.allocateTables := by
  rcases allocateTables_cases r with h | ⟨fuel, wl, reqT, hle, h⟩
  · rw [h]
    exact Opens.refl _ r
  · rw [h]
    exact (allocateLoop_opens fuel wl reqT r).mono (hle hm).1

theorem allocateTables_tc (r : Reg) (hm : 0 < r.max) :
    SameNeeds r r.allocateTables ∧ r.tableCount ≤ r.allocateTables.tableCount ∧
    (r.allocateTables.tableCount = r.tableCount ∨ r.allocateTables.tableCount ≤ r.requiredTables) :=
  ⟨(allocateTables_opens r hm).needs, (allocateTables_opens r hm).tc⟩

/-- `drainWaitingQueue` walked without any hypothesis on the state (the property theorem
    `table_count_monotone` has none, so `drainWaitingQueue_stages`, which needs `badChoice = false`,
    is not available): each stage is named by `generalize` and only keeps `SameNeeds` and the
    number of tables; the final allocation is the one stage that may raise it. -/
theorem drainWaitingQueue_tc (r : Reg) (hm : 0 < r.max) :
    SameNeeds r r.drainWaitingQueue ∧ r.tableCount ≤ r.drainWaitingQueue.tableCount ∧
    (r.drainWaitingQueue.tableCount = r.tableCount ∨ r.drainWaitingQueue.tableCount ≤ r.requiredTables) := by
  rw [drainWaitingQueue_eq]
  split
  · exact allocateTables_tc r hm
  · split
    · simp only
      obtain ⟨a1, a2⟩ := dispatchLoop_tc (r.queue.length + 1) r.queue r
      generalize dispatchLoop (r.queue.length + 1) r.queue r = p1 at *
      have hb : SameNeeds p1.2 (if (!p1.1.isEmpty) = true then p1.2.updateTableRequirements else p1.2) ∧
          (if (!p1.1.isEmpty) = true then p1.2.updateTableRequirements else p1.2).tableCount = p1.2.tableCount := by
        split
        · exact updateTableRequirements_tc p1.2
        · exact ⟨SameNeeds.refl _, rfl⟩
      obtain ⟨b1, b2⟩ := hb
      generalize (if (!p1.1.isEmpty) = true then p1.2.updateTableRequirements else p1.2) = r2 at *
      obtain ⟨c1, c2⟩ := dispatchLoop_tc (p1.1.length + 1) p1.1 r2
      generalize dispatchLoop (p1.1.length + 1) p1.1 r2 = p3 at *
      have d : ∀ r4 : Reg, r4 = { p3.2 with queue := p3.1 } → SameNeeds r r4 ∧ r4.tableCount = r.tableCount := by
        intro r4 h4
        subst h4
        exact ⟨((a1.trans b1).trans c1).trans ⟨rfl, rfl⟩, (c2.trans b2).trans a2⟩
      obtain ⟨d1, d2⟩ := d _ rfl
      generalize ({ p3.2 with queue := p3.1 } : Reg) = r4 at d1 d2 ⊢
      split
      · obtain ⟨e1, e2, e3⟩ := allocateTables_tc r4 (by rw [d1.max]; exact hm)
        refine ⟨d1.trans e1, by omega, ?_⟩
        rcases e3 with e3 | e3
        · exact Or.inl (by omega)
        · exact Or.inr (by rw [d1.req] at e3; exact e3)
      · exact ⟨d1, by omega, Or.inl d2⟩
    · exact ⟨SameNeeds.refl r, Int.le_refl _, Or.inl rfl⟩

theorem releasePlayers_cases (r : Reg) (rel ch : List Nat) :
    r.releasePlayers rel ch = { r.beginOp ch with queue := r.queue ++ rel } ∨
    r.releasePlayers rel ch = ({ r.beginOp ch with queue := r.queue ++ rel } : Reg).drainWaitingQueue := by
  by_cases hp : r.status = .pending
  · exact Or.inl (enterWaitingQueue_pending (r.beginOp ch) rel hp)
  · exact Or.inr (enterWaitingQueue_running (r.beginOp ch) rel hp)

theorem releasePlayers_tc (r : Reg) (rel ch : List Nat) (hm : 0 < r.max) :
    SameNeeds r (r.releasePlayers rel ch) ∧ r.tableCount ≤ (r.releasePlayers rel ch).tableCount ∧
    ((r.releasePlayers rel ch).tableCount = r.tableCount ∨
      (r.releasePlayers rel ch).tableCount ≤ r.requiredTables) := by
  rcases releasePlayers_cases r rel ch with h | h
  · rw [h]
    exact ⟨⟨rfl, rfl⟩, Int.le_refl _, Or.inl rfl⟩
  · rw [h]
    obtain ⟨h1, h2, h3⟩ := drainWaitingQueue_tc ({ r.beginOp ch with queue := r.queue ++ rel } : Reg) hm
    exact ⟨⟨h1.pc, h1.max⟩, h2, h3⟩

theorem syncState_zero_tc (r : Reg) (t : Nat) :
    SameNeeds r (r.syncState t 0).1 ∧
    ((r.syncState t 0).1.tableCount = r.tableCount ∨
      ((r.syncState t 0).1.tableCount = r.tableCount - 1 ∧ r.requiredTables < r.tableCount)) := by
  cases hf : r.findTable t with
  | none =>
    rw [syncState_eq, hf]
    exact ⟨⟨rfl, rfl⟩, Or.inl rfl⟩
  | some t0 =>
    obtain ⟨r1, rel, nw, he, hc⟩ := syncState_zero_cases r t t0 hf
    rw [he]
    cases hc with
    | brk hlt => exact ⟨⟨rfl, rfl⟩, Or.inr ⟨rfl, hlt⟩⟩
    | same => exact ⟨⟨rfl, rfl⟩, Or.inl rfl⟩
    | take _ _ _ _ _ _ => exact ⟨⟨rfl, rfl⟩, Or.inl rfl⟩
    | release _ _ _ _ _ _ => exact ⟨⟨rfl, rfl⟩, Or.inl rfl⟩

/-- the tables of `r'` are tables of `r` or new ones with ids from `r.nextId` on, and the id counter
    did not go back: what every operation of the regulator does to the ids -/
structure IdsKept (r r' : Reg) : Prop where
  next_le : r.nextId ≤ r'.nextId
  ids : ∀ t ∈ r'.tables.map (·.id), t ∈ r.tables.map (·.id) ∨ r.nextId ≤ t

theorem IdsKept.of_sub {r r' : Reg} (hn : r'.nextId = r.nextId)
    (h : ∀ t ∈ r'.tables.map (·.id), t ∈ r.tables.map (·.id)) : IdsKept r r' :=
  ⟨Nat.le_of_eq hn.symm, fun t ht => Or.inl (h t ht)⟩

theorem IdsKept.gone {r r' : Reg} (h : IdsKept r r') {t : Nat} (hlt : t < r.nextId)
    (hun : r.findTable t = none) : r'.findTable t = none := by
  cases hf : r'.findTable t with
  | none => rfl
  | some tb =>
    obtain ⟨htb, hid⟩ := findTable_some hf
    rcases h.ids t (List.mem_map.2 ⟨tb, htb, hid⟩) with h1 | h1
    · exact absurd hun (findTable_ne_none h1)
    · omega

theorem applyTVs_ids (tv : List (Nat × Int)) (cs : List RCall) (id : Nat)
    (h : id ∈ (applyTVs tv cs).map (·.1)) :
    id ∈ tv.map (·.1) ∨ ∃ ps, RCall.requestTable id ps ∈ cs := by
  induction cs generalizing tv with
  | nil => exact Or.inl h
  | cons c cs ih =>
    rcases ih (applyTV tv c) h with h1 | ⟨ps, h1⟩
    · cases c with
      | requestTable id' ps' =>
        simp only [applyTV, List.map_append, List.map_cons, List.map_nil, List.mem_append,
          List.mem_cons, List.not_mem_nil, or_false] at h1
        rcases h1 with h1 | h1
        · exact Or.inl h1
        · subst h1
          exact Or.inr ⟨ps', List.mem_cons_self ..⟩
      | assign t ps' =>
        rw [applyTV_assign, bump_fst] at h1
        exact Or.inl h1
    · exact Or.inr ⟨ps, List.mem_cons_of_mem _ h1⟩

theorem applyCalls_ids (m : List (Nat × List Nat)) (cs : List RCall) (id : Nat)
    (h : id ∈ (Env.applyCalls m cs).map (·.1)) :
    id ∈ m.map (·.1) ∨ ∃ ps, RCall.requestTable id ps ∈ cs := by
  rw [← mview_fst, mview_applyCalls] at h
  rw [← mview_fst]
  exact applyTVs_ids _ cs id h

theorem OpExt.idsKept {r r' : Reg} {inc : List Nat} (hx : OpExt r r' inc) : IdsKept r r' := by
  refine ⟨hx.next_le, fun t ht => ?_⟩
  rw [← tview_fst, hx.tv] at ht
  rcases applyTVs_ids _ _ t ht with h1 | ⟨ps, h1⟩
  · exact Or.inl (tview_fst r.tables ▸ h1)
  · exact Or.inr (hx.newids t ps h1)

theorem syncState_idsKept (r : Reg) (t : Nat) (out : Int) : IdsKept r (r.syncState t out).1 := by
  cases hf : r.findTable t with
  | none =>
    rw [syncState_unknown r t out hf]
    exact .of_sub rfl fun _ h => h
  | some t0 =>
    obtain ⟨r1, rel, nw, he, hc⟩ := syncState_cases r t out t0 hf
    have hb : (syncBase r t out).tables.map (·.id) = r.tables.map (·.id) := by
      rw [syncBase_tables, upd_ids _ _ _ (adj_id _ _)]
    rw [he]
    cases hc with
    | brk _ =>
      refine .of_sub rfl fun t' ht' => ?_
      obtain ⟨tb, htb, hid⟩ := List.mem_map.1 ht'
      exact hb ▸ List.mem_map.2 ⟨tb, (List.mem_filter.1 htb).1, hid⟩
    | same => exact .of_sub rfl fun _ h => hb ▸ h
    | take n rq _ _ _ _ =>
      refine .of_sub rfl fun t' ht' => ?_
      rw [show (_ : Reg).tables = upd t (adj _ rq) (syncBase r t out).tables from rfl, upd_ids _ _ _ (adj_id _ _)] at ht'
      exact hb ▸ ht'
    | release j _ _ _ _ _ =>
      refine .of_sub rfl fun t' ht' => ?_
      rw [show (_ : Reg).tables = upd t (adj _ none) (syncBase r t out).tables from rfl, upd_ids _ _ _ (adj_id _ _)] at ht'
      exact hb ▸ ht'

end Reg
end Pokerface
