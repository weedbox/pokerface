/-
  The closing state of a hand at the table (Model/Table.lean, `updatePlayerStates`): the stacks written back to the
  sheet, the chips on the sheet, busted players.
-/
import Pokerface.Proofs.TableGlueGame

namespace Pokerface
namespace Table

/-- the bankroll a sheet slot shows (an empty slot shows nothing) -/
def bank (o : Option TPlayer) : Int :=
  match o with
  | some p => p.bankroll
  | none => 0

def sheetTotal (t : Table) : Int := (t.players.map bank).sum

theorem bank_playerAt (t : Table) (i : Nat) (hi : i < t.players.length) : bank (t.playerAt i) = bank t.players[i] := by
  unfold playerAt
  rw [List.getElem?_eq_getElem hi]
  rfl

theorem playerAt_of_ge (t : Table) (i : Nat) (hi : t.players.length ≤ i) : t.playerAt i = none := by
  unfold playerAt
  rw [List.getElem?_eq_none_iff.mpr hi]
  rfl

theorem sheetTotal_setPl (t : Table) (i : Nat) (hi : i < t.players.length) (o : Option TPlayer) :
    (t.setPl i o).sheetTotal = t.sheetTotal - bank (t.playerAt i) + bank o := by
  unfold sheetTotal setPl
  rw [← modify_eq_set_of_getElem? (fun _ => o) (List.getElem?_eq_getElem hi),
    sum_map_modify bank _ _ i _ (List.getElem?_eq_getElem hi), bank_playerAt t i hi]

theorem setPl_of_ge (t : Table) (i : Nat) (hi : t.players.length ≤ i) (o) : t.setPl i o = t := by
  unfold setPl
  rw [List.set_eq_of_length_le hi]

theorem sheetTotal_setPl_none (t : Table) (i : Nat) :
    (t.setPl i none).sheetTotal = t.sheetTotal - bank (t.playerAt i) := by
  by_cases hi : i < t.players.length
  · rw [sheetTotal_setPl t i hi]
    simp [bank]
  · rw [setPl_of_ge t i (by omega), playerAt_of_ge t i (by omega)]
    simp [bank]

theorem modPl_eq_setPl {t : Table} {i : Nat} {q : TPlayer} (h : t.playerAt i = some q) (f : TPlayer → TPlayer) :
    t.modPl i f = t.setPl i (some (f q)) := by
  unfold modPl setPl
  rw [modify_eq_set_of_getElem? _ (playerAt_eq_some.mp h)]
  rfl

theorem sheetTotal_congr {t t' : Table} (h : t'.players.map bank = t.players.map bank) : t'.sheetTotal = t.sheetTotal := by
  unfold sheetTotal
  rw [h]

theorem setupPosition_sheetTotal (t : Table) : t.setupPosition.1.sheetTotal = t.sheetTotal := by
  apply sheetTotal_congr
  rw [setupPosition_eq]
  split
  · rfl
  · split
    · rfl
    · apply List.ext_getElem?
      intro i
      rw [List.getElem?_map, List.getElem?_map, copyPositions_getElem?]
      cases t.players[i]? with
      | none => rfl
      | some o => cases o <;> rfl

theorem banks_of_playerAt {t t' : Table} (hl : t'.players.length = t.players.length)
    (h : ∀ j, bank (t'.playerAt j) = bank (t.playerAt j)) : t'.players.map bank = t.players.map bank := by
  apply List.ext_getElem
  · simp [hl]
  · intro j h1 h2
    simp only [List.length_map] at h1 h2
    simp only [List.getElem_map]
    rw [← bank_playerAt t' j h1, ← bank_playerAt t j h2]
    exact h j

theorem assignGameIdx_sheetTotal (t : Table) (seats : List Nat) : (t.assignGameIdx seats).sheetTotal = t.sheetTotal := by
  apply sheetTotal_congr
  apply banks_of_playerAt (by simp)
  intro j
  have hb : ∀ o : Option TPlayer, bank o = (o.map (·.bankroll)).getD 0 := fun o => by cases o <;> rfl
  rw [hb, hb, assignGameIdx_proj (·.bankroll) fun _ _ => rfl]

/-- who holds how much: what `setupPosition` / `startGame` never change on the sheet -/
def money (p : TPlayer) : Nat × Int := (p.pid, p.bankroll)

theorem setupPosition_money (t : Table) (i : Nat) :
    (t.setupPosition.1.playerAt i).map money = (t.playerAt i).map money := by
  rcases setupPosition_playerAt t i with h | h <;> rw [h]
  cases t.playerAt i <;> rfl

theorem leave_ok {t : Table} (h : TInv t) {s : Nat} {q : TPlayer} (hq : t.playerAt s = some q) :
    t.leave (s : Int) = (({ t with sm := (t.sm.step (.leave (s : Int))).1 }).setPl s none, none) := by
  obtain ⟨st, hst, hp⟩ := h.sm_of_player (playerAt_eq_some.mp hq)
  have hok := SM.step_leave_ok h.smr.inv.wf hst (by rw [hp]; rfl)
  unfold leave
  rw [hok]
  simp

theorem applyFinal_eq {t : Table} {k s : Nat} (hk : t.seatOfGameIdx k = some s) (f : Int) :
    t.applyFinal k f =
      if f = 0 then
        if t.opts.leaveMode = true then
          (({ t.modPl s (fun p => { p with bankroll := f }) with
              sm := (t.sm.step (.reserve (s : Int))).1 } : Table).leave (s : Int)).1
        else { t.modPl s (fun p => { p with bankroll := f }) with sm := (t.sm.step (.reserve (s : Int))).1 }
      else t.modPl s (fun p => { p with bankroll := f }) := by
  unfold Table.applyFinal
  rw [hk]
  rfl

theorem applyFinal_none {t : Table} {k : Nat} (hk : t.seatOfGameIdx k = none) (f : Int) : t.applyFinal k f = t := by
  unfold Table.applyFinal
  rw [hk]

/-- the sheet entry written for a closing stack `f` -/
def written (lm : Bool) (q : TPlayer) (f : Int) : Option TPlayer :=
  if f = 0 ∧ lm = true then none else some { q with bankroll := f }

theorem bank_written (lm : Bool) (q : TPlayer) (f : Int) : bank (written lm q f) = f := by
  unfold written
  split
  · next h => exact h.1.symm
  · rfl

theorem applyFinal_players {t : Table} (h : TInv t) {k s : Nat} {q : TPlayer} (hk : t.seatOfGameIdx k = some s)
    (hq : t.playerAt s = some q) (f : Int) :
    (t.applyFinal k f).players = (t.setPl s (written t.opts.leaveMode q f)).players ∧
    (t.applyFinal k f).opts = t.opts := by
  have hmod := modPl_eq_setPl hq fun p => { p with bankroll := f }
  rw [applyFinal_eq hk]
  by_cases hf : f = 0 ∧ t.opts.leaveMode = true
  · -- reserved, then left: the entry just written is taken off the sheet again
    have hq1 : (t.modPl s fun p => { p with bankroll := f }).playerAt s = some { q with bankroll := f } := by
      rw [playerAt_modPl, if_pos rfl, hq]
      rfl
    rw [if_pos hf.1, if_pos hf.2, leave_ok (h.reserved s f) hq1, show written t.opts.leaveMode q f = none from if_pos hf]
    refine ⟨?_, rfl⟩
    show (t.modPl s _).players.set s none = t.players.set s none
    rw [hmod]
    exact List.set_set ..
  · rw [show written t.opts.leaveMode q f = some { q with bankroll := f } from if_neg hf, ← hmod]
    by_cases hf0 : f = 0
    · rw [if_pos hf0, if_neg (fun hl => hf ⟨hf0, hl⟩)]
      exact ⟨rfl, rfl⟩
    · rw [if_neg hf0]
      exact ⟨rfl, rfl⟩

theorem applyFinal_spec {t : Table} (h : TInv t) {k s : Nat} {q : TPlayer} (hk : t.seatOfGameIdx k = some s)
    (hq : t.playerAt s = some q) (f : Int) :
    (∀ j, (t.applyFinal k f).playerAt j = if j = s then written t.opts.leaveMode q f else t.playerAt j) ∧
    (t.applyFinal k f).opts = t.opts ∧
    (t.applyFinal k f).sheetTotal = t.sheetTotal - q.bankroll + f := by
  obtain ⟨hpl, hopts⟩ := applyFinal_players h hk hq f
  have hsl : s < t.players.length := by
    apply Nat.lt_of_not_le
    intro hc
    rw [playerAt_of_ge t s hc] at hq
    cases hq
  refine ⟨fun j => ?_, hopts, ?_⟩
  · show ((t.applyFinal k f).players[j]?).join = _
    rw [hpl]
    show (t.setPl s _).playerAt j = _
    rw [playerAt_setPl]
    by_cases hjs : j = s
    · rw [hjs, if_pos ⟨rfl, hsl⟩, if_pos rfl]
    · rw [if_neg (fun hc => hjs hc.1.symm), if_neg hjs]
  · show ((t.applyFinal k f).players.map bank).sum = _
    rw [hpl]
    show (t.setPl s _).sheetTotal = _
    rw [sheetTotal_setPl t s hsl, hq, bank_written]
    rfl

/-- the closing stack the result carries for the player `q` (by game index) -/
def finalOf (finals : List Int) (q : TPlayer) : Option Int :=
  if 0 ≤ q.gameIdx then finals[q.gameIdx.toNat]? else none

/-- the sheet entry of player `q` after `updatePlayerStates` -/
def writeBack (lm : Bool) (finals : List Int) (q : TPlayer) : Option TPlayer :=
  match finalOf finals q with
  | none => some q
  | some f => written lm q f

theorem writeBack_gameIdx {lm : Bool} {finals : List Int} {q q' : TPlayer} (h : writeBack lm finals q = some q') :
    q'.gameIdx = q.gameIdx := by
  unfold writeBack at h
  split at h
  · cases h
    rfl
  · unfold written at h
    split at h
    · cases h
    · cases h
      rfl

/-- the game indices on the sheet are those of `seats`: seat `seats[k]` carries `k`, nobody else carries `k` -/
structure IdxOK (t : Table) (seats : List Nat) : Prop where
  has : ∀ (k s : Nat), seats[k]? = some s → ∃ q, t.playerAt s = some q ∧ q.gameIdx = ((k : Nat) : Int)
  only : ∀ j q (k : Nat), t.playerAt j = some q → q.gameIdx = (k : Int) → seats[k]? = some j

theorem IdxOK.seatOfGameIdx {t : Table} {seats : List Nat} (hi : IdxOK t seats) {k s : Nat} (hks : seats[k]? = some s) :
    t.seatOfGameIdx k = some s := by
  obtain ⟨q, hq, hqk⟩ := hi.has k s hks
  apply seatOfGameIdx_some (playerAt_eq_some.mp hq) hqk
  intro j q' hj hk'
  have := hi.only j q' k (playerAt_eq_some.mpr hj) hk'
  rw [hks] at this
  exact (Option.some.inj this).symm

theorem finalOf_of_idx {finals : List Int} {q : TPlayer} {k : Nat} (hk : q.gameIdx = (k : Int)) :
    finalOf finals q = finals[k]? := by
  unfold finalOf
  rw [hk, if_pos (by omega), Int.toNat_natCast]

theorem IdxOK.writeBack_at {t : Table} {seats : List Nat} (hi : IdxOK t seats) {k s : Nat} (hks : seats[k]? = some s)
    {finals : List Int} {f : Int} (hf : finals[k]? = some f) (lm : Bool) :
    ∃ q, t.playerAt s = some q ∧ (t.playerAt s).bind (writeBack lm finals) = written lm q f := by
  obtain ⟨q, hq, hqk⟩ := hi.has k s hks
  refine ⟨q, hq, ?_⟩
  rw [hq, Option.bind_some]
  unfold writeBack
  rw [finalOf_of_idx hqk, hf]

theorem IdxOK.writeBack_off {t : Table} {seats : List Nat} (hi : IdxOK t seats) {j : Nat} (hj : j ∉ seats)
    (lm : Bool) (finals : List Int) : (t.playerAt j).bind (writeBack lm finals) = t.playerAt j := by
  cases hq : t.playerAt j with
  | none => rfl
  | some q =>
    -- an index he carried would put his seat into `seats`
    have hnone : finalOf finals q = none := by
      unfold finalOf
      rw [if_neg]
      intro h0
      exact hj (List.mem_of_getElem? (hi.only j q q.gameIdx.toNat hq (Int.toNat_of_nonneg h0).symm))
    rw [Option.bind_some]
    unfold writeBack
    rw [hnone]

theorem money_written (lm : Bool) (q : TPlayer) (f : Int) :
    (written lm q f).map money = if f = 0 ∧ lm = true then none else some (q.pid, f) := by
  unfold written
  split <;> rfl

theorem finalOf_append_ne {fs : List Int} {f : Int} {q : TPlayer} (hne : q.gameIdx ≠ (fs.length : Int)) :
    finalOf (fs ++ [f]) q = finalOf fs q := by
  unfold finalOf
  split
  · next h0 =>
    have hne' : q.gameIdx.toNat ≠ fs.length := by omega
    rw [List.getElem?_append]
    split
    · rfl
    · next hge =>
      have e1 : fs[q.gameIdx.toNat]? = none := List.getElem?_eq_none_iff.mpr (by omega)
      have e2 : [f][q.gameIdx.toNat - fs.length]? = none := List.getElem?_eq_none_iff.mpr (by simp; omega)
      rw [e1, e2]
  · rfl

/-- while the result is being written back, the seat of the next game index is still the one `startGame` gave it,
with the player untouched -/
theorem seatOf_next_idx {t T : Table} {seats : List Nat} (hi : IdxOK t seats) {fs : List Int} {lm : Bool}
    (hlt : fs.length < seats.length) (hpl : ∀ j, T.playerAt j = (t.playerAt j).bind (writeBack lm fs)) :
    ∃ q, t.playerAt seats[fs.length] = some q ∧ q.gameIdx = (fs.length : Int) ∧
      T.playerAt seats[fs.length] = some q ∧ T.seatOfGameIdx fs.length = some seats[fs.length] := by
  obtain ⟨q, hq, hqk⟩ := hi.has fs.length seats[fs.length] (List.getElem?_eq_getElem hlt)
  have hqT : T.playerAt seats[fs.length] = some q := by
    rw [hpl, hq]
    simp only [Option.bind_some, writeBack, finalOf_of_idx hqk]
    rw [List.getElem?_eq_none_iff.mpr (Nat.le_refl _)]
  refine ⟨q, hq, hqk, hqT, ?_⟩
  apply seatOfGameIdx_some (playerAt_eq_some.mp hqT) hqk
  intro j q' hj hk'
  have hj' := playerAt_eq_some.mpr hj
  rw [hpl] at hj'
  cases hq0 : t.playerAt j with
  | none =>
    rw [hq0] at hj'
    cases hj'
  | some q0 =>
    rw [hq0] at hj'
    simp only [Option.bind_some] at hj'
    have hg := writeBack_gameIdx hj'
    have := hi.only j q0 fs.length hq0 (by rw [← hg]; exact hk')
    rw [List.getElem?_eq_getElem hlt] at this
    exact (Option.some.inj this).symm

theorem idxOK_assignGameIdx {t : Table} {seats : List Nat} (hnd : seats.Nodup)
    (hpl : ∀ s ∈ seats, ∃ p, t.playerAt s = some p) : IdxOK (t.assignGameIdx seats) seats := by
  constructor
  · intro k s hks
    obtain ⟨p, hp⟩ := hpl s (List.mem_of_getElem? hks)
    refine ⟨_, by rw [assignGameIdx_playerAt _ _ hnd, hp]; rfl, ?_⟩
    simp only [List.mem_of_getElem? hks, if_true]
    obtain ⟨hk, hks'⟩ := List.getElem?_eq_some_iff.mp hks
    rw [← hks', hnd.idxOf_getElem]
  · intro j q k hq hk
    rw [assignGameIdx_playerAt _ _ hnd] at hq
    cases hp : t.playerAt j with
    | none =>
      rw [hp] at hq
      cases hq
    | some p =>
      rw [hp] at hq
      simp only [Option.map_some, Option.some.injEq] at hq
      subst hq
      simp only at hk
      split at hk
      · next hmem =>
        have : seats.idxOf j = k := by omega
        subst this
        have hlt : seats.idxOf j < seats.length := List.idxOf_lt_length_iff.mpr hmem
        rw [List.getElem?_eq_getElem hlt, List.getElem_idxOf hlt]
      · omega

theorem held_of_reserve {sm : SM} (hinv : SM.Inv sm) (s : Nat) : SM.Held (sm.step (.reserve (s : Int))).1 s := by
  intro x hx
  rcases SM.step_reserve_cases sm (s : Int) with ⟨hs, he⟩ | ⟨i, hi, _, he⟩
  · -- off the table nothing is written, and there is no seat `s` to look at
    rw [he] at hx
    have := hinv.wf.lt_max hx
    omega
  · cases Int.ofNat.inj hi
    rw [he, SM.modSeat_seats, if_pos rfl] at hx
    obtain ⟨y, _, rfl⟩ := Option.map_eq_some_iff.mp hx
    exact Or.inl rfl

theorem leave_held {t : Table} (h : TInv t) {i : Nat} (hh : SM.Held t.sm i) (seat : Int) : SM.Held (t.leave seat).1.sm i := by
  rcases leave_cases t seat with ⟨e, he⟩ | ⟨k, s, _, _, _, hl⟩
  · rw [he]
    exact hh
  · rw [hl]
    exact SM.step_held h.smr.inv hh _ (by simp)

theorem applyFinal_held {t : Table} (h : TInv t) {i : Nat} (hh : SM.Held t.sm i) (k : Nat) (f : Int) :
    SM.Held (t.applyFinal k f).sm i := by
  cases hk : t.seatOfGameIdx k with
  | none =>
    rw [applyFinal_none hk]
    exact hh
  | some s =>
    rw [applyFinal_eq hk]
    have h2 : SM.Held (t.sm.step (.reserve (s : Int))).1 i := SM.step_held h.smr.inv hh _ (by simp)
    split
    · split
      · exact leave_held (h.reserved s f) h2 _
      · exact h2
    · exact hh

theorem applyFinal_busted {t : Table} (h : TInv t) {k s : Nat} (hk : t.seatOfGameIdx k = some s) :
    SM.Held (t.applyFinal k 0).sm s := by
  rw [applyFinal_eq hk, if_pos rfl]
  have h2 := held_of_reserve h.smr.inv s
  split
  · exact leave_held (h.reserved s 0) h2 _
  · exact h2

theorem applyResult_held {t : Table} (h : TInv t) {i : Nat} (hh : SM.Held t.sm i) (finals : List Int) :
    SM.Held (t.applyResult finals).sm i := by
  induction finals using snoc_induction with
  | nil => exact hh
  | snoc fs f ih =>
    rw [applyResult_append]
    exact applyFinal_held (h.applyResult fs) ih _ _

theorem applyResult_spec {t : Table} (h : TInv t) {seats : List Nat} (hi : IdxOK t seats) (finals : List Int)
    (hlen : finals.length ≤ seats.length) :
    (t.applyResult finals).opts = t.opts ∧
    (∀ j, (t.applyResult finals).playerAt j = (t.playerAt j).bind (writeBack t.opts.leaveMode finals)) ∧
    (t.applyResult finals).sheetTotal + (((t.gameSeats seats).take finals.length).map (·.bankroll)).sum =
      t.sheetTotal + finals.sum ∧
    ∀ (k s : Nat), finals[k]? = some 0 → seats[k]? = some s → SM.Held (t.applyResult finals).sm s := by
  induction finals using snoc_induction with
  | nil =>
    refine ⟨rfl, ?_, by simp [Table.applyResult], fun k s hk => by simp at hk⟩
    intro j
    show t.playerAt j = _
    cases hq : t.playerAt j with
    | none => rfl
    | some q => simp [writeBack, finalOf]
  | snoc fs f ih =>
    have hlt : fs.length < seats.length := by
      simp at hlen
      omega
    obtain ⟨hopts, hpl, htot, hbust⟩ := ih (by omega)
    have hT := h.applyResult fs
    rw [applyResult_append]
    obtain ⟨q, hq, hqk, hqT, hseat⟩ := seatOf_next_idx hi hlt hpl
    obtain ⟨a1, a2, a3⟩ := applyFinal_spec hT hseat hqT f
    refine ⟨a2.trans hopts, ?_, ?_, ?_⟩
    · intro j
      rw [a1 j, hopts]
      by_cases hjs : j = seats[fs.length]
      · rw [if_pos hjs, hjs, hq]
        simp only [Option.bind_some, writeBack, finalOf_of_idx hqk]
        rw [List.getElem?_append_right (Nat.le_refl _)]
        simp
      · rw [if_neg hjs, hpl]
        cases hq0 : t.playerAt j with
        | none => rfl
        | some q0 =>
          simp only [Option.bind_some, writeBack]
          have hne : q0.gameIdx ≠ (fs.length : Int) := by
            intro he
            have := hi.only j q0 fs.length hq0 he
            rw [List.getElem?_eq_getElem hlt] at this
            exact hjs (Option.some.inj this).symm
          rw [finalOf_append_ne hne]
    · rw [a3]
      have hcl : fs.length < (t.gameSeats seats).length := by
        rw [gameSeats_length]
        exact hlt
      have hcfg : (t.gameSeats seats)[fs.length] = q.cfg := by
        have := gameSeats_getElem? t seats fs.length
        rw [List.getElem?_eq_getElem hcl, List.getElem?_eq_getElem hlt] at this
        simp only [Option.map_some, Option.some.injEq] at this
        rw [this, seatCfgAt_of_player (playerAt_eq_some.mp hq)]
      have htk : (t.gameSeats seats).take (fs ++ [f]).length =
          (t.gameSeats seats).take fs.length ++ [q.cfg] := by
        rw [List.length_append, List.length_singleton, List.take_add_one, List.getElem?_eq_getElem hcl, hcfg]
        rfl
      rw [htk]
      simp only [List.map_append, List.sum_append, List.map_cons, List.map_nil, List.sum_cons, List.sum_nil]
      show _ + (_ + (q.bankroll + 0)) = _
      omega
    · intro k s hk hs
      by_cases hkl : k < fs.length
      · rw [List.getElem?_append_left hkl] at hk
        exact applyFinal_held hT (hbust k s hk hs) _ _
      · -- the entry just written back
        have hkl' : k = fs.length := by
          have := (List.getElem?_eq_some_iff.mp hk).1
          rw [List.length_append, List.length_singleton] at this
          omega
        subst hkl'
        rw [List.getElem?_append_right (Nat.le_refl _), Nat.sub_self] at hk
        cases hk
        rw [List.getElem?_eq_getElem hlt] at hs
        cases hs
        exact applyFinal_busted hT hseat

end Table
end Pokerface
