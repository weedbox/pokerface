/-
  Bookkeeping over histories: counts of successful joins/leaves, who sits where (no player on two seats along
  disciplined histories), "held out until seated".
-/
import Pokerface.Proofs.SMJoin

namespace Pokerface
namespace SM

def joinsOK : SM → List SMOp → Nat
  | _, [] => 0
  | sm, op :: ops =>
    (if isJoin op = true ∧ (sm.step op).2.1 = none then 1 else 0) + joinsOK (sm.step op).1 ops

def leavesOK : SM → List SMOp → Nat
  | _, [] => 0
  | sm, op :: ops =>
    (if isLeave op = true ∧ (sm.step op).2.1 = none then 1 else 0) + leavesOK (sm.step op).1 ops

theorem step_playerCount {sm : SM} (h : Inv sm) (op : SMOp) :
    (sm.step op).1.playerCount + (if isLeave op = true ∧ (sm.step op).2.1 = none then 1 else 0) =
      sm.playerCount + (if isJoin op = true ∧ (sm.step op).2.1 = none then 1 else 0) := by
  by_cases hn : op = .next
  · subst hn
    simp [isJoin, isLeave, (next_samePlayers h).playerCount]
  rcases step_local sm hn with ⟨e, he⟩ | ⟨i, _, _, he, hj, hl⟩
  · rw [he]
    simp
  · rw [he]
    cases op with
    | join seat pid c =>
      obtain ⟨s, hs, hp⟩ := hj rfl
      have := playerCount_setSeat ((SMOp.join seat pid c).onSeat s) hs
      rw [← modSeat_eq_setSeat _ hs] at this
      simpa [isJoin, isLeave, hp, SMOp.onSeat] using this
    | leave id =>
      obtain ⟨s, hs, hp⟩ := hl rfl
      have := playerCount_setSeat ((SMOp.leave id).onSeat s) hs
      rw [← modSeat_eq_setSeat _ hs] at this
      simp [isJoin, isLeave, hp, SMOp.onSeat] at this ⊢
      omega
    | next => exact absurd rfl hn
    | _ =>
      simp only [isJoin, isLeave, Bool.false_eq_true, false_and, if_false, Nat.add_zero]
      exact playerCount_modSeat_same sm i _ fun _ => rfl

theorem run_playerCount {sm : SM} (h : Inv sm) (ops : List SMOp) :
    (sm.run ops).playerCount + leavesOK sm ops = sm.playerCount + joinsOK sm ops := by
  induction ops generalizing sm with
  | nil => simp [run, joinsOK, leavesOK]
  | cons op ops ih =>
    have h1 := ih (step_inv h op)
    have h2 := step_playerCount h op
    rw [run_cons]
    simp only [joinsOK, leavesOK]
    omega

theorem playerCount_new (max : Nat) : (SM.new max).playerCount = 0 := by
  simp [SM.new, playerCount]

def pidAt (sm : SM) (i : Nat) : Option Nat := (sm.seats[i]?).bind (·.player)

def joinPids : List SMOp → List Nat
  | [] => []
  | .join _ pid _ :: ops => pid :: joinPids ops
  | _ :: ops => joinPids ops

theorem pidAt_setSeat {sm : SM} {i : Nat} {s : Seat} (s' : Seat) (h : sm.seats[i]? = some s) (j : Nat) :
    (sm.setSeat i s').pidAt j = if i = j then s'.player else sm.pidAt j := by
  unfold pidAt
  rw [setSeat_seats]
  have hl := (List.getElem?_eq_some_iff.mp h).1
  by_cases hij : i = j
  · subst hij
    simp [hl]
  · simp [hij]

theorem pidAt_modSeat (sm : SM) (i : Nat) (f : Seat → Seat) (j : Nat) :
    (sm.modSeat i f).pidAt j = if i = j then (sm.seats[j]?).bind fun s => (f s).player else sm.pidAt j := by
  unfold pidAt
  rw [modSeat_seats]
  split
  · cases sm.seats[j]? <;> rfl
  · rfl

/-- who sits on a seat is read off its `core`, so `next` does not change it -/
theorem pidAt_eq_core (sm : SM) (j : Nat) : sm.pidAt j = ((sm.seats[j]?).map core).bind (·.1) := by
  unfold pidAt
  cases sm.seats[j]? <;> rfl

theorem SamePlayers.pidAt {sm sm' : SM} (h : SamePlayers sm sm') (j : Nat) : sm'.pidAt j = sm.pidAt j := by
  rw [pidAt_eq_core, pidAt_eq_core, h.seat j]

theorem step_pid_cases {sm : SM} (h : Inv sm) (op : SMOp) :
    (∀ j, (sm.step op).1.pidAt j = sm.pidAt j) ∨
    (∃ i, isLeave op = true ∧ (sm.step op).1.pidAt i = none ∧ ∀ j, j ≠ i → (sm.step op).1.pidAt j = sm.pidAt j) ∨
    (∃ i seat pid c, op = .join seat pid c ∧ sm.pidAt i = none ∧ (sm.step op).1.pidAt i = some pid ∧
      ∀ j, j ≠ i → (sm.step op).1.pidAt j = sm.pidAt j) := by
  by_cases hn : op = .next
  · subst hn
    exact Or.inl (next_samePlayers h).pidAt
  rcases step_local sm hn with ⟨e, he⟩ | ⟨i, _, _, he, hj, hl⟩
  · rw [he]
    exact Or.inl fun _ => rfl
  · rw [he]
    have hoth : ∀ j, j ≠ i → (sm.modSeat i op.onSeat).pidAt j = sm.pidAt j := fun j hji =>
      (pidAt_modSeat sm i _ j).trans (if_neg (Ne.symm hji))
    have hat := (pidAt_modSeat sm i op.onSeat i).trans (if_pos rfl)
    simp only [onSeat_player] at hat
    cases op with
    | join seat pid c =>
      obtain ⟨s, hs, hp⟩ := hj rfl
      refine Or.inr (Or.inr ⟨i, seat, pid, c, rfl, ?_, ?_, hoth⟩)
      · simp [pidAt, hs, hp]
      · rw [hat, hs]
        rfl
    | leave id =>
      obtain ⟨s, hs, _⟩ := hl rfl
      refine Or.inr (Or.inl ⟨i, rfl, ?_, hoth⟩)
      rw [hat, hs]
      rfl
    | next => exact absurd rfl hn
    | _ =>
      refine Or.inl fun j => ?_
      by_cases hji : j = i
      · rw [hji, hat]
        rfl
      · exact hoth j hji

theorem step_pidAt_same {sm : SM} (h : Inv sm) {op : SMOp} (hj : isJoin op = false) (hl : isLeave op = false) (j : Nat) :
    (sm.step op).1.pidAt j = sm.pidAt j := by
  rcases step_pid_cases h op with h1 | ⟨_, hl', _⟩ | ⟨_, _, _, _, rfl, _⟩
  · exact h1 j
  · rw [hl] at hl'
    cases hl'
  · cases hj

def NoDoubleBooking (sm : SM) : Prop :=
  ∀ i j p, sm.pidAt i = some p → sm.pidAt j = some p → i = j

theorem pidAt_new (max i : Nat) : (SM.new max).pidAt i = none := by
  unfold pidAt SM.new
  simp only [List.getElem?_replicate]
  split <;> simp

theorem noDoubleBooking_new (max : Nat) : NoDoubleBooking (SM.new max) := by
  intro i j p hi
  rw [pidAt_new] at hi
  cases hi

theorem fresh_new (max : Nat) (pids : List Nat) : ∀ i p, (SM.new max).pidAt i = some p → p ∉ pids := by
  intro i p hi
  rw [pidAt_new] at hi
  cases hi

/-- A history is *disciplined* when every `join` operation (accepted or refused, any seat argument) is issued
for a player id that sits on no seat of the state in which the operation is carried out; operations other
than `join` are unrestricted.  So a player may retry after a refused join and join again after leaving. -/
inductive Disciplined : SM → List SMOp → Prop
  | nil (sm : SM) : Disciplined sm []
  | join {sm : SM} {seat : Int} {pid : Nat} {c : Option Nat} {ops : List SMOp} :
      (∀ i, sm.pidAt i ≠ some pid) → Disciplined (sm.step (.join seat pid c)).1 ops →
      Disciplined sm (.join seat pid c :: ops)
  | other {sm : SM} {op : SMOp} {ops : List SMOp} :
      isJoin op = false → Disciplined (sm.step op).1 ops → Disciplined sm (op :: ops)

theorem step_noDoubleBooking {sm : SM} (h : Inv sm) (hnd : NoDoubleBooking sm) (op : SMOp)
    (hop : ∀ seat pid c, op = .join seat pid c → ∀ i, sm.pidAt i ≠ some pid) :
    NoDoubleBooking (sm.step op).1 := by
  rcases step_pid_cases h op with hA | ⟨i, _, hi, hB⟩ | ⟨i, seat, pid, c, rfl, _, hi1, hC⟩
  · intro a b p ha hb
    rw [hA] at ha hb
    exact hnd a b p ha hb
  · -- a `leave` emptied seat `i`: neither `a` nor `b` is `i`, and the other seats are as before
    intro a b p ha hb
    by_cases ha' : a = i
    · subst ha'
      rw [hi] at ha
      cases ha
    · by_cases hb' : b = i
      · subst hb'
        rw [hi] at hb
        cases hb
      · rw [hB a ha'] at ha
        rw [hB b hb'] at hb
        exact hnd a b p ha hb
  · -- a `join` put `pid` on seat `i`: if one of `a`, `b` is `i` the other would have held `pid` before, against `hop`
    have hfr := hop seat pid c rfl
    intro a b p ha hb
    by_cases ha' : a = i
    · by_cases hb' : b = i
      · rw [ha', hb']
      · subst ha'
        rw [hi1] at ha
        cases ha
        rw [hC b hb'] at hb
        exact absurd hb (hfr b)
    · by_cases hb' : b = i
      · subst hb'
        rw [hi1] at hb
        cases hb
        rw [hC a ha'] at ha
        exact absurd ha (hfr a)
      · rw [hC a ha'] at ha
        rw [hC b hb'] at hb
        exact hnd a b p ha hb

theorem disciplined_cons {sm : SM} {op : SMOp} {ops : List SMOp} :
    Disciplined sm (op :: ops) ↔
      (∀ seat pid c, op = .join seat pid c → ∀ i, sm.pidAt i ≠ some pid) ∧ Disciplined (sm.step op).1 ops := by
  constructor
  · intro hd
    cases hd with
    | join hfr hrest =>
      refine ⟨fun _ _ _ he => ?_, hrest⟩
      cases he
      exact hfr
    | other hno hrest =>
      refine ⟨fun _ _ _ he => ?_, hrest⟩
      subst he
      cases hno
  · rintro ⟨hfr, hrest⟩
    cases op with
    | join seat pid c => exact Disciplined.join (hfr seat pid c rfl) hrest
    | _ => exact Disciplined.other rfl hrest

theorem run_noDoubleBooking_disciplined {sm : SM} (h : Inv sm) (hnd : NoDoubleBooking sm) {ops : List SMOp}
    (hd : Disciplined sm ops) : NoDoubleBooking (sm.run ops) := by
  induction ops generalizing sm with
  | nil => exact hnd
  | cons op ops ih =>
    obtain ⟨hfr, hrest⟩ := disciplined_cons.mp hd
    rw [run_cons]
    exact ih (step_inv h op) (step_noDoubleBooking h hnd op hfr) hrest

theorem Disciplined.prefix {sm : SM} {a b : List SMOp} (hd : Disciplined sm (a ++ b)) : Disciplined sm a := by
  induction a generalizing sm with
  | nil => exact Disciplined.nil sm
  | cons op a ih =>
    rw [List.cons_append] at hd
    obtain ⟨hfr, hrest⟩ := disciplined_cons.mp hd
    exact disciplined_cons.mpr ⟨hfr, ih hrest⟩

def seatedPids (sm : SM) : List Nat := sm.seats.filterMap (·.player)

theorem mem_seatedPids (sm : SM) (pid : Nat) : pid ∈ sm.seatedPids ↔ ∃ i, sm.pidAt i = some pid := by
  unfold seatedPids pidAt
  rw [List.mem_filterMap]
  constructor
  · rintro ⟨s, hs, hp⟩
    obtain ⟨i, hi⟩ := List.mem_iff_getElem?.mp hs
    exact ⟨i, by simp [hi, hp]⟩
  · rintro ⟨i, hi⟩
    cases hs : sm.seats[i]? with
    | none => simp [hs] at hi
    | some s =>
      simp [hs] at hi
      exact ⟨s, List.mem_of_getElem? hs, hi⟩

theorem notSeated_iff (sm : SM) (pid : Nat) : (∀ i, sm.pidAt i ≠ some pid) ↔ pid ∉ sm.seatedPids := by
  rw [mem_seatedPids]
  constructor
  · rintro h ⟨i, hi⟩
    exact h i hi
  · intro h i hi
    exact h ⟨i, hi⟩

/-- decides `Disciplined` (`disciplined_iff_check`); the non-vacuity examples of C18 evaluate it -/
def disciplinedB : SM → List SMOp → Bool
  | _, [] => true
  | sm, op :: ops =>
    (match op with
      | .join _ pid _ => !(sm.seatedPids.contains pid)
      | _ => true) && disciplinedB (sm.step op).1 ops

theorem disciplined_iff_check (sm : SM) (ops : List SMOp) : Disciplined sm ops ↔ disciplinedB sm ops = true := by
  induction ops generalizing sm with
  | nil => exact ⟨fun _ => rfl, fun _ => Disciplined.nil sm⟩
  | cons op ops ih =>
    have key : (∀ seat pid c, op = .join seat pid c → ∀ i, sm.pidAt i ≠ some pid) ↔
        (match op with
          | .join _ pid _ => !(sm.seatedPids.contains pid)
          | _ => true) = true := by
      cases op with
      | join seat pid c =>
        simp only [Bool.not_eq_true', List.contains_eq_mem, decide_eq_false_iff_not, ← notSeated_iff]
        exact ⟨fun h => h seat pid c rfl, fun h _ _ _ he => by cases he; exact h⟩
      | _ => exact ⟨fun _ => rfl, fun _ _ _ _ he => nomatch he⟩
    rw [disciplined_cons, key, ih]
    exact Bool.and_eq_true_iff.symm

instance (sm : SM) (ops : List SMOp) : Decidable (Disciplined sm ops) :=
  decidable_of_iff _ (disciplined_iff_check sm ops).symm

theorem step_pidAt_origin {sm : SM} (h : Inv sm) (op : SMOp) {a p : Nat} (ha : (sm.step op).1.pidAt a = some p) :
    (∃ i, sm.pidAt i = some p) ∨ ∃ seat c, op = .join seat p c := by
  rcases step_pid_cases h op with hA | ⟨i, _, hi, hB⟩ | ⟨i, seat, pid, c, he, _, hi1, hC⟩
  · exact Or.inl ⟨a, by rw [← hA]; exact ha⟩
  · by_cases ha' : a = i
    · subst ha'
      rw [hi] at ha
      cases ha
    · exact Or.inl ⟨a, by rw [← hB a ha']; exact ha⟩
  · by_cases ha' : a = i
    · subst ha'
      rw [hi1] at ha
      cases ha
      exact Or.inr ⟨seat, c, he⟩
    · exact Or.inl ⟨a, by rw [← hC a ha']; exact ha⟩

theorem joinPids_cons_of_not_join {op : SMOp} (h : isJoin op = false) (ops : List SMOp) :
    joinPids (op :: ops) = joinPids ops := by
  cases op with
  | join _ _ _ => simp [isJoin] at h
  | _ => rfl

theorem joinPids_tail (op : SMOp) (ops : List SMOp) : (joinPids ops).Sublist (joinPids (op :: ops)) := by
  cases op with
  | join _ pid _ => exact List.sublist_cons_self pid _
  | _ => exact List.Sublist.refl _

theorem disciplined_of_nodup {sm : SM} (h : Inv sm) (ops : List SMOp)
    (hfresh : ∀ i p, sm.pidAt i = some p → p ∉ joinPids ops) (hops : (joinPids ops).Nodup) :
    Disciplined sm ops := by
  induction ops generalizing sm with
  | nil => exact Disciplined.nil sm
  | cons op ops ih =>
    have hsub := joinPids_tail op ops
    refine disciplined_cons.mpr ⟨?_, ih (step_inv h op) ?_ (hops.sublist hsub)⟩
    · rintro seat pid c rfl i hi
      exact hfresh i pid hi List.mem_cons_self
    · -- who sits after the step sat before (fresh for all later joins) or has just joined (and joins only once)
      intro a p ha hm
      rcases step_pidAt_origin h _ ha with ⟨i, hi⟩ | ⟨seat, c, rfl⟩
      · exact hfresh i p hi (hsub.subset hm)
      · exact (List.nodup_cons.mp hops).1 hm

/-- Seat `i` cannot be dealt in: it is reserved or empty (or does not exist). -/
def Held (sm : SM) (i : Nat) : Prop := ∀ s, sm.seats[i]? = some s → s.reserved = true ∨ s.player = none

theorem held_iff_core (sm : SM) (i : Nat) :
    Held sm i ↔ ∀ c, (sm.seats[i]?).map core = some c → c.2 = true ∨ c.1 = none := by
  unfold Held
  cases sm.seats[i]? with
  | none => simp
  | some s => simp [core]

theorem SamePlayers.held {sm sm' : SM} (h : SamePlayers sm sm') {i : Nat} (hh : Held sm i) : Held sm' i := by
  rw [held_iff_core, h.seat i, ← held_iff_core]
  exact hh

theorem Held.not_playable {sm : SM} {i : Nat} (h : Held sm i) : sm.playable i = false := by
  unfold playable
  cases hs : sm.seats[i]? with
  | none => rfl
  | some s =>
    rcases h s hs with h' | h' <;> simp [h']

theorem Held.modSeat {sm : SM} {i : Nat} (h : Held sm i) (k : Nat) (f : Seat → Seat)
    (hf : k ≠ i ∨ ∀ s, (f s).reserved = true ∨ (f s).player = none) : Held (sm.modSeat k f) i := by
  intro s' hs'
  rw [modSeat_seats] at hs'
  split at hs'
  · next hki =>
    rcases hf with hne | hf
    · exact absurd hki hne
    · cases hq : sm.seats[i]? with
      | none =>
        rw [hq] at hs'
        cases hs'
      | some q =>
        rw [hq] at hs'
        cases hs'
        exact hf q
  · exact h s' hs'

theorem onSeat_held {op : SMOp} (h : ∀ id, op ≠ .seat id) (hn : op ≠ .next) (s : Seat) :
    (op.onSeat s).reserved = true ∨ (op.onSeat s).player = none := by
  cases op with
  | seat id => exact absurd rfl (h id)
  | next => exact absurd rfl hn
  | leave id => exact Or.inr rfl
  | join seat pid c => exact Or.inl rfl
  | reserve id => exact Or.inl rfl

theorem step_held {sm : SM} (hinv : Inv sm) {i : Nat} (h : Held sm i) (op : SMOp) (hop : op ≠ .seat (i : Int)) :
    Held (sm.step op).1 i := by
  by_cases hn : op = .next
  · subst hn
    exact (next_samePlayers hinv).held h
  rcases step_local sm hn with ⟨e, he⟩ | ⟨k, _, hk, he, _⟩
  · rw [he]
    exact h
  · rw [he]
    refine h.modSeat k _ ?_
    by_cases hs : ∃ id, op = .seat id
    · obtain ⟨id, rfl⟩ := hs
      left
      rintro rfl
      rcases hk with hk | ⟨_, hk, _⟩
      · exact hop (congrArg SMOp.seat hk)
      · cases hk
    · exact Or.inr (onSeat_held (fun id e => hs ⟨id, e⟩) hn)

theorem run_held {sm : SM} (hinv : Inv sm) {i : Nat} (h : Held sm i) (ops : List SMOp)
    (hops : ∀ op ∈ ops, op ≠ .seat (i : Int)) : Held (sm.run ops) i := by
  induction ops generalizing sm with
  | nil => exact h
  | cons op ops ih =>
    rw [run_cons]
    exact ih (step_inv hinv op) (step_held hinv h op (hops op (by simp))) (fun o ho => hops o (by simp [ho]))

end SM
end Pokerface
