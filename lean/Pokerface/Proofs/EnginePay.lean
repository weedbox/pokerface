import Pokerface.Proofs.EngineChips
/-
  What no function of the model changes (`Static`, `Wr.static`).  The chip-moving functions of the engine model: `pay`,
  `resetAllPlayerStatus`, `resetRoundStatus`, and what they do to the chip invariant.  `pay` is read through its normal
  form (`pay_wager_eq`, `pay_false_eq`, EngineActCases: the paying seat rewritten by `payF`); `pay_core` is the reading of
  the two equations up to the `acted` marks.  Last: what `onBlindsPaid` records (`Meta.openBlind`, `wr_blindsPaid_rest`).
-/
namespace Pokerface
open Game

def Player.static (p : Player) : Nat × Bool × Bool × Bool × Int :=
  (p.idx, p.posDealer, p.posSB, p.posBB, p.bankroll)

/-- what no function of the model changes at all -/
structure Static (g g' : Game) : Prop where
  ids : g'.players.map Player.static = g.players.map Player.static
  opts : g'.opts = g.opts
  mini : g'.miniBet = g.miniBet

theorem Static.refl (g : Game) : Static g g := ⟨rfl, rfl, rfl⟩
theorem Static.trans {a b c : Game} (h1 : Static a b) (h2 : Static b c) : Static a c :=
  ⟨h2.ids.trans h1.ids, h2.opts.trans h1.opts, h2.mini.trans h1.mini⟩

theorem Static.length {g g' : Game} (h : Static g g') : g'.n = g.n := by
  have := congrArg List.length h.ids
  simpa [Game.n] using this

theorem NoChip.static {g g' : Game} (h : NoChip g g') : Static g g' := by
  refine ⟨?_, h.opts, h.mini⟩
  have := congrArg (List.map (fun x : (Nat × Bool × Bool × Bool) × (Int × Int × Int × Int × Int) =>
    (x.1.1, x.1.2.1, x.1.2.2.1, x.1.2.2.2, x.2.1))) h.frame
  simp only [List.map_map, Function.comp_def, Player.frame, Player.chips] at this
  exact this

theorem Wr.static {W : Fp} {g g' : Game} (h : Wr W g g') : Static g g' :=
  ⟨h.map Player.static fun _ => rfl, h.opts, h.miniBet⟩

theorem Game.pay_prev (g : Game) (i : Nat) (c : Int) (w : Bool) : (g.pay i c w).prev = g.prev := (wr_pay g i c w).prev

theorem chipsOK0_update {g g' : Game} (i : Nat) (p : Player) (f : Player → Player)
    (ok : ChipsOK0 g) (hp : g.players[i]? = some p)
    (hplayers : g'.players = g.players.modify i f)
    (hrp : g'.roundPot = g.roundPot - p.wager + (f p).wager)
    (hcw : g.cw ≤ g'.cw) (hprev : 0 ≤ g'.prev) (hinv : PInv (f p)) : ChipsOK0 g' := by
  refine ⟨?_, ?_, Int.le_trans ok.cw0 hcw, hprev⟩
  · rw [hplayers]
    exact forall_mem_modify_at PInv f g.players i ok.pinv (fun x hx => by
      rw [hp] at hx
      cases hx
      exact hinv)
  · rw [hrp, ok.rp]
    simp only [Game.wagerSum, hplayers]
    rw [sum_map_modify (·.wager) f g.players i p hp]

theorem wle_update {g g' : Game} (i : Nat) (p : Player) (f : Player → Player)
    (ok : WLe g) (hp : g.players[i]? = some p) (hplayers : g'.players = g.players.modify i f)
    (hcw : g.cw ≤ g'.cw) (hw : (f p).wager ≤ g'.cw) : WLe g' := by
  rw [WLe, hplayers]
  exact forall_mem_modify_at (fun q => q.wager ≤ g'.cw) f g.players i
    (fun q hq => Int.le_trans (ok q hq) hcw) (fun x hx => by
      rw [hp] at hx
      cases hx
      exact hw)

theorem payF_wager (c : Int) (p : Player) : (payF c p).wager = if p.stack ≤ c then p.initial else p.wager + c := by
  unfold payF
  split <;> rfl

theorem payF_stack (c : Int) (p : Player) : (payF c p).stack = if p.stack ≤ c then 0 else p.initial - (p.wager + c) := by
  unfold payF
  split <;> rfl

theorem payF_acted (c : Int) (p : Player) : (payF c p).acted = p.acted := by
  unfold payF
  split <;> rfl

theorem payF_fold (c : Int) (p : Player) : (payF c p).fold = p.fold := by
  unfold payF
  split
  · rfl
  · rfl

theorem PInv_payF {p : Player} (h : PInv p) {c : Int} (hc : 0 ≤ c) : PInv (payF c p) := by
  have := h.split
  have := h.rebase
  have := h.stack0
  have := h.wager0
  have := h.pot0
  unfold payF
  split
  · constructor <;> simp [goAllin] <;> omega
  · constructor <;> simp [putWager] <;> omega

theorem Game.pay_false_cw (g : Game) (i : Nat) (c : Int) : (g.pay i c false).cw = g.cw := by
  cases hp : g.players[i]? with
  | none => rw [g.pay_none hp]
  | some p =>
    rw [pay_false_eq hp]
    rfl

/-- `pay` up to who has acted (`gc`): seat `i` is rewritten by `payF c`, the round pot follows, the wager to match
    does not go down and, after a wager, covers the seat's -/
theorem pay_core {g : Game} {i : Nat} {p : Player} (hp : g.players[i]? = some p) (c : Int) (w : Bool) :
    ∃ gc : Game, NoChip gc (g.pay i c w) ∧ gc.players = g.players.modify i (payF c) ∧
      gc.roundPot = g.roundPot - p.wager + (payF c p).wager ∧ g.cw ≤ gc.cw ∧
      (w = true → (payF c p).wager ≤ gc.cw) ∧ gc.prev = g.prev := by
  have hrp : g.roundPot + ((payF c p).wager - p.wager) = g.roundPot - p.wager + (payF c p).wager := by omega
  cases w with
  | false =>
    rw [pay_false_eq hp]
    exact ⟨_, .refl _, rfl, hrp, Int.le_refl _, nofun, rfl⟩
  | true =>
    rw [pay_wager_eq hp]
    refine ⟨((g.modP i (payF c)).addRoundPot ((payF c p).wager - p.wager)).setCw (max g.cw (payF c p).wager), ?_, rfl, hrp,
      Int.le_max_left _ _, fun _ => Int.le_max_right _ _, rfl⟩
    dsimp only
    split
    · split
      · exact (wr_becomeRaiser _ i).noChip
      · exact (wr_resetActed _).noChip
    · split
      · exact (wr_becomeRaiser _ i).noChip
      · exact .refl _

theorem Game.pay_cw_mono (g : Game) (i : Nat) (c : Int) (w : Bool) : g.cw ≤ (g.pay i c w).cw := by
  cases hp : g.players[i]? with
  | none =>
    rw [g.pay_none hp]
    exact Int.le_refl _
  | some p =>
    obtain ⟨_, nc, _, _, hcw, _, _⟩ := pay_core hp c w
    rw [nc.cw]
    exact hcw

theorem chipsOK0_pay (g : Game) (i : Nat) (c : Int) (w : Bool) (ok : ChipsOK0 g) (hc : 0 ≤ c) :
    ChipsOK0 (g.pay i c w) := by
  cases hp : g.players[i]? with
  | none =>
    rw [g.pay_none hp]
    exact ok
  | some p =>
    obtain ⟨gc, nc, hpl, hrp, hcw, _, hprev⟩ := pay_core hp c w
    exact .of_noChip nc (chipsOK0_update i p (payF c) ok hp hpl hrp hcw ((hprev ▸ ok.prev0))
      (PInv_payF (ok.pinv p (List.mem_of_getElem? hp)) hc))

theorem chipsOK_pay (g : Game) (i : Nat) (c : Int) (ok : ChipsOK g) (hc : 0 ≤ c) :
    ChipsOK (g.pay i c true) := by
  refine (chipsOK0_pay g i c true ok.zero hc).full ?_
  cases hp : g.players[i]? with
  | none =>
    rw [g.pay_none hp]
    exact ok.wle
  | some p =>
    obtain ⟨gc, nc, hpl, _, hcw, hw, _⟩ := pay_core hp c true
    have := wle_update i p (payF c) ok.wle hp hpl hcw (hw rfl)
    rw [WLe, nc.cw]
    exact forall_of_chips (fun c => c.2.2.2.2 ≤ gc.cw) nc.chips this

/-- after both resets (in either order) the chip invariant holds with all wagers swept -/
theorem chipsOK_resets {g g' : Game}
    (hpl : g'.players = g.players.map fun p => { p with allowed := [], pot := p.pot + p.wager, wager := 0, initial := p.stack })
    (hrp : g'.roundPot = 0) (hcw : g'.cw = 0) (hprev : g'.prev = 0) (ok : ChipsOK0 g) : ChipsOK g' := by
  refine ⟨?_, ?_, (hcw ▸ Int.le_refl 0), (hprev ▸ Int.le_refl 0), ?_⟩
  · intro p hp
    rw [hpl] at hp
    obtain ⟨q, hq, rfl⟩ := List.mem_map.mp hp
    have h := ok.pinv q hq
    have := h.split
    have := h.rebase
    have := h.stack0
    have := h.wager0
    have := h.pot0
    constructor <;> simp <;> omega
  · rw [hrp]
    simp only [Game.wagerSum, hpl, List.map_map, Function.comp_def]
    exact (sum_map_zero_int _).symm
  · intro p hp
    rw [hpl] at hp
    obtain ⟨q, hq, rfl⟩ := List.mem_map.mp hp
    simp [hcw]

/-- "the big blind before any": the big blind, or the dealer blind when there is no big blind — what
    `blindsPaid` records as the first minimum raise of the hand -/
def Meta.openBlind (m : Meta) : Int := if m.blindBB > 0 then m.blindBB else m.blindDealer

/-- `onBlindsPaid` records the opening blind as the minimum raise; what follows (offers and marks reset, the event,
    `prepareRound`) has the footprint of a closing: no chip field, not the recorded raise -/
theorem wr_blindsPaid_rest (g : Game) : Wr .closed (g.setPrev g.opts.openBlind) g.blindsPaid :=
  (((wr_resetAllAllowed _).trans (wr_setEvent _ _)).trans (wr_prepareRound _)).mono

theorem blindsPaid_prev (g : Game) : g.blindsPaid.prev = g.opts.openBlind := (wr_blindsPaid_rest g).prev

end Pokerface
