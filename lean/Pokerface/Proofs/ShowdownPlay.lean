import Pokerface.Model.Game
import Pokerface.Proofs.ListLemmas
/-
  Engine invariant behind the hypotheses `hex` / `hle` of the showdown theorems (C02, Links):
  some NON-FOLDED player has put in (`pot + wager`) at least as much as every other player (`Covered`).
  It follows from an invariant `Lvl` of the list of the players' `(fold, initial, pot, wager)` (`Lv`),
  which is kept by a wager, a fold and the sweep between rounds.
-/
namespace Pokerface
open Game

def Covered (g : Game) : Prop :=
  ∃ q ∈ g.players, q.fold = false ∧ ∀ p ∈ g.players, p.pot + p.wager ≤ q.pot + q.wager

abbrev Lv := Bool × Int × Int × Int

def Player.lv (p : Player) : Lv := (p.fold, p.initial, p.pot, p.wager)
def Game.lvs (g : Game) : List Lv := g.players.map Player.lv

/-- the chip facts used (from `ChipsOK`): 0 ≤ wager ≤ wager to match, wager ≤ stack at the round start -/
def LvOK (l : List Lv) (cw : Int) : Prop :=
  ∀ (k : Nat) (p : Lv), l[k]? = some p → 0 ≤ p.2.2.2 ∧ p.2.2.2 ≤ cw ∧ p.2.2.2 ≤ p.2.1

/-- some non-folded seat has the largest swept part `pot`, and every non-folded seat that had
    chips when the round started has exactly that much -/
def Top (l : List Lv) : Prop :=
  ∃ (j : Nat) (q : Lv), l[j]? = some q ∧ q.1 = false ∧ (∀ (k : Nat) (p : Lv), l[k]? = some p → p.2.2.1 ≤ q.2.2.1) ∧
    (∀ (k : Nat) (p : Lv), l[k]? = some p → p.1 = false → 0 < p.2.1 → p.2.2.1 = q.2.2.1)

/-- the wager to match, when positive, is on the table in front of a non-folded seat -/
def Holder (l : List Lv) (cw : Int) : Prop :=
  0 < cw → ∃ (j : Nat) (q : Lv), l[j]? = some q ∧ q.1 = false ∧ q.2.2.2 = cw

structure Lvl (l : List Lv) (cw : Int) : Prop where
  top : Top l
  holder : Holder l cw

/-- The point of `Lvl`: a non-folded seat has the largest total `pot + wager`. -/
theorem Lvl.cover {l : List Lv} {cw : Int} (h : Lvl l cw) (ok : LvOK l cw) :
    ∃ (j : Nat) (q : Lv), l[j]? = some q ∧ q.1 = false ∧ ∀ (k : Nat) (p : Lv), l[k]? = some p → p.2.2.1 + p.2.2.2 ≤ q.2.2.1 + q.2.2.2 := by
  obtain ⟨j, q, hq, hqf, hmax, hlev⟩ := h.top
  by_cases hc : 0 < cw
  · obtain ⟨j', h', hh, hhf, hhw⟩ := h.holder hc
    refine ⟨j', h', hh, hhf, ?_⟩
    -- the holder has the wager to match in front of it and the top swept part behind it
    intro k p hp
    have hp_wager : p.2.2.2 ≤ cw := (ok k p hp).2.1
    have hh_chips : h'.2.2.2 ≤ h'.2.1 := (ok j' h' hh).2.2
    have hh_pot : h'.2.2.1 = q.2.2.1 := hlev j' h' hh hhf (by omega)
    have hp_pot : p.2.2.1 ≤ q.2.2.1 := hmax k p hp
    omega
  · -- no wager is on the table
    refine ⟨j, q, hq, hqf, ?_⟩
    intro k p hp
    have hp_wager : p.2.2.2 ≤ cw := (ok k p hp).2.1
    have hq_wager : 0 ≤ q.2.2.2 := (ok j q hq).1
    have hp_pot : p.2.2.1 ≤ q.2.2.1 := hmax k p hp
    omega

/-- the part of `Lv` that a wager does not touch -/
def Lv.base (p : Lv) : Bool × Int × Int := (p.1, p.2.1, p.2.2.1)

theorem base_some {l l' : List Lv} (hb : ∀ k : Nat, (l'[k]?).map Lv.base = (l[k]?).map Lv.base) {k : Nat} {p : Lv}
    (hp : l[k]? = some p) : ∃ p', l'[k]? = some p' ∧ p'.1 = p.1 ∧ p'.2.1 = p.2.1 ∧ p'.2.2.1 = p.2.2.1 := by
  have h := hb k
  rw [hp] at h
  simp only [Option.map_some, Option.map_eq_some_iff] at h
  obtain ⟨p', hp', he⟩ := h
  simp only [Lv.base, Prod.mk.injEq] at he
  exact ⟨p', hp', he.1, he.2.1, he.2.2⟩

theorem base_some' {l l' : List Lv} (hb : ∀ k : Nat, (l'[k]?).map Lv.base = (l[k]?).map Lv.base) {k : Nat} {p' : Lv}
    (hp : l'[k]? = some p') : ∃ p, l[k]? = some p ∧ p'.1 = p.1 ∧ p'.2.1 = p.2.1 ∧ p'.2.2.1 = p.2.2.1 := by
  obtain ⟨p, hp1, h1, h2, h3⟩ := base_some (l := l') (l' := l) (fun k => (hb k).symm) hp
  exact ⟨p, hp1, h1.symm, h2.symm, h3.symm⟩

theorem top_of_base {l l' : List Lv} (hb : ∀ k : Nat, (l'[k]?).map Lv.base = (l[k]?).map Lv.base) (h : Top l) : Top l' := by
  obtain ⟨j, q, hq, hqf, hmax, hlev⟩ := h
  obtain ⟨q', hq', e1, e2, e3⟩ := base_some hb hq
  refine ⟨j, q', hq', by rwa [e1], ?_, ?_⟩
  · intro k p' hp'
    obtain ⟨p, hp, f1, f2, f3⟩ := base_some' hb hp'
    rw [f3, e3]
    exact hmax k p hp
  · intro k p' hp' hf hi
    obtain ⟨p, hp, f1, f2, f3⟩ := base_some' hb hp'
    rw [f3, e3]
    exact hlev k p hp (by rwa [← f1]) (by rwa [← f2])

/-- A wager: seat `i` (not folded, or not going above the wager to match) raises its wager to `w'`;
    the wager to match becomes the larger of the two. -/
theorem lvl_pay {l l' : List Lv} {cw cw' : Int} {i : Nat} {a : Lv} {w' : Int}
    (h : Lvl l cw) (ha : l[i]? = some a) (ha' : l'[i]? = some (a.1, a.2.1, a.2.2.1, w'))
    (hoth : ∀ k : Nat, k ≠ i → l'[k]? = l[k]?) (hw : a.2.2.2 ≤ w') (hf : a.1 = false ∨ w' ≤ cw)
    (hcw : cw' = max cw w') : Lvl l' cw' := by
  have hb : ∀ k : Nat, (l'[k]?).map Lv.base = (l[k]?).map Lv.base := by
    intro k
    by_cases hk : k = i
    · subst hk
      rw [ha, ha']
      rfl
    · rw [hoth k hk]
  refine ⟨top_of_base hb h.top, ?_⟩
  intro hpos
  by_cases hlt : cw < w'
  · refine ⟨i, _, ha', ?_, show w' = cw' by omega⟩
    rcases hf with hf | hf
    · exact hf
    · omega
  · have hcw : cw' = cw := by omega
    subst hcw
    obtain ⟨j, q, hq, hqf, hqw⟩ := h.holder hpos
    by_cases hj : j = i
    · subst hj
      rw [ha] at hq
      cases hq
      exact ⟨j, _, ha', hqf, show w' = cw' by omega⟩
    · exact ⟨j, q, by rwa [hoth j hj], hqf, hqw⟩

/-- A fold: seat `i`, whose wager is below the wager to match, folds. -/
theorem lvl_fold {l l' : List Lv} {cw : Int} {i : Nat} {a : Lv}
    (h : Lvl l cw) (ok : LvOK l cw) (ha : l[i]? = some a) (ha' : l'[i]? = some (true, a.2.1, a.2.2.1, a.2.2.2))
    (hoth : ∀ k : Nat, k ≠ i → l'[k]? = l[k]?) (hlt : a.2.2.2 < cw) : Lvl l' cw := by
  have hpos : 0 < cw := by
    have := ok i a ha
    omega
  obtain ⟨j, q, hq, hqf, hqw⟩ := h.holder hpos
  have hj : j ≠ i := by
    intro e
    subst e
    rw [ha] at hq
    cases hq
    omega
  have hq' : l'[j]? = some q := by
    rw [hoth j hj]
    exact hq
  obtain ⟨t, qt, hqt, _, hmax, hlev⟩ := h.top
  have hqi : 0 < q.2.1 := by
    have := ok j q hq
    omega
  have hqp : q.2.2.1 = qt.2.2.1 := hlev j q hq hqf hqi
  have hsome : ∀ (k : Nat) (p' : Lv), l'[k]? = some p' → ∃ p : Lv, l[k]? = some p ∧ p'.2.1 = p.2.1 ∧ p'.2.2.1 = p.2.2.1 ∧
      (p'.1 = false → p.1 = false) := by
    intro k p' hp'
    by_cases hk : k = i
    · subst hk
      rw [ha'] at hp'
      cases hp'
      exact ⟨a, ha, rfl, rfl, fun h => by cases h⟩
    · rw [hoth k hk] at hp'
      exact ⟨p', hp', rfl, rfl, id⟩
  refine ⟨⟨j, q, hq', hqf, ?_, ?_⟩, fun _ => ⟨j, q, hq', hqf, hqw⟩⟩
  · intro k p' hp'
    obtain ⟨p, hp, _, e2, _⟩ := hsome k p' hp'
    rw [e2, hqp]
    exact hmax k p hp
  · intro k p' hp' hf hi
    obtain ⟨p, hp, e1, e2, e3⟩ := hsome k p' hp'
    rw [e2, hqp]
    exact hlev k p hp (e3 hf) (by rwa [← e1])

/-- the sweep between two rounds on `Lv` -/
def Lv.sweep (p : Lv) : Lv := (p.1, p.2.1 - p.2.2.2, p.2.2.1 + p.2.2.2, 0)

/-- The sweep at the end of a round, when the seats that still have chips are level
    (`C05.every_close_level`) or a single seat is left. -/
theorem lvl_sweep {l : List Lv} {cw : Int} (h : Lvl l cw) (ok : LvOK l cw)
    (hclose : (∀ (k : Nat) (p : Lv), l[k]? = some p → p.1 = false → 0 < p.2.1 - p.2.2.2 → p.2.2.2 = cw) ∨
      (∀ p ∈ l, ∀ q ∈ l, p.1 = false → q.1 = false → p = q)) :
    Lvl (l.map Lv.sweep) 0 := by
  obtain ⟨j, q, hq, hqf, hcov⟩ := h.cover ok
  obtain ⟨t, qt, hqt, _, hmax, hlev⟩ := h.top
  refine ⟨⟨j, q.sweep, by simp [hq], hqf, ?_, ?_⟩, fun h0 => absurd h0 (by omega)⟩
  · intro k p' hp'
    simp only [List.getElem?_map, Option.map_eq_some_iff] at hp'
    obtain ⟨p, hp, rfl⟩ := hp'
    exact hcov k p hp
  · intro k p' hp' hf hi
    simp only [List.getElem?_map, Option.map_eq_some_iff] at hp'
    obtain ⟨p, hp, rfl⟩ := hp'
    show p.2.2.1 + p.2.2.2 = q.2.2.1 + q.2.2.2
    rcases hclose with hc | hc
    · -- `p` has the wager to match and the top swept part, so its total is at least that of `q`
      have hp_wager : p.2.2.2 = cw := hc k p hp hf hi
      have hp_chips : 0 < p.2.1 - p.2.2.2 := hi
      have hp_wager0 : 0 ≤ p.2.2.2 := (ok k p hp).1
      have hp_pot : p.2.2.1 = qt.2.2.1 := hlev k p hp hf (by omega)
      have hq_pot : q.2.2.1 ≤ qt.2.2.1 := hmax j q hq
      have hq_wager : q.2.2.2 ≤ cw := (ok j q hq).2.1
      have hle : p.2.2.1 + p.2.2.2 ≤ q.2.2.1 + q.2.2.2 := hcov k p hp
      omega
    · rw [hc p (List.mem_of_getElem? hp) q (List.mem_of_getElem? hq) hf hqf]

end Pokerface
