/-
  The termination measure as a number (C20): the lexicographic tuple read as a numeral in base `W`,
  and the bound on its digits.
-/
import Pokerface.Proofs.RegMeasure
import Pokerface.Proofs.RegOps

namespace Pokerface
namespace Reg

def enc (W m1 : Nat) (v : Vec) : Nat :=
  ((((m1 * W + v.m2) * W + v.b) * W + v.a) * W + v.s) * W + v.l

theorem step_lt {a' a y' y W : Nat} (h : a' < a ∨ (a' = a ∧ y' < y)) (hy : y' < W) :
    a' * W + y' < a * W + y := by
  rcases h with h | ⟨h1, h2⟩
  · have := Nat.mul_le_mul_right W (show a' + 1 ≤ a from h)
    rw [Nat.add_mul, Nat.one_mul] at this
    omega
  · subst h1
    omega

theorem step_le {a' a y' y W : Nat} (h : a' < a ∨ (a' = a ∧ y' ≤ y)) (hy : y' < W) :
    a' * W + y' ≤ a * W + y :=
  Nat.le_of_lt_succ (step_lt (y := y + 1) (h.imp_right fun ⟨e, l⟩ => ⟨e, Nat.lt_succ_of_le l⟩) hy)

/-- a lexicographic comparison carried one digit further into the base-`W` numeral -/
theorem step_mid {a' a y' y W : Nat} {P : Prop} (hy : y' < W)
    (h : a' < a ∨ (a' = a ∧ (y' < y ∨ (y' = y ∧ P)))) :
    a' * W + y' < a * W + y ∨ (a' * W + y' = a * W + y ∧ P) := by
  rcases h with h | ⟨h1, h2 | ⟨h2, p⟩⟩
  · exact Or.inl (step_lt (Or.inl h) hy)
  · exact Or.inl (step_lt (Or.inr ⟨h1, h2⟩) hy)
  · exact Or.inr ⟨by rw [h1, h2], p⟩

/-- all components of a vector are below `W` -/
def Vec.below (v : Vec) (W : Nat) : Prop := v.m2 < W ∧ v.b < W ∧ v.a < W ∧ v.s < W ∧ v.l < W

theorem enc_lt {W m1' m1 : Nat} {v' v : Vec} (hb : v'.below W)
    (h : m1' < m1 ∨ (m1' = m1 ∧ lexLt v' v)) : enc W m1' v' < enc W m1 v :=
  step_lt (step_mid hb.2.2.2.1 (step_mid hb.2.2.1 (step_mid hb.2.1 (step_mid hb.1 h)))) hb.2.2.2.2

theorem enc_le {W m1' m1 : Nat} {v' v : Vec} (hb : v'.below W)
    (h : m1' < m1 ∨ (m1' = m1 ∧ lexLe v' v)) : enc W m1' v' ≤ enc W m1 v :=
  step_le (step_mid hb.2.2.2.1 (step_mid hb.2.2.1 (step_mid hb.2.1 (step_mid hb.1 h)))) hb.2.2.2.2

def pot (W : Nat) (r : Reg) : Nat := enc W (mu1 r) (muv r)

theorem pot_lt {W : Nat} {r' r : Reg} (hb : (muv r').below W) (h : MLt r' r) : pot W r' < pot W r :=
  enc_lt hb h

theorem pot_le {W : Nat} {r' r : Reg} (hb : (muv r').below W) (h : MLe r' r) : pot W r' ≤ pot W r :=
  enc_le hb h

theorem muv_below (r : Reg) (hwf : WF r) (hpc : 0 ≤ r.playerCount) (Tmax : Nat)
    (hT : r.tables.length ≤ Tmax) :
    (muv r).below (Tmax * r.max + Tmax + 1) := by
  by_cases z : zeroed r
  · rw [muv_pos z]
    unfold Vec.below
    simp only
    omega
  · rw [muv_neg z]
    obtain ⟨f0, f1⟩ := flr_bounds r hwf hpc
    have hlen : r.tables.length * r.max ≤ Tmax * r.max := Nat.mul_le_mul_right _ hT
    have hlen1 : r.tables.length * 1 ≤ Tmax * 1 := Nat.mul_le_mul_right _ hT
    have c1 := tot_le (dF (flr r)) r.tables 1 (fun t _ => by simp only [dF]; omega)
    have c2 := tot_le (bF (flr r)) r.tables r.max (fun t ht => by
      have := hwf.bnd t ht
      simp only [bF]
      split <;> omega)
    have c3 := tot_le (aF (flr r)) r.tables 1 (fun t _ => by simp only [aF]; omega)
    have c4 := tot_le (sF (flr r)) r.tables r.max (fun t ht => by
      have := hwf.bnd t ht
      simp only [sF]
      omega)
    have c5 := tot_le (lF (flr r)) r.tables r.max (fun t ht => by
      have := hwf.bnd t ht
      simp only [lF]
      omega)
    unfold Vec.below vecOf
    simp only
    omega

end Reg
end Pokerface
