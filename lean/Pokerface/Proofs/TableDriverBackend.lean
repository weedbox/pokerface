import Pokerface.Model.TableDriver
import Pokerface.Properties.C07
/-
  The backend of the table's driver (table/game.go, table/native_backend.go) as a function of the engine step,
  and "the marks are invisible": the operations `payAnte` / `payBlinds` do not read `AllowedActions`.
-/
namespace Pokerface.Drv
open Pokerface Game

theorem backend_hop (e : Game) (op : Op) : backend e.hop op = backend e op := by
  unfold backend
  rw [C07.hop_idempotent]

/-- stated for a variable `x`: with the opening state in its place the four `rfl` would unfold it -/
theorem eq_hop_fields {g x : Game} (h : g = x.hop) :
    g.event = x.event ∧ g.round = x.round ∧ g.cur = x.cur ∧ g.players = x.players := by
  subst h
  exact ⟨rfl, rfl, rfl, rfl⟩

theorem backend_ok {s : Game} {op : Op} (h : (s.step op).2 = none) : backend s op = .ok (s.step op).1.hop := by
  obtain ⟨h1, h2⟩ := C07.hop_step s op
  rw [h] at h2
  unfold backend
  rw [← h1]
  generalize s.hop.step op = x at h2 ⊢
  obtain ⟨x1, x2⟩ := x
  cases h2
  rfl

theorem backend_error {s : Game} {op : Op} {err : Err} (h : (s.step op).2 = some err) : backend s op = .error err := by
  have h2 := (C07.hop_step s op).2
  rw [h] at h2
  unfold backend
  generalize s.hop.step op = x at h2 ⊢
  obtain ⟨x1, x2⟩ := x
  cases h2
  rfl

/-- the state up to `AllowedActions`: what two states that differ in the "pay" marks only have in common -/
def clr (g : Game) : Game := g.mapP clearAllowed

@[simp] theorem clr_cw (g : Game) : (clr g).cw = g.cw := rfl
@[simp] theorem clr_prev (g : Game) : (clr g).prev = g.prev := rfl
@[simp] theorem clr_opts (g : Game) : (clr g).opts = g.opts := rfl
@[simp] theorem clr_event (g : Game) : (clr g).event = g.event := rfl
@[simp] theorem clr_round (g : Game) : (clr g).round = g.round := rfl
@[simp] theorem clr_n (g : Game) : (clr g).n = g.n := by simp [clr, Game.n, Game.mapP]
@[simp] theorem clr_get (g : Game) (i : Nat) : (clr g).players[i]? = (g.players[i]?).map clearAllowed := by
  simp [clr, Game.mapP]

theorem modP_clr (g : Game) (i : Nat) (f : Player → Player) (hf : ∀ p, f (clearAllowed p) = clearAllowed (f p)) :
    (clr g).modP i f = clr (g.modP i f) := by
  simp only [clr, Game.modP, Game.mapP]
  congr 1
  apply List.ext_getElem?
  intro k
  simp only [List.getElem?_modify, List.getElem?_map]
  cases g.players[k]? with
  | none => simp
  | some p => by_cases hk : i = k <;> simp [hk, hf]

@[simp] theorem clr_addRoundPot (g : Game) (x : Int) : (clr g).addRoundPot x = clr (g.addRoundPot x) := rfl
@[simp] theorem clr_setCw (g : Game) (x : Int) : (clr g).setCw x = clr (g.setCw x) := rfl
@[simp] theorem clr_setPrev (g : Game) (x : Int) : (clr g).setPrev x = clr (g.setPrev x) := rfl
@[simp] theorem clr_setRaiser (g : Game) (x : Nat) : (clr g).setRaiser x = clr (g.setRaiser x) := rfl
@[simp] theorem clr_setEvent (g : Game) (x : Ev) : (clr g).setEvent x = clr (g.setEvent x) := rfl

@[simp] theorem clr_resetActed (g : Game) : (clr g).resetActed = clr g.resetActed := by
  simp [clr, Game.resetActed, Game.mapP, List.map_map, Function.comp_def, clearAllowed]

@[simp] theorem clr_setActed (g : Game) (i : Nat) : (clr g).setActed i = clr (g.setActed i) :=
  modP_clr g i _ (fun _ => rfl)

@[simp] theorem clr_becomeRaiser (g : Game) (i : Nat) : (clr g).becomeRaiser i = clr (g.becomeRaiser i) := by
  simp [Game.becomeRaiser]

theorem clr_resetAllAllowed (g : Game) : (clr g).resetAllAllowed = g.resetAllAllowed := by
  simp [clr, Game.resetAllAllowed, Game.mapP, List.map_map, Function.comp_def, clearAllowed]

theorem clr_pay (g : Game) (i : Nat) (x : Int) (w : Bool) : (clr g).pay i x w = clr (g.pay i x w) := by
  unfold Game.pay
  rw [clr_get]
  cases g.players[i]? with
  | none => rfl
  | some p =>
    simp only [Option.map_some]
    have e1 : (clearAllowed p).stack = p.stack := rfl
    rw [e1]
    split
    · unfold Game.payAllin
      have e2 : (clearAllowed p).initial = p.initial := rfl
      have e3 : (clearAllowed p).wager = p.wager := rfl
      simp only [e2, e3, clr_addRoundPot, clr_cw, clr_prev]
      rw [modP_clr _ i goAllin (fun _ => rfl)]
      cases w
      · simp
      · simp only [if_true]
        split
        · split
          · simp
          · simp
        · split
          · simp
          · simp
    · unfold Game.payPart
      have e3 : (clearAllowed p).wager = p.wager := rfl
      simp only [e3, clr_cw]
      rw [modP_clr _ i (putWager (p.wager + x)) (fun _ => rfl)]
      simp only [clr_addRoundPot]
      split
      · simp
      · simp

theorem clr_seats (g : Game) : (clr g).seatsFromDealer = g.seatsFromDealer := by
  have : (clr g).dealerIdx? = g.dealerIdx? := by
    simp only [Game.dealerIdx?, clr, Game.mapP, ← List.map_reverse, List.find?_map, Option.map_map]
    rfl
  simp only [Game.seatsFromDealer, Game.dealerIdx, this, clr_n]

theorem clr_payAnteLoop (is : List Nat) (g : Game) :
    payAnteLoop is (clr g) = (clr (payAnteLoop is g).1, (payAnteLoop is g).2) := by
  induction is generalizing g with
  | nil => rfl
  | cons i is ih =>
    simp only [payAnteLoop, clr_get]
    cases g.players[i]? with
    | none => rfl
    | some p =>
      simp only [Option.map_some]
      have e3 : (clearAllowed p).wager = p.wager := rfl
      rw [e3]
      split
      · rfl
      · rw [clr_opts, clr_pay, ih]

theorem clr_antePaid (g : Game) : (clr g).antePaid = g.antePaid := by
  unfold Game.antePaid
  rw [clr_resetAllAllowed]

theorem clr_payAnte (g : Game) :
    (clr g).payAnte.2 = g.payAnte.2 ∧ (g.payAnte.2 = none → (clr g).payAnte.1 = g.payAnte.1) := by
  unfold Game.payAnte
  simp only [clr_opts, clr_event, clr_seats, clr_payAnteLoop]
  split
  · simp
  · split
    · simp
    · generalize payAnteLoop g.seatsFromDealer g = r
      obtain ⟨g', e⟩ := r
      cases e <;> simp [clr_antePaid]

theorem clr_payBlind (g : Game) (i : Nat) : (clr g).payBlind i = clr (g.payBlind i) := by
  unfold Game.payBlind
  rw [clr_get]
  cases g.players[i]? with
  | none => rfl
  | some p =>
    simp only [Option.map_some, clr_opts]
    have e1 : (clearAllowed p).stack = p.stack := rfl
    have e2 : blindOf g.opts (clearAllowed p) = blindOf g.opts p := rfl
    simp only [e1, e2, clr_pay]

theorem clr_foldBlind (is : List Nat) (g : Game) : is.foldl payBlind (clr g) = clr (is.foldl payBlind g) := by
  induction is generalizing g with
  | nil => rfl
  | cons i is ih => simp only [List.foldl_cons, clr_payBlind, ih]

theorem clr_payBlinds (g : Game) :
    (clr g).payBlinds.2 = g.payBlinds.2 ∧ (g.payBlinds.2 = none → (clr g).payBlinds.1 = g.payBlinds.1) := by
  unfold Game.payBlinds
  simp only [clr_event, clr_seats, clr_foldBlind]
  split
  · simp
  · unfold Game.blindsPaid
    simp only [clr_opts, clr_setPrev, clr_resetAllAllowed]
    simp

theorem step_clr (g : Game) {op : Op} (hop : op = .payAnte ∨ op = .payBlinds) :
    ((clr g).step op).2 = (g.step op).2 ∧ ((g.step op).2 = none → ((clr g).step op).1 = (g.step op).1) := by
  rcases hop with rfl | rfl
  · exact clr_payAnte g
  · exact clr_payBlinds g

theorem fire_clr {a b : Game} (h : clr a = clr b) {op : Op} (hop : op = .payAnte ∨ op = .payBlinds) :
    (a.step op).2 = (b.step op).2 ∧ ((b.step op).2 = none → (a.step op).1 = (b.step op).1) := by
  obtain ⟨a1, a2⟩ := step_clr a hop
  obtain ⟨b1, b2⟩ := step_clr b hop
  rw [h] at a1 a2
  refine ⟨a1.symm.trans b1, fun hb => ?_⟩
  rw [← a2 (a1.symm.trans (b1.trans hb)), ← b2 hb]

theorem backend_marked {g' e : Game} (hc : clr g' = clr e.hop) {op : Op} (hop : op = .payAnte ∨ op = .payBlinds)
    (hacc : (e.step op).2 = none) : backend g' op = .ok (e.step op).1.hop := by
  obtain ⟨f1, f2⟩ := fire_clr hc hop
  obtain ⟨c1, c2⟩ := C07.hop_step e op
  rw [c2, hacc] at f1 f2
  rw [backend_ok f1, f2 rfl, c1]

theorem clr_mapP (g : Game) (f : Player → Player) (hf : ∀ p, clearAllowed (f p) = clearAllowed p) :
    clr (g.mapP f) = clr g := by
  simp only [clr, Game.mapP, List.map_map]
  congr 1
  apply List.map_congr_left
  intro p _
  exact hf p

theorem clearAllowed_allowAction (a : Act) (p : Player) : clearAllowed (allowAction a p) = clearAllowed p := by
  unfold allowAction
  split <;> rfl

theorem mem_of_clr_eq {a b : Game} (h : clr a = clr b) {p : Player} (hp : p ∈ a.players) :
    ∃ q ∈ b.players, clearAllowed q = clearAllowed p := by
  have h1 : clearAllowed p ∈ (clr a).players := List.mem_map_of_mem (f := clearAllowed) hp
  rw [h] at h1
  exact List.mem_map.mp h1

end Pokerface.Drv
