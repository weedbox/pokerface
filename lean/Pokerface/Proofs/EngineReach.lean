import Pokerface.Proofs.EngineInv
import Pokerface.Proofs.EngineRun
/-
  Configurations the engine accepts, reachable states, and the invariant on all of them; a record run alongside the
  engine (`RecRun`), with the induction over reachable states and their records.
-/
namespace Pokerface
open Game

/-- The part of the domain of DESIGN §5 that `Start()` does not check itself: the forced
    bets are not negative.  (Two seats, a dealer, positive bankrolls and a deck are checked
    by `start`: `start_cases` / `start_ok` hand on the two that later proofs use, two seats and positive bankrolls;
    all four with their errors are in `start_err`, FlowC06.) -/
structure WFConfig (c : Config) : Prop where
  opts : OptsOK c.opts

/-- every state the engine can be in: a run of operations (accepted or refused) from a
    successfully started hand of an accepted configuration -/
def Reachable (g : Game) : Prop :=
  ∃ (c : Config) (ops : List Op), WFConfig c ∧ (start c).2 = none ∧ g = (start c).1.run ops

theorem config_players_getElem? (c : Config) (i : Nat) :
    c.players[i]? = (c.seats[i]?).map fun s =>
      { idx := i, posDealer := s.dealer, posSB := s.sb, posBB := s.bb, bankroll := s.bankroll, initial := s.bankroll,
        stack := s.bankroll } := by
  unfold Config.players
  rw [List.getElem?_map, List.getElem?_zipIdx, Option.map_map]
  cases c.seats[i]? with
  | none => rfl
  | some s => simp

theorem config_players_getElem (c : Config) (i : Nat) (p : Player) (h : c.players[i]? = some p) :
    p.idx = i ∧ p.stack = p.bankroll ∧ p.initial = p.bankroll ∧ p.wager = 0 ∧ p.pot = 0 ∧ p.allowed = [] ∧
    p.hole = [] ∧ p.comb = some {} := by
  rw [config_players_getElem?] at h
  obtain ⟨s, _, rfl⟩ := Option.map_eq_some_iff.1 h
  exact ⟨rfl, rfl, rfl, rfl, rfl, rfl, rfl, rfl⟩

theorem config_players_mem (c : Config) {p : Player} (hp : p ∈ c.players) :
    p.stack = p.bankroll ∧ p.initial = p.bankroll ∧ p.wager = 0 ∧ p.pot = 0 ∧ p.allowed = [] ∧ p.hole = [] ∧
    p.comb = some {} := by
  obtain ⟨i, hi, hpi⟩ := List.getElem_of_mem hp
  exact (config_players_getElem c i p (by simp [List.getElem?_eq_getElem hi, hpi])).2

theorem config_players_length (c : Config) : c.players.length = c.seats.length := by
  simp [Config.players]

def Config.miniBet0 (c : Config) : Int :=
  if c.opts.blindDealer > c.opts.blindBB then c.opts.blindDealer else c.opts.blindBB

/-- the state built by `NewGame` + the first lines of `Initialize` -/
def Config.game0 (c : Config) : Game := { opts := c.opts, players := c.players, miniBet := c.miniBet0 }

theorem start_ok (c : Config) (h : (start c).2 = none) :
    2 ≤ c.players.length ∧ (∀ p ∈ c.players, 0 < p.bankroll) ∧
    (start c).1 = c.game0.resetRoundStatus.requestReady := by
  rcases start_cases c with ⟨hn, _⟩ | ⟨_, hn, hb, he⟩
  · exact absurd h hn
  · exact ⟨hn, hb, he⟩

theorem wr_start (c : Config) (h : (start c).2 = none) :
    Wr ({ prev := true, roundPot := true, cw := true, raiser := true, cur := true } ∪
      { event := true, acted := true, allowed := true }) c.game0 (start c).1 :=
  (start_ok c h).2.2 ▸ (wr_resetRoundStatus c.game0).trans (wr_requestReady _)

theorem inv_start (c : Config) (wf : WFConfig c) (h : (start c).2 = none) : Inv (start c).1 := by
  obtain ⟨hn, hb, he⟩ := start_ok c h
  rw [he]
  let g0 : Game := c.game0
  have hn0 : g0.n = c.players.length := rfl
  have s0 : Struct g0 :=
    ⟨fun i p hp => (config_players_getElem c i p hp).1, hn0 ▸ Nat.lt_of_lt_of_le Nat.zero_lt_two hn,
      hn0 ▸ Nat.lt_of_lt_of_le Nat.zero_lt_two hn⟩
  have s1 : Struct g0.resetRoundStatus := (wr_resetRoundStatus g0).struct s0
  have ok1 : ChipsOK g0.resetRoundStatus := by
    have hall : ∀ p ∈ c.players, p.stack = p.bankroll ∧ p.initial = p.bankroll ∧ p.wager = 0 ∧ p.pot = 0 :=
      fun p hp => ⟨(config_players_mem c hp).1, (config_players_mem c hp).2.1, (config_players_mem c hp).2.2.1,
        (config_players_mem c hp).2.2.2.1⟩
    refine ⟨?_, ?_, Int.le_refl 0, Int.le_refl 0, ?_⟩
    · intro p hp
      obtain ⟨h1, h2, h3, h4⟩ := hall p hp
      have := hb p hp
      constructor <;> omega
    · exact (wagerSum_zero (g := g0.resetRoundStatus) fun p hp => (hall p hp).2.2.1).symm
    · intro p hp
      have := (hall p hp).2.2.1
      show p.wager ≤ 0
      omega
  exact .of_parts wf.opts s1 ok1 (wr_requestReady g0.resetRoundStatus).noChip (post_requestReady _)

theorem reachable_run {c : Config} (wf : WFConfig c) (hs : (start c).2 = none) (ops : List Op) :
    Reachable ((start c).1.run ops) := ⟨c, ops, wf, hs, rfl⟩

theorem Reachable.run {g : Game} (h : Reachable g) (ops : List Op) : Reachable (g.run ops) := by
  obtain ⟨c, ops0, wf, hs, rfl⟩ := h
  exact ⟨c, ops0 ++ ops, wf, hs, (run_append _ _ _).symm⟩

theorem Reachable.step {g : Game} (h : Reachable g) (op : Op) : Reachable (g.step op).1 :=
  h.run [op]

/-- A property of every successfully started hand that every operation keeps on reachable states holds in every
    reachable state; the step may use that the state is reachable (so `inv_reachable` and whatever else is known of it). -/
theorem Reachable.induct {P : Game → Prop} (base : ∀ c, WFConfig c → (start c).2 = none → P (start c).1)
    (step : ∀ g, Reachable g → P g → ∀ op, P (g.step op).1) {g : Game} (h : Reachable g) : P g := by
  obtain ⟨c, ops, wf, hs, rfl⟩ := h
  exact (Game.run_induction (P := fun g => Reachable g ∧ P g) (fun g op h => ⟨h.1.step op, step g h.1 h.2 op⟩)
    ⟨reachable_run wf hs [], base c wf hs⟩ ops).2

theorem inv_reachable {g : Game} (h : Reachable g) : Inv g :=
  h.induct inv_start fun g _ hi op => inv_step g hi op

/-! ### a record run alongside the engine

  `run` carries a record of type `σ` through the operations, updating it by `upd`.  The ghost records of C05
  (`Game.runG`) and C12 (`Game.runL`) are run this way; what is said here is said of both. -/

structure RecRun {σ : Type} (upd : σ → Game → Op → σ) (run : Game → σ → List Op → Game × σ) : Prop where
  nil : ∀ g s, run g s [] = (g, s)
  cons : ∀ g s op ops, run g s (op :: ops) = run (g.step op).1 (upd s g op) ops

namespace RecRun
variable {σ : Type} {upd : σ → Game → Op → σ} {run : Game → σ → List Op → Game × σ}

/-- the states of the hands started with the record `s0 c`, each with its record -/
def Reach (run : Game → σ → List Op → Game × σ) (s0 : Config → σ) (g : Game) (s : σ) : Prop :=
  ∃ (c : Config) (ops : List Op), WFConfig c ∧ (start c).2 = none ∧ (g, s) = run (start c).1 (s0 c) ops

theorem fst (h : RecRun upd run) : ∀ (ops : List Op) (g : Game) (s : σ), (run g s ops).1 = g.run ops
  | [], g, s => by
    rw [h.nil]
    rfl
  | op :: ops, g, s => by
    rw [h.cons]
    exact h.fst ops _ _

theorem append (h : RecRun upd run) : ∀ (ops : List Op) (g : Game) (s : σ) (op : Op),
    run g s (ops ++ [op]) = (((run g s ops).1.step op).1, upd (run g s ops).2 (run g s ops).1 op)
  | [], g, s, op => by rw [List.nil_append, h.cons, h.nil, h.nil]
  | o :: ops, g, s, op => by
    rw [List.cons_append, h.cons, h.cons]
    exact h.append ops _ _ op

theorem reachable (h : RecRun upd run) {s0 : Config → σ} {g : Game} {s : σ} (hr : Reach run s0 g s) : Reachable g := by
  obtain ⟨c, ops, wf, hs, e⟩ := hr
  exact ⟨c, ops, wf, hs, (congrArg Prod.fst e).trans (h.fst ops _ _)⟩

theorem of_reachable (h : RecRun upd run) (s0 : Config → σ) {g : Game} (hr : Reachable g) : ∃ s, Reach run s0 g s := by
  obtain ⟨c, ops, wf, hs, rfl⟩ := hr
  exact ⟨(run (start c).1 (s0 c) ops).2, c, ops, wf, hs, by rw [← h.fst ops _ (s0 c)]⟩

theorem step (h : RecRun upd run) {s0 : Config → σ} {g : Game} {s : σ} (hr : Reach run s0 g s) (op : Op) :
    Reach run s0 (g.step op).1 (upd s g op) := by
  obtain ⟨c, ops, wf, hs, e⟩ := hr
  refine ⟨c, ops ++ [op], wf, hs, ?_⟩
  rw [h.append, ← e]

theorem induct (h : RecRun upd run) {s0 : Config → σ} {P : Game → σ → Prop}
    (base : ∀ c, WFConfig c → (start c).2 = none → P (start c).1 (s0 c))
    (stp : ∀ g s, Reachable g → P g s → ∀ op, P (g.step op).1 (upd s g op)) {g : Game} {s : σ}
    (hr : Reach run s0 g s) : P g s := by
  have key : ∀ (ops : List Op) (g : Game) (s : σ), Reachable g → P g s → P (run g s ops).1 (run g s ops).2 := by
    intro ops
    induction ops with
    | nil =>
      intro g s _ hp
      rw [h.nil]
      exact hp
    | cons op ops ih =>
      intro g s hR hp
      rw [h.cons]
      exact ih _ _ (hR.step op) (stp g s hR hp op)
  obtain ⟨c, ops, wf, hs, e⟩ := hr
  have := key ops (start c).1 (s0 c) (reachable_run wf hs []) (base c wf hs)
  rw [← e] at this
  exact this

end RecRun

end Pokerface
