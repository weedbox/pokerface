import Pokerface.Proofs.FlowPhase
/-
  An accepted action is a turn of the seat to act (`act_turn`: the seat, the shape of the mid-action state, its
  invariant); `Flow` is preserved by every operation — by a table operation because of where the phase table says it
  lands —, hence holds in every reachable state.  An operation the wait point does not await changes nothing
  (`step_not_awaited`).
-/
namespace Pokerface
open Game

/-- An accepted action under the invariant: it is an action of the seat to act `p` in an open betting round, and
    the new state is `requestPlayerAction` of a mid-action state `g1` of one of the three shapes. -/
theorem act_turn (g : Game) (hi : Inv g) (i : Nat) (a : Act) (x : Int) (hacc : (g.act i a x).2 = none) :
    ∃ p g1, g.players[g.cur]? = some p ∧ g.event = .roundStarted ∧ i = g.cur ∧
      (g.act i a x).1 = g1.requestPlayerAction ∧ ActShape g g.cur p g1 ∧ MidAct g1 ∧ Quiet g g1 ∧ g1.cur = g.cur := by
  obtain ⟨p, g1, hp, he, hc, ok, e, nf⟩ := act_nf hi hacc
  subst hc
  have sh := nf.shape ok hp
  have hm := sh.midAct (hi.midAct he)
  refine ⟨p, g1, hp, he, rfl, ?_, sh, hm, sh.wr.quiet, sh.wr.cur⟩
  rw [e, resume_started hm.ev]

theorem requestPlayerAction_event (g : Game) :
    g.requestPlayerAction.event = g.event ∨ g.requestPlayerAction.event = .roundClosed :=
  Game.requestPlayerAction_steps (R := fun a b => b.event = a.event ∨ b.event = .roundClosed) (Or.inl rfl) (Or.inr rfl)
    (Or.inl rfl)

/-- an accepted action leaves the betting round open or closes it -/
theorem act_event (g : Game) (hi : Inv g) (i : Nat) (a : Act) (x : Int) (hacc : (g.act i a x).2 = none) :
    (g.act i a x).1.event = .roundStarted ∨ (g.act i a x).1.event = .roundClosed := by
  obtain ⟨_, g1, _, _, _, e, _, hm, _⟩ := act_turn g hi i a x hacc
  rw [e]
  exact (requestPlayerAction_event g1).imp_left (·.trans hm.ev)

/-- an operation is accepted only at the wait point that awaits it -/
theorem accepted_awaited {g : Game} (hi : Inv g) (op : Op) (hacc : (g.step op).2 = none) : g.event = op.awaited := by
  cases op with
  | act s a x =>
    rw [g.step_act] at hacc
    obtain ⟨_, _, _, he, _⟩ := act_turn g hi _ a x hacc
    exact he
  | ready | payAnte | payBlinds | next => exact accepted_awaited_table g _ nofun hacc

/-- an operation that the wait point does not await changes nothing -/
theorem step_not_awaited {g : Game} (hi : Inv g) (hf : Flow g) (op : Op) (h : g.event ≠ op.awaited) : (g.step op).1 = g := by
  by_cases hacc : (g.step op).2 = none
  · exact absurd (accepted_awaited hi op hacc) h
  · exact refused_same g hf op hacc

/-- at the wait point of the table operation `o` every other operation changes nothing -/
theorem step_other_awaited {g : Game} (hi : Inv g) (hf : Flow g) {o : Op} (ho : ∀ s a x, o ≠ .act s a x)
    (he : g.event = o.awaited) {op : Op} (hop : op ≠ o) : (g.step op).1 = g :=
  step_not_awaited hi hf op (by rw [he]; exact (Op.awaited_ne ho hop).symm)

/-- The three ways an operation goes under the invariants: it is refused and changes nothing; it is an accepted action,
    in an open betting round; it is an accepted table operation, outside an open round (`step_phase` then says where it
    lands).  A case principle: `induction op using step_split hi hf with | refused … | act … | table …`. -/
theorem step_split {g : Game} (hi : Inv g) (hf : Flow g) {motive : Op → Prop}
    (refused : ∀ op, (g.step op).2 ≠ none → (g.step op).1 = g → motive op)
    (act : ∀ seat a x, g.event = .roundStarted → (g.step (.act seat a x)).2 = none → motive (.act seat a x))
    (table : ∀ op, (∀ s a x, op ≠ .act s a x) → g.event ≠ .roundStarted → (g.step op).2 = none → motive op)
    (op : Op) : motive op := by
  by_cases hacc : (g.step op).2 = none
  · have haw := accepted_awaited hi op hacc
    cases op with
    | act s a x => exact act s a x haw hacc
    | ready | payAnte | payBlinds | next =>
      refine table _ (by intro s a x e; cases e) ?_ hacc
      rw [haw]
      exact nofun
  · exact refused op hacc (refused_same g hf op hacc)

/-- outside a betting round only table operations are accepted -/
theorem tableOp_of_outside {g : Game} (hi : Inv g) (hne : g.event ≠ .roundStarted) {op : Op} (hacc : (g.step op).2 = none) :
    ∀ s a x, op ≠ .act s a x := by
  rintro s a x rfl
  exact hne (accepted_awaited hi _ hacc)

/-- The one way into a betting round from outside: `ReadyForAll`, accepted on a dealt street; the street stays and
    nobody is marked. -/
theorem opens_from_outside {g : Game} (hi : Inv g) (hf : Flow g) (hne : g.event ≠ .roundStarted) {op : Op}
    (hacc : (g.step op).2 = none) (hopen : (g.step op).1.event = .roundStarted) :
    op = .ready ∧ g.event = .readyRequested ∧ g.round ≠ .none ∧ (g.step op).1.round = g.round ∧
    AllUnacted (g.step op).1 := by
  obtain ⟨haw, row, _, _, hun⟩ := step_phase hi.struct hf op (tableOp_of_outside hi hne hacc) hacc
  rw [hopen] at row
  generalize hr : (g.step op).1.round = r at row
  cases row with
  | opens hrn => exact ⟨rfl, haw, hrn, rfl, hun hopen⟩

/-- `Flow` at a wait point that is neither an open round, nor the request for the ante, nor the end of the hand -/
theorem flow_plain {g : Game} {e : Ev} (he : g.event = e) (hres : g.result = none) (hr : g.round ≠ .none)
    (h1 : e = .readyRequested ∨ e = .roundClosed ∨ e = .blindsRequested)
    (hb : e = .blindsRequested → g.round = .preflop)
    (h2 : e = .readyRequested → g.round ≠ .preflop → 2 ≤ g.movableCount) : Flow g := by
  refine Flow.of_event he (res_of_none hres ?_) ?_ hb (fun h => absurd h hr) ?_ (fun h _ => h2 h) ?_
  all_goals
    rcases h1 with rfl | rfl | rfl
    all_goals exact nofun

/-- after an action the next seat is asked — it has not acted — or the round is closed -/
theorem flow_requestPlayerAction (g : Game) (hs : Struct g) (he : g.event = .roundStarted)
    (hres : g.result = none) (hr : g.round ≠ .none) : Flow g.requestPlayerAction := by
  rcases g.requestPlayerAction_cases hs with ⟨h, _⟩ | ⟨h, _, _, p, hp, hpa⟩
  · have w := wr_roundClosed g
    rw [h]
    exact flow_plain (e := .roundClosed) rfl (w.result.trans hres) (by rw [w.round]; exact hr) (.inr (.inl rfl)) nofun nofun
  · have w := wr_askNext g
    rw [h]
    refine Flow.of_event (w.event.trans he) (res_of_none (w.result.trans hres) nofun) nofun nofun
      (fun h => absurd (w.round.symm.trans h) hr) (fun _ q hq' => ?_) nofun nofun
    have hc : (g.setCurrentPlayer g.nextIdx).cur = g.nextIdx := rfl
    rw [hc] at hq'
    have := w.acts.getElem g.nextIdx
    rw [hq', hp] at this
    simp at this
    rw [this]
    exact hpa

theorem flow_act (g : Game) (hi : Inv g) (hf : Flow g) (i : Nat) (a : Act) (x : Int) : Flow (g.act i a x).1 := by
  by_cases hacc : (g.act i a x).2 = none
  · obtain ⟨_, g1, _, he, _, e, _, hm, hq, _⟩ := act_turn g hi i a x hacc
    rw [e]
    have hres := hf.result_none (by rw [he]; simp)
    have hr := hf.round_ne (by rw [he]; simp) (by rw [he]; simp)
    exact flow_requestPlayerAction g1 hm.struct hm.ev (by rw [hq.result]; exact hres) (by rw [hq.round]; exact hr)
  · rw [g.act_refused i a x hacc]
    exact hf

/-- every clause of `Flow` speaks of the phase, of the result, of the counters `Mov` keeps, of the wagers before the
    first street (`ReadyForAll` moves no chip) or of the mark of the seat asked (a round opens with nobody marked) -/
theorem flow_step_table {g : Game} (hi : Inv g) (hf : Flow g) (op : Op) (hop : ∀ s a x, op ≠ .act s a x)
    (hacc : (g.step op).2 = none) : Flow (g.step op).1 := by
  obtain ⟨haw, row, hres1, hres2, hun⟩ := step_phase hi.struct hf op hop hacc
  have hres0 : g.result = none := hf.result_none (by rw [haw]; cases op <;> exact nofun)
  generalize he : (g.step op).1.event = e, hr : (g.step op).1.round = r at row
  have hres : e ≠ .gameClosed → (g.step op).1.result = none := fun h => (hres1 (he ▸ h)).trans hres0
  cases row with
  | ante hrn ha =>
    have w := wr_step g .ready
    exact Flow.of_event he (res_of_none (hres nofun) nofun) (fun _ => ⟨by rw [w.opts]; exact ha, hr⟩)
      nofun (fun _ => ⟨.inr rfl, wager_zero_of_noChip w.noChip (hf.rnd0 hrn).2⟩) nofun nofun nofun
  | blinds => exact flow_plain he (hres nofun) (by rw [hr]; exact nofun) (.inr (.inr rfl)) (fun _ => hr) nofun
  | noBlinds | payBlinds =>
    exact flow_plain he (hres nofun) (by rw [hr]; exact nofun) (.inl rfl) nofun (fun _ h => absurd hr h)
  | skip hrn => exact flow_plain he (hres nofun) (by rw [hr]; exact hrn) (.inr (.inl rfl)) nofun nofun
  | opens hrn =>
    exact Flow.of_event he (res_of_none (hres nofun) nofun) nofun nofun (fun h => absurd (hr.symm.trans h) hrn)
      (fun _ p hp => hun he p (List.mem_of_getElem? hp)) nofun nofun
  | close hrn hc =>
    refine Flow.of_event he ⟨fun _ => rfl, fun _ => hres2 he⟩ nofun nofun (fun h => absurd (hr.symm.trans h) hrn)
      nofun nofun (fun _ => ?_)
    rw [(wr_step g .next).mov.alive, hr]
    exact hc
  | street _ _ h2 =>
    exact flow_plain he (hres nofun) (by rw [hr]; exact Round.succ_ne_none _) (.inl rfl) nofun
      (fun _ _ => by rw [(wr_step g .next).mov.movable]; exact h2)
  | allin => exact flow_plain he (hres nofun) (by rw [hr]; exact Round.succ_ne_none _) (.inr (.inl rfl)) nofun nofun

theorem flow_step (g : Game) (hi : Inv g) (hf : Flow g) (op : Op) : Flow (g.step op).1 := by
  induction op using step_split hi hf with
  | refused op _ e => exact e.symm ▸ hf
  | act s a x =>
    rw [g.step_act]
    exact flow_act g hi hf _ a x
  | table op hop _ hacc => exact flow_step_table hi hf op hop hacc

theorem flow_start (c : Config) (h : (start c).2 = none) : Flow (start c).1 := by
  obtain ⟨_, _, he⟩ := start_ok c h
  rw [he]
  have w := wr_requestReady c.game0.resetRoundStatus
  refine Flow.of_event (e := .readyRequested) rfl (res_of_none w.result nofun) nofun nofun (fun _ => ⟨.inl rfl, ?_⟩) nofun
    (fun _ h => absurd rfl h) nofun
  exact wager_zero_of_noChip w.noChip fun p hp => (config_players_mem c hp).2.2.1

theorem flow_reachable {g : Game} (h : Reachable g) : Flow g :=
  h.induct (fun c _ hs => flow_start c hs) fun g hR hf op => flow_step g (inv_reachable hR) hf op

theorem payAnte_no_error {g : Game} (h : Reachable g) (he : g.event = .anteRequested) : g.payAnte.2 = none :=
  payAnte_ok g (flow_reachable h) he

end Pokerface
