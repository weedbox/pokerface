/-
  The asynchronous system (Model/RegulatorAsync.lean): consequences of the invariant `AInv` used
  by the statements of C09, TOTALITY of the validity conditions `ASys.ok`, and the EMBEDDING of the
  synchronous system `RSys` (every synchronous history is the asynchronous history in which each
  sync is followed at once by the report of everybody it released).
-/
import Pokerface.Proofs.RegAsyncEnv

namespace Pokerface
open Reg

namespace ASys

theorem mem_flyingOf {s : ASys} {t p : Nat} (h : p ∈ s.flyingOf t) :
    ∃ e ∈ s.inflight, e.1 = t ∧ p ∈ e.2 := by
  simp only [flyingOf, List.mem_flatten, List.mem_map, List.mem_filter] at h
  obtain ⟨l, ⟨e, ⟨he, het⟩, rfl⟩, hp⟩ := h
  exact ⟨e, he, by simpa using het, hp⟩

theorem mem_flying_of_flyingOf {s : ASys} {t p : Nat} (h : p ∈ s.flyingOf t) : p ∈ s.flying := by
  obtain ⟨e, he, _, hp⟩ := mem_flyingOf h
  simp only [flying, List.mem_flatten, List.mem_map]
  exact ⟨e.2, ⟨e, he, rfl⟩, hp⟩

/-! ### the clauses of C09 on a state satisfying the invariant -/

theorem AInv.counts_agree {s : ASys} (h : AInv s) :
    s.r.playerCount = s.env.alive.length ∧
    s.r.tableCount = s.r.tables.length ∧
    s.r.tables.length = s.env.members.length ∧
    s.r.tables.map (fun t => (t.id, t.count)) = s.env.members.map (fun e => (e.1, (e.2.length : Int))) := by
  refine ⟨h.pc, h.wf.tc, ?_, h.sim⟩
  have := congrArg List.length h.sim
  simpa [tview, mview] using this

theorem AInv.count_of_table {s : ASys} (h : AInv s) (t : Nat) :
    (s.r.findTable t).map (fun tb => tb.count) = (s.env.membersOf t).map (fun ms => (ms.length : Int)) := by
  have := sim_find s.r.tables s.env.members t h.sim
  simp only [Reg.findTable, Env.membersOf, Option.map_map]
  exact this

theorem AInv.conservation {s : ASys} (h : AInv s) :
    s.env.alive.Perm (s.r.queue ++ s.env.seated ++ s.flying) ∧
    (s.r.queue ++ s.env.seated ++ s.flying).Nodup ∧ s.env.alive.Nodup :=
  ⟨h.cons, h.cons.nodup_iff.1 h.nodup, h.nodup⟩

theorem AInv.exactly_one_place {s : ASys} (h : AInv s) (p : Nat) :
    (p ∈ s.env.alive ↔ (p ∈ s.r.queue ∨ (∃ e ∈ s.env.members, p ∈ e.2) ∨ (∃ e ∈ s.inflight, p ∈ e.2))) ∧
    ¬ (p ∈ s.r.queue ∧ ∃ e ∈ s.env.members, p ∈ e.2) ∧
    ¬ (p ∈ s.r.queue ∧ ∃ e ∈ s.inflight, p ∈ e.2) ∧
    ¬ ((∃ e ∈ s.env.members, p ∈ e.2) ∧ ∃ e ∈ s.inflight, p ∈ e.2) ∧
    s.r.queue.Nodup ∧ s.env.seated.Nodup ∧ s.flying.Nodup := by
  obtain ⟨hperm, hnd, _⟩ := h.conservation
  have hseat : p ∈ s.env.seated ↔ ∃ e ∈ s.env.members, p ∈ e.2 := mem_seatedOf
  have hfly : p ∈ s.flying ↔ ∃ e ∈ s.inflight, p ∈ e.2 := mem_seatedOf
  rw [List.nodup_append] at hnd
  obtain ⟨hqs, hf, hd1⟩ := hnd
  rw [List.nodup_append] at hqs
  obtain ⟨hq, hs, hd2⟩ := hqs
  refine ⟨?_, ?_, ?_, ?_, hq, hs, hf⟩
  · rw [hperm.mem_iff, List.mem_append, List.mem_append, hseat, hfly, or_assoc]
  · rintro ⟨h1, h2⟩
    exact hd2 p h1 p (hseat.2 h2) rfl
  · rintro ⟨h1, h2⟩
    exact hd1 p (List.mem_append_left _ h1) p (hfly.2 h2) rfl
  · rintro ⟨h1, h2⟩
    exact hd1 p (List.mem_append_right _ (hseat.2 h1)) p (hfly.2 h2) rfl

theorem AInv.one_table {s : ASys} (h : AInv s) (p : Nat) :
    (∀ t t' ms ms', s.env.membersOf t = some ms → s.env.membersOf t' = some ms' → p ∈ ms → p ∈ ms' → t = t') ∧
    (∀ t t', p ∈ s.flyingOf t → p ∈ s.flyingOf t' → t = t') ∧
    (∀ e ∈ s.inflight, ∀ e' ∈ s.inflight, p ∈ e.2 → p ∈ e'.2 → e = e') := by
  obtain ⟨_, _, _, _, _, hs, hf⟩ := h.exactly_one_place p
  refine ⟨fun t t' ms ms' hm hm' hp hp' => Env.membersOf_inj hs hm hm' hp hp', ?_,
    fun e he e' he' hp hp' => seatedOf_one_entry (m := s.inflight) hf he he' hp hp'⟩
  intro t t' hp hp'
  obtain ⟨e, he, rfl, hpe⟩ := mem_flyingOf hp
  obtain ⟨e', he', rfl, hpe'⟩ := mem_flyingOf hp'
  rw [seatedOf_one_entry (m := s.inflight) hf he he' hpe hpe']

theorem AInv.release_feasible {s : ASys} (h : AInv s) (t : Nat) (ms elim stay : List Nat)
    (hm : s.env.membersOf t = some ms) (hp : ms.Perm (elim ++ stay)) :
    (s.syncAnswer t elim).2.1 = none ∧ 0 ≤ (s.syncAnswer t elim).2.2.1 ∧
    (s.syncAnswer t elim).2.2.1 ≤ ((stay ++ (s.syncAnswer t elim).2.2.2).length : Int) := by
  obtain ⟨r1, relc, nw, t0, k⟩ := h.sync_known t elim stay ms hm hp
  rw [k.ans, List.length_append]
  exact ⟨rfl, k.post.rel0, by simpa using k.rel_le⟩

theorem AInv.handout_once {s : ASys} (h : AInv s) (op : AOp) (hok : s.okRe op) :
    s.r.queue ++ s.incoming op = s.returned op ++ handed (s.step op).r.calls ++ (s.step op).r.queue ∧
    (s.returned op ++ handed (s.step op).r.calls ++ (s.step op).r.queue).Nodup := by
  have hF := (h.step_full_re op hok).2
  refine ⟨hF.handout, ?_⟩
  -- the queue is part of the alive players, who are distinct; who comes in is not in it
  rw [← hF.handout, List.nodup_iff_count]
  intro a
  have c1 := h.cons.count_eq a
  have c2 := List.nodup_iff_count.1 h.nodup a
  simp only [List.count_append] at c1 ⊢
  cases op with
  | status st ch =>
    simp only [ASys.incoming, List.count_nil]
    omega
  | sync t elim stay rel keep =>
    simp only [ASys.incoming, List.count_nil]
    omega
  | add ps ch =>
    simp only [ASys.incoming]
    split
    · simp only [List.count_nil]
      omega
    · obtain ⟨hnd, hfree, _⟩ := hok
      have c3 := List.nodup_iff_count.1 hnd a
      by_cases ha : a ∈ ps
      · have := List.count_eq_zero.2 (hfree a ha)
        omega
      · have := List.count_eq_zero.2 ha
        omega
  | report t ps rest ch =>
    simp only [ASys.incoming]
    have c3 := (perm_flying_report s t ps rest hok.1).count_eq a
    simp only [List.count_append] at c3
    omega

/-- the clause `initial_tables_have_min` of C19 needs no invariant and no validity, a positive
    capacity only -/
theorem initial_min (s : ASys) (hmax : 0 < s.r.max) (h0 : s.r.tableCount = 0) (op : AOp)
    (id : Nat) (ps : List Nat) (hc : RCall.requestTable id ps ∈ (s.step op).r.calls) :
    s.r.min ≤ ps.length := by
  cases op with
  | add qs ch =>
    rw [step_add_r] at hc
    exact addPlayers_initial s.r qs ch hmax h0 id ps hc
  | status st ch => exact setStatus_initial s.r st ch hmax h0 id ps hc
  | report t qs rest ch => exact releasePlayers_initial s.r qs ch hmax h0 id ps hc
  | sync t elim stay rel keep =>
    rw [(sync_quiet s t elim stay rel keep).1] at hc
    cases hc

/-! ### totality: the validity conditions never block a history -/

theorem AInv.add_total {s : ASys} (h : AInv s) (ps : List Nat) (hnd : ps.Nodup)
    (hfresh : ∀ p ∈ ps, p ∉ s.env.registered) : ∃ ch, s.ok (.add ps ch) := by
  obtain ⟨ch, hch⟩ := addPlayers_total s.r ps h.wf
  exact ⟨ch, hnd, hfresh, hch⟩

theorem AInv.add_total_re {s : ASys} (h : AInv s) (ps : List Nat) (hnd : ps.Nodup)
    (hfree : ∀ p ∈ ps, p ∉ s.env.alive) : ∃ ch, s.okRe (.add ps ch) := by
  obtain ⟨ch, hch⟩ := addPlayers_total s.r ps h.wf
  exact ⟨ch, hnd, hfree, hch⟩

theorem AInv.status_total {s : ASys} (h : AInv s) (st : RStatus) : ∃ ch, s.ok (.status st ch) :=
  setStatus_total s.r st h.wf

theorem AInv.sync_total_rel {s : ASys} (h : AInv s) (t : Nat) (elim stay rel keep : List Nat)
    (hsplit : ∀ ms, s.env.membersOf t = some ms → ms.Perm (elim ++ stay))
    (hrel : (stay ++ (s.syncAnswer t elim).2.2.2).Perm (rel ++ keep))
    (hlen : (rel.length : Int) = (s.syncAnswer t elim).2.2.1) :
    s.ok (.sync t elim stay rel keep) := by
  cases hm : s.env.membersOf t with
  | none => simp only [ok, hm]
  | some ms =>
    have hp := hsplit ms hm
    obtain ⟨r1, relc, nw, t0, k⟩ := h.sync_known t elim stay ms hm hp
    rw [k.ans] at hrel hlen
    simp only at hrel hlen
    simp only [ok, hm, k.ans]
    refine ⟨hp, hrel, hlen, ?_⟩
    intro hb
    obtain ⟨e1, e2⟩ := k.broken hb
    have hl := hrel.length_eq
    rw [e2, List.append_nil, List.length_append] at hl
    exact List.length_eq_zero_iff.1 (by omega)

/-- every sync is possible; the departing players can be taken to be the first `release count` of
    `stay ++ new players` -/
theorem AInv.sync_total {s : ASys} (h : AInv s) (t : Nat) (elim stay : List Nat)
    (hsplit : ∀ ms, s.env.membersOf t = some ms → ms.Perm (elim ++ stay)) :
    ∃ rel keep, s.ok (.sync t elim stay rel keep) := by
  cases hm : s.env.membersOf t with
  | none => exact ⟨[], [], by simp only [ok, hm]⟩
  | some ms =>
    have hp := hsplit ms hm
    obtain ⟨r1, relc, nw, t0, k⟩ := h.sync_known t elim stay ms hm hp
    have h0 := k.post.rel0
    have hle := k.rel_le
    refine ⟨_, _, h.sync_total_rel t elim stay ((stay ++ nw).take relc.toNat) ((stay ++ nw).drop relc.toNat)
      hsplit ?_ ?_⟩
    · rw [k.ans, List.take_append_drop]
    · rw [k.ans, List.length_take, List.length_append]
      simp only
      omega

theorem AInv.report_total {s : ASys} (h : AInv s) (t : Nat) (ps rest : List Nat)
    (hsplit : (s.flyingOf t).Perm (ps ++ rest)) : ∃ ch, s.ok (.report t ps rest ch) := by
  obtain ⟨ch, hch⟩ := releasePlayers_total s.r ps h.wf
  exact ⟨ch, hsplit, hch⟩

/-! ### the synchronous system embeds -/

theorem ofRSys_broken (s : RSys) (t : Nat) (elim : List Nat) :
    (ofRSys s).broken t elim = s.broken t elim := rfl

/-- **a sync followed at once by its report is the synchronous step**: running the asynchronous
    script of a synchronous operation from a state with nobody on the way gives the synchronous
    successor, again with nobody on the way (a plain computation: no invariant is needed). -/
theorem run_expand (s : RSys) (op : EOp) : (ofRSys s).run (expand s op) = ofRSys (s.step op) := by
  cases op with
  | add ps ch =>
    show (ofRSys s).step (.add ps ch) = ofRSys (s.step (.add ps ch))
    simp only [step, RSys.step]
    have : (ofRSys s).r = s.r := rfl
    rw [this]
    rcases s.r.addPlayers ps ch with ⟨r', _ | e⟩ <;> rfl
  | status st ch => rfl
  | sync t elim stay rel keep ch =>
    simp only [expand]
    cases hm : s.env.membersOf t with
    | none =>
      have hm' : (ofRSys s).env.membersOf t = none := hm
      show (ofRSys s).step (.sync t elim stay rel keep) = ofRSys (s.step (.sync t elim stay rel keep ch))
      simp only [step, RSys.step, hm, hm']
      rfl
    | some ms =>
      have hA := step_sync_known (s := ofRSys s) hm elim stay rel keep
      rw [RSys.step_sync_known hm]
      simp only []
      by_cases hq : rel.isEmpty ∧ s.broken t elim = false
      · rw [if_pos hq, if_pos hq]
        show (ofRSys s).step (.sync t elim stay rel keep) = _
        rw [hA, if_pos hq.1]
        rfl
      · rw [if_neg hq, if_neg hq]
        show ((ofRSys s).step (.sync t elim stay rel keep)).step (.report t rel [] ch) = _
        rw [hA]
        simp only [step, ofRSys, List.isEmpty_nil, if_true, List.append_nil, ASys.mk.injEq]
        refine ⟨rfl, rfl, ?_⟩
        split
        · rfl
        · simp

theorem allOk_expand (s : RSys) (op : EOp) (hok : s.okAny op) : (ofRSys s).allOk (expand s op) := by
  cases op with
  | add ps ch => exact ⟨hok, trivial⟩
  | status st ch => exact ⟨hok, trivial⟩
  | sync t elim stay rel keep ch =>
    simp only [expand]
    have hok' : s.ok (.sync t elim stay rel keep ch) := hok
    simp only [RSys.ok] at hok'
    cases hm : s.env.membersOf t with
    | none =>
      have hm' : (ofRSys s).env.membersOf t = none := hm
      exact ⟨by simp only [ok, hm'], trivial⟩
    | some ms =>
      have hm' : (ofRSys s).env.membersOf t = some ms := hm
      rw [hm] at hok'
      simp only [] at hok' ⊢
      have hsync : (ofRSys s).ok (.sync t elim stay rel keep) := by
        simp only [ok, hm']
        exact ⟨hok'.1, hok'.2.1, hok'.2.2.1, hok'.2.2.2.1⟩
      by_cases hq : rel.isEmpty ∧ s.broken t elim = false
      · rw [if_pos hq]
        exact ⟨hsync, trivial⟩
      · rw [if_neg hq]
        refine ⟨hsync, ?_, trivial⟩
        have hbad : ((s.syncAnswer t elim).1.releasePlayers rel ch).badChoice = false := by
          rcases hok'.2.2.2.2 with h1 | h2
          · exact absurd h1 hq
          · exact h2
        simp only [step, hm']
        refine ⟨?_, hbad⟩
        simp only [flyingOf, ofRSys]
        split
        · rename_i hre
          have : rel = [] := by simpa using hre
          simp [this]
        · simp

theorem AReachable.ofRSys {s : RSys} (h : RSys.ReachableAny s) : AReachable (ASys.ofRSys s) := by
  induction h with
  | init max min h1 => exact AReachable.init max min h1
  | step op _ hok ih =>
    rw [← run_expand]
    exact ih.run _ (allOk_expand _ op hok)

/-- the script of a status change or a sync holds no `add` -/
theorem expand_no_add (s : RSys) {op : EOp} (h : ∀ ps ch, op ≠ .add ps ch) :
    ∀ o ∈ expand s op, ∀ ps ch, o ≠ .add ps ch := by
  intro o ho ps ch he
  subst he
  cases op with
  | add ps' ch' => exact h ps' ch' rfl
  | status st ch' => simp [expand] at ho
  | sync t elim stay rel keep ch' =>
    simp only [expand] at ho
    split at ho
    · simp at ho
    · split at ho <;> simp at ho

theorem allOkRe_expand (s : RSys) (op : EOp) (hok : s.okRe op) : (ofRSys s).allOkRe (expand s op) := by
  cases op with
  | add ps ch => exact ⟨hok, trivial⟩
  | status st ch =>
    refine (allOkRe_iff_allOk _ _ (expand_no_add s ?_)).2 (allOk_expand s _ hok)
    exact fun _ _ h => nomatch h
  | sync t elim stay rel keep ch =>
    refine (allOkRe_iff_allOk _ _ (expand_no_add s ?_)).2 (allOk_expand s _ hok)
    exact fun _ _ h => nomatch h

theorem AReachableRe.ofRSys {s : RSys} (h : RSys.ReachableRe s) : AReachableRe (ASys.ofRSys s) := by
  induction h with
  | init max min h1 => exact .init max min h1
  | @step s op _ hok ih =>
    rw [← run_expand s op]
    exact ih.run _ (allOkRe_expand s op hok)

end ASys
end Pokerface
