/-
  K1, translated logic: what the loops of the Go code that collect or count compute — the translated iteration of such
  a loop appends to (or increments) an accumulator; its run over a list is a `flatMap` / `filter` / `map` of the list —
  and how the counts are compared.
-/
namespace Pokerface.GeneratedLogic

theorem foldl_append_flatMap {α β : Type} (f : α → List β) (l : List α) (acc : List β) :
    l.foldl (fun acc a => acc ++ f a) acc = acc ++ l.flatMap f := by
  induction l generalizing acc with
  | nil => simp
  | cons a l ih => simp [ih]

theorem foldl_snoc_map {α β : Type} (f : α → β) (l : List α) (acc : List β) :
    l.foldl (fun acc a => acc ++ [f a]) acc = acc ++ l.map f := by
  rw [foldl_append_flatMap, ← List.map_eq_flatMap]

theorem foldl_snoc_if {α β : Type} (p : α → Bool) (g : α → β) (l : List α) (acc : List β) :
    l.foldl (fun acc a => if p a then acc ++ [g a] else acc) acc = acc ++ (l.filter p).map g := by
  induction l generalizing acc with
  | nil => simp
  | cons a l ih =>
    rw [List.foldl_cons, ih, List.filter_cons]
    cases p a <;> simp

theorem foldl_count {α : Type} (p : α → Bool) (l : List α) (c : Int) :
    l.foldl (fun c a => if p a then c + 1 else c) c = c + ((l.filter p).length : Int) := by
  induction l generalizing c with
  | nil => simp
  | cons a l ih =>
    rw [List.foldl_cons, ih, List.filter_cons]
    cases p a <;> simp <;> omega

theorem foldl_countStep {α : Type} (q : α → Bool) (f : Int → α → Int)
    (hf : ∀ c a, f c a = if q a then c - 1 else c) (l : List α) (c : Int) :
    l.foldl f c = c - l.length + (l.filter fun a => !q a).length := by
  induction l generalizing c with
  | nil => simp
  | cons a l ih =>
    rw [List.foldl_cons, ih, hf]
    cases h : q a <;> simp [h] <;> omega

/-! ### counts compared through the cast

The translated code reads a count as `Int` and compares it with a numeral; the model compares the `Nat`.  (One lemma per
numeral the sources compare with: `simp` does not match a numeral against a variable.) -/

section
variable (n : Nat)

@[simp] theorem natCast_eq_one : (n : Int) = 1 ↔ n = 1 := by omega
@[simp] theorem natCast_eq_two : (n : Int) = 2 ↔ n = 2 := by omega
@[simp] theorem natCast_le_one : (n : Int) ≤ 1 ↔ n ≤ 1 := by omega
@[simp] theorem natCast_lt_two : (n : Int) < 2 ↔ n < 2 := by omega
@[simp] theorem two_le_natCast : 2 ≤ (n : Int) ↔ 2 ≤ n := by omega

/-- `len(l) == 0` as the translated code tests it -/
theorem isEmpty_eq_length {α : Type} (l : List α) : l.isEmpty = decide ((l.length : Int) = 0) := by
  cases l with
  | nil => rfl
  | cons a l =>
    simp
    omega

end

end Pokerface.GeneratedLogic
