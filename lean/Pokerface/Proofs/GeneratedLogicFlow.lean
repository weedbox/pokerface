import Pokerface.Generated.LogicFlow
import Pokerface.Proofs.GeneratedLogicBase
import Pokerface.Proofs.GeneratedLogicLoops
import Pokerface.Proofs.Clockwise
import Pokerface.Proofs.EngineFrame
/-
  K1, translated logic (flow of the hand): game.go, event.go, action.go (Generated/LogicFlow.lean).  Each function is
  translated as the list of steps it takes — calls and `EmitEvent`s, in order, under the conditions of the source — and
  `gameStep` reads a step name on the model.  Loops are either matched as a whole statement and read as the model's loop
  function (`seekBB`, `dealHoles`, `payAnteLoop`, …), or translated as one iteration (`aliveCountStep`, …).
  Conventions: header of Proofs/GeneratedLogicBase.lean.  The proofs are `unfold` + `simp [runSteps, foldl_ite, gameStep]`:
  what `simp` does is decide the string comparisons of `gameStep` for every step name of the list.

  What is tied, and what is not.  An `_eq` with the model's function on the left ties that function to the translated
  text: `requestPlayerAction`, `prepareRound`, `nextRound`, `next`, `startRound`, `initializeRound`,
  `afterRoundInitialized`, `readiness`, `roundClosed`, `start`, `readyForAll`, `payAnte`, `payBlinds`, `gameCompleted`,
  the step "AntePaid" (`onAntePaid_eq`), `resetRoundStatus`, the counters and resets, `nextIdx`, `setCurrentPlayer`.
  `chain_eq`, `dispatch_eq`, `triggerEvent_eq` only say what the translated one-line handlers, the dispatch table,
  `EmitEvent`, `Resume`, the `Enter…Round` functions and the game-level actions ARE (a list of literals); an edit of
  one of them breaks that theorem, but the composition `Resume → EmitEvent → triggerEvent → on<Event> → function` is not
  a theorem: that `gameStep` reads "BlindsPaid" as `setEvent .blindsPaid` + `prepareRound`, "SettlementCompleted" as
  `setEvent .gameClosed`, "Enter…Round" as `enterRound`, that `start` ends in `requestReady`, and what `resume_eq` says
  through `handlerOf`, rest on the hand-written reader agreeing with those lists, which a reader of this file checks
  against `chain_eq` / `dispatch_eq` by eye.  Step names that occur only in such lists ("EmitEvent(CurrentEvent)",
  "triggerEvent(event)", "RequestPlayerAction", "Initialize", "Prepare", "InitializeRound", "SettlementRequested",
  "GameClosed") are never passed to `runSteps`; `gameStep` does not know them.
-/
namespace Pokerface.GeneratedLogic
open Pokerface Game

/-! ### game.go / event.go: the flow decisions, translated as the list of steps taken -/

/-- the reading of one step of the flow (a call or an `EmitEvent` with its handler) on the model -/
def gameStep (g : Game) (s : String) : Game :=
  if s = "RoundClosed" then g.roundClosed
  else if s = "SetCurrentPlayer(NextPlayer)" then g.setCurrentPlayer g.nextIdx
  else if s = "RequestReady" then g.requestReady
  else if s = "ResetRoundStatus" then g.resetRoundStatus
  else if s = "ResetAllPlayerStatus" then g.resetAllPlayerStatus
  else if s = "GameCompleted" then g.gameCompleted
  else if s = "EnterPreflopRound" then g.enterRound .preflop
  else if s = "EnterFlopRound" then g.enterRound .flop
  else if s = "EnterTurnRound" then g.enterRound .turn
  else if s = "EnterRiverRound" then g.enterRound .river
  else if s = "ResetAllPlayerAllowedActions" then g.resetAllAllowed
  else if s = "SetCurrentPlayer(Dealer)" then g.setCurrentPlayer g.dealerIdx
  else if s = "StartAtDealer" then g.setCurrentPlayer g.dealerIdx
  else if s = "SeekBB" then seekBB g.n g
  else if s = "RoundStarted" then g.openRound
  else if s = "DealHoles" then dealHoles g.n 0 g
  else if s = "Burn(1)" then g.burn 1
  else if s = "Board(3)" then g.dealBoard 3
  else if s = "Board(1)" then g.dealBoard 1
  else if s = "UpdateCombinationOfAllPlayers" then g.updateCombinations
  else if s = "RoundInitialized" then (g.setEvent .roundInitialized).afterRoundInitialized
  else if s = "RequestAnte" then g.setEvent .anteRequested
  else if s = "updatePots" then g.updatePots
  else if s = "RequestBlinds" then g.requestBlinds
  else if s = "PrepareRound" then g.prepareRound
  else if s = "StartRound" then g.startRound
  else if s = "Readiness" then g.readiness
  else if s = "PayAnteLoop" then (payAnteLoop g.seatsFromDealer g).1
  else if s = "AntePaid" then ((((g.setEvent .antePaid).updatePots).resetAllPlayerStatus).resetRoundStatus).enterRound .preflop
  else if s = "PayBlindsLoop" then g.seatsFromDealer.foldl payBlind g
  else if s = "PreviousRaiseSize = Blind.BB" then g.setPrev g.opts.blindBB
  else if s = "PreviousRaiseSize = Blind.Dealer" then g.setPrev g.opts.blindDealer
  else if s = "BlindsPaid" then (g.setEvent .blindsPaid).prepareRound
  else if s = "CalculateGameResults" then g.calculateGameResults
  else if s = "SettlementCompleted" then g.setEvent .gameClosed
  else g

def runSteps (g : Game) (l : List String) : Game := l.foldl gameStep g

theorem foldl_ite {α β : Type} (f : β → α → β) (b : β) (c : Prop) [Decidable c] (l₁ l₂ : List α) :
    (if c then l₁ else l₂).foldl f b = if c then l₁.foldl f b else l₂.foldl f b :=
  apply_ite (List.foldl f b) c l₁ l₂

/-- game.go `RequestPlayerAction` -/
theorem requestPlayerAction_eq {g : Game} {p : Player} (hp : g.players[g.nextIdx]? = some p) :
    g.requestPlayerAction = runSteps g (Generated.Logic.requestPlayerAction g.aliveCount g.movableCount p.acted) := by
  unfold Generated.Logic.requestPlayerAction Game.requestPlayerAction
  rw [hp]
  simp [runSteps, foldl_ite, gameStep]

/-- game.go `PrepareRound` -/
theorem prepareRound_eq (g : Game) :
    g.prepareRound = runSteps g (Generated.Logic.prepareRound (roundString g.round) g.movableCount) := by
  unfold Generated.Logic.prepareRound Game.prepareRound
  simp [runSteps, foldl_ite, gameStep]

/-- game.go `nextRound`; the count of alive players is read after the two resets, as in the source.
    (`ErrUnknownRound` cannot be told from a nil return in the model's `nextRound : Game → Game`;
    `Game.next` does not call it when the street is not set.) -/
theorem nextRound_eq (g : Game) :
    g.nextRound = runSteps g (Generated.Logic.nextRound g.resetRoundStatus.resetAllPlayerStatus.aliveCount
      (roundString g.resetRoundStatus.resetAllPlayerStatus.round)) := by
  unfold Generated.Logic.nextRound Game.nextRound Game.nextRound'
  cases g.resetRoundStatus.resetAllPlayerStatus.round <;> simp [runSteps, foldl_ite, gameStep, roundString]

/-- game.go `Next` -/
theorem next_eq (g : Game) :
    g.next =
      (let s := Generated.Logic.next (evString g.event) (roundString g.round)
       if s = ["ErrNotClosedRound"] then (g, some .notClosedRound)
       else if s = ["nextRound"] then (g.nextRound, none)
       else (g, none)) := by
  unfold Generated.Logic.next Game.next
  by_cases h1 : g.event = .roundClosed
  · cases g.round <;> simp [h1, roundString]
  · simp [h1]

theorem n_setCurrentPlayer (g : Game) (i : Nat) : (g.setCurrentPlayer i).n = g.n := by
  simp [Game.setCurrentPlayer, Game.offer, Game.modP, Game.setCur, Game.n]

/-- game.go `StartRound` (+ `onRoundStarted`); the count of movable players is read after
    `ResetAllPlayerAllowedActions`, as in the source; the `for` loop that walks to the big blind is
    matched as a whole statement and read as `seekBB`. -/
theorem startRound_eq (g : Game) :
    g.startRound = runSteps g (Generated.Logic.startRound (roundString g.round) g.resetAllAllowed.movableCount) := by
  unfold Generated.Logic.startRound Game.startRound Game.startRound'
  have hround : g.resetAllAllowed.round = g.round := rfl
  simp [hround, runSteps, foldl_ite, gameStep, n_setCurrentPlayer]

/-- game.go `InitializeRound` (+ `onRoundInitialized`); the loop dealing the hole cards is matched as
    a whole statement and read as `dealHoles`. -/
theorem initializeRound_eq (g : Game) :
    g.initializeRound = runSteps g (Generated.Logic.initializeRound (roundString g.round)) := by
  unfold Generated.Logic.initializeRound Game.initializeRound Game.dealStreet
  cases g.round <;> simp [runSteps, gameStep, roundString] <;> rfl

/-- event.go `onRoundInitialized` -/
theorem afterRoundInitialized_eq (g : Game) :
    g.afterRoundInitialized = runSteps g (Generated.Logic.onRoundInitialized (roundString g.round)) := by
  unfold Generated.Logic.onRoundInitialized Game.afterRoundInitialized
  cases g.round <;> simp [runSteps, gameStep, roundString]

/-- event.go `onReadiness`, `onPrepared`, `onRoundPrepared` -/
theorem readiness_eq (g : Game) :
    g.readiness =
      if Generated.Logic.onReadiness (roundString g.round) = ["Prepared"] then
        runSteps g (Generated.Logic.onPrepared g.opts.ante)
      else runSteps g Generated.Logic.onRoundPrepared := by
  unfold Generated.Logic.onReadiness Generated.Logic.onPrepared Generated.Logic.onRoundPrepared Game.readiness
  cases hr : g.round
  · by_cases ha : g.opts.ante > 0 <;> simp [runSteps, gameStep, roundString, ha]
  all_goals simp [runSteps, gameStep, roundString]

/-- event.go `onRoundClosed` (after `EmitEvent(RoundClosed)` recorded the event) -/
theorem roundClosed_eq (g : Game) :
    g.roundClosed = runSteps (g.setEvent .roundClosed) Generated.Logic.onRoundClosed := by
  simp [Generated.Logic.onRoundClosed, Game.roundClosed, runSteps, gameStep]

/-- the one-line handlers: which function the chain calls next -/
theorem chain_eq :
    Generated.Logic.onStarted = ["Initialize"] ∧ Generated.Logic.onInitialized = ["Prepare"] ∧
    Generated.Logic.prepare = ["RequestReady"] ∧ Generated.Logic.onBlindsPaid = ["PrepareRound"] ∧
    Generated.Logic.onRoundStarted = ["RequestPlayerAction"] ∧
    Generated.Logic.onPreflopRoundEntered = ["InitializeRound"] ∧ Generated.Logic.onFlopRoundEntered = ["InitializeRound"] ∧
    Generated.Logic.onTurnRoundEntered = ["InitializeRound"] ∧ Generated.Logic.onRiverRoundEntered = ["InitializeRound"] ∧
    Generated.Logic.onGameCompleted = ["SettlementRequested"] ∧ Generated.Logic.onSettlementCompleted = ["GameClosed"] :=
  ⟨rfl, rfl, rfl, rfl, rfl, rfl, rfl, rfl, rfl, rfl, rfl⟩

/-- the errors of game.go `Start` by name -/
def startErr (s : List String) : Err :=
  if s = ["ErrInsufficientNumberOfPlayers"] then .insufficientPlayers
  else if s = ["ErrNoDealer"] then .noDealer
  else if s = ["ErrNotEnoughBackroll"] then .notEnoughBankroll
  else if s = ["ErrNoDeck"] then .noDeck
  else .unknownRound

/-- game.go `Start` (the guards in their order; the bankroll loop is matched as a whole statement and
    read as "some bankroll is not positive") and `Initialize` (the minimum bet, then `ResetRoundStatus`);
    `Initialized → Prepare → RequestReady` is in `chain_eq`. -/
theorem start_eq (c : Config) :
    let g0 : Game := { opts := c.opts, players := c.players }
    let s := Generated.Logic.start g0.n g0.dealerIdx?.isNone (g0.players.any fun p => decide (p.bankroll ≤ 0)) c.opts.deck.length
    let ini := Generated.Logic.initializeGame c.opts.blindDealer c.opts.blindBB
    ini.2 = ["ResetRoundStatus", "Initialized"] ∧
    start c = if s = ["Started"] then (({ g0 with miniBet := ini.1 } : Game).resetRoundStatus.requestReady, none)
              else (g0, some (startErr s)) := by
  intro g0 s ini
  constructor
  · simp only [ini, Generated.Logic.initializeGame]
    split <;> rfl
  · simp only [s, ini, Generated.Logic.start, Generated.Logic.initializeGame, start]
    by_cases h1 : g0.n < 2
    · simp [g0, h1, startErr]
    by_cases h2 : g0.dealerIdx?.isNone = true
    · simp [g0, h1, h2, startErr]
    by_cases h3 : (g0.players.any fun p => decide (p.bankroll ≤ 0)) = true
    · simp [g0, h1, h2, h3, startErr]
    by_cases h4 : c.opts.deck = []
    · simp [g0, h1, h2, h3, h4, startErr]
    · by_cases h5 : c.opts.blindDealer > c.opts.blindBB <;>
        simp [g0, h1, h2, h3, h4, h5]

/-! ### action.go and the remaining small functions of game.go / event.go / player.go -/

/-- action.go `ReadyForAll` -/
theorem readyForAll_eq (g : Game) :
    g.readyForAll =
      (let r := Generated.Logic.readyForAll (evString g.event)
       if r = ["ErrInvalidAction"] then (g, some .invalidAction) else (runSteps g r, none)) := by
  unfold Generated.Logic.readyForAll Game.readyForAll
  by_cases h : g.event = .readyRequested <;> simp [h, runSteps, gameStep]

/-- event.go `onAntePaid` (after `EmitEvent(AntePaid)` recorded the event): what the step "AntePaid" stands for -/
theorem onAntePaid_eq (g : Game) :
    gameStep g "AntePaid" = runSteps (g.setEvent .antePaid) Generated.Logic.onAntePaid := by
  simp [Generated.Logic.onAntePaid, runSteps, gameStep]

/-- action.go `PayAnte`: the guards, the loop over the players (matched as a whole statement; it stops at
    the first refusal), `ResetAllPlayerAllowedActions`, `EmitEvent(AntePaid)` -/
theorem gamePayAnte_eq (g : Game) :
    g.payAnte =
      (let loop := payAnteLoop g.seatsFromDealer g
       let r := Generated.Logic.gamePayAnte g.opts.ante (evString g.event) loop.2.isSome
       if r = ["ErrInvalidAction"] then (g, some .invalidAction)
       else if r = ["PayAnteLoop: return err"] then loop
       else (runSteps g r, none)) := by
  unfold Generated.Logic.gamePayAnte Game.payAnte Game.antePaid
  by_cases h0 : g.opts.ante = 0
  · simp [h0]
  · by_cases h : g.event = .anteRequested
    · rcases hl : payAnteLoop g.seatsFromDealer g with ⟨g', _ | e⟩
      · simp [h0, h, hl, runSteps, gameStep]
      · simp [h0, h]
    · simp [h0, h]

/-- action.go `PayBlinds`: the guard, the loop over the players (matched as a whole statement), the
    minimal raise size, `ResetAllPlayerAllowedActions`, `EmitEvent(BlindsPaid)` -/
theorem gamePayBlinds_eq (g : Game) :
    g.payBlinds =
      (let r := Generated.Logic.gamePayBlinds (evString g.event) g.opts.blindBB
       if r = ["ErrInvalidAction"] then (g, some .invalidAction) else (runSteps g r, none)) := by
  unfold Generated.Logic.gamePayBlinds Game.payBlinds Game.blindsPaid
  by_cases h : g.event = .blindsRequested
  · have hopts := (wr_foldl_payBlind g.seatsFromDealer g).opts
    by_cases hb : g.opts.blindBB > 0 <;>
      simp [h, hb, runSteps, gameStep, hopts]
  · simp [h]

/-- event.go `onGameCompleted` … `onSettlementCompleted` (`GameCompleted → SettlementRequested`,
    `SettlementCompleted → GameClosed` are in `chain_eq`) -/
theorem gameCompleted_eq (g : Game) :
    g.gameCompleted = runSteps g Generated.Logic.onSettlementRequested := by
  simp [Generated.Logic.onSettlementRequested, Game.gameCompleted, runSteps, gameStep]

/-- game.go `ResetRoundStatus` -/
theorem resetRoundStatus_eq (g : Game) :
    g.resetRoundStatus =
      (let r := Generated.Logic.resetRoundStatus g.dealerIdx
       { g with prev := r.1, roundPot := r.2.1, cw := r.2.2.1, raiser := r.2.2.2.1.toNat, cur := r.2.2.2.2.toNat }) := by
  simp [Generated.Logic.resetRoundStatus, Game.resetRoundStatus]

/-! #### loop bodies (one iteration as a function; the statements around the loop are pinned by the translator) -/

/-- game.go `GetAlivePlayerCount`: start from the number of players, one translated step per player -/
theorem aliveCount_eq (g : Game) :
    (g.aliveCount : Int) = g.players.foldl (fun c p => Generated.Logic.aliveCountStep c p.fold) (g.n : Int) := by
  rw [foldl_countStep (fun p : Player => p.fold) (fun c p => Generated.Logic.aliveCountStep c p.fold) (fun _ _ => rfl)]
  simp [Game.aliveCount, Game.n]

/-- game.go `GetMovablePlayerCount` -/
theorem movableCount_eq (g : Game) :
    (g.movableCount : Int) = g.players.foldl (fun c p => Generated.Logic.movableCountStep c p.fold p.stack) (g.n : Int) := by
  rw [foldl_countStep (fun p : Player => p.fold || p.stack == 0)
    (fun c p => Generated.Logic.movableCountStep c p.fold p.stack) (fun _ _ => rfl)]
  simp [Game.movableCount, Game.n]

/-- game.go `ResetActedPlayers` -/
theorem resetActed_eq (g : Game) :
    g.resetActed = g.mapP fun p => { p with acted := Generated.Logic.resetActedStep p.acted } := rfl

/-- game.go `ResetAllPlayerStatus` -/
theorem resetAllPlayerStatus_eq (g : Game) :
    g.resetAllPlayerStatus = g.mapP fun p =>
      let r := Generated.Logic.resetPlayerStatusStep p.fold p.pot p.wager p.initial p.stack
      { p with allowed := if r.1 then [] else p.allowed, pot := r.2.1, wager := r.2.2.1, initial := r.2.2.2 } := by
  unfold Game.resetAllPlayerStatus
  congr 1
  funext p
  unfold Generated.Logic.resetPlayerStatusStep
  cases p.fold <;> by_cases h : p.stack = 0 <;> simp [h]

/-- the reading of one step of player.go `Reset` on a player -/
def playerStep (p : Player) (s : String) : Player :=
  if s = "Acted = false" then { p with acted := false }
  else if s = "ResetAllowedActions" then { p with allowed := [] }
  else p

/-- game.go `ResetAllPlayerAllowedActions` (the loop calls `p.Reset()`) and player.go `Reset` -/
theorem resetAllAllowed_eq (g : Game) :
    Generated.Logic.resetAllowedLoopStep = ["p.Reset()"] ∧
    g.resetAllAllowed = g.mapP fun p => Generated.Logic.playerReset.foldl playerStep p := by
  refine ⟨by decide, ?_⟩
  unfold Game.resetAllAllowed
  congr 1

/-- game.go `NextPlayer`: the body of its loop, which returns in the first iteration (the loop runs when
    there are at least two players) -/
theorem nextIdx_eq (g : Game) :
    (g.nextIdx : Int) = Generated.Logic.nextPlayerStep g.cur g.n := by
  unfold Generated.Logic.nextPlayerStep
  simp only [beq_iff_eq]
  exact cwNext_cast g.n g.cur

/-- game.go `setCurrentPlayer`: the field `CurrentPlayer` after the call -/
theorem setCurrentPlayerField_eq (seat cur : Int) :
    Generated.Logic.setCurrentPlayerField false seat cur = seat ∧ Generated.Logic.setCurrentPlayerField true seat cur = -1 := by
  constructor <;> rfl

/-- the reading of one step of game.go `SetCurrentPlayer(p)` for the seat `i` of `p`; the actions offered
    are what the translated `GetAllowedActions` says for the current player at that point -/
def curStep (i : Nat) (g : Game) (s : String) : Game :=
  if s = "GetCurrentPlayer().ResetAllowedActions()" then g.modP g.cur clearAllowed
  else if s = "setCurrentPlayer(p)" then g.setCur (Generated.Logic.setCurrentPlayerField false i g.cur).toNat
  else if s = "p.AllowActions(GetAllowedActions(p))" then
    g.modP i fun p => { p with allowed :=
      if Generated.Logic.getAllowedActions g.cur i = ["GetAvailableActions(p)"] then g.availableActions p else [] }
  else g

/-- game.go `SetCurrentPlayer`, `setCurrentPlayer`, `GetAllowedActions`, for a player that is not nil and a
    current player that is set (the model keeps `cur` a seat number) -/
theorem setCurrentPlayer_eq (g : Game) (i : Nat) :
    g.setCurrentPlayer i = (Generated.Logic.setCurrentPlayer true true).foldl (curStep i) g := by
  simp [Generated.Logic.setCurrentPlayer, Generated.Logic.setCurrentPlayerField, Generated.Logic.getAllowedActions,
    Game.setCurrentPlayer, curStep, Game.offer, Game.setCur, Game.modP]

/-- the handler event.go `triggerEvent` calls for each event -/
def handlerOf (e : Ev) : String := if e = .gameClosed ∨ e = .none then "nil" else "on" ++ evString e

/-- event.go `triggerEvent`: the dispatch table -/
theorem triggerEvent_eq (e : Ev) : Generated.Logic.triggerEvent (evString e) = [handlerOf e] := by
  cases e <;> simp [Generated.Logic.triggerEvent, evString, handlerOf]

/-- event.go `EmitEvent`; game.go `Resume` re-emits the recorded event; the handlers of the wait points
    `ReadyRequested`, `AnteRequested`, `BlindsRequested` do nothing; the game-level actions of action.go
    address the current player; the `Enter…Round` functions set the street and emit their event -/
theorem dispatch_eq :
    Generated.Logic.emitEvent = ["CurrentEvent = GameEventSymbols[event]", "triggerEvent(event)"] ∧
    (∀ e : Ev, Generated.Logic.resume (evString e) = if e = .none then ["nil"] else ["EmitEvent(CurrentEvent)"]) ∧
    Generated.Logic.onReadyRequested = ["nil"] ∧ Generated.Logic.onAnteRequested = ["nil"] ∧
    Generated.Logic.onBlindsRequested = ["nil"] ∧ Generated.Logic.requestAnte = ["AnteRequested"] ∧
    Generated.Logic.startAtDealer false = ["SetCurrentPlayer(Dealer)", "nil"] ∧
    Generated.Logic.gamePass = ["GetCurrentPlayer().Pass()"] ∧ Generated.Logic.gamePay = ["GetCurrentPlayer().Pay(chips)"] ∧
    Generated.Logic.gameFold = ["GetCurrentPlayer().Fold()"] ∧ Generated.Logic.gameCheck = ["GetCurrentPlayer().Check()"] ∧
    Generated.Logic.gameCall = ["GetCurrentPlayer().Call()"] ∧ Generated.Logic.gameAllin = ["GetCurrentPlayer().Allin()"] ∧
    Generated.Logic.gameBet = ["GetCurrentPlayer().Bet(chips)"] ∧ Generated.Logic.gameRaise = ["GetCurrentPlayer().Raise(chipLevel)"] ∧
    Generated.Logic.enterPreflopRound = ["Round = preflop", "PreflopRoundEntered"] ∧
    Generated.Logic.enterFlopRound = ["Round = flop", "FlopRoundEntered"] ∧
    Generated.Logic.enterTurnRound = ["Round = turn", "TurnRoundEntered"] ∧
    Generated.Logic.enterRiverRound = ["Round = river", "RiverRoundEntered"] := by
  refine ⟨rfl, fun e => ?_, rfl, rfl, rfl, rfl, rfl, rfl, rfl, rfl, rfl, rfl, rfl, rfl, rfl, rfl, rfl, rfl, rfl⟩
  cases e <;> simp [Generated.Logic.resume, evString]

/-- game.go `Resume` on the model: re-emitting `RoundStarted` runs `onRoundStarted` (= `RequestPlayerAction`,
    `chain_eq`), re-emitting `RoundClosed` runs `onRoundClosed` (`roundClosed_eq`); for the other wait points
    the handler does nothing (`dispatch_eq`) and for `GameClosed` there is none (`triggerEvent_eq`) -/
theorem resume_eq (g : Game) :
    g.resume =
      if handlerOf g.event = "onRoundStarted" then g.requestPlayerAction
      else if handlerOf g.event = "onRoundClosed" then runSteps (g.setEvent .roundClosed) Generated.Logic.onRoundClosed
      else g := by
  unfold Game.resume
  cases h : g.event <;> simp [handlerOf, evString, roundClosed_eq]

/-! ### what the translated definitions compute, on concrete inputs (non-vacuity) -/

example : Generated.Logic.requestPlayerAction 3 2 false = ["SetCurrentPlayer(NextPlayer)"] := rfl

example : Generated.Logic.nextRound 2 "turn" = ["ResetRoundStatus", "ResetAllPlayerStatus", "EnterRiverRound"] := rfl

example : Generated.Logic.startRound "preflop" 3
    = ["ResetAllPlayerAllowedActions", "SetCurrentPlayer(Dealer)", "SeekBB", "RoundStarted"] := rfl

example : Generated.Logic.start 2 false true 52 = ["ErrNotEnoughBackroll"] := rfl

end Pokerface.GeneratedLogic
