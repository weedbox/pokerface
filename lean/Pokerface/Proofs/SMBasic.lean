/-
  Basic lemmas about the seat-manager model: well-formedness `WF` (one seat per id below `max`), `modAll` (one function
  applied to a list of seats) and seat lookup after it, `playable` by the seat (`playable_iff`), `findActive` as `findIdx?`
  (`findActive_eq`), offsets round the table (all seat geometry is `(d + j) % max`; `findActive_normalize_drop` is where
  the lists of the code become offsets), `normalize`, counting.
-/
import Pokerface.Model.SeatManager
import Pokerface.Proofs.ListLemmas

namespace Pokerface
namespace SM

def WF (sm : SM) : Prop := sm.seats.length = sm.max

@[simp] theorem modSeat_max (sm : SM) (i f) : (sm.modSeat i f).max = sm.max := rfl
@[simp] theorem modSeat_dealer (sm : SM) (i f) : (sm.modSeat i f).dealer = sm.dealer := rfl
@[simp] theorem modSeat_sb (sm : SM) (i f) : (sm.modSeat i f).sb = sm.sb := rfl
@[simp] theorem modSeat_bb (sm : SM) (i f) : (sm.modSeat i f).bb = sm.bb := rfl
@[simp] theorem modSeat_length (sm : SM) (i f) : (sm.modSeat i f).seats.length = sm.seats.length := by
  simp [modSeat]

theorem modSeat_seats (sm : SM) (i f j) :
    (sm.modSeat i f).seats[j]? = if i = j then (sm.seats[j]?).map f else sm.seats[j]? := by
  simp only [modSeat, List.getElem?_modify]
  split <;> simp

/-- Fold of `modSeat` over a list of ids (the shape of every loop of the Go code that touches seats). -/
def modAll (sm : SM) (ids : List Nat) (f : Seat → Seat) : SM :=
  ids.foldl (fun sm i => sm.modSeat i f) sm

@[simp] theorem modAll_nil (sm : SM) (f) : sm.modAll [] f = sm := rfl
@[simp] theorem modAll_cons (sm : SM) (i ids f) : sm.modAll (i :: ids) f = (sm.modSeat i f).modAll ids f := rfl

@[simp] theorem modAll_max (sm : SM) (ids f) : (sm.modAll ids f).max = sm.max := by
  induction ids generalizing sm with
  | nil => rfl
  | cons i ids ih => exact ih _
@[simp] theorem modAll_dealer (sm : SM) (ids f) : (sm.modAll ids f).dealer = sm.dealer := by
  induction ids generalizing sm with
  | nil => rfl
  | cons i ids ih => exact ih _
@[simp] theorem modAll_sb (sm : SM) (ids f) : (sm.modAll ids f).sb = sm.sb := by
  induction ids generalizing sm with
  | nil => rfl
  | cons i ids ih => exact ih _
@[simp] theorem modAll_bb (sm : SM) (ids f) : (sm.modAll ids f).bb = sm.bb := by
  induction ids generalizing sm with
  | nil => rfl
  | cons i ids ih => exact ih _
@[simp] theorem modAll_length (sm : SM) (ids f) : (sm.modAll ids f).seats.length = sm.seats.length := by
  induction ids generalizing sm with
  | nil => rfl
  | cons i ids ih => exact (ih _).trans (modSeat_length sm i f)

theorem modAll_seats (sm : SM) (ids : List Nat) (f : Seat → Seat) (hf : ∀ s, f (f s) = f s) (j : Nat) :
    (sm.modAll ids f).seats[j]? = if j ∈ ids then (sm.seats[j]?).map f else sm.seats[j]? := by
  induction ids generalizing sm with
  | nil => simp
  | cons i ids ih =>
    rw [modAll_cons, ih, modSeat_seats]
    by_cases hij : i = j
    · subst hij
      cases h : sm.seats[i]? <;> simp [hf]
    · have : ¬ j = i := fun h => hij h.symm
      simp [hij, this]

theorem activate_eq_modAll (sm : SM) (ids : List Nat) :
    sm.activate ids = sm.modAll ids (fun s => { s with active := true }) := rfl

theorem playable_eq (sm : SM) (i : Nat) :
    sm.playable i = match sm.seats[i]? with
      | some s => s.active && !s.reserved && s.player.isSome
      | none => false := rfl

theorem WF.lt_max {sm : SM} (h : sm.WF) {i : Nat} {s : Seat} (hs : sm.seats[i]? = some s) : i < sm.max :=
  h ▸ (List.getElem?_eq_some_iff.mp hs).1

theorem playable_of_seat {sm : SM} {i : Nat} {s : Seat} (hs : sm.seats[i]? = some s) :
    sm.playable i = (s.active && !s.reserved && s.player.isSome) := by
  rw [playable, hs]

theorem playable_of_none {sm : SM} {i : Nat} (hs : sm.seats[i]? = none) : sm.playable i = false := by
  rw [playable, hs]

theorem playable_iff {sm : SM} {i : Nat} :
    sm.playable i = true ↔
      ∃ s, sm.seats[i]? = some s ∧ s.active = true ∧ s.reserved = false ∧ s.player.isSome = true := by
  cases hs : sm.seats[i]? with
  | none => simp [playable_of_none hs]
  | some s => simp [playable_of_seat hs, and_assoc]

theorem playable_lt {sm : SM} (h : sm.WF) {i : Nat} (hp : sm.playable i = true) : i < sm.max := by
  obtain ⟨s, hs, _⟩ := playable_iff.mp hp
  exact h.lt_max hs

theorem playable_congr {sm sm' : SM} {i : Nat} (h : sm'.seats[i]? = sm.seats[i]?) :
    sm'.playable i = sm.playable i := by
  simp [playable, h]

theorem findActive_go_eq (sm : SM) (ids : List Nat) (k0 : Nat) :
    findActive.go sm ids k0 = (ids.findIdx? sm.playable).bind fun k => ids[k]?.map (·, k0 + k) := by
  induction ids generalizing k0 with
  | nil => rfl
  | cons a ids ih =>
    rw [findActive.go, List.findIdx?_cons]
    split
    · rfl
    · rw [ih, Option.bind_map]
      simp only [Function.comp_def, List.getElem?_cons_succ, Nat.add_assoc, Nat.add_comm 1]

theorem findActive_eq (sm : SM) (ids : List Nat) :
    sm.findActive ids = (ids.findIdx? sm.playable).bind fun k => ids[k]?.map (·, k) := by
  rw [findActive, findActive_go_eq]
  simp only [Nat.zero_add]

theorem findActive_some (sm : SM) (ids : List Nat) (i k : Nat) :
    sm.findActive ids = some (i, k) ↔
      ids[k]? = some i ∧ sm.playable i = true ∧
        ∀ j, j < k → ∀ x, ids[j]? = some x → sm.playable x = false := by
  rw [findActive_eq, Option.bind_eq_some_iff]
  constructor
  · rintro ⟨k', hk', he⟩
    obtain ⟨i', hi', hik⟩ := Option.map_eq_some_iff.mp he
    cases hik
    obtain ⟨hlt, hp, hall⟩ := List.findIdx?_eq_some_iff_getElem.mp hk'
    obtain ⟨_, rfl⟩ := List.getElem?_eq_some_iff.mp hi'
    refine ⟨hi', hp, fun j hj x hx => ?_⟩
    obtain ⟨hjl, rfl⟩ := List.getElem?_eq_some_iff.mp hx
    simpa using hall j hj
  · rintro ⟨hget, hp, hall⟩
    obtain ⟨hlt, rfl⟩ := List.getElem?_eq_some_iff.mp hget
    refine ⟨k, List.findIdx?_eq_some_iff_getElem.mpr ⟨hlt, hp, fun j hj => ?_⟩, by rw [hget]; rfl⟩
    simp [hall j hj _ (List.getElem?_eq_getElem (Nat.lt_trans hj hlt))]

theorem findActive_none (sm : SM) (ids : List Nat) :
    sm.findActive ids = none ↔ ∀ x ∈ ids, sm.playable x = false := by
  rw [findActive_eq, ← List.findIdx?_eq_none_iff]
  cases h : ids.findIdx? sm.playable with
  | none => simp
  | some k =>
    obtain ⟨hlt, _⟩ := List.findIdx?_eq_some_iff_getElem.mp h
    simp [List.getElem?_eq_getElem hlt]

theorem findActive_congr {sm sm' : SM} (ids : List Nat)
    (h : ∀ x ∈ ids, sm'.playable x = sm.playable x) : sm'.findActive ids = sm.findActive ids := by
  unfold findActive
  generalize 0 = k0
  induction ids generalizing k0 with
  | nil => simp [findActive.go]
  | cons a ids ih =>
    unfold findActive.go
    rw [h a (by simp), ih (fun x hx => h x (by simp [hx]))]

theorem findActive_some_of_countP_pos (sm : SM) (ids : List Nat) (h : 0 < ids.countP sm.playable) :
    ∃ i k, sm.findActive ids = some (i, k) := by
  cases hf : sm.findActive ids with
  | some p => exact ⟨p.1, p.2, rfl⟩
  | none =>
    rw [findActive_none] at hf
    have : ids.countP sm.playable = 0 := by
      rw [List.countP_eq_zero]
      intro x hx
      simp [hf x hx]
    omega

theorem countP_drop_of_findActive {sm : SM} {ids : List Nat} {i k : Nat}
    (h : sm.findActive ids = some (i, k)) :
    (ids.drop k).countP sm.playable = ids.countP sm.playable := by
  rw [findActive_some] at h
  obtain ⟨_, _, hall⟩ := h
  conv =>
    rhs
    rw [← List.take_append_drop k ids]
  rw [List.countP_append]
  have : (ids.take k).countP sm.playable = 0 := by
    rw [List.countP_eq_zero]
    intro x hx
    obtain ⟨j, hj, rfl⟩ := List.getElem_of_mem hx
    have hj' : j < k := by
      simp at hj
      omega
    have hjl : j < ids.length := by
      simp at hj
      omega
    have := hall j hj' ids[j] (List.getElem?_eq_getElem hjl)
    simp [List.getElem_take, this]
  omega

@[simp] theorem normalize_length (sm : SM) (d : Nat) : (sm.normalize d).length = sm.max := by
  simp [normalize]

theorem normalize_getElem? (sm : SM) (d k : Nat) :
    (sm.normalize d)[k]? = if k < sm.max then some ((d + k) % sm.max) else none := by
  simp only [normalize, List.getElem?_map]
  by_cases hk : k < sm.max
  · simp [hk]
  · simp [hk]

theorem normalize_drop_getElem? (sm : SM) (d a k : Nat) :
    ((sm.normalize d).drop a)[k]? = if a + k < sm.max then some ((d + (a + k)) % sm.max) else none := by
  rw [List.getElem?_drop, normalize_getElem?]

theorem findActive_normalize_drop (sm : SM) (d a : Nat)
    (h : 0 < ((sm.normalize d).drop a).countP sm.playable) :
    ∃ k, a + k < sm.max ∧ sm.playable ((d + (a + k)) % sm.max) = true ∧
      (∀ j, a ≤ j → j < a + k → sm.playable ((d + j) % sm.max) = false) ∧
      sm.findActive ((sm.normalize d).drop a) = some ((d + (a + k)) % sm.max, k) := by
  obtain ⟨b, k, hf⟩ := findActive_some_of_countP_pos sm _ h
  obtain ⟨hget, hpb, hall⟩ := (findActive_some _ _ _ _).mp hf
  rw [normalize_drop_getElem?] at hget
  split at hget
  case isFalse => cases hget
  next hlt =>
  cases hget
  refine ⟨k, hlt, hpb, fun j hj1 hj2 => ?_, hf⟩
  apply hall (j - a) (by omega)
  rw [normalize_drop_getElem?, Nat.add_sub_cancel' hj1, if_pos (by omega)]

theorem playableCount_eq_countP (sm : SM) : sm.playableCount = (List.range sm.max).countP sm.playable := by
  simp [playableCount, List.countP_eq_length_filter]

theorem playableCount_le_max (sm : SM) : sm.playableCount ≤ sm.max := by
  unfold playableCount
  exact Nat.le_trans (List.length_filter_le _ _) (by simp)

theorem normalize_nodup (sm : SM) (d : Nat) : (sm.normalize d).Nodup := nodup_rotSeats d sm.max

theorem mem_normalize (sm : SM) (d i : Nat) : i ∈ sm.normalize d ↔ i < sm.max := mem_rotSeats

theorem normalize_perm (sm : SM) (d : Nat) : (sm.normalize d).Perm (List.range sm.max) := rotSeats_perm d sm.max

theorem playableCount_eq_normalize (sm : SM) (d : Nat) :
    sm.playableCount = (sm.normalize d).countP sm.playable := by
  rw [playableCount_eq_countP, (normalize_perm sm d).countP_eq]

end SM
end Pokerface
