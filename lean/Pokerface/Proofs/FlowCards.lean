import Pokerface.Proofs.FlowStatic
import Pokerface.Proofs.CardsOps
/-
  Deck cursor and board length by street (`CD`), read off the cards invariant, in every reachable state.
-/
namespace Pokerface
open Game

/-- the deck is long enough for the whole hand (DESIGN §5: `n·hole + 8` cards) — a static fact -/
def DeckOK (g : Game) : Prop := g.n * g.opts.holeCount + 8 ≤ g.opts.deck.length

def Round.cardsDealt (r : Round) (nh : Nat) : Nat :=
  match r with
  | .none => 0 | .preflop => nh | .flop => nh + 4 | .turn => nh + 6 | .river => nh + 8

def Round.boardLen : Round → Nat
  | .none => 0 | .preflop => 0 | .flop => 3 | .turn => 4 | .river => 5

structure CardsOK (g : Game) : Prop where
  pos : g.deckPos = g.round.cardsDealt (g.n * g.opts.holeCount)
  board : g.board.length = g.round.boardLen

/-- deck long enough and cards by street -/
def CD (g : Game) : Prop := DeckOK g ∧ CardsOK g

theorem Round.cardsDealt_eq (r : Round) (n h : Nat) :
    r.cardsDealt (n * h) = n * (if r = .none then 0 else h) + r.boardCount + r.burnCount := by
  cases r <;> simp [Round.cardsDealt, Round.boardCount, Round.burnCount]

/-- a weakening of the cards invariant `CCoreL` (Proofs/Cards.lean) -/
theorem CD.of_ccoreL {g : Game} (h : CCoreL g) : CD g := by
  refine ⟨h.long, ?_, ?_⟩
  · rw [Round.cardsDealt_eq]
    exact h.pos
  · rw [h.board]
    cases g.round <;> rfl

/-- in every state reached from a configuration whose deck holds `n·hole + 8` cards, the deck
    cursor and the board length are what the street says -/
theorem cd_reachable_from (c : Config) (ops : List Op) (wf : WFConfig c) (hs : (start c).2 = none)
    (hdeck : c.seats.length * c.opts.holeCount + 8 ≤ c.opts.deck.length) : CD ((start c).1.run ops) :=
  CD.of_ccoreL (cinvL_reachable ⟨c, ops, hdeck, hs, rfl⟩).core

/-- the same, with the deck condition stated on the reachable state (it is static) -/
theorem cardsOK_reachable {g : Game} (h : Reachable g) (hdeck : DeckOK g) : CardsOK g := by
  obtain ⟨c, ops, wf, hs, rfl⟩ := h
  have hst := (static_start c hs).trans (wr_run _ ops).static
  refine (cd_reachable_from c ops wf hs ?_).2
  unfold DeckOK at hdeck
  rw [hst.length, hst.opts] at hdeck
  rw [← config_players_length]
  exact hdeck

end Pokerface
