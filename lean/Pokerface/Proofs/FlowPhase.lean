import Pokerface.Proofs.FlowInv
/-
  The phase machine of a hand: the wait point (event, street) an accepted table operation lands on, as a function of
  what the chain tests on the way — the street, whether there is an ante or any blind, the number of players left and
  of players with chips.

  `TableRow g op e r` is the table, one constructor per row: the table operation `op`, accepted in state `g`, lands at
  the event `e` on the street `r`, and the row carries the tests it has passed; event and street are indices, so
  `cases` on a row whose event is known leaves the rows with that event.  (The two rows that enter the preflop round
  are shared by `PayAnte` and the first `ReadyForAll` of a hand without ante; they say which in `hop`.)

  The inner chains are described by equations (`prepareRound_phase`, `enterRound_phase` with `Game.entryEvent` on the
  right, `startRound'_phase`); the lemmas that follow one operation each (`ready_phase`, `payAnte_phase`,
  `payBlinds_phase`, `next_phase`) say on which row the step lands.  `step_phase` puts them together: `Game.step`
  follows the table — the operation is accepted only at the wait point that awaits it (`Op.awaited`), it lands on a row
  — and says what happens to the settlement result and to the `acted` marks of a round it opens.  What the flow
  properties say about the rest of the state comes from the footprint of the operation (`wr_step`), and for the two
  operations that sweep the table before they move on, `PayAnte` and `Next`, from `swept_step`.
-/
namespace Pokerface
open Game

/-- all three blinds are 0: `RequestBlinds` skips `PayBlinds` -/
def Meta.noBlinds (m : Meta) : Prop := m.blindDealer = 0 ∧ m.blindSB = 0 ∧ m.blindBB = 0
instance (m : Meta) : Decidable m.noBlinds := by
  unfold Meta.noBlinds
  exact inferInstance

theorem openBlind_of_noBlinds {m : Meta} (h : m.noBlinds) : m.openBlind = 0 := by
  obtain ⟨b1, _, b3⟩ := h
  unfold Meta.openBlind
  split
  · omega
  · exact b1

/-- the wait point `enterRound r` ends at: before the flop the blinds are requested unless there are none; a later
    street asks for readiness only with two stacks -/
def Game.entryEvent (g : Game) (r : Round) : Ev :=
  if r = .preflop then (if g.opts.noBlinds then .readyRequested else .blindsRequested)
  else if 2 ≤ g.movableCount then .readyRequested else .roundClosed

/-- the wait point at which an operation is accepted -/
def Op.awaited : Op → Ev
  | .ready => .readyRequested
  | .payAnte => .anteRequested
  | .payBlinds => .blindsRequested
  | .next => .roundClosed
  | .act _ _ _ => .roundStarted

/-- two table operations are awaited at different wait points -/
theorem Op.awaited_ne {op o : Op} (ho : ∀ s a x, o ≠ .act s a x) (h : op ≠ o) : op.awaited ≠ o.awaited := by
  intro e
  cases o with
  | act s a x => exact ho s a x rfl
  | ready =>
    cases op with
    | ready => exact h rfl
    | payAnte | payBlinds | next | act _ _ _ => cases e
  | payAnte =>
    cases op with
    | payAnte => exact h rfl
    | ready | payBlinds | next | act _ _ _ => cases e
  | payBlinds =>
    cases op with
    | payBlinds => exact h rfl
    | ready | payAnte | next | act _ _ _ => cases e
  | next =>
    cases op with
    | next => exact h rfl
    | ready | payAnte | payBlinds | act _ _ _ => cases e

/-- the phase table, one constructor per row (see the header) -/
inductive TableRow (g : Game) : Op → Ev → Round → Prop
  /-- the first `ReadyForAll` of a hand with an ante -/
  | ante (hr : g.round = .none) (ha : g.opts.ante > 0) : TableRow g .ready .anteRequested .none
  /-- the preflop round is entered — by `PayAnte`, or by the first `ReadyForAll` of a hand without ante — and a
      blind is due -/
  | blinds {op : Op} (hop : op = .payAnte ∨ op = .ready ∧ g.round = .none ∧ ¬ g.opts.ante > 0)
      (hb : ¬ g.opts.noBlinds) : TableRow g op .blindsRequested .preflop
  /-- the same with no blind due -/
  | noBlinds {op : Op} (hop : op = .payAnte ∨ op = .ready ∧ g.round = .none ∧ ¬ g.opts.ante > 0)
      (hb : g.opts.noBlinds) : TableRow g op .readyRequested .preflop
  | payBlinds : TableRow g .payBlinds .readyRequested .preflop
  /-- `ReadyForAll` on a dealt street with nobody to act closes the round at once -/
  | skip (hr : g.round ≠ .none) (hc : g.aliveCount = 1 ∨ g.movableCount = 0) : TableRow g .ready .roundClosed g.round
  | opens (hr : g.round ≠ .none) (hc : ¬ (g.aliveCount = 1 ∨ g.movableCount = 0)) :
      TableRow g .ready .roundStarted g.round
  | close (hr : g.round ≠ .none) (hc : g.aliveCount = 1 ∨ g.round = .river) : TableRow g .next .gameClosed g.round
  /-- `Next` deals a street; it is played only with two stacks -/
  | street (hr : g.round ≠ .none) (hc : ¬ (g.aliveCount = 1 ∨ g.round = .river)) (h2 : 2 ≤ g.movableCount) :
      TableRow g .next .readyRequested g.round.succ
  | allin (hr : g.round ≠ .none) (hc : ¬ (g.aliveCount = 1 ∨ g.round = .river)) (h2 : g.movableCount ≤ 1) :
      TableRow g .next .roundClosed g.round.succ

theorem entryEvent_preflop (g : Game) :
    g.entryEvent .preflop = if g.opts.noBlinds then .readyRequested else .blindsRequested := if_pos rfl

theorem entryEvent_ne (g : Game) (r : Round) :
    g.entryEvent r ≠ .gameClosed ∧ g.entryEvent r ≠ .roundStarted ∧ g.entryEvent r ≠ .anteRequested := by
  unfold Game.entryEvent
  split
  · split <;> exact ⟨nofun, nofun, nofun⟩
  · split <;> exact ⟨nofun, nofun, nofun⟩

theorem TableRow.of_eq {g : Game} {op : Op} {e e' : Ev} {r r' : Round} (h : TableRow g op e r) (he : e' = e) (hr : r' = r) :
    TableRow g op e' r' := he ▸ hr ▸ h

/-- only `Next` closes the hand, only `ReadyForAll` opens a betting round -/
theorem TableRow.event_op {g : Game} {op : Op} {e : Ev} {r : Round} (h : TableRow g op e r) :
    (e = .gameClosed → op = .next) ∧ (e = .roundStarted → op = .ready) := by
  cases h with
  | close => exact ⟨fun _ => rfl, nofun⟩
  | opens => exact ⟨nofun, fun _ => rfl⟩
  | ante | blinds | noBlinds | payBlinds | skip | street | allin => exact ⟨nofun, nofun⟩

/-- where `prepareRound` ends: the preflop round always asks for readiness, a later street only with two stacks -/
theorem prepareRound_phase (g : Game) :
    g.prepareRound.event = (if g.round = .preflop ∨ 2 ≤ g.movableCount then .readyRequested else .roundClosed) ∧
    g.prepareRound.round = g.round :=
  g.prepareRound_cases (motive := fun x => x.event = (if g.round = .preflop ∨ 2 ≤ g.movableCount then .readyRequested
    else .roundClosed) ∧ x.round = g.round) (fun h => ⟨(if_pos h).symm, rfl⟩)
    fun h1 h2 => ⟨(if_neg fun h => h.elim h1 fun h => by omega).symm, rfl⟩

/-- where `enterRound r` ends.  Dealing the street touches neither the options nor the stacks; what decides is
    `afterRoundInitialized` on the dealt state `y`: before the flop the blinds are requested unless there are none,
    and then, as on a later street, the round is prepared. -/
theorem enterRound_phase (g : Game) (r : Round) :
    (g.enterRound r).event = g.entryEvent r ∧ (g.enterRound r).round = r := by
  unfold Game.enterRound Game.initializeRound
  have w := ((wr_setRound g r).trans (wr_dealStreet _)).trans ((wr_updateCombinations _).trans (wr_setEvent _ .roundInitialized))
  have hrd : (((g.setRound r).dealStreet.updateCombinations).setEvent .roundInitialized).round = r := by
    show (g.setRound r).dealStreet.round = r
    rw [dealStreet_round]
    rfl
  have ho := w.opts
  have hm := w.mov.movable
  generalize (((g.setRound r).dealStreet.updateCombinations).setEvent .roundInitialized) = y at hrd ho hm
  unfold Game.entryEvent
  rw [← hrd]
  refine y.afterRoundInitialized_cases (motive := fun x => x.event = _ ∧ x.round = y.round) (fun hp => ?_) (fun hp => ?_)
  · rw [if_pos hp]
    refine y.requestBlinds_cases (motive := fun x => x.event = _ ∧ x.round = y.round) (fun hb => ?_) (fun hb => ?_)
    · obtain ⟨e1, e2⟩ := prepareRound_phase (y.setEvent .blindsPaid)
      rw [e1, e2, if_pos (Or.inl (show (y.setEvent .blindsPaid).round = .preflop from hp)), if_pos (ho ▸ hb)]
      exact ⟨rfl, rfl⟩
    · rw [if_neg (ho ▸ hb)]
      exact ⟨rfl, rfl⟩
  · obtain ⟨e1, e2⟩ := prepareRound_phase y
    rw [if_neg hp, e1, e2, hm]
    refine ⟨?_, rfl⟩
    by_cases h2 : 2 ≤ g.movableCount
    · rw [if_pos (Or.inr h2), if_pos h2]
    · rw [if_neg (fun h => h.elim hp h2), if_neg h2]

theorem initializeRound_round (g : Game) : g.initializeRound.round = g.round := (wr_initializeRound g).round

theorem enterRound_round (g : Game) (r : Round) : (g.enterRound r).round = r := (enterRound_phase g r).2

/-- nobody is marked as having acted -/
def AllUnacted (g : Game) : Prop := ∀ p ∈ g.players, p.acted = false

theorem Acts.allUnacted {g g' : Game} (h : Acts g g') (hu : AllUnacted g) : AllUnacted g' := by
  intro p hp
  obtain ⟨q, hq, e⟩ := mem_of_map_eq h.acted hp
  exact e.symm.trans (hu q hq)

theorem allUnacted_resetAllAllowed (g : Game) : AllUnacted g.resetAllAllowed := by
  intro p hp
  simp [Game.resetAllAllowed, Game.mapP] at hp
  obtain ⟨q, _, rfl⟩ := hp
  rfl

/-- `EmitEvent(RoundStarted)` on a state where nobody is marked: the next seat is asked unless one player is left or
    nobody can move -/
theorem openRound_eq (g : Game) (hs : Struct g) (hu : AllUnacted g) :
    g.openRound = if g.aliveCount = 1 ∨ g.movableCount = 0 then (g.setEvent .roundStarted).roundClosed
      else (g.setEvent .roundStarted).setCurrentPlayer g.nextIdx := by
  unfold Game.openRound
  rcases (g.setEvent .roundStarted).requestPlayerAction_cases ((wr_setEvent g .roundStarted).struct hs) with
    ⟨e, h | h | ⟨p, hp, ha⟩⟩ | ⟨e, h1, h2, _⟩
  · rw [e, if_pos (Or.inl (show g.aliveCount = 1 from h))]
  · rw [e, if_pos (Or.inr (show g.movableCount = 0 from h))]
  · have hp' : g.players[g.nextIdx]? = some p := hp
    rw [hu p (List.mem_of_getElem? hp')] at ha
    cases ha
  · rw [e, if_neg (not_or.mpr ⟨show ¬ g.aliveCount = 1 from h1, show ¬ g.movableCount = 0 from h2⟩)]
    rfl

/-- where `StartRound` ends on a state where nobody is marked, and that a round it opens has nobody marked -/
theorem startRound'_phase (g : Game) (hs : Struct g) (hu : AllUnacted g) :
    g.startRound'.event = (if g.aliveCount = 1 ∨ g.movableCount = 0 then .roundClosed else .roundStarted) ∧
    (g.startRound'.event = .roundStarted → AllUnacted g.startRound') := by
  -- the round is opened on a state `y` that differs from `g` in the seat to act and the offers only
  have opens : ∀ y, Wr .ask g y →
      y.openRound.event = (if g.aliveCount = 1 ∨ g.movableCount = 0 then .roundClosed else .roundStarted) ∧
      (y.openRound.event = .roundStarted → AllUnacted y.openRound) := by
    intro y w
    have hy := w.acts.allUnacted hu
    rw [openRound_eq y (w.struct hs) hy, w.mov.alive, w.mov.movable]
    by_cases hc : g.aliveCount = 1 ∨ g.movableCount = 0
    · rw [if_pos hc, if_pos hc]
      exact ⟨rfl, nofun⟩
    · rw [if_neg hc, if_neg hc]
      exact ⟨rfl, fun _ => (wr_askNext _).acts.allUnacted hy⟩
  refine g.startRound'_cases (motive := fun x => x.event = (if g.aliveCount = 1 ∨ g.movableCount = 0 then .roundClosed
    else .roundStarted) ∧ (x.event = .roundStarted → AllUnacted x)) (fun _ h0 => ?_)
    (fun _ _ => opens _ ((wr_askDealer g).trans' (wr_seekBB _ _))) (fun _ => opens _ (wr_askDealer g))
  rw [if_pos (Or.inr h0)]
  exact ⟨rfl, nofun⟩

/-- `ReadyForAll` before the first street: the ante is requested, or the preflop round is entered -/
theorem ready_fresh_phase {g : Game} (he : g.event = .readyRequested) (hr : g.round = .none) :
    ((g.step .ready).1.event, (g.step .ready).1.round) =
      if g.opts.ante > 0 then (.anteRequested, .none) else (g.entryEvent .preflop, .preflop) := by
  rw [step_ready_fresh he hr]
  by_cases ha : g.opts.ante > 0
  · rw [if_pos ha, if_pos ha]
    exact Prod.ext rfl hr
  · obtain ⟨e1, e2⟩ := enterRound_phase g.resetAllAllowed .preflop
    rw [if_neg ha, if_neg ha, e1, e2]
    rfl

/-- `ReadyForAll`: before the first street the ante is requested or the preflop round is entered; on a dealt street
    the betting round is opened with nobody marked — or closed at once -/
theorem ready_phase {g : Game} (hs : Struct g) (he : g.event = .readyRequested) :
    TableRow g .ready (g.step .ready).1.event (g.step .ready).1.round ∧
    ((g.step .ready).1.event = .roundStarted → AllUnacted (g.step .ready).1) := by
  by_cases hrn : g.round = .none
  · have hp := ready_fresh_phase he hrn
    have he' := congrArg Prod.fst hp
    have hr' := congrArg Prod.snd hp
    by_cases ha : g.opts.ante > 0
    · rw [if_pos ha] at he' hr'
      exact ⟨(TableRow.ante hrn ha).of_eq he' hr', fun h => nomatch he'.symm.trans h⟩
    · rw [if_neg ha, entryEvent_preflop] at he' hr'
      by_cases hb : g.opts.noBlinds
      · rw [if_pos hb] at he'
        exact ⟨(TableRow.noBlinds (.inr ⟨rfl, hrn, ha⟩) hb).of_eq he' hr', fun h => nomatch he'.symm.trans h⟩
      · rw [if_neg hb] at he'
        exact ⟨(TableRow.blinds (.inr ⟨rfl, hrn, ha⟩) hb).of_eq he' hr', fun h => nomatch he'.symm.trans h⟩
  · rw [step_ready_street he hrn]
    have w := (wr_resetAllAllowed g).trans (wr_resetAllAllowed g.resetAllAllowed)
    obtain ⟨e1, e2⟩ := startRound'_phase g.resetAllAllowed.resetAllAllowed (w.struct hs) (allUnacted_resetAllAllowed _)
    rw [w.mov.alive, w.mov.movable] at e1
    have hr' : (g.resetAllAllowed.startRound, (none : Option Err)).1.round = g.round := (wr_startRound' _).round
    by_cases hc : g.aliveCount = 1 ∨ g.movableCount = 0
    · rw [if_pos hc] at e1
      exact ⟨(TableRow.skip hrn hc).of_eq e1 hr', fun h => e2 h⟩
    · rw [if_neg hc] at e1
      exact ⟨(TableRow.opens hrn hc).of_eq e1 hr', fun h => e2 h⟩

/-- an accepted `PayAnte` enters the preflop round -/
theorem payAnte_phase {g : Game} (hacc : (g.step .payAnte).2 = none) :
    TableRow g .payAnte (g.step .payAnte).1.event (g.step .payAnte).1.round := by
  rw [(step_payAnte_accepted hacc).2]
  have ho := (wr_payAnteLoop g.seatsFromDealer g).opts
  generalize (payAnteLoop g.seatsFromDealer g).1 = g' at ho ⊢
  dsimp only
  obtain ⟨e1, e2⟩ := enterRound_phase g'.anteSwept .preflop
  rw [entryEvent_preflop, (wr_anteSwept g').opts, ho] at e1
  rw [Game.antePaid_eq]
  by_cases hb : g.opts.noBlinds
  · rw [if_pos hb] at e1
    exact (TableRow.noBlinds (.inl rfl) hb).of_eq e1 e2
  · rw [if_neg hb] at e1
    exact (TableRow.blinds (.inl rfl) hb).of_eq e1 e2

/-- `onBlindsPaid` before the flop asks for readiness -/
theorem blindsPaid_phase {g : Game} (hr : g.round = .preflop) :
    g.blindsPaid.event = .readyRequested ∧ g.blindsPaid.round = .preflop := by
  obtain ⟨e1, e2⟩ := prepareRound_phase (((g.setPrev g.opts.openBlind).resetAllAllowed).setEvent .blindsPaid)
  exact ⟨e1.trans (if_pos (.inl hr)), e2.trans hr⟩

/-- `PayBlinds` asks for readiness before the flop: the payments leave the street alone -/
theorem payBlinds_phase {g : Game} (he : g.event = .blindsRequested) (hr : g.round = .preflop) :
    TableRow g .payBlinds (g.step .payBlinds).1.event (g.step .payBlinds).1.round := by
  rw [step_payBlinds he]
  obtain ⟨e1, e2⟩ := blindsPaid_phase ((wr_foldl_payBlind g.seatsFromDealer g).round.trans hr)
  exact TableRow.payBlinds.of_eq e1 e2

/-- `Next` on a closed round of a dealt street: the hand is completed — with a result — when one player is left or
    the river has been played; otherwise the next street is entered and the result stays as it is -/
theorem next_phase {g : Game} (he : g.event = .roundClosed) (hr : g.round ≠ .none) :
    TableRow g .next (g.step .next).1.event (g.step .next).1.round ∧
    ((g.step .next).1.event ≠ .gameClosed → (g.step .next).1.result = g.result) ∧
    ((g.step .next).1.event = .gameClosed → (g.step .next).1.result.isSome = true) := by
  rw [step_next_street he hr]
  have w := wr_sweep g
  have hm := w.mov
  have hr0 := w.round
  have hres0 := w.result
  generalize g.sweep = g0 at hm hr0 hres0
  by_cases hc : g.aliveCount = 1 ∨ g.round = .river
  · rw [if_pos hc]
    exact ⟨(TableRow.close hr hc).of_eq rfl ((wr_gameCompleted g0).round.trans hr0), fun h => absurd rfl h, fun _ => rfl⟩
  · obtain ⟨e1, e2⟩ := enterRound_phase g0 g.round.succ
    rw [if_neg hc]
    refine ⟨?_, fun _ => ((wr_enterRound g0 _).result.trans hres0), fun h => absurd (e1.symm.trans h) (entryEvent_ne g0 _).1⟩
    unfold Game.entryEvent at e1
    rw [if_neg (Round.succ_ne_preflop hr), hm.movable] at e1
    by_cases h2 : 2 ≤ g.movableCount
    · rw [if_pos h2] at e1
      exact (TableRow.street hr hc h2).of_eq e1 e2
    · rw [if_neg h2] at e1
      exact (TableRow.allin hr hc (by omega)).of_eq e1 e2

/-- a table operation is accepted only at the wait point that awaits it -/
theorem accepted_awaited_table (g : Game) (op : Op) (hop : ∀ s a x, op ≠ .act s a x) (hacc : (g.step op).2 = none) :
    g.event = op.awaited := by
  revert hacc
  exact g.step_cases op (motive := fun r => r.2 = none → g.event = op.awaited) (fun _ h => nomatch h)
    (fun e he _ => e ▸ he) (fun e he _ _ => e ▸ he) (fun e he _ => e ▸ he) (fun e he _ _ => e ▸ he)
    (fun e he _ _ => e ▸ he) (fun s a x e => absurd e (hop s a x))

/-- `PayAnte`, and `Next` on a dealt street, sweep the table before they enter a street or settle the hand: afterwards
    nothing is to match, no raise is recorded and no seat has a wager in front of it -/
theorem swept_step {g : Game} {op : Op} (hop : op = .payAnte ∨ op = .next ∧ g.round ≠ .none)
    (hacc : (g.step op).2 = none) :
    (g.step op).1.cw = 0 ∧ (g.step op).1.prev = 0 ∧ ∀ p ∈ (g.step op).1.players, p.wager = 0 := by
  -- both run a chain that moves no chip on a state `y` that the two resets (in either order) have made
  have swept : ∀ x y z : Game, y.players = x.resetAllPlayerStatus.players → y.cw = 0 → y.prev = 0 → NoChip y z →
      z.cw = 0 ∧ z.prev = 0 ∧ ∀ p ∈ z.players, p.wager = 0 := by
    intro x y z hy hc hv nc
    refine ⟨nc.cw.trans hc, nc.prev.trans hv, wager_zero_of_noChip nc fun p hp => ?_⟩
    rw [hy] at hp
    obtain ⟨q, _, rfl⟩ := List.mem_map.mp (show p ∈ x.players.map _ from hp)
    rfl
  rcases hop with rfl | ⟨rfl, hr⟩
  · rw [(step_payAnte_accepted hacc).2, Game.antePaid_eq]
    generalize (payAnteLoop g.seatsFromDealer g).1 = g'
    exact swept ((g'.resetAllAllowed.setEvent .antePaid).updatePots) g'.anteSwept _ rfl rfl rfl (wr_enterRound _ _).noChip
  · rw [step_next (accepted_awaited_table g .next nofun hacc) hr]
    exact swept g.resetRoundStatus g.sweep _ rfl rfl rfl (wr_nextRound' g.sweep).noChip

/-- in an open betting round only player actions are accepted -/
theorem accepted_at_started (g : Game) (he : g.event = .roundStarted) (op : Op) (hacc : (g.step op).2 = none) :
    ∃ seat a x, op = .act seat a x := by
  cases op with
  | act seat a x => exact ⟨seat, a, x, rfl⟩
  | ready => exact nomatch (accepted_awaited_table g .ready nofun hacc).symm.trans he
  | payAnte => exact nomatch (accepted_awaited_table g .payAnte nofun hacc).symm.trans he
  | payBlinds => exact nomatch (accepted_awaited_table g .payBlinds nofun hacc).symm.trans he
  | next => exact nomatch (accepted_awaited_table g .next nofun hacc).symm.trans he

/-- **The engine follows the phase table.**  `Flow` gives: blinds are requested before the flop only, a closed round
    has a street.  With it: what the operation does to the settlement result, and that a betting round opens with
    nobody marked. -/
theorem step_phase {g : Game} (hs : Struct g) (hf : Flow g) (op : Op) (hop : ∀ s a x, op ≠ .act s a x)
    (hacc : (g.step op).2 = none) :
    g.event = op.awaited ∧ TableRow g op (g.step op).1.event (g.step op).1.round ∧
    ((g.step op).1.event ≠ .gameClosed → (g.step op).1.result = g.result) ∧
    ((g.step op).1.event = .gameClosed → (g.step op).1.result.isSome = true) ∧
    ((g.step op).1.event = .roundStarted → AllUnacted (g.step op).1) := by
  have haw := accepted_awaited_table g op hop hacc
  have hrn : op = .next → g.round ≠ .none := by
    rintro rfl
    exact hf.round_closed haw
  -- the row, and which operations leave the result and the marks alone, from the lemma of each operation
  have hp : TableRow g op (g.step op).1.event (g.step op).1.round ∧ (op ≠ .next → (g.step op).1.result = g.result) ∧
      (op = .ready → (g.step op).1.event = .roundStarted → AllUnacted (g.step op).1) := by
    cases op with
    | act s a x => exact absurd rfl (hop s a x)
    | ready => exact ⟨(ready_phase hs haw).1, fun _ => (wr_step g .ready).result, fun _ => (ready_phase hs haw).2⟩
    | payAnte => exact ⟨payAnte_phase hacc, fun _ => (wr_step g .payAnte).result, nofun⟩
    | payBlinds => exact ⟨payBlinds_phase haw (hf.blinds haw), fun _ => (wr_step g .payBlinds).result, nofun⟩
    | next => exact ⟨(next_phase haw (hrn rfl)).1, fun h => absurd rfl h, nofun⟩
  obtain ⟨row, hres, hun⟩ := hp
  obtain ⟨hcl, hst⟩ := row.event_op
  refine ⟨haw, row, fun h => ?_, fun h => ?_, fun h => hun (hst h) h⟩
  · by_cases hn : op = .next
    · subst hn
      exact (next_phase haw (hrn rfl)).2.1 h
    · exact hres hn
  · obtain rfl := hcl h
    exact (next_phase haw (hrn rfl)).2.2 h

end Pokerface
