import Pokerface.Proofs.SMStep
import Pokerface.Generated.LogicSM
import Pokerface.Proofs.GeneratedLogicLoops
/-
  K1, translated logic (seat manager): seat_manager/seat_manager.go `Join`, `join`, `Seat`, `Reserve`, `Leave`, `leave`,
  `Next` (Generated/LogicSM.lean) as lists of steps, against the model's `SM.step`.
  Conventions: header of Proofs/GeneratedLogicBase.lean.
-/
namespace Pokerface.GeneratedLogic
open Pokerface

/-- the reading of one recorded effect on a seat -/
def seatStep (pid : Nat) (s : Seat) (e : String) : Seat :=
  if e = "reserve" then { s with reserved := true }
  else if e = "unreserve" then { s with reserved := false }
  else if e = "setPlayer" then { s with player := some pid }
  else if e = "clearPlayer" then { s with player := none }
  else s

/-- seat_manager.go `join` on seat `i`, as the translated decision says (`panic`: the seat does not
    exist and the Go code dereferences nil) -/
def joinAt (sm : SM) (pid i : Nat) : SM × Option SMErr × Option Nat :=
  match sm.seats[i]? with
  | none => (sm, some .panic, none)
  | some s =>
    if Generated.Logic.smJoinAt s.player.isSome = ["ErrNotAvailable"] then (sm, some .notAvailable, none)
    else (sm.modSeat i fun s => (Generated.Logic.smJoinAt false).foldl (seatStep pid) s, none, some i)

/-- closed form of the translated `Join`: the seat asked for is validated, then taken as it is; with none asked for
    (-1) a seat is drawn among the free active ones, else among the free inactive ones -/
theorem smJoin_closed (seat mx sLen asLen : Int) :
    Generated.Logic.smJoin seat mx sLen asLen =
      if seat ≥ mx ∨ seat < -1 then ["ErrInvalidSeat"]
      else if seat > -1 then ["join(seatID)"]
      else if sLen = 0 ∧ asLen = 0 then ["ErrNoAvailableSeat"]
      else if sLen > 0 then (if sLen = 1 then ["join(s[0])"] else ["join(s[rand.Intn(len(s)-1)])"])
      else if asLen = 1 then ["join(as[0])"] else ["join(as[rand.Intn(len(as)-1)])"] := by
  unfold Generated.Logic.smJoin
  simp only [Bool.or_eq_true, Bool.and_eq_true, decide_eq_true_eq, beq_iff_eq, List.nil_append]

/-- seat_manager.go `join` on one seat: the model's `SM.joinAt` (left) is `joinAt` above (right), the reading of the
    translated `smJoinAt` -/
theorem smJoinAt_eq (sm : SM) (pid i : Nat) : sm.joinAt pid i = joinAt sm pid i := by
  unfold SM.joinAt joinAt Generated.Logic.smJoinAt
  cases sm.seats[i]? with
  | none => rfl
  | some s => cases h : s.player <;> simp [seatStep, h]

/-- seat_manager.go `Join` and `join` -/
theorem smJoin_eq (sm : SM) (seat : Int) (pid : Nat) (chose : Option Nat) :
    sm.step (.join seat pid chose) =
      (let s := sm.availableSeats.1
       let as := sm.availableSeats.2
       let r := Generated.Logic.smJoin seat sm.max s.length as.length
       if r = ["ErrInvalidSeat"] then (sm, some .invalidSeat, none)
       else if r = ["join(seatID)"] then joinAt sm pid seat.toNat
       else if r = ["ErrNoAvailableSeat"] then (sm, some .noAvailableSeat, none)
       else
         let pool := if r = ["join(s[0])"] ∨ r = ["join(s[rand.Intn(len(s)-1)])"] then s else as
         match chose with
         | none => (sm, some .badChoice, none)
         | some c => if pool.contains c then joinAt sm pid c else (sm, some .badChoice, none)) := by
  rw [SM.step_join_eq]
  simp only [smJoinAt_eq, smJoin_closed, SM.joinPool]
  by_cases h1 : seat ≥ (sm.max : Int) ∨ seat < -1
  · simp [h1]
  rw [if_neg h1, if_neg h1]
  by_cases h2 : seat > -1
  · simp [h2]
  rw [if_neg h2, if_neg h2]
  -- no seat asked for: from here on only the lengths of the two pools matter — nobody free; one or several free
  -- active seats; else one or several free inactive ones — each outcome its own step name
  generalize sm.availableSeats.1 = s
  generalize sm.availableSeats.2 = as
  simp only [isEmpty_eq_length s, isEmpty_eq_length as]
  have hs0 : (0 : Int) ≤ (s.length : Int) := Int.natCast_nonneg _
  generalize (s.length : Int) = sl at hs0 ⊢
  generalize (as.length : Int) = al
  by_cases he : sl = 0 ∧ al = 0
  · simp [he]
  by_cases hp : sl > 0
  · have : ¬ sl = 0 := by omega
    by_cases h : sl = 1
    all_goals
      simp [this, hp, h]
      cases chose <;> rfl
  · have : sl = 0 := by omega
    have hn : ¬ al = 0 := fun h => he ⟨this, h⟩
    by_cases h : al = 1
    all_goals
      simp [this, hn, h]
      cases chose <;> rfl

/-- seat_manager.go `Seat` (`missing`: `getSeat` finds no seat with that id) -/
theorem smSeat_eq (sm : SM) (id : Int) :
    sm.step (.seat id) =
      (let r := Generated.Logic.smSeat (decide (id < 0 ∨ id ≥ (sm.max : Int)))
       if r = ["ErrNotFoundSeat"] then (sm, some .notFoundSeat, none)
       else (sm.modSeat id.toNat fun s => r.foldl (seatStep 0) s, none, none)) := by
  unfold SM.step Generated.Logic.smSeat
  by_cases h : id < 0 ∨ id ≥ (sm.max : Int) <;> simp [h, seatStep]

theorem smReserve_eq (sm : SM) (id : Int) :
    sm.step (.reserve id) =
      (let r := Generated.Logic.smReserve (decide (id < 0 ∨ id ≥ (sm.max : Int)))
       if r = ["ErrNotFoundSeat"] then (sm, some .notFoundSeat, none)
       else (sm.modSeat id.toNat fun s => r.foldl (seatStep 0) s, none, none)) := by
  unfold SM.step Generated.Logic.smReserve
  by_cases h : id < 0 ∨ id ≥ (sm.max : Int) <;> simp [h, seatStep]

/-- seat_manager.go `Leave` and `leave` -/
theorem smLeave_eq (sm : SM) (id : Int) :
    Generated.Logic.smLeaveOp = ["leave(seatID)"] ∧
    sm.step (.leave id) =
      (let seat := if id < 0 ∨ id ≥ (sm.max : Int) then none else sm.seats[id.toNat]?
       let r := Generated.Logic.smLeave seat.isNone ((seat.map fun s => s.player.isNone).getD false)
       if r = ["ErrNotFoundSeat"] then (sm, some .notFoundSeat, none)
       else if r = ["ErrEmptySeat"] then (sm, some .emptySeat, none)
       else (sm.modSeat id.toNat fun s => r.foldl (seatStep 0) s, none, none)) := by
  refine ⟨rfl, ?_⟩
  unfold SM.step Generated.Logic.smLeave
  by_cases h : id < 0 ∨ id ≥ (sm.max : Int)
  · simp [h]
  · cases hs : sm.seats[id.toNat]? with
    | none => simp [h, hs]
    | some s => cases hp : s.player <;> simp [h, hs, hp, seatStep]

/-- seat_manager.go `Next`: the two guards; the count of playable seats is read after `nextDealer`
    moved the button, as in the source -/
theorem smNext_eq (sm : SM) :
    sm.step .next =
      (let r := Generated.Logic.smNext sm.nextDealer.2 sm.nextDealer.1.playableCount
       if r = ["ErrInsufficientNumberOfPlayers"] then (sm.nextDealer.1, some .insufficientPlayers, none)
       else match sm.nextDealer.1.renewSeatStatus with
         | none => (sm.nextDealer.1, some .panic, none)
         | some sm' => (sm', none, none)) := by
  unfold SM.step Generated.Logic.smNext
  simp only
  generalize sm.nextDealer = nd
  obtain ⟨sm', found⟩ := nd
  cases found
  · simp
  · by_cases h : sm'.playableCount < 2
    · simp [h]
    · simp [h]
      cases sm'.renewSeatStatus <;> rfl

example : Generated.Logic.smJoin (-1) 9 3 0 = ["join(s[rand.Intn(len(s)-1)])"] := rfl

end Pokerface.GeneratedLogic
