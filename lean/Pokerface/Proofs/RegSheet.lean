/-
  The two sheets of the regulator model side by side: the regulator's `tview` and the real `mview`
  under lookups (`sim_find`), table updates and removal of a table (`setMembers`,
  `mview_setMembers`, `count_seatedOf_split`), `SyncState` (`sync_sheet`) and the callbacks of an
  operation (`opext_env`); what a list of callbacks does to the real sheet (`applyCalls_grows`,
  `applyCalls_prefix_le`, `applyCalls_ne_nil`); and, on the environment and the synchronous system,
  `membersOf` as a lookup (`Env.membersOf_some`, `Env.membersOf_isSome_iff`) and the step of a sync on
  a known table as an equation (`RSys.step_sync_known`).
-/
import Pokerface.Proofs.RegOps

namespace Pokerface
open Reg

namespace Reg

theorem sim_find (ts : List RTable) (m : List (Nat × List Nat)) (t : Nat) (h : tview ts = mview m) :
    (ts.find? (fun x => x.id == t)).map (fun x => x.count) =
    (m.find? (fun e => e.1 == t)).map (fun e => (e.2.length : Int)) := by
  rw [find_tview, find_mview, h]

theorem filter_bump (id : Nat) (a : Int) (tv : List (Nat × Int)) :
    (bump id a tv).filter (fun e => e.1 != id) = tv.filter (fun e => e.1 != id) := by
  induction tv with
  | nil => rfl
  | cons e tv ih =>
    simp only [bump, List.map_cons] at ih ⊢
    by_cases h : e.1 = id
    · simp [h, ih]
    · have : (e.1 != id) = true := by simpa using h
      simp [h, this, ih]

theorem mview_filter (m : List (Nat × List Nat)) (t : Nat) :
    mview (m.filter (fun e => e.1 != t)) = (mview m).filter (fun e => e.1 != t) := by
  simp only [mview, List.filter_map]
  rfl

/-- replacing the membership of table `t` -/
def setMembers (t : Nat) (keep : List Nat) (m : List (Nat × List Nat)) : List (Nat × List Nat) :=
  m.map fun e => if e.1 = t then (e.1, keep) else e

theorem mview_setMembers (m : List (Nat × List Nat)) (t : Nat) (ms keep : List Nat)
    (hn : (m.map (·.1)).Nodup) (hf : m.find? (fun e => e.1 == t) = some (t, ms)) :
    mview (setMembers t keep m) = bump t ((keep.length : Int) - ms.length) (mview m) := by
  obtain ⟨l₁, l₂, rfl, h1, h2⟩ := split_at_entry (·.1) hn (List.mem_of_find?_eq_some hf)
  rw [setMembers, map_ite_split (·.1) _ l₁ l₂ (t, ms) h1 h2]
  simp only [mview, List.map_append, List.map_cons]
  rw [bump, map_ite_split (·.1) _ _ _ (t, (ms.length : Int)) (by rw [← mview, mview_fst]; exact h1)
    (by rw [← mview, mview_fst]; exact h2)]
  simp only [List.append_cancel_left_eq, List.cons.injEq, Prod.mk.injEq, true_and, and_true]
  omega

theorem count_seatedOf_split (m : List (Nat × List Nat)) (t : Nat) (ms keep : List Nat)
    (hn : (m.map (·.1)).Nodup) (hf : m.find? (fun e => e.1 == t) = some (t, ms)) (a : Nat) :
    (seatedOf m).count a = ms.count a + (seatedOf (m.filter (fun e => e.1 != t))).count a ∧
    (seatedOf (setMembers t keep m)).count a =
      keep.count a + (seatedOf (m.filter (fun e => e.1 != t))).count a := by
  obtain ⟨l₁, l₂, rfl, h1, h2⟩ := split_at_entry (·.1) hn (List.mem_of_find?_eq_some hf)
  rw [setMembers, map_ite_split (·.1) _ l₁ l₂ (t, ms) h1 h2, filter_ne_split (·.1) l₁ l₂ (t, ms) h1 h2]
  simp only [seatedOf_append, seatedOf_cons, List.count_append]
  omega

theorem setMembers_fst (t keep) (m : List (Nat × List Nat)) : (setMembers t keep m).map (·.1) = m.map (·.1) := by
  simp only [setMembers, List.map_map]
  apply List.map_congr_left
  intro e _
  simp only [Function.comp]
  split <;> rfl

/-- The sheet after `SyncState` on a table the environment knows with members `ms`, `out` of them
    eliminated: either the table is gone from the regulator's sheet, everybody left is to be
    released and the sheet is the real one without that table; or it is still there and the sheet
    is the real one with ANY membership of the right length at that table. -/
theorem sync_sheet {r r1 : Reg} {m : List (Nat × List Nat)} {t : Nat} {ms nw : List Nat} {t0 : RTable}
    {out rel : Int} (hsim : tview r.tables = mview m) (hn : (m.map (·.1)).Nodup)
    (hfm : m.find? (fun e => e.1 == t) = some (t, ms)) (hft : r.findTable t = some t0)
    (hc0 : t0.count = ms.length)
    (post : SyncPostD (syncBase r t out) t (adj (-out) none t0) r1 rel nw) :
    (r1.findTable t = none ∧ rel = (ms.length : Int) - out ∧ nw = [] ∧
      tview r1.tables = mview (m.filter fun e => e.1 != t)) ∨
    (r1.findTable t ≠ none ∧ rel ≤ (ms.length : Int) - out + nw.length ∧
      ∀ keep : List Nat, (keep.length : Int) = (ms.length : Int) - out + nw.length - rel →
        tview r1.tables = mview (setMembers t keep m)) := by
  have hbt : tview (syncBase r t out).tables = bump t (-out) (tview r.tables) := by
    rw [syncBase_tables, tview_upd t _ _ (-out) (adj_id _ _) (adj_count _ _)]
  have htb : (adj (-out) none t0).count = (ms.length : Int) - out := by
    rw [adj_count, hc0]
    omega
  rcases post.cases with ⟨hnone, htab, hrel, hnw⟩ | ⟨a, rq, htab, ha, hle⟩
  · refine .inl ⟨hnone, hrel.trans htb, hnw, ?_⟩
    rw [htab, tview_filter, hbt, filter_bump, hsim, mview_filter]
  · refine .inr ⟨?_, htb ▸ hle, fun keep hk => ?_⟩
    · obtain ⟨ht0, hid0⟩ := findTable_some hft
      apply findTable_ne_none
      rw [htab, upd_ids _ _ _ (adj_id a rq), syncBase_tables, upd_ids _ _ _ (adj_id _ _)]
      exact List.mem_map.2 ⟨t0, ht0, hid0⟩
    · rw [htab, tview_upd t _ _ a (adj_id _ _) (adj_count _ _), hbt, bump_bump,
        mview_setMembers m t ms keep hn hfm, hsim]
      congr 1
      omega

theorem opext_env {r r' : Reg} {inc : List Nat} {m : List (Nat × List Nat)} (hx : OpExt r r' inc)
    (hsim : tview r.tables = mview m) (hn : (m.map (·.1)).Nodup) :
    tview r'.tables = mview (Env.applyCalls m r'.calls) ∧
    (seatedOf (Env.applyCalls m r'.calls)).Perm (seatedOf m ++ handed r'.calls) := by
  have hv : validCalls (mview m) r'.calls := hsim ▸ hx.valid
  exact ⟨by rw [mview_applyCalls, ← hsim]; exact hx.tv, seatedOf_applyCalls m r'.calls hn hv⟩

theorem applyTV_length_le (tv : List (Nat × Int)) (c : RCall) : tv.length ≤ (applyTV tv c).length := by
  cases c <;> simp [applyTV]

theorem applyTVs_length_le (tv : List (Nat × Int)) (cs : List RCall) : tv.length ≤ (applyTVs tv cs).length := by
  induction cs generalizing tv with
  | nil => exact Nat.le_refl _
  | cons c cs ih => exact Nat.le_trans (applyTV_length_le tv c) (ih _)

theorem applyTVs_ne_nil (tv : List (Nat × Int)) (cs : List RCall) (hv : validCalls tv cs) (hne : cs ≠ []) :
    applyTVs tv cs ≠ [] := by
  cases cs with
  | nil => exact absurd rfl hne
  | cons c cs =>
    have h1 : 0 < (applyTV tv c).length := by
      cases c with
      | requestTable id ps => simp [applyTV]
      | assign t ps =>
        have : t ∈ tv.map (·.1) := hv.1
        obtain ⟨e, he, _⟩ := List.mem_map.1 this
        simp only [applyTV, List.length_map]
        exact List.length_pos_of_mem he
    have h2 := applyTVs_length_le (applyTV tv c) cs
    intro h
    rw [applyTVs_cons] at h
    rw [h, List.length_nil] at h2
    omega

theorem applyCalls_append (m : List (Nat × List Nat)) (a b : List RCall) :
    Env.applyCalls m (a ++ b) = Env.applyCalls (Env.applyCalls m a) b := by
  simp [Env.applyCalls, List.foldl_append]

theorem applyCalls_grows (m : List (Nat × List Nat)) (cs : List RCall) (e : Nat × List Nat) (he : e ∈ m) :
    ∃ e' ∈ Env.applyCalls m cs, e'.1 = e.1 ∧ e.2.length ≤ e'.2.length := by
  induction cs generalizing m e with
  | nil => exact ⟨e, he, rfl, Nat.le_refl _⟩
  | cons c cs ih =>
    have : ∃ e1 ∈ Env.applyCall m c, e1.1 = e.1 ∧ e.2.length ≤ e1.2.length := by
      cases c with
      | requestTable id ps => exact ⟨e, List.mem_append_left _ he, rfl, Nat.le_refl _⟩
      | assign t ps =>
        refine ⟨if e.1 = t then (e.1, e.2 ++ ps) else e, List.mem_map.2 ⟨e, he, rfl⟩, ?_, ?_⟩
        · split <;> rfl
        · split
          · simp
          · exact Nat.le_refl _
    obtain ⟨e1, h1, h2, h3⟩ := this
    obtain ⟨e2, g1, g2, g3⟩ := ih (Env.applyCall m c) e1 h1
    exact ⟨e2, g1, g2.trans h2, Nat.le_trans h3 g3⟩

/-- callbacks only add players: a bound on the memberships after all of them holds after every prefix -/
theorem applyCalls_prefix_le {base m : List (Nat × List Nat)} {cs₁ cs₂ : List RCall} {M : Nat}
    (hm : m = Env.applyCalls base (cs₁ ++ cs₂)) (hcap : ∀ e ∈ m, e.2.length ≤ M) :
    ∀ e ∈ Env.applyCalls base cs₁, e.2.length ≤ M := by
  intro e he
  obtain ⟨e', he', _, hle⟩ := applyCalls_grows _ cs₂ e he
  rw [← applyCalls_append, ← hm] at he'
  exact Nat.le_trans hle (hcap e' he')

/-- a callback leaves a table behind -/
theorem applyCalls_ne_nil {base : List (Nat × List Nat)} {cs : List RCall}
    (hv : validCalls (mview base) cs) (hc : cs ≠ []) : Env.applyCalls base cs ≠ [] := by
  intro hm
  have h1 := applyTVs_ne_nil _ _ hv hc
  rw [← mview_applyCalls, hm] at h1
  exact absurd rfl h1

end Reg

namespace Env

theorem membersOf_some {e : Env} {t : Nat} {ms : List Nat} (h : e.membersOf t = some ms) :
    e.members.find? (fun x => x.1 == t) = some (t, ms) := by
  unfold Env.membersOf at h
  cases hf : e.members.find? (fun x => x.1 == t) with
  | none =>
    rw [hf] at h
    cases h
  | some x =>
    rw [hf] at h
    simp only [Option.map_some, Option.some.injEq] at h
    have := List.find?_some hf
    simp only [beq_iff_eq] at this
    rw [← h, ← this]

theorem mem_members_of_membersOf {e : Env} {t : Nat} {ms : List Nat} (h : e.membersOf t = some ms) :
    (t, ms) ∈ e.members := List.mem_of_find?_eq_some (Env.membersOf_some h)

theorem membersOf_inj {e : Env} (hs : e.seated.Nodup) {t t' : Nat} {ms ms' : List Nat} {p : Nat}
    (hm : e.membersOf t = some ms) (hm' : e.membersOf t' = some ms') (hp : p ∈ ms) (hp' : p ∈ ms') :
    t = t' :=
  (Prod.mk.inj (seatedOf_one_entry (m := e.members) hs (Env.mem_members_of_membersOf hm)
    (Env.mem_members_of_membersOf hm') (p := p) hp hp')).1

theorem membersOf_isSome_iff (e : Env) (t : Nat) : (e.membersOf t).isSome = true ↔ t ∈ e.members.map (·.1) := by
  unfold Env.membersOf
  constructor
  · intro h
    cases hf : e.members.find? (fun x => x.1 == t) with
    | none =>
      rw [hf] at h
      cases h
    | some x =>
      have h1 := List.mem_of_find?_eq_some hf
      have h2 := List.find?_some hf
      exact List.mem_map.2 ⟨x, h1, by simpa using h2⟩
  · intro h
    obtain ⟨x, hx, hxt⟩ := List.mem_map.1 h
    cases hf : e.members.find? (fun x => x.1 == t) with
    | none =>
      rw [List.find?_eq_none] at hf
      exact absurd (by simpa using hxt) (hf x hx)
    | some y => rfl

end Env

namespace RSys

/-- the synchronous step of a sync on a known table, as an equation: the answer of `SyncState`,
    the table's new membership, and `ReleasePlayers` with its callbacks unless nobody is released
    and the table stays -/
theorem step_sync_known {s : RSys} {t : Nat} {ms : List Nat} (hm : s.env.membersOf t = some ms)
    (elim stay rel keep ch : List Nat) :
    s.step (.sync t elim stay rel keep ch) =
      if rel.isEmpty ∧ s.broken t elim = false then
        { r := (s.syncAnswer t elim).1,
          env := { s.env with
                   members := if s.broken t elim then s.env.members.filter (fun e => e.1 != t)
                              else setMembers t keep s.env.members,
                   alive := s.env.alive.filter (fun p => !elim.contains p) } }
      else
        { r := (s.syncAnswer t elim).1.releasePlayers rel ch,
          env := { s.env with
                   members := Env.applyCalls
                     (if s.broken t elim then s.env.members.filter (fun e => e.1 != t)
                      else setMembers t keep s.env.members)
                     ((s.syncAnswer t elim).1.releasePlayers rel ch).calls,
                   alive := s.env.alive.filter (fun p => !elim.contains p) } } := by
  simp only [step, hm]
  rfl

end RSys
end Pokerface
