import Pokerface.Proofs.ListLemmas
import Pokerface.Proofs.EngineHop
import Pokerface.Generated.LogicHop
import Pokerface.Generated.Tables
import Pokerface.Proofs.GeneratedLogicLoops
import Pokerface.Proofs.Clockwise
/-
  K1, translated logic (how a game object is BUILT and REBUILT — the anchors of C07): game.go (`NewGame`,
  `NewGameFromState`, `ApplyOptions`, `AddPlayer`, `addPlayer`, `LoadState`, `GetState`, `GetStateJSON`, `Player`,
  `Dealer` / `SmallBlind` / `BigBlind`, `GetPlayerCount`, `GetPlayers`), player.go (`State`, `SeatIndex`,
  `CheckPosition`), pokerface.go (`NewGame`, `NewGameFromState`), game_options.go (`NewStardardGameOptions`,
  `NewShortDeckGameOptions`) and table/native_backend.go (`cloneState`, `getState`, `CreateGame` and the twelve
  operations) (Generated/LogicHop.lean).

  Reading.  What matters in this code is WHICH object an operation is applied to, and in which order — aliasing,
  which a pure model cannot express.  So the functions are translated as programs over UNINTERPRETED primitives:
  a generated definition takes the primitives it uses (`cloneState`, `newGameFromState`, `call`, `applyOptions`,
  `addPlayer`, `appendAll`, `mapSet`, `holds`, …) and the types they act on (`S` a state pointer, `G` a game
  object, `E` an error, …) as parameters.  Every theorem `hop…_eq` states, for ALL types, ALL primitives and ALL
  arguments, that the generated definition is the reference program written here (`Hop.backendCall`:
  clone in → rebuild → the one operation → clone out, error passed through; `Hop.addPlayer`; …).  Because the
  primitives are universally quantified the equality pins the term: a backend method that rebuilds the game from
  its argument instead of from the clone is another term and the theorem is false for it (take for `cloneState`
  a function that is not the identity, which is what any model with pointers does) — although on the pointer-free
  model of `Model/Game.lean` the two agree (that agreement is `C07.json_step`, a theorem, not a definition).

  The second half of each section instantiates the primitives with the model: the backend methods are
  `Hop.backendModel` (which `C07.backendCall` is, by `rfl`), `ApplyOptions` + `AddPlayer` build
  `Config.players`, the dealer cached by `LoadState` is `Game.dealerIdx?` (the LAST player holding the position),
  `Player(i)` is the object bound to `gs.Players[i]`, `GetPlayers` is `Game.seatsFromDealer`.

  Conventions: header of Proofs/GeneratedLogicBase.lean.
-/
namespace Pokerface.GeneratedLogic
open Pokerface Game
open Pokerface.Generated.Logic

/-! ### game.go `NewGame`, `NewGameFromState`; pokerface.go -/

/-- game.go `NewGame`: `ApplyOptions(opts)` on a FRESH object (empty player map, no cached dealer), which is returned -/
theorem hopNewGame_eq {O G : Type} (fresh : G) (applyOptions : O → G → G) (opts : O) (g0 : G) :
    hopNewGame fresh applyOptions opts g0 = applyOptions opts fresh := rfl

/-- game.go `NewGameFromState` is `LoadState(gs)` on a FRESH object, which is returned -/
theorem hopNewGameFromState_eq {S G : Type} (fresh : G) (loadState : S → G → G) (gs : S) (g0 : G) :
    hopNewGameFromState fresh loadState gs g0 = loadState gs fresh := rfl

/-- pokerface.go `NewGame`: the game of `NewGame(opts)` (its id and time stamps are set: not modelled) -/
theorem hopPfNewGame_eq {O G : Type} (newGame : O → G) (opts : O) (g0 : G) :
    hopPfNewGame newGame opts g0 = newGame opts := rfl

/-- pokerface.go `NewGameFromState`: `NewGameFromState` of the state HANDED IN (no copy at this level) -/
theorem hopPfNewGameFromState_eq {S G : Type} (newGameFromState : S → G) (gs : S) :
    hopPfNewGameFromState newGameFromState gs = newGameFromState gs := rfl

/-- pokerface.go `NewPokerFace`: the engine object has no state of its own -/
theorem hopNewPokerFace_eq : hopNewPokerFace = () := rfl

/-- game.go `GetState`: the pointer the object holds, not a copy (the engine writes through it) -/
theorem hopGetState_eq {S : Type} (gs : S) : hopGetState gs = gs := rfl

/-- game.go `GetStateJSON`: the state the object holds, marshalled -/
theorem hopGetStateJSON_eq {S R : Type} (marshal : S → R) (gs : S) : hopGetStateJSON marshal gs = marshal gs := rfl

/-! ### game.go `LoadState`, `addPlayer`; player.go `CheckPosition`, `State`, `SeatIndex` -/

/-- game.go `LoadState`: the state pointer is swapped FIRST; the loop that rebuilds the player objects then ranges
    over the players of the NEW state; nothing else happens (no early return) -/
theorem hopLoadState_eq {S : Type} (gs0 gs : S) :
    hopLoadState gs0 gs = (gs, gs, ["addPlayer loop over g.gs.Players", "return nil"]) := rfl

/-- game.go `LoadState`, one iteration: `addPlayer(ps)` for the player state at hand, on the same object -/
theorem hopLoadStateStep_eq {PS G : Type} (addPlayer : PS → G → G) (ps : PS) (g : G) :
    hopLoadStateStep addPlayer ps g = addPlayer ps g := rfl

namespace Hop

/-- reference for game.go `addPlayer`: a new player object `(state.Idx, this game, state)`; it becomes the cached dealer
    iff its state holds "dealer", the cached small blind iff it holds "sb", the cached big blind iff it holds "bb" and
    not "sb"; it is stored in the map under `state.Idx` -/
def addPlayer {PS Γ M : Type} (self : Γ) (holds : PS → String → Bool) (mapSet : M → Int → Option (Int × Γ × PS) → M)
    (idxOf : PS → Int) (d s b : Option (Int × Γ × PS)) (m : M) (state : PS) :
    Option (Int × Γ × PS) × Option (Int × Γ × PS) × Option (Int × Γ × PS) × M :=
  let p := some (idxOf state, self, state)
  (if holds state "dealer" then p else d,
   if holds state "sb" then p else s,
   if holds state "sb" then b else if holds state "bb" then p else b,
   mapSet m (idxOf state) p)

end Hop

/-- game.go `addPlayer` -/
theorem hopAddPlayer_eq {PS Γ M : Type} (self : Γ) (holds : PS → String → Bool) (mapSet : M → Int → Option (Int × Γ × PS) → M)
    (idxOf : PS → Int) (d s b : Option (Int × Γ × PS)) (m : M) (state : PS) :
    hopAddPlayer self holds mapSet idxOf d s b m state = Hop.addPlayer self holds mapSet idxOf d s b m state := by
  unfold hopAddPlayer Hop.addPlayer
  dsimp only
  cases holds state "dealer" <;> cases holds state "sb" <;> cases holds state "bb" <;> rfl

/-- player.go `CheckPosition`, one iteration: `return true` iff the entry is the position asked for -/
theorem hopCheckPositionStep_eq (p pos : String) : hopCheckPositionStep p pos = (p == pos) := by
  unfold hopCheckPositionStep
  cases p == pos <;> rfl

/-- player.go `CheckPosition`: the loop returns `true` iff the list contains the position -/
theorem hopCheckPosition_contains (positions : List String) (pos : String) :
    positions.any (fun p => hopCheckPositionStep p pos) = positions.contains pos := by
  induction positions with
  | nil => rfl
  | cons a l ih =>
    rw [List.any_cons, ih, hopCheckPositionStep_eq, List.contains_cons, BEq.comm (a := a)]

/-- player.go `State`: looked up in the state the GAME holds now, by the player's index (not the pointer the
    player object was bound to) -/
theorem hopPlayerState_eq {PS : Type} (nilPS : PS) (playerAt : Int → PS) (playersLen idx : Int) :
    hopPlayerState nilPS playerAt playersLen idx = if idx < playersLen then playerAt idx else nilPS := by
  unfold hopPlayerState
  by_cases h : playersLen ≤ idx
  · have h' : ¬ idx < playersLen := by omega
    simp [h, h']
  · have h' : idx < playersLen := by omega
    simp [h, h']

/-- player.go `SeatIndex` -/
theorem hopSeatIndex_eq (idx : Int) : hopSeatIndex idx = idx := rfl

namespace Hop

/-- `PlayerState.Positions` of a model player -/
def posList (p : Player) : List String :=
  (if p.posDealer then ["dealer"] else []) ++ (if p.posSB then ["sb"] else []) ++ (if p.posBB then ["bb"] else [])

/-- `CheckPosition` on a model player -/
def holds (p : Player) (pos : String) : Bool :=
  if pos = "dealer" then p.posDealer else if pos = "sb" then p.posSB else if pos = "bb" then p.posBB else false

abbrev PMap := Int → Option (Int × Unit × Player)

def mapSet (m : PMap) (k : Int) (v : Option (Int × Unit × Player)) : PMap := fun j => if j = k then v else m j

/-- (cached dealer, cached small blind, cached big blind, player objects) of the Go `game` struct -/
abbrev Cache := Option (Int × Unit × Player) × Option (Int × Unit × Player) × Option (Int × Unit × Player) × PMap

def addModel (c : Cache) (p : Player) : Cache :=
  hopAddPlayer () holds mapSet (fun p : Player => (p.idx : Int)) c.1 c.2.1 c.2.2.1 c.2.2.2 p

/-- the loop of `LoadState` (every iteration is `addPlayer`, `hopLoadStateStep_eq`) from the caches `c` -/
def load (c : Cache) (ps : List Player) : Cache :=
  ps.foldl (fun c p => hopLoadStateStep (fun p c => addModel c p) p c) c

def fresh : Cache := (none, none, none, fun _ => none)

/-- the player object bound to a player state -/
def obj (p : Player) : Int × Unit × Player := ((p.idx : Int), (), p)

/-- the players' `Idx` fields are their positions in `gs.Players` (what `ApplyOptions` establishes, `hopApplyOptions_players`) -/
def IdxOK (ps : List Player) : Prop := ∀ (k : Nat) (p : Player), ps[k]? = some p → p.idx = k

end Hop

/-- the model's position flags are `CheckPosition` on the position list -/
theorem hopCheckPosition_holds (p : Player) (pos : String) (h : pos = "dealer" ∨ pos = "sb" ∨ pos = "bb") :
    (Hop.posList p).any (fun q => hopCheckPositionStep q pos) = Hop.holds p pos := by
  rw [hopCheckPosition_contains]
  rcases h with rfl | rfl | rfl <;> simp [Hop.posList, Hop.holds]

theorem Hop.addModel_dealer (c : Hop.Cache) (p : Player) :
    (Hop.addModel c p).1 = if p.posDealer then some (Hop.obj p) else c.1 := by
  unfold Hop.addModel
  rw [hopAddPlayer_eq]
  simp [Hop.addPlayer, Hop.holds, Hop.obj]

theorem Hop.addModel_map (c : Hop.Cache) (p : Player) :
    (Hop.addModel c p).2.2.2 = Hop.mapSet c.2.2.2 p.idx (some (Hop.obj p)) := by
  unfold Hop.addModel
  rw [hopAddPlayer_eq]
  simp [Hop.addPlayer, Hop.obj]

theorem Hop.load_append (c : Hop.Cache) (l : List Player) (p : Player) :
    Hop.load c (l ++ [p]) = Hop.addModel (Hop.load c l) p := by
  simp [Hop.load, List.foldl_append, hopLoadStateStep_eq]

/-- game.go `LoadState` → `addPlayer`, the cached dealer, from ANY previous cache: the LAST player of the new state
    holding "dealer"; if none holds it, the dealer cached before stays (a fresh object has none) -/
theorem hopLoad_dealer_any (c : Hop.Cache) (ps : List Player) :
    (Hop.load c ps).1 = match ps.reverse.find? (·.posDealer) with
      | some p => some (Hop.obj p)
      | none => c.1 := by
  induction ps using snoc_induction with
  | nil => rfl
  | snoc l p ih =>
    rw [Hop.load_append, Hop.addModel_dealer, List.reverse_append, List.reverse_singleton, List.singleton_append, List.find?_cons]
    cases hp : p.posDealer
    · simpa using ih
    · simp

/-- **the cached dealer is `Game.dealerIdx?`**: after `NewGameFromState(gs)` (`LoadState` on a fresh object,
    `hopNewGameFromState_eq`) `Dealer()` is nil iff no player holds the position, otherwise it is the object of the
    last player holding it, whose `SeatIndex()` is that player's `Idx` -/
theorem hopLoad_dealer (g : Game) :
    ((Hop.load Hop.fresh g.players).1.map fun o => hopSeatIndex o.1) = g.dealerIdx?.map fun i : Nat => (i : Int) := by
  rw [hopLoad_dealer_any]
  unfold Game.dealerIdx?
  cases g.players.reverse.find? (·.posDealer) <;> rfl

/-- the cached dealer object is bound to the state of that player (the last one holding the position) -/
theorem hopLoad_dealer_state (g : Game) :
    ((Hop.load Hop.fresh g.players).1.map fun o => o.2.2) = g.players.reverse.find? (·.posDealer) := by
  rw [hopLoad_dealer_any]
  cases g.players.reverse.find? (·.posDealer) <;> rfl

/-- game.go `LoadState` → `addPlayer`, the map of player objects: key `i` holds the object bound to `gs.Players[i]`
    (for a state whose `Idx` fields are the positions) -/
theorem hopLoad_map (ps : List Player) (h : Hop.IdxOK ps) (i : Nat) :
    (Hop.load Hop.fresh ps).2.2.2 (i : Int) = ps[i]?.map Hop.obj := by
  induction ps using snoc_induction with
  | nil => rfl
  | snoc l p ih =>
    have hl : Hop.IdxOK l := fun k q hq =>
      h k q (by rw [List.getElem?_append_left (List.getElem?_eq_some_iff.mp hq).1, hq])
    have hp : p.idx = l.length := h l.length p (by simp)
    rw [Hop.load_append, Hop.addModel_map, Hop.mapSet]
    by_cases hi : i = l.length
    · subst hi
      simp [hp]
    · have hi' : ¬ (i : Int) = (p.idx : Int) := by rw [hp]; omega
      rw [if_neg hi', ih hl]
      rcases Nat.lt_or_ge i l.length with hk | hk
      · rw [List.getElem?_append_left hk]
      · rw [List.getElem?_eq_none hk, List.getElem?_eq_none (by simp; omega)]

/-! ### game.go `Player(idx)`, the cached lookups, `GetPlayerCount`, `GetPlayers` -/

/-- game.go `Player(idx)`: nil outside `0 ≤ idx < GetPlayerCount()`, else the object stored under `idx` -/
theorem hopPlayer_eq {P : Type} (nilP : P) (lookup : Int → P) (idx count : Int) :
    hopPlayer nilP lookup idx count = if 0 ≤ idx ∧ idx < count then lookup idx else nilP := by
  unfold hopPlayer
  by_cases h1 : idx < 0
  · have : ¬ (0 ≤ idx ∧ idx < count) := by omega
    simp [h1, this]
  · by_cases h2 : idx ≥ count
    · have : ¬ (0 ≤ idx ∧ idx < count) := by omega
      simp [h1, h2, this]
    · have : 0 ≤ idx ∧ idx < count := by omega
      simp [h1, h2, this]

/-- **`Player(i)` of a rebuilt game is the object bound to `gs.Players[i]`** (`g.players[i]?` in the model) -/
theorem hopPlayer_model (g : Game) (h : Hop.IdxOK g.players) (i : Nat) :
    hopPlayer none (Hop.load Hop.fresh g.players).2.2.2 (i : Int) (hopGetPlayerCount g.n) = g.players[i]?.map Hop.obj := by
  rw [hopPlayer_eq, hopLoad_map _ h]
  unfold hopGetPlayerCount
  by_cases hi : i < g.n
  · simp [hi]
  · have hn : g.players.length ≤ i := by unfold Game.n at hi; omega
    simp [hi, List.getElem?_eq_none hn]

/-- game.go `Dealer` / `SmallBlind` / `BigBlind`: each returns its own cached object -/
theorem hopDealer_eq {P : Type} (dealer sb bb : P) : hopDealer dealer sb bb = dealer := rfl
theorem hopSmallBlind_eq {P : Type} (dealer sb bb : P) : hopSmallBlind dealer sb bb = sb := rfl
theorem hopBigBlind_eq {P : Type} (dealer sb bb : P) : hopBigBlind dealer sb bb = bb := rfl

/-- game.go `GetPlayerCount`: the length of the state's player list -/
theorem hopGetPlayerCount_eq (n : Int) : hopGetPlayerCount n = n := rfl

/-- game.go `GetPlayers` up to its loop: an empty list, `cur` the seat index of the cached dealer, the bound of the loop the
    number of players -/
theorem hopGetPlayersInit_eq (count dealerSeat : Int) : hopGetPlayersInit count dealerSeat = ([], dealerSeat, count) := rfl

/-- game.go `GetPlayers`, one iteration: the object under `cur` is appended; `cur` moves on and wraps at the count -/
theorem hopGetPlayersStep_eq (players : List Int) (cur n : Int) :
    hopGetPlayersStep players cur n = (players ++ [cur], if cur + 1 = n then 0 else cur + 1) := by
  unfold hopGetPlayersStep
  by_cases h : cur + 1 = n <;> simp [h]

namespace Hop

/-- game.go `GetPlayers` for `n` players and a cached dealer of seat index `d`: the translated statements before the loop,
    then `playerCount` iterations (the header `for i := 0; i < playerCount; i++` and `return players` are pinned) -/
def getPlayers (n : Nat) (d : Int) : List Int × Int :=
  let ini := hopGetPlayersInit n d
  (List.range ini.2.2.toNat).foldl (fun acc _ => hopGetPlayersStep acc.1 acc.2 ini.2.2) (ini.1, ini.2.1)

theorem getPlayersStep_cw (acc : List Int) (c n : Nat) :
    hopGetPlayersStep acc c n = (acc ++ [(c : Int)], ((cwNext n c : Nat) : Int)) := by
  rw [hopGetPlayersStep_eq, cwNext_cast]

theorem getPlayers_walk (n s : Nat) (k : Nat) :
    (List.range k).foldl (fun (acc : List Int × Int) _ => hopGetPlayersStep acc.1 acc.2 n) ([], (s : Int))
      = ((List.range k).map (fun j => ((cwIter n j s : Nat) : Int)), ((cwIter n k s : Nat) : Int)) := by
  induction k with
  | zero => rfl
  | succ k ih =>
    rw [List.range_succ, List.foldl_append, ih, List.foldl_cons, List.foldl_nil, getPlayersStep_cw, List.map_append, cwIter_succ]
    rfl

end Hop

/-- **`GetPlayers` is `Game.seatsFromDealer`**: the seat indices starting at the dealer, wrapping at the number of
    players, for every game whose dealer index is a seat index -/
theorem hopGetPlayers_model (g : Game) (h : g.dealerIdx < g.n) :
    (Hop.getPlayers g.n (g.dealerIdx : Int)).1 = g.seatsFromDealer.map fun i : Nat => (i : Int) := by
  unfold Hop.getPlayers Game.seatsFromDealer
  simp only [hopGetPlayersInit_eq, Int.toNat_natCast]
  rw [Hop.getPlayers_walk, List.map_map]
  apply List.map_congr_left
  intro j _
  exact congrArg Nat.cast (cwIter_eq_mod j h)

/-! ### game.go `ApplyOptions`, `AddPlayer` -/

/-- game.go `ApplyOptions`: a FRESH state whose Meta fields are the options of the same name (`Ante ← opts.Ante`, … —
    a field left out would hold its zero value, a field fed from another option that option), the deck a COPY
    (`append([]string{}, opts.Deck...)`: a new slice) when the options have one and nil otherwise, the player list
    empty and then extended by the loop over `opts.Players`; whatever the object held before (`meta0`, `players0`) is gone -/
theorem hopApplyOptions_eq {B T D PL : Type} (meta0 : Int × B × String × Int × Int × T × D × Int) (players0 : PL) (zeroBlind : B)
    (nilPowers : T) (nilDeck emptySlice : D) (nilPlayers emptyPlayers : PL) (appendAll : D → D → D) (addLoop : PL → PL)
    (oAnte : Int) (oBlind : B) (oLimit : String) (oHole oRequired : Int) (oPowers : T) (oDeck : D) (deckNotNil : Bool) (oBurn : Int) :
    hopApplyOptions meta0 players0 zeroBlind nilPowers nilDeck emptySlice nilPlayers emptyPlayers appendAll addLoop
        oAnte oBlind oLimit oHole oRequired oPowers oDeck deckNotNil oBurn
      = ((oAnte, oBlind, oLimit, oHole, oRequired, oPowers, (if deckNotNil then appendAll emptySlice oDeck else nilDeck), oBurn),
         addLoop emptyPlayers, ["AddPlayer loop over opts.Players", "return nil"]) := by
  unfold hopApplyOptions
  cases deckNotNil <;> rfl

/-- game.go `ApplyOptions`, one iteration: `AddPlayer(idx, p)` with the index and the setting at hand, in this order -/
theorem hopApplyOptionsStep_eq {I PSet G : Type} (addPlayerOp : I → PSet → G → G) (idx : I) (p : PSet) (g : G) :
    hopApplyOptionsStep addPlayerOp idx p g = addPlayerOp idx p g := rfl

/-- game.go `AddPlayer`: the new `PlayerState` — `Idx` the index, `Positions` and `Bankroll` of the setting,
    `InitialStackSize = StackSize = Bankroll`, an empty `Combination`, everything else zero — is APPENDED to the
    state's players, and is what `addPlayer` binds the new player object to -/
theorem hopAddPlayerSetting_eq {P A H C : Type} (nilPos : P) (nilActs : A) (nilCards : H) (nilComb emptyComb : C)
    (players0 : List (Int × P × Bool × Bool × A × Int × Int × Int × Int × Int × H × C)) (idx : Int) (positions : P) (bankroll : Int) :
    hopAddPlayerSetting nilPos nilActs nilCards nilComb emptyComb players0 idx positions bankroll
      = (players0 ++ [(idx, positions, false, false, nilActs, bankroll, bankroll, bankroll, 0, 0, nilCards, emptyComb)],
         (idx, positions, false, false, nilActs, bankroll, bankroll, bankroll, 0, 0, nilCards, emptyComb)) := rfl

namespace Hop

/-- a `PlayerState` as the translated `AddPlayer` builds it, read as a model player -/
def toPlayer (t : Int × List String × Bool × Bool × List Act × Int × Int × Int × Int × Int × List Card × Option Comb) : Player :=
  { idx := t.1.toNat, posDealer := t.2.1.contains "dealer", posSB := t.2.1.contains "sb", posBB := t.2.1.contains "bb",
    acted := t.2.2.1, fold := t.2.2.2.1, allowed := t.2.2.2.2.1, bankroll := t.2.2.2.2.2.1, initial := t.2.2.2.2.2.2.1,
    stack := t.2.2.2.2.2.2.2.1, pot := t.2.2.2.2.2.2.2.2.1, wager := t.2.2.2.2.2.2.2.2.2.1, hole := t.2.2.2.2.2.2.2.2.2.2.1,
    comb := t.2.2.2.2.2.2.2.2.2.2.2 }

/-- `PlayerSetting.Positions` of a configured seat -/
def seatPositions (s : SeatCfg) : List String :=
  (if s.dealer then ["dealer"] else []) ++ (if s.sb then ["sb"] else []) ++ (if s.bb then ["bb"] else [])

/-- the loop of `ApplyOptions` over the settings (every iteration is `AddPlayer(idx, p)`, `hopApplyOptionsStep_eq`)
    on the player list, started on the empty list (`hopApplyOptions_eq`) -/
def addSettings (seats : List SeatCfg) :=
  seats.zipIdx.foldl (fun ps (si : SeatCfg × Nat) =>
    hopApplyOptionsStep (fun (i : Nat) (s : SeatCfg) ps =>
      (hopAddPlayerSetting ([] : List String) ([] : List Act) ([] : List Card) (none : Option Comb) (some {}) ps (i : Int) (seatPositions s) s.bankroll).1)
      si.2 si.1 ps) []

end Hop

/-- **`ApplyOptions` + `AddPlayer` build `Config.players`**: one player per setting, in the order of the settings,
    `Idx` the position, positions and bankroll of the setting, `initial = stack = bankroll`, nothing acted, folded,
    wagered or dealt, an empty combination -/
theorem hopApplyOptions_players (c : Config) : (Hop.addSettings c.seats).map Hop.toPlayer = c.players := by
  unfold Hop.addSettings Config.players
  simp only [hopApplyOptionsStep_eq, hopAddPlayerSetting_eq]
  rw [foldl_snoc_map (fun (si : SeatCfg × Nat) => ((si.2 : Int), Hop.seatPositions si.1, false, false, ([] : List Act), si.1.bankroll,
    si.1.bankroll, si.1.bankroll, (0 : Int), (0 : Int), ([] : List Card), (some {} : Option Comb)))]
  simp only [List.nil_append, List.map_map]
  apply List.map_congr_left
  rintro ⟨s, i⟩ _
  simp [Hop.toPlayer, Hop.seatPositions]

theorem hopApplyOptions_idxOK (c : Config) : Hop.IdxOK c.players := by
  unfold Hop.IdxOK
  intro k p hp
  unfold Config.players at hp
  rw [List.getElem?_map, List.getElem?_zipIdx] at hp
  cases hs : c.seats[k]? with
  | none =>
    rw [hs] at hp
    cases hp
  | some s =>
    rw [hs] at hp
    simp only [Option.map_some, Option.some.injEq] at hp
    subst hp
    simp

/-- **`NewGame(opts)` in the model** is `{ opts := c.opts, players := c.players }` (what `start` begins with): its cached
    dealer is `dealerIdx?` of these players and `Player(i)` is bound to `players[i]` -/
theorem hopNewGame_model (c : Config) :
    let g : Game := { opts := c.opts, players := (Hop.addSettings c.seats).map Hop.toPlayer }
    g = { opts := c.opts, players := c.players } ∧
    ((Hop.load Hop.fresh g.players).1.map fun o => hopSeatIndex o.1) = g.dealerIdx?.map (fun i : Nat => (i : Int)) ∧
    ∀ i : Nat, hopPlayer none (Hop.load Hop.fresh g.players).2.2.2 (i : Int) (hopGetPlayerCount g.n) = g.players[i]?.map Hop.obj := by
  intro g
  have hg : g = { opts := c.opts, players := c.players } := by
    show ({ opts := c.opts, players := (Hop.addSettings c.seats).map Hop.toPlayer } : Game) = _
    rw [hopApplyOptions_players]
  refine ⟨hg, hopLoad_dealer g, fun i => hopPlayer_model g ?_ i⟩
  rw [hg]
  exact hopApplyOptions_idxOK c

/-! ### game_options.go -/

/-- game_options.go `NewStardardGameOptions`: the constants (the same as Generated/Tables.lean records by running the
    code), the ranking table is the package-level standard table ITSELF (shared, never written), the deck and the
    player list are fresh empty slices -/
theorem hopStandardOptions_eq {T D PL : Type} (powerStandard powerShortDeck nilT : T) (freshDeck nilD : D) (freshPlayers nilPL : PL) :
    hopStandardOptions powerStandard powerShortDeck nilT freshDeck nilD freshPlayers nilPL
      = (0, (0, 5, 10), "no", 2, 0, powerStandard, freshDeck, 1, freshPlayers) ∧
    (let o := hopStandardOptions powerStandard powerShortDeck nilT freshDeck nilD freshPlayers nilPL
     [o.1, o.2.1.1, o.2.1.2.1, o.2.1.2.2, o.2.2.2.1, o.2.2.2.2.1, o.2.2.2.2.2.2.2.1] = Generated.standardOptions ∧
     o.2.2.1 = Generated.standardOptionsLimit) := by
  exact ⟨rfl, rfl, rfl⟩

/-- game_options.go `NewShortDeckGameOptions`: the standard options (a new value per call) whose `CombinationPowers`
    field is then POINTED at the package-level short-deck table; no slice element is written -/
theorem hopShortDeckOptions_eq {O T : Type} (standardOptions : O) (powerStandard powerShortDeck : T) (opts0 : O) :
    hopShortDeckOptions standardOptions powerStandard powerShortDeck opts0 = (standardOptions, some powerShortDeck) := rfl

/-! ### table/native_backend.go -/

/-- native_backend.go `cloneState`: marshal, then unmarshal into a NEW value, which is returned; nil when either step
    reports an error (never the argument; never the partly filled value of a failed `Unmarshal`).
    `marshal` / `unmarshal` answer (the value, whether an error is returned). -/
theorem hopCloneState_eq {S J : Type} (marshal : S → J × Bool) (unmarshal : J → S × Bool) (noData : J) (zeroState : S) (gs : S) :
    hopCloneState marshal unmarshal noData zeroState gs
      = if (marshal gs).2 then none else if (unmarshal (marshal gs).1).2 then none else some (unmarshal (marshal gs).1).1 := rfl

/-- native_backend.go `NewNativeBackend`: the backend holds a new engine and nothing else (no state survives a call) -/
theorem hopNewNativeBackend_eq {PF : Type} (newPokerFace nilPF : PF) : hopNewNativeBackend newPokerFace nilPF = newPokerFace := rfl

/-- native_backend.go `getState`: a CLONE of the state the game holds -/
theorem hopNbGetState_eq {S G : Type} (cloneState : S → S) (getState : G → S) (g : G) :
    hopNbGetState cloneState getState g = cloneState (getState g) := rfl

namespace Hop

/-- reference for every operation of `table.NativeBackend`: the game is rebuilt from a CLONE of the argument, the one
    operation `op` runs on that game, an error is passed through with a nil state, otherwise the answer is
    `nb.getState` of that game (a clone of its state, `hopNbGetState_eq`).  The argument `gs` occurs once: under `clone`. -/
def backendCall {S G E : Type} (nilS : S) (clone : S → S) (rebuild : S → G) (op : G → G × Option E) (get : G → S) (gs : S) :
    S × Option E :=
  let r := op (rebuild (clone gs))
  if r.2.isSome then (nilS, r.2) else (get r.1, none)

/-- reference for `CreateGame`: a new game from the options, `Start()`, error passed through, else a clone of the state -/
def createGame {S G E O : Type} (nilS : S) (newGame : O → G) (start : G → G × Option E) (get : G → S) (opts : O) : S × Option E :=
  let r := start (newGame opts)
  if r.2.isSome then (nilS, r.2) else (get r.1, none)

/-- what a method of `table.NativeBackend` that answers `R` takes, in the order of the translated definitions: the nil
    state, `cloneState`, `NewGameFromState`, a method call of the game by name, `nb.getState`, the raw `GetState`, the
    zero game -/
abbrev Backend (S G E R : Type) :=
  S → (S → S) → (S → G) → (String → List Int → G → G × Option E) → (G → S) → (G → S) → G → R

/-- the operation `name(args…)` of the backend: `backendCall` of that method call -/
def method {S G E : Type} (name : String) (args : List Int) : Backend S G E (S → S × Option E) :=
  fun nilS clone rebuild call get _ _ gs => backendCall nilS clone rebuild (call name args) get gs

/-- `Pay`, `Bet`, `Raise`: the amount is the argument of the method call -/
def method1 {S G E : Type} (name : String) : Backend S G E (S → Int → S × Option E) :=
  fun nilS clone rebuild call get raw g0 gs x => method name [x] nilS clone rebuild call get raw g0 gs

end Hop

/-! Each translated method IS the reference method of its own name (clone in → `NewGameFromState` → the one operation
→ clone out), as a function of all types and all primitives. -/

section Backend
variable {S G E : Type}

/-- native_backend.go `CreateGame` -/
theorem hopBackendCreateGame_eq {O : Type} (nilS : S) (cloneState : S → S) (newGameFromState : S → G)
    (call : String → List Int → G → G × Option E) (nbGetState rawState : G → S) (g0 : G) (newGame : O → G) (opts : O) :
    hopBackendCreateGame nilS cloneState newGameFromState call nbGetState rawState g0 newGame opts
      = Hop.createGame nilS newGame (call "Start" []) nbGetState opts := rfl

theorem hopBackendNext_eq : @hopBackendNext S G E = Hop.method "Next" [] := rfl
theorem hopBackendReadyForAll_eq : @hopBackendReadyForAll S G E = Hop.method "ReadyForAll" [] := rfl
theorem hopBackendPayAnte_eq : @hopBackendPayAnte S G E = Hop.method "PayAnte" [] := rfl
theorem hopBackendPayBlinds_eq : @hopBackendPayBlinds S G E = Hop.method "PayBlinds" [] := rfl
theorem hopBackendPass_eq : @hopBackendPass S G E = Hop.method "Pass" [] := rfl
theorem hopBackendFold_eq : @hopBackendFold S G E = Hop.method "Fold" [] := rfl
theorem hopBackendCheck_eq : @hopBackendCheck S G E = Hop.method "Check" [] := rfl
theorem hopBackendCall_eq : @hopBackendCall S G E = Hop.method "Call" [] := rfl
theorem hopBackendAllin_eq : @hopBackendAllin S G E = Hop.method "Allin" [] := rfl
theorem hopBackendPay_eq : @hopBackendPay S G E = Hop.method1 "Pay" := rfl
theorem hopBackendBet_eq : @hopBackendBet S G E = Hop.method1 "Bet" := rfl
theorem hopBackendRaise_eq : @hopBackendRaise S G E = Hop.method1 "Raise" := rfl

end Backend

namespace Hop

/-- the operation of the engine's alphabet (DESIGN §5) a method of `pokerface.Game` is, by its Go name -/
def opOf : String → List Int → Option Op
  | "Next", [] => some .next
  | "ReadyForAll", [] => some .ready
  | "PayAnte", [] => some .payAnte
  | "PayBlinds", [] => some .payBlinds
  | "Pass", [] => some (.act none .pass 0)
  | "Fold", [] => some (.act none .fold 0)
  | "Check", [] => some (.act none .check 0)
  | "Call", [] => some (.act none .call 0)
  | "Allin", [] => some (.act none .allin 0)
  | "Pay", [x] => some (.act none .pay x)
  | "Bet", [x] => some (.act none .bet x)
  | "Raise", [x] => some (.act none .raise x)
  | _, _ => none

def modelCall (name : String) (args : List Int) (g : Game) : Game × Option Err :=
  match opOf name args with
  | some op => g.step op
  | none => (g, none)

/-- `(state, err)` as a driver sees it -/
def toExcept (r : Game × Option Err) : Except Err Game :=
  match r.2 with
  | none => .ok r.1
  | some e => .error e

/-- the model of one call of the stateless backend (`C07.backendCall` has the same body: `C07.backendCall_generated`, by `rfl`):
    a JSON round trip of the argument, one operation, a JSON round trip of the answer -/
def backendModel (s : Game) (op : Op) : Except Err Game :=
  match s.json.step op with
  | (g', none) => .ok g'.json
  | (_, some e) => .error e

/-- native_backend.go `cloneState` on the model: the state as the JSON carries it (marshalling a model state cannot fail) -/
def cloneModel (s : Game) : Game := (hopCloneState (fun g => (g.json, false)) (fun j => (j, false)) s s s).getD s

theorem cloneModel_eq (s : Game) : cloneModel s = s.json := by
  unfold cloneModel
  rw [hopCloneState_eq]
  rfl

theorem method_model (s nilS g0 : Game) {name : String} {args : List Int} {op : Op} (h : opOf name args = some op) :
    toExcept (method name args nilS cloneModel id modelCall (hopNbGetState cloneModel id) id g0 s) = backendModel s op := by
  unfold method backendCall backendModel toExcept modelCall
  simp only [h, cloneModel_eq, hopNbGetState_eq, id]
  rcases s.json.step op with ⟨g', e⟩
  cases e <;> simp

end Hop

/-- **every operation of `table.NativeBackend` is the model's backend call for THAT operation**: the translated
    method, with `cloneState` the translated clone on the model (`Game.json`), `NewGameFromState` the model's rebuilt
    game (the model has no object besides the state: `id`; the caches are functions of the state, `hopLoad_dealer`),
    a method call read by its name (`Hop.opOf`) and `nb.getState` the translated one — is `Hop.backendModel`, the
    body of `C07.backendCall`, for the operation of the same name, for every state, amount and `nilS`, `g0` -/
theorem hopBackend_model (s nilS g0 : Game) :
    let run := fun (f : Game → (Game → Game) → (Game → Game) → (String → List Int → Game → Game × Option Err) → (Game → Game) → (Game → Game) → Game → Game → Game × Option Err) =>
      Hop.toExcept (f nilS Hop.cloneModel id Hop.modelCall (hopNbGetState Hop.cloneModel id) id g0 s)
    run hopBackendNext = Hop.backendModel s .next ∧
    run hopBackendReadyForAll = Hop.backendModel s .ready ∧
    run hopBackendPayAnte = Hop.backendModel s .payAnte ∧
    run hopBackendPayBlinds = Hop.backendModel s .payBlinds ∧
    run hopBackendPass = Hop.backendModel s (.act none .pass 0) ∧
    run hopBackendFold = Hop.backendModel s (.act none .fold 0) ∧
    run hopBackendCheck = Hop.backendModel s (.act none .check 0) ∧
    run hopBackendCall = Hop.backendModel s (.act none .call 0) ∧
    run hopBackendAllin = Hop.backendModel s (.act none .allin 0) ∧
    (∀ x, run (fun a b c d e r f g => hopBackendPay a b c d e r f g x) = Hop.backendModel s (.act none .pay x)) ∧
    (∀ x, run (fun a b c d e r f g => hopBackendBet a b c d e r f g x) = Hop.backendModel s (.act none .bet x)) ∧
    (∀ x, run (fun a b c d e r f g => hopBackendRaise a b c d e r f g x) = Hop.backendModel s (.act none .raise x)) := by
  intro run
  simp only [run, hopBackendNext_eq, hopBackendReadyForAll_eq, hopBackendPayAnte_eq, hopBackendPayBlinds_eq, hopBackendPass_eq,
    hopBackendFold_eq, hopBackendCheck_eq, hopBackendCall_eq, hopBackendAllin_eq, hopBackendPay_eq, hopBackendBet_eq,
    hopBackendRaise_eq, Hop.method1]
  exact ⟨Hop.method_model s nilS g0 rfl, Hop.method_model s nilS g0 rfl, Hop.method_model s nilS g0 rfl,
    Hop.method_model s nilS g0 rfl, Hop.method_model s nilS g0 rfl, Hop.method_model s nilS g0 rfl,
    Hop.method_model s nilS g0 rfl, Hop.method_model s nilS g0 rfl, Hop.method_model s nilS g0 rfl,
    fun _ => Hop.method_model s nilS g0 rfl, fun _ => Hop.method_model s nilS g0 rfl, fun _ => Hop.method_model s nilS g0 rfl⟩

/-- `CreateGame` on the model, with `NewGame(opts)` and `Start()` together read as the model's `start c`: on success the
    JSON of the state, else the error -/
theorem hopBackendCreateGame_model (c : Config) (nilS g0 : Game) :
    Hop.toExcept (hopBackendCreateGame nilS Hop.cloneModel id (fun _ _ _ => start c) (hopNbGetState Hop.cloneModel id) id g0
        (fun c : Config => ({ opts := c.opts, players := c.players } : Game)) c)
      = match start c with
        | (g, none) => .ok g.json
        | (_, some e) => .error e := by
  rw [hopBackendCreateGame_eq]
  unfold Hop.createGame Hop.toExcept
  simp only [hopNbGetState_eq, Hop.cloneModel_eq, id]
  rcases start c with ⟨g, e⟩
  cases e <;> simp

end Pokerface.GeneratedLogic
