import Pokerface.Properties.C10
import Pokerface.Properties.C14
/-
  C10 (continued) — "in variants that require a fixed number of hole cards the selection uses exactly
  that many", read off the PUBLISHED best hand.

  `C10.selections_spec_fixed` characterises the candidate selections and `C10.reported_hand_is_best`
  says the published `Combination.Cards` is a permutation of an admissible selection; here the count
  is stated on the published cards themselves: exactly `required` of them are the player's own hole
  cards (and the other `5 − required`, as far as the board has them, are board cards).
  Domain: every state reached by any sequence of operations from a successfully started hand of a
  well-formed configuration with a duplicate-free, long-enough deck (`ReachableC`, as in C14),
  `0 < required < 5`, `holeCount ≤ 4`, community cards on the board.
-/
namespace Pokerface.C10P
open Pokerface Pokerface.C10

/-- `x` is one of the cards `l` (Boolean membership test through the decidable equality of `Card`). -/
def isIn (l : List Card) (x : Card) : Bool := l.any (fun y => decide (y = x))

theorem isIn_iff (l : List Card) (x : Card) : isIn l x = true ↔ x ∈ l := by
  simp [isIn]

theorem isIn_false_iff (l : List Card) (x : Card) : isIn l x = false ↔ x ∉ l := by
  rw [← isIn_iff]
  simp

/-- The count on an abstract `ReportedBest` combination: if none of the hole cards
    is on the board, a `ReportedBest` combination under the rule `req > 0` has exactly
    `min req hole.length` cards from the hole and `min (5 − req) board.length` cards not from it. -/
theorem reportedBest_hole_count {lvl : Cat → Nat} {pr : List Cat} {req : Nat} {board hole : List Card}
    {c : Comb} (hreq : 0 < req) (hdisj : ∀ x ∈ hole, x ∉ board)
    (hR : ReportedBest lvl pr req board hole c) :
    (c.cards.filter (isIn hole)).length = min req hole.length ∧
    (c.cards.filter (fun x => !isIn hole x)).length = min (5 - req) board.length ∧
    (∀ x ∈ c.cards, x ∈ hole ∨ x ∈ board) := by
  obtain ⟨sel, hadm, _, hperm, _⟩ := hR
  rw [admissible_pos (by omega)] at hadm
  obtain ⟨hs, bs, rfl, hsub, hlen, bsub, blen⟩ := hadm
  have h1 : (hs ++ bs).filter (isIn hole) = hs := by
    rw [List.filter_append, List.filter_eq_self.2 (fun x hx => (isIn_iff hole x).2 (hsub.subset hx)),
      List.filter_eq_nil_iff.2 (fun x hx => by
        have := bsub.subset hx
        rw [isIn_iff]
        exact fun hh => hdisj x hh this)]
    simp
  have h2 : (hs ++ bs).filter (fun x => !isIn hole x) = bs := by
    rw [List.filter_append, List.filter_eq_nil_iff.2 (fun x hx => by
        simp only [Bool.not_eq_true', Bool.not_eq_false]
        exact (isIn_iff hole x).2 (hsub.subset hx)),
      List.filter_eq_self.2 (fun x hx => by
        have := bsub.subset hx
        simp only [Bool.not_eq_true']
        rw [isIn_false_iff]
        exact fun hh => hdisj x hh this)]
    simp
  refine ⟨?_, ?_, ?_⟩
  · rw [(hperm.filter _).length_eq, h1, hlen]
  · rw [(hperm.filter _).length_eq, h2, blen]
  · intro x hx
    have := hperm.subset hx
    simp only [List.mem_append] at this
    rcases this with h | h
    · exact Or.inl (hsub.subset h)
    · exact Or.inr (bsub.subset h)

/-- **"In variants that require a fixed number of hole cards the selection uses exactly that many"**,
    on the PUBLISHED hand, over all histories: for every well-formed configuration with a duplicate-free
    deck, `0 < RequiredHoleCardsCount ≤ HoleCardsCount ≤ 4`, in every state reached by any sequence of
    operations with community cards on the board, every seat has a published combination whose
    `Cards` contain exactly `required` of that seat's own hole cards; the remaining published cards
    are `min (5 − required) board.length` board cards. -/
theorem published_uses_required_hole_cards (cfg : Config) (ops : List Op)
    (wf : WFConfig cfg) (wc : WFCards cfg) (hs : (start cfg).2 = none)
    (hreq : 0 < cfg.opts.required) (hrh : cfg.opts.required ≤ cfg.opts.holeCount)
    (hhc : cfg.opts.holeCount ≤ 4) :
    let g := (start cfg).1.run ops
    g.board ≠ [] →
    ∀ p ∈ g.players, ∃ c, p.comb = some c ∧
      (c.cards.filter (isIn p.hole)).length = cfg.opts.required ∧
      (c.cards.filter (fun x => !isIn p.hole x)).length = min (5 - cfg.opts.required) g.board.length ∧
      (∀ x ∈ c.cards, x ∈ p.hole ∨ x ∈ g.board) := by
  intro g hne p hp
  have hreach : ReachableC g := ⟨cfg, ops, wf, wc, hs, rfl⟩
  obtain ⟨c, hc, hR⟩ := reported_hand_is_best cfg ops (by omega) hhc hne p hp
  have hplaces := (C14.no_card_in_two_places hreach).2.1 p hp
  obtain ⟨h1, h2, h3⟩ := reportedBest_hole_count hreq (fun x hx => (hplaces.2 x hx).1) hR
  refine ⟨c, hc, ?_, h2, h3⟩
  rw [h1]
  -- the seat holds `holeCount` cards as soon as the board is not empty
  have hcnt := C14.counts hreach
  have hround : g.round ≠ .none := by
    intro hr
    have := hcnt.2.1
    rw [hr] at this
    exact hne (List.eq_nil_of_length_eq_zero this)
  have hlen := hcnt.1 p hp
  rw [if_neg hround, (C10.domain_bounds_on_all_histories cfg ops).1] at hlen
  omega

/-! ## Non-vacuity: an Omaha-like hand (4 hole cards, exactly 2 required) played to the flop -/

namespace Examples
open Pokerface.C14.Examples

/-- the three-seat configuration of the C14 examples with 4 hole cards of which exactly 2 count -/
def omahaCfg : Config := { exCfg with opts := { exMeta with holeCount := 4, required := 2 } }

theorem omahaWF : WFConfig omahaCfg := ⟨⟨by decide, by decide, by decide, by decide⟩⟩
theorem omahaWFC : WFCards omahaCfg := ⟨exWFC.nodup, by decide⟩
theorem omahaStart : (start omahaCfg).2 = none := by decide

/-- the hypotheses hold on the flop of that hand: three board cards, four hole cards per seat -/
theorem omahaFlop : ((start omahaCfg).1.run opsFlop).board.length = 3 ∧
    ((start omahaCfg).1.run opsFlop).players.map (·.hole.length) = [4, 4, 4] := by decide +kernel

/-- `published_uses_required_hole_cards` applied to that flop: every seat's published hand has
    exactly 2 of its own hole cards and 3 board cards. -/
example : ∀ p ∈ ((start omahaCfg).1.run opsFlop).players, ∃ c, p.comb = some c ∧
    (c.cards.filter (isIn p.hole)).length = 2 ∧
    (c.cards.filter (fun x => !isIn p.hole x)).length = 3 := by
  intro p hp
  have hb : ((start omahaCfg).1.run opsFlop).board ≠ [] := by
    intro h
    have := omahaFlop.1
    rw [h] at this
    exact absurd this (by decide)
  obtain ⟨c, hc, h1, h2, _⟩ := published_uses_required_hole_cards omahaCfg opsFlop omahaWF omahaWFC omahaStart
    (by decide) (by decide) (by decide) hb p hp
  refine ⟨c, hc, h1, ?_⟩
  rw [h2, omahaFlop.1]
  rfl

end Examples

end Pokerface.C10P

#print axioms Pokerface.C10P.reportedBest_hole_count
#print axioms Pokerface.C10P.published_uses_required_hole_cards
