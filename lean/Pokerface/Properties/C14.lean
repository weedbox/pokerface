import Pokerface.Proofs.CardsOps
import Pokerface.Model.Shuffle
import Pokerface.Generated.Tables
/-
  C14 — Cards are dealt from the deck without loss, duplication or change.

  "No card is ever dealt twice: every player receives exactly the configured number of hole
   cards, one card is burned before the flop, the turn and the river, the board grows to
   exactly three, four and five cards, and at all times hole cards, board and burned cards
   together are exactly the consumed top of the deck.  Cards once dealt never change, and
   shuffling only reorders the deck - the same cards, each once."

  Quantification: every state `g` with `ReachableC g` (Proofs/CardsDefs.lean), i.e. every state
  reached by ANY sequence of operations of the alphabet (accepted or refused, early endings,
  all-in run-outs, …) from a successfully started hand of ANY configuration `c` with
  `WFConfig c` (forced bets ≥ 0) and `WFCards c`:
      c.opts.deck.Nodup  ∧  seats·holeCount + 8 ≤ deck.length.
  Any deck contents and order, any seat count, any hole-card count.  The length hypothesis is
  essential: with a shorter deck the Go `Deal` indexes past the slice and panics (observation
  O2), whereas the model's `List.take` would silently return fewer cards.

  Specification-level notions (Proofs/CardsDefs.lean):
    `streetCards burned board` = burn₁, flop₁₋₃, burn₂, turn, burn₃, river, as far as dealt;
    `g.holeCards`  = hole cards of seat 0, then seat 1, … (`g.players.flatMap (·.hole)`);
    `g.dealtCards` = `g.holeCards ++ streetCards g.burned g.board`;
    `Round.boardCount` = 0/0/3/4/5, `Round.burnCount` = 0/0/1/2/3 for none/preflop/flop/turn/river;
    `g.holeCountNow` = 0 in round none, `opts.holeCount` afterwards;
    `Stable g g'` = same deck list, cursor not smaller, dealt hole cards unchanged, old
                    board/burned are prefixes of the new ones.
  The invariant behind the theorems is `CInvL` (Proofs/Cards.lean; `CInv` adds `deck.Nodup`), proved for every operation and
  every reachable state in Proofs/CardsOps.lean (`cinvL_step`, `cinvL_reachable`; `cinv_reachable` for `CInv`).
-/
namespace Pokerface.C14
open Pokerface Game

/-! ## All deck contents

`WFCards` bundles `deck.Nodup` with the length condition, but only the no-duplicate theorems need `Nodup`.  The
statements named `…_any_deck` quantify over `ReachableL g` (Proofs/CardsDefs.lean): every state reached by ANY sequence of
operations from a successfully started hand of ANY configuration whose deck merely satisfies
`seats·holeCount + 8 ≤ deck.length` — any deck contents, duplicates included, any forced bets.  The statements over
`ReachableC` are their instances (`ReachableC.toL`). -/

/-! ## The dealt cards are exactly the consumed top of the deck -/

/-- **"at all times hole cards, board and burned cards together are exactly the consumed top of
    the deck"**, for ALL deck contents: the statement of `dealt_is_prefix` under the length
    hypothesis alone (no `Nodup`). -/
theorem dealt_is_prefix_any_deck {g : Game} (h : ReachableL g) :
    g.players.flatMap (·.hole) ++ streetCards g.burned g.board = g.opts.deck.take g.deckPos :=
  (cinvL_reachable h).core.pref

/-- **"at all times hole cards, board and burned cards together are exactly the consumed top
    of the deck"**: in every reachable state, the hole cards of seats 0, 1, … followed by the
    table cards in dealing order (burn, flop×3, burn, turn, burn, river — as far as dealt) are
    the first `deckPos` cards of the deck list, in deck order. -/
theorem dealt_is_prefix {g : Game} (h : ReachableC g) :
    g.players.flatMap (·.hole) ++ streetCards g.burned g.board = g.opts.deck.take g.deckPos :=
  dealt_is_prefix_any_deck h.toL

/-- The cursor equals the number of cards dealt, for all deck contents (companion of `cursor`). -/
theorem cursor_any_deck {g : Game} (h : ReachableL g) :
    g.deckPos = g.players.length * g.holeCountNow + g.board.length + g.burned.length := by
  have hc := (cinvL_reachable h).core
  rw [hc.board, hc.burned]
  exact hc.pos

/-- The cursor never runs past the deck (so `take` above does not truncate), and it equals
    the number of cards dealt. -/
theorem cursor {g : Game} (h : ReachableC g) :
    g.deckPos ≤ g.opts.deck.length ∧
    g.deckPos = g.players.length * g.holeCountNow + g.board.length + g.burned.length :=
  ⟨(cinv_reachable h).core.toL.pos_le, cursor_any_deck h.toL⟩

/-- Sharper form of the prefix statement: the hole cards are the top `n·holeCount` cards of
    the deck and the table cards are the segment that follows. -/
theorem dealt_segments {g : Game} (h : ReachableC g) :
    g.holeCards = g.opts.deck.take (g.players.length * g.holeCountNow) ∧
    streetCards g.burned g.board =
      (g.opts.deck.drop (g.players.length * g.holeCountNow)).take (g.board.length + g.burned.length) :=
  (cinv_reachable h).core.toL.segments

/-! ## Counts -/

/-- **"every player receives exactly the configured number of hole cards, one card is burned
    before the flop, the turn and the river, the board grows to exactly three, four and five
    cards"**: in every reachable state every player holds `opts.holeCount` hole cards from the
    preflop round on (none before), the board has 0/0/3/4/5 cards and 0/0/1/2/3 cards are
    burned in rounds none/preflop/flop/turn/river. -/
theorem counts {g : Game} (h : ReachableC g) :
    (∀ p ∈ g.players, p.hole.length = if g.round = .none then 0 else g.opts.holeCount) ∧
    g.board.length = (match g.round with | .none => 0 | .preflop => 0 | .flop => 3 | .turn => 4 | .river => 5) ∧
    g.burned.length = (match g.round with | .none => 0 | .preflop => 0 | .flop => 1 | .turn => 2 | .river => 3) := by
  have hc := (cinv_reachable h).core
  refine ⟨hc.holes, ?_, ?_⟩
  · rw [hc.board]
    cases g.round <;> rfl
  · rw [hc.burned]
    cases g.round <;> rfl

/-- **"every player receives exactly the configured number of hole cards, one card is burned
    before the flop, the turn and the river, the board grows to exactly three, four and five
    cards"**, for ALL deck contents: the statement of `counts` under the length hypothesis alone
    (no `Nodup`).  It repeats the proof of `counts` instead of proving it: Lean compiles the two `match` expressions of the
    statement into one auxiliary definition, named after the theorem that is elaborated first (`C14.counts.match_1`) and
    reused by the second, so both elaborated statements mention `counts.match_1`.  With this theorem in front of `counts`
    the auxiliary would be `counts_any_deck.match_1` and both statements, as Lean records them, would change. -/
theorem counts_any_deck {g : Game} (h : ReachableL g) :
    (∀ p ∈ g.players, p.hole.length = if g.round = .none then 0 else g.opts.holeCount) ∧
    g.board.length = (match g.round with | .none => 0 | .preflop => 0 | .flop => 3 | .turn => 4 | .river => 5) ∧
    g.burned.length = (match g.round with | .none => 0 | .preflop => 0 | .flop => 1 | .turn => 2 | .river => 3) := by
  have hc := (cinvL_reachable h).core
  refine ⟨hc.holes, ?_, ?_⟩
  · rw [hc.board]
    cases g.round <;> rfl
  · rw [hc.burned]
    cases g.round <;> rfl

/-! ## No duplicates -/

/-- **"No card is ever dealt twice"**: in every reachable state all hole cards, board cards
    and burned cards are pairwise distinct (the deck of the configuration has no duplicates:
    `WFCards.nodup`). -/
theorem no_duplicates {g : Game} (h : ReachableC g) :
    (g.players.flatMap (·.hole) ++ g.board ++ g.burned).Nodup :=
  (cinv_reachable h).core.nodup_places

/-- The same, spelled out place by place: no card is at two places.  Hole cards of two different
    seats are disjoint, no hole card is on the board or burned, no board card is burned, and
    no single hand / the board / the burned list contains a card twice. -/
theorem no_card_in_two_places {g : Game} (h : ReachableC g) :
    (∀ (i j : Nat) (p q : Player), i < j → g.players[i]? = some p → g.players[j]? = some q →
      ∀ c ∈ p.hole, c ∉ q.hole) ∧
    (∀ p ∈ g.players, p.hole.Nodup ∧ ∀ c ∈ p.hole, c ∉ g.board ∧ c ∉ g.burned) ∧
    g.board.Nodup ∧ g.burned.Nodup ∧ (∀ c ∈ g.board, c ∉ g.burned) :=
  (cinv_reachable h).core.places

/-- No dealt card is still in the undealt rest of the deck. -/
theorem dealt_not_undealt {g : Game} (h : ReachableC g) :
    ∀ c ∈ g.dealtCards, c ∉ g.opts.deck.drop g.deckPos :=
  (cinv_reachable h).core.dealt_not_undealt

/-! ## Cards once dealt never change -/

/-- **"Cards once dealt never change"**, one operation: for every reachable state `g` and every
    operation `op` (accepted or refused): the deck list is unchanged, the cursor does not move
    back, every non-empty hand of hole cards is unchanged, and the old board and burned lists
    are prefixes of the new ones. -/
theorem cards_stable {g : Game} (h : ReachableC g) (op : Op) : Stable g (g.step op).1 :=
  stable_step g (cinv_reachable h).toL op

/-- The same over any further history. -/
theorem cards_stable_run {g : Game} (h : ReachableC g) (ops : List Op) : Stable g (g.run ops) :=
  stable_run g (cinv_reachable h).toL ops

/-- From the preflop round on, nobody's hole cards change any more (also when
    `holeCount = 0`, where `Stable.holes` says nothing). -/
theorem holes_fixed {g : Game} (h : ReachableC g) (hr : g.round ≠ .none) (ops : List Op) :
    (g.run ops).players.map (·.hole) = g.players.map (·.hole) :=
  Pokerface.holes_fixed g (cinv_reachable h).toL hr ops

/-- The deck list of every state of a hand is the deck of its configuration (what `start`
    was given, i.e. the deck as `Initialize` shuffled it). -/
theorem deck_unchanged (c : Config) (wf : WFConfig c) (wc : WFCards c) (hs : (start c).2 = none) (ops : List Op) :
    ((start c).1.run ops).opts.deck = c.opts.deck := by
  have h0 : ReachableC (start c).1 := ⟨c, [], wf, wc, hs, rfl⟩
  rw [(cards_stable_run h0 ops).deck, (start_ok c hs).2.2]
  rfl

/-! ## Shuffling -/

theorem swapAt_perm {α : Type} (l : List α) (i j : Nat) : (swapAt l i j).Perm l := by
  unfold swapAt
  split
  · rename_i h
    exact List.set_set_perm h.1 h.2
  · exact List.Perm.refl l

/-- **"shuffling only reorders the deck - the same cards, each once"**: whatever sequence of
    index pairs `rand.Shuffle` passes to the swap closure of `ShuffleCards`, the result is a
    permutation of the input.  (That `rand.Shuffle` does nothing but call the closure is the
    Go library's contract — trusted, see Model/Shuffle.lean and DESIGN §8; K2 checks on real
    shuffles that the result is a permutation.) -/
theorem shuffle_perm {α : Type} (d : List α) (swaps : List (Nat × Nat)) : (applySwaps d swaps).Perm d := by
  induction swaps generalizing d with
  | nil => exact List.Perm.refl d
  | cons s swaps ih =>
    obtain ⟨i, j⟩ := s
    exact (ih (swapAt d i j)).trans (swapAt_perm d i j)

/-- Consequences: a shuffled deck has the same length and is
    duplicate-free iff the unshuffled deck is — so `WFCards` can be checked on the deck
    handed to `NewGame`. -/
theorem shuffle_keeps_wf (d : List Card) (swaps : List (Nat × Nat)) :
    (applySwaps d swaps).length = d.length ∧ ((applySwaps d swaps).Nodup ↔ d.Nodup) :=
  ⟨(shuffle_perm d swaps).length_eq, (shuffle_perm d swaps).nodup_iff⟩

theorem shuffle_mem (d : List Card) (swaps : List (Nat × Nat)) (c : Card) :
    c ∈ applySwaps d swaps ↔ c ∈ d := (shuffle_perm d swaps).mem_iff

end Pokerface.C14

/-! ## Non-vacuity: a concrete three-seat hand -/
namespace Pokerface.C14.Examples
open Pokerface Game

/-- 26 cards: spades 2…A, then hearts 2…A -/
def exDeck : List Card :=
  ((List.range 13).map fun r => (⟨83, r + 2⟩ : Card)) ++ ((List.range 13).map fun r => (⟨72, r + 2⟩ : Card))

def exMeta : Meta :=
  { ante := 0, blindDealer := 0, blindSB := 5, blindBB := 10, potLimit := false, holeCount := 2, required := 0,
    lvl := Generated.combinationLevel, table := Generated.powerStandard, deck := exDeck }

/-- dealer, small blind, big blind with 100 chips each -/
def exCfg : Config :=
  { opts := exMeta, seats := [⟨100, true, false, false⟩, ⟨100, false, true, false⟩, ⟨100, false, false, true⟩] }

theorem exWF : WFConfig exCfg := ⟨⟨by decide, by decide, by decide, by decide⟩⟩
theorem exWFC : WFCards exCfg := ⟨by decide +kernel, by decide⟩
theorem exStart : (start exCfg).2 = none := by decide

/-- the hypotheses of all theorems are satisfiable: every run from this hand is `ReachableC` -/
theorem exReach (ops : List Op) : ReachableC ((start exCfg).1.run ops) := ⟨exCfg, ops, exWF, exWFC, exStart, rfl⟩

def check3 : List Op := [.act none .check 0, .act none .check 0, .act none .check 0]
def opsFlop : List Op := [.ready, .payBlinds, .ready, .act none .call 0, .act none .call 0, .act none .check 0, .next]
def opsShowdown : List Op := opsFlop ++ [.ready] ++ check3 ++ [.next, .ready] ++ check3 ++ [.next, .ready] ++ check3 ++ [.next]
/-- everybody all-in before the flop, then the board is run out with `Next` only -/
def opsRunOut : List Op :=
  [.ready, .payBlinds, .ready, .act none .allin 0, .act none .allin 0, .act none .allin 0, .next, .next, .next, .next]
/-- two folds before the flop: the hand ends with no board at all -/
def opsEarly : List Op := [.ready, .payBlinds, .ready, .act none .fold 0, .act none .fold 0, .next]

def gFlop : Game := (start exCfg).1.run opsFlop
def gShow : Game := (start exCfg).1.run opsShowdown
def gRunOut : Game := (start exCfg).1.run opsRunOut
def gEarly : Game := (start exCfg).1.run opsEarly

/-- the flop state and the showdown state, evaluated once; the examples below read them off -/
theorem gFlop_cards : gFlop.round = .flop ∧ gFlop.event = .readyRequested ∧ gFlop.deckPos = 10 ∧
    gFlop.players.map (·.hole) = [[⟨83, 2⟩, ⟨83, 3⟩], [⟨83, 4⟩, ⟨83, 5⟩], [⟨83, 6⟩, ⟨83, 7⟩]] ∧
    gFlop.burned = [⟨83, 8⟩] ∧ gFlop.board = [⟨83, 9⟩, ⟨83, 10⟩, ⟨83, 11⟩] := by decide +kernel

theorem gShow_cards : gShow.round = .river ∧ gShow.event = .gameClosed ∧ gShow.deckPos = 14 ∧
    gShow.players.map (·.hole) = [[⟨83, 2⟩, ⟨83, 3⟩], [⟨83, 4⟩, ⟨83, 5⟩], [⟨83, 6⟩, ⟨83, 7⟩]] ∧
    gShow.burned = [⟨83, 8⟩, ⟨83, 12⟩, ⟨83, 14⟩] ∧
    gShow.board = [⟨83, 9⟩, ⟨83, 10⟩, ⟨83, 11⟩, ⟨83, 13⟩, ⟨72, 2⟩] := by decide +kernel

example : gFlop.round = .flop ∧ gFlop.event = .readyRequested ∧ gFlop.deckPos = 10 ∧
    gFlop.players.map (·.hole) = [[⟨83, 2⟩, ⟨83, 3⟩], [⟨83, 4⟩, ⟨83, 5⟩], [⟨83, 6⟩, ⟨83, 7⟩]] ∧
    gFlop.burned = [⟨83, 8⟩] ∧ gFlop.board = [⟨83, 9⟩, ⟨83, 10⟩, ⟨83, 11⟩] := gFlop_cards

example : gShow.round = .river ∧ gShow.event = .gameClosed ∧ gShow.deckPos = 14 ∧
    gShow.players.map (·.hole) = [[⟨83, 2⟩, ⟨83, 3⟩], [⟨83, 4⟩, ⟨83, 5⟩], [⟨83, 6⟩, ⟨83, 7⟩]] ∧
    gShow.burned = [⟨83, 8⟩, ⟨83, 12⟩, ⟨83, 14⟩] ∧
    gShow.board = [⟨83, 9⟩, ⟨83, 10⟩, ⟨83, 11⟩, ⟨83, 13⟩, ⟨72, 2⟩] := gShow_cards

/-- the instance of `dealt_is_prefix` at the showdown, computed independently -/
example : gShow.dealtCards = exDeck.take 14 := by
  obtain ⟨_, _, _, hh, hu, hb⟩ := gShow_cards
  rw [Game.dealtCards, Game.holeCards, List.flatMap_def, hh, hu, hb]
  decide

example : gRunOut.round = .river ∧ gRunOut.event = .gameClosed ∧ gRunOut.deckPos = 14 ∧
    gRunOut.board.length = 5 ∧ gRunOut.burned.length = 3 ∧ gRunOut.dealtCards = exDeck.take 14 := by decide +kernel

example : gEarly.round = .preflop ∧ gEarly.event = .gameClosed ∧ gEarly.deckPos = 6 ∧
    gEarly.board = [] ∧ gEarly.burned = [] ∧ gEarly.dealtCards = exDeck.take 6 := by decide +kernel

/-- `cards_stable` relates states that really differ: flop state vs. showdown state -/
example : gFlop.board ≠ gShow.board ∧ gFlop.board <+: gShow.board := by
  refine ⟨by rw [gFlop_cards.2.2.2.2.2, gShow_cards.2.2.2.2.2]; decide, ?_⟩
  have h := cards_stable_run (exReach opsFlop) ([.ready] ++ check3 ++ [.next, .ready] ++ check3 ++ [.next, .ready] ++ check3 ++ [.next])
  have e : ((start exCfg).1.run opsFlop).run ([.ready] ++ check3 ++ [.next, .ready] ++ check3 ++ [.next, .ready] ++ check3 ++ [.next]) = gShow := by
    simp only [gShow, opsShowdown, Game.run, List.foldl_append]
  rw [e] at h
  exact h.board

/-- The length hypothesis of `WFCards` is essential (observation O2): with a five-card deck the
    model deals seat 2 a single card (`List.take` truncates; the Go `Deal` panics with an index
    out of range instead), so `counts` fails without it. -/
example : (((start { exCfg with opts := { exMeta with deck := exDeck.take 5 } }).1.run [.ready]).players.map
    (·.hole.length)) = [2, 2, 1] := by decide +kernel

/-- a real shuffle: three swaps of Fisher–Yates on four cards -/
example : applySwaps [1, 2, 3, 4] (fisherYates 4 [2, 0, 1]) = [4, 2, 1, 3] := by decide
example : fisherYates 4 [2, 0, 1] = [(3, 2), (2, 0), (1, 1)] := by decide

end Pokerface.C14.Examples

/-! ## Non-vacuity of the statements for all deck contents: a deck full of duplicates -/
namespace Pokerface.C14
open Pokerface Game

namespace Examples

/-- a deck full of duplicates: 7 copies of 2♠, 7 copies of 3♠, 7 copies of 4♠ -/
def dupDeck : List Card := (List.range 21).map fun k => (⟨83, k / 7 + 2⟩ : Card)

def dupCfg : Config := { exCfg with opts := { exMeta with deck := dupDeck } }

example : ¬ dupDeck.Nodup := by decide

/-- the hypothesis of the `_any_deck` theorems is satisfiable by a deck that is NOT duplicate-free -/
theorem dupReach (ops : List Op) : ReachableL ((start dupCfg).1.run ops) :=
  ⟨dupCfg, ops, by decide, by decide, rfl⟩

theorem dupShow_cards : ((start dupCfg).1.run opsShowdown).round = .river ∧
    ((start dupCfg).1.run opsShowdown).dealtCards = dupDeck.take 14 ∧
    ((start dupCfg).1.run opsShowdown).players.map (·.hole.length) = [2, 2, 2] ∧
    ((start dupCfg).1.run opsShowdown).board.length = 5 ∧ ((start dupCfg).1.run opsShowdown).burned.length = 3 := by
  decide +kernel

/-- the instance of `dealt_is_prefix_any_deck` / `counts_any_deck` at the showdown, computed independently -/
example : ((start dupCfg).1.run opsShowdown).round = .river ∧
    ((start dupCfg).1.run opsShowdown).dealtCards = dupDeck.take 14 ∧
    ((start dupCfg).1.run opsShowdown).players.map (·.hole.length) = [2, 2, 2] ∧
    ((start dupCfg).1.run opsShowdown).board.length = 5 ∧ ((start dupCfg).1.run opsShowdown).burned.length = 3 :=
  dupShow_cards

example : ((start dupCfg).1.run opsShowdown).dealtCards = dupDeck.take ((start dupCfg).1.run opsShowdown).deckPos := by
  -- the deck of the state is given by `run_opts`, not by running the hand
  have h := dealt_is_prefix_any_deck (dupReach opsShowdown)
  rw [run_opts] at h
  exact h

end Examples

end Pokerface.C14

section Axioms
open Pokerface.C14
#print axioms dealt_is_prefix_any_deck
#print axioms counts_any_deck
#print axioms cursor_any_deck
end Axioms
