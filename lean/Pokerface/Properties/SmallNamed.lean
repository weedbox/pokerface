import Pokerface.Properties.C18
import Pokerface.Properties.C03
import Pokerface.Proofs.SmallNamedAux
/-!
  Two clauses of C18 and C03 as theorems of their own:

  * C18 `join_success_seat_was_empty` — a successful `Join` landed on a seat that existed and held
    nobody before; what is and is not true about "was not reserved";
  * C03 `ace_low_only_wheel` — a valid hand is a straight iff its ranks are a rearrangement of
    `run t`, 5 ≤ t ≤ 14, and the ace counts low in `run 5` only (no wrap-around).
-/
namespace Pokerface.Small

section C18
open SM

/-! ## C18: a successful join landed on an empty seat -/

/-- C18, "a join succeeds only on an empty seat".
For EVERY state `sm` of the seat manager (no reachability hypothesis is needed), every seat argument, player
and recorded random choice: if `Join(seat, pid)` returns no error (`.2.1 = none`) and reports seat `i`
(`.2.2 = some i`), then seat `i` existed before the call and held nobody (`player = none`), and for an explicit
seat argument (`seat ≥ 0`) the seat reported is the one asked for.

Nothing is said here about `reserved`: see `explicit_join_takes_reserved_seat` (it may have been reserved)
and `join_any_success_seat_was_free` (for `Join(-1)` it was not). -/
theorem join_success_seat_was_empty (sm : SM) (seat : Int) (pid : Nat) (c : Option Nat) (i : Nat)
    (herr : (sm.step (.join seat pid c)).2.1 = none) (hland : (sm.step (.join seat pid c)).2.2 = some i) :
    (∃ s, sm.seats[i]? = some s ∧ s.player = none) ∧ (0 ≤ seat → i = seat.toNat) := by
  obtain ⟨s, hs, hp, hk, _⟩ := join_landed (Prod.ext herr hland)
  refine ⟨⟨s, hs, hp⟩, fun h0 => ?_⟩
  omega

/-- Non-vacuity: in the reachable state `C18.demo`, `Join(3, 13)` succeeds on seat 3 (which was empty). -/
example : (C18.demo.step (.join 3 13 none)).2.1 = none ∧ (C18.demo.step (.join 3 13 none)).2.2 = some 3 := by
  decide

/-- C18, the `Join(-1)` case.  When the seat is left to the seat manager
(`seat = -1`), the seat a successful join lands on was, before the call, existing, empty AND not reserved
(`SM.Free`): `getAvailableSeats` skips reserved seats.  For every state `sm`. -/
theorem join_any_success_seat_was_free (sm : SM) (pid : Nat) (c : Option Nat) (i : Nat)
    (herr : (sm.step (.join (-1) pid c)).2.1 = none) (hland : (sm.step (.join (-1) pid c)).2.2 = some i) :
    Free sm i :=
  mem_joinPool_free (join_any_landed herr hland)

/-- Non-vacuity: in `C18.demo` the only free seat is 3 and `Join(-1, 13)` (choice 3) lands there. -/
example : (C18.demo.step (.join (-1) 13 (some 3))).2.1 = none ∧
    (C18.demo.step (.join (-1) 13 (some 3))).2.2 = some 3 := by decide

/-- A reachable 2-seat state whose seat 1 is empty but reserved (`Reserve(1)` on a new table). -/
def reservedEmpty : SM := (SM.new 2).run [.reserve 1]

theorem reservedEmpty_reachable : Reachable reservedEmpty := ⟨2, _, rfl⟩

/-- **C18, the part of "a join succeeds only on an empty, unreserved seat" that is FALSE of the code.**
`SeatManager.join(seatID, p)` (seat_manager.go) tests only `s.Player != nil`; it does not look at `IsReserved`.
Witness: new 2-seat table, `Reserve(1)`, then `Join(1, 7)`: the join succeeds on seat 1 although that seat was
reserved before the call.  So "not reserved before" cannot be added to `join_success_seat_was_empty` for
an explicit seat argument, even on reachable states. -/
theorem explicit_join_takes_reserved_seat :
    Reachable reservedEmpty ∧
    reservedEmpty.seats[1]? = some { player := none, active := true, reserved := true } ∧
    (reservedEmpty.step (.join 1 7 none)).2.1 = none ∧
    (reservedEmpty.step (.join 1 7 none)).2.2 = some 1 ∧
    ¬ Free reservedEmpty 1 := by
  refine ⟨reservedEmpty_reachable, by decide, by decide, by decide, ?_⟩
  rintro ⟨s, hs, _, hr⟩
  have : reservedEmpty.seats[1]? = some { player := none, active := true, reserved := true } := by decide
  rw [this] at hs
  cases hs
  cases hr

/-- Hence the universally quantified strengthening is refuted (on reachable states). -/
theorem not_join_success_seat_was_unreserved :
    ¬ ∀ (sm : SM), Reachable sm → ∀ (seat : Int) (pid : Nat) (c : Option Nat) (i : Nat),
      (sm.step (.join seat pid c)).2.1 = none → (sm.step (.join seat pid c)).2.2 = some i → Free sm i := by
  intro h
  obtain ⟨hr, _, h1, h2, h3⟩ := explicit_join_takes_reserved_seat
  exact h3 (h _ hr 1 7 none 1 h1 h2)

end C18

section C03
open C03

/-! ## C03: the ace counts low only in the wheel -/

/-- **C03, "the ace plays low only in A-2-3-4-5": no wrap-around.**  For a top card of six or more the
straight is the five consecutive ranks `t, t-1, t-2, t-3, t-4` (the hypothesis `t ≤ 14` of the clause is not
needed). -/
theorem run_no_wrap (t : Nat) (h6 : 6 ≤ t) : run t = [t, t - 1, t - 2, t - 3, t - 4] := by
  unfold run
  rw [if_neg (by omega)]

example : run 14 = [14, 13, 12, 11, 10] := run_no_wrap 14 (by decide)

/-- **C03, the wheel.**  The five-high straight is 5-4-3-2-A: it contains the ace (14). -/
theorem run_wheel : run 5 = [5, 4, 3, 2, 14] ∧ 14 ∈ run 5 := by decide

/-- **C03, "the ace plays low only in A-2-3-4-5".**  For every `t` whatever: `run t` contains both the ace
(14) and the deuce iff `t = 5`. -/
theorem run_ace_and_deuce_iff (t : Nat) : (14 ∈ run t ∧ 2 ∈ run t) ↔ t = 5 := by
  constructor
  · rintro ⟨ha, hd⟩
    by_cases h : t = 5
    · exact h
    · simp only [run, if_neg h, List.mem_cons, List.not_mem_nil, or_false] at ha hd
      omega
  · rintro rfl
    decide

/-- A straight of the specification that contains the ace has top card 5 or 14 (the hypothesis `5 ≤ t` is not
needed). -/
theorem run_ace_iff (t : Nat) (h5 : 5 ≤ t) (h14 : t ≤ 14) : 14 ∈ run t ↔ t = 5 ∨ t = 14 := by
  constructor
  · intro ha
    by_cases h : t = 5
    · exact Or.inl h
    · simp only [run, if_neg h, List.mem_cons, List.not_mem_nil, or_false] at ha
      omega
  · rintro (rfl | rfl) <;> decide

example : 14 ∈ run 5 ∧ 2 ∈ run 5 := by decide
example : ¬ (14 ∈ run 14 ∧ 2 ∈ run 14) := by decide

/-- C03, "the ace plays low only in the five-high straight".  For every valid five-card hand `h` (any card order), any ranking table `T`
and category sizes `lvl`: the evaluator (`calculatePower`) reports a straight (category `straight` or
`straightFlush`) iff the ranks of the hand are a rearrangement of `run t` for some top card `5 ≤ t ≤ 14` —
where (`run_no_wrap`, `run_wheel`, `run_ace_and_deuce_iff`) `run t` is `t, t-1, …, t-4` for `t ≥ 6` and
5-4-3-2-A for `t = 5`: the ace counts low in the five-high straight only; there is no wrap-around. -/
theorem ace_low_only_wheel (lvl : Cat → Nat) (T : List Cat) (h : List Card) (hv : Valid h) :
    ((calculatePower lvl T h).cat = .straight ∨ (calculatePower lvl T h).cat = .straightFlush) ↔
      ∃ t, 5 ≤ t ∧ t ≤ 14 ∧ (ranks h).Perm (run t) := by
  rw [category_correct lvl T h hv]
  constructor
  · intro hc
    obtain ⟨t, ht⟩ := straightTop_of_specCat hc
    obtain ⟨⟨h5, h14⟩, ha⟩ := straightTop_some ht
    exact ⟨t, h5, h14, perm_run_of_all h5 h14 (by simp [ranks, hv.five]) ha⟩
  · rintro ⟨t, h5, h14, p⟩
    rw [specCat_perm p, specCat_run h5 h14]
    cases sameSuit h
    · left
      rfl
    · right
      rfl

/-- Non-vacuity, both directions: the wheel is valid, is reported as a straight, and its ranks rearrange `run 5`. -/
example : Valid wheel ∧ (calculatePower combinationLevel powerStandard wheel).cat = .straight ∧
    (ranks wheel).Perm (run 5) :=
  ⟨valid_wheel, by rw [category_correct _ _ _ valid_wheel]; decide, by decide⟩

/-- **C03, corollary of `ace_low_only_wheel`: no wrap-around straights.**  A valid hand that holds an ace and a
deuce and is reported as a straight is the wheel A-2-3-4-5 (so Q-K-A-2-3, K-A-2-3-4, … are not straights). -/
theorem straight_with_ace_and_deuce_is_wheel (lvl : Cat → Nat) (T : List Cat) (h : List Card) (hv : Valid h)
    (hs : (calculatePower lvl T h).cat = .straight ∨ (calculatePower lvl T h).cat = .straightFlush)
    (ha : 14 ∈ ranks h) (hd : 2 ∈ ranks h) : (ranks h).Perm [5, 4, 3, 2, 14] := by
  obtain ⟨t, _, _, p⟩ := (ace_low_only_wheel lvl T h hv).mp hs
  have : t = 5 := (run_ace_and_deuce_iff t).mp ⟨p.mem_iff.mp ha, p.mem_iff.mp hd⟩
  subst this
  exact p

example : 14 ∈ ranks wheel ∧ 2 ∈ ranks wheel := by decide

/-- Q-K-A-2-3 (a valid hand) is reported as high card, not as a straight. -/
def qka23 : List Card := [⟨72, 12⟩, ⟨83, 13⟩, ⟨68, 14⟩, ⟨67, 2⟩, ⟨83, 3⟩]

theorem qka23_not_straight : Valid qka23 ∧
    (calculatePower combinationLevel powerStandard qka23).cat = .highCard := by
  have hv : Valid qka23 := valid_of_distinct _ rfl (by decide) (by decide) (by decide)
  exact ⟨hv, by rw [category_correct _ _ _ hv]; decide⟩

end C03

end Pokerface.Small

section Axioms
open Pokerface.Small
#print axioms join_success_seat_was_empty
#print axioms join_any_success_seat_was_free
#print axioms explicit_join_takes_reserved_seat
#print axioms not_join_success_seat_was_unreserved
#print axioms run_no_wrap
#print axioms run_wheel
#print axioms run_ace_and_deuce_iff
#print axioms run_ace_iff
#print axioms ace_low_only_wheel
#print axioms straight_with_ace_and_deuce_is_wheel
#print axioms qka23_not_straight
end Axioms
