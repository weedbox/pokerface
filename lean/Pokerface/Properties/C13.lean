import Pokerface.Proofs.ShowdownPlayReach
import Pokerface.Proofs.RaiseGhost
import Pokerface.Proofs.BetsExamples
/-
  C13 — Antes and blinds are posted by the right seats in the right amounts.

  The state the property speaks about ("before the first betting round", anchored NOT at
  `PayBlinds` but at the first state that waits for `ReadyForAll` in the preflop round) is
  `afterForcedBets c`: from the freshly started hand `(start c).1` the operations
  `ReadyForAll`, then `PayAnte` iff ante > 0, then `PayBlinds` iff not all three blinds are 0
  (`forcedOps`).  `forced_path` shows that each of these is accepted, that the engine asks for
  exactly them (events `AnteRequested`, `BlindsRequested`), and that the result is the first state
  with round = preflop and event = ReadyRequested.

  Domain (`Accepted c`): ante and the three blinds ≥ 0 (`WFConfig`), and `Start()` accepts the
  table: n ≥ 2 seats, a dealer, every bankroll > 0, a non-empty deck.  Nothing else is assumed:
  any seat count and button position, any subsets of positions per seat (reading I1 decides what a
  seat with several positions posts), any sizes of forced bets and bankrolls.
-/
namespace Pokerface.C13
open Pokerface Game

/-- the configurations the engine accepts -/
structure Accepted (c : Config) : Prop where
  wf : WFConfig c
  started : (start c).2 = none

/-- what an accepted configuration gives the properties below: two seats and positive bankrolls, which `Start()` checks
    (with the dealer and the deck, `C06.start_iff`), and forced bets that are not negative, from `WFConfig` -/
theorem Accepted.facts {c : Config} (h : Accepted c) :
    2 ≤ c.seats.length ∧ (∀ s ∈ c.seats, 0 < s.bankroll) ∧
    0 ≤ c.opts.ante ∧ 0 ≤ c.opts.blindDealer ∧ 0 ≤ c.opts.blindSB ∧ 0 ≤ c.opts.blindBB := by
  obtain ⟨h1, h2, _⟩ := start_ok c h.started
  refine ⟨by rw [← config_players_length]; exact h1, ?_, h.wf.opts.ante0, h.wf.opts.bd0, h.wf.opts.sb0, h.wf.opts.bb0⟩
  intro s hs
  obtain ⟨i, hi⟩ := List.getElem?_of_mem hs
  exact h2 _ (List.mem_of_getElem? ((config_players_getElem? c i).trans (congrArg _ hi)))

/-- The path to the first betting round.  The fresh hand waits for `ReadyForAll` with no round yet;
    `ReadyForAll` is accepted; with an ante the engine then requests it and accepts `PayAnte`; then, unless all
    three blinds are 0, it requests the blinds and accepts `PayBlinds`; the state reached is a preflop state that waits
    for `ReadyForAll`, and it is the run of `forcedOps` (hence reachable). -/
theorem forced_path {c : Config} (h : Accepted c) :
    ((start c).1.event = .readyRequested ∧ (start c).1.round = .none) ∧
    ((start c).1.step .ready).2 = none ∧
    (c.opts.ante > 0 → (afterReady c).event = .anteRequested ∧ ((afterReady c).step .payAnte).2 = none) ∧
    (¬ c.opts.noBlinds → (afterAnte c).event = .blindsRequested ∧ ((afterAnte c).step .payBlinds).2 = none) ∧
    ((afterForcedBets c).event = .readyRequested ∧ (afterForcedBets c).round = .preflop) ∧
    afterForcedBets c = (start c).1.run (forcedOps c.opts) ∧ Reachable (afterForcedBets c) := by
  have sp := forcedSpec c h.started
  obtain ⟨_, e1, e2⟩ := pre_start c h.started
  exact ⟨⟨e1, e2⟩, sp.ready_ok, fun ha => ⟨sp.ante_ev ha, sp.ante_ok ha⟩, fun hb => ⟨sp.blinds_ev hb, sp.blinds_ok hb⟩,
    ⟨sp.ev, sp.round⟩, afterForcedBets_eq_run c, reachable_afterForcedBets c h.wf h.started⟩

/-- the state "waits for `ReadyForAll` in the preflop round" -/
def PreflopReady (g : Game) : Prop := g.round = .preflop ∧ g.event = .readyRequested

/-- Anchor of the property, over all histories: along EVERY sequence of operations (accepted or refused, with any
    arguments) from the freshly started hand, the first state that waits for `ReadyForAll` in the preflop round is
    `afterForcedBets c`.  (Before it, every operation other than the awaited one is refused without effect.) -/
theorem first_preflop_ready {c : Config} (h : Accepted c) (ops : List Op)
    (hg : PreflopReady ((start c).1.run ops))
    (hfirst : ∀ ops1 ops2, ops = ops1 ++ ops2 → ops2 ≠ [] → ¬ PreflopReady ((start c).1.run ops1)) :
    (start c).1.run ops = afterForcedBets c := by
  rcases run_through_forced c h.wf h.started ops _ (Or.inl rfl) with hb | ⟨o1, o2, e1, e2⟩
  · exact absurd hg (beforeForced_not_preflop_ready c h.started hb)
  · by_cases ho : o2 = []
    · subst ho
      rw [e1, List.append_nil]
      exact e2
    · have sp := forcedSpec c h.started
      exact absurd (show PreflopReady ((start c).1.run o1) by rw [e2]; exact ⟨sp.round, sp.ev⟩) (hfirst o1 o2 e1 ho)

/-- The table after the forced bets is the configured table: same seats in the same order with the same
    positions and bankrolls. -/
theorem seats_kept {c : Config} (h : Accepted c) :
    (afterForcedBets c).n = c.seats.length ∧
    ∀ (j : Nat) (q : Player), (afterForcedBets c).players[j]? = some q →
      ∃ s, c.seats[j]? = some s ∧ q.idx = j ∧ q.posDealer = s.dealer ∧ q.posSB = s.sb ∧ q.posBB = s.bb ∧
        q.bankroll = s.bankroll := by
  refine ⟨afterForcedBets_n c h.started, fun j q hq => ?_⟩
  obtain ⟨s, a, b, c1, d, e, f, _⟩ := forced_seat c h.wf h.started hq
  exact ⟨s, a, b, c1, d, e, f⟩

/-- "every player has paid the ante … capped at what the player has": each player's contribution to the
    pot is min(ante, bankroll) (0 without ante). -/
theorem ante_paid {c : Config} (h : Accepted c) {q : Player} (hq : q ∈ (afterForcedBets c).players) :
    q.pot = min c.opts.ante q.bankroll := by
  obtain ⟨j, hj⟩ := List.getElem?_of_mem hq
  obtain ⟨s, _, _, _, _, _, hb, hp, _⟩ := forced_seat c h.wf h.started hj
  rw [hp, hb]

/-- "the holders of the big blind, small blind and dealer blind have posted their blind, each capped at
    what the player has (a shorter stack is all-in for less)": each player's wager is
    min(bankroll − ante paid, blind owed), where the blind owed `blindOf` is that of the seat's first position in
    the order bb > sb > dealer among the positions with a positive blind (reading I1), 0 for a seat without such a
    position.  The rest of the bankroll is the stack. -/
theorem blinds_posted {c : Config} (h : Accepted c) {q : Player} (hq : q ∈ (afterForcedBets c).players) :
    q.wager = min (q.bankroll - q.pot) (blindOf c.opts q) ∧
    q.stack = q.bankroll - q.pot - q.wager ∧ q.initial = q.bankroll - q.pot := by
  obtain ⟨j, hj⟩ := List.getElem?_of_mem hq
  obtain ⟨s, _, _, _, _, _, hb, _, hw, hs, hi⟩ := forced_seat c h.wf h.started hj
  rw [hb]
  exact ⟨hw, hs, hi⟩

/-- "nobody else has posted anything": a seat that owes no blind has no wager. -/
theorem nobody_else_posted {c : Config} (h : Accepted c) {q : Player} (hq : q ∈ (afterForcedBets c).players)
    (h0 : blindOf c.opts q = 0) : q.wager = 0 := by
  have hw := (blinds_posted h hq).1
  have hr := (inv_reachable (reachable_afterForcedBets c h.wf h.started)).chips0.pinv q hq
  have := hr.stack0
  have := hr.split
  have := hr.wager0
  rw [h0] at hw
  omega

theorem blindOf_le_max {m : Meta} (ho : OptsOK m) (q : Player) :
    blindOf m q ≤ max m.blindBB (max m.blindSB m.blindDealer) := by
  unfold Game.blindOf
  split
  · exact Int.le_max_left _ _
  · split
    · exact Int.le_trans (Int.le_max_left _ _) (Int.le_max_right _ _)
    · split
      · exact Int.le_trans (Int.le_max_right _ _) (Int.le_max_right _ _)
      · exact Int.le_trans ho.bb0 (Int.le_max_left _ _)

/-- `blindOf` spelled out for the usual layouts: a big-blind seat owes BB; a small-blind seat that is not
    the big blind owes SB; a dealer that is neither owes the dealer blind; a seat without position owes nothing
    (positive blinds assumed where they matter). -/
theorem blindOf_cases (m : Meta) (q : Player) :
    (q.posBB = true → m.blindBB > 0 → blindOf m q = m.blindBB) ∧
    (q.posBB = false → q.posSB = true → m.blindSB > 0 → blindOf m q = m.blindSB) ∧
    (q.posBB = false → q.posSB = false → q.posDealer = true → 0 ≤ m.blindDealer → blindOf m q = m.blindDealer) ∧
    (q.posBB = false → q.posSB = false → q.posDealer = false → blindOf m q = 0) := by
  unfold Game.blindOf
  refine ⟨fun a b => by simp [a, b], fun a b c => by simp [a, b, c], fun a b c d => ?_, fun a b c => by simp [a, b, c]⟩
  simp only [a, b, c, Bool.false_eq_true, and_false, and_true, if_false]
  split <;> omega

/-- "[the wager to match] after the blinds equals the largest blind actually posted": nobody's wager
    exceeds it, and it is the wager of some player — or 0 when nobody posted anything. -/
theorem cw_is_max_posted {c : Config} (h : Accepted c) :
    (∀ q ∈ (afterForcedBets c).players, q.wager ≤ (afterForcedBets c).cw) ∧
    ((∃ q ∈ (afterForcedBets c).players, q.wager = (afterForcedBets c).cw) ∨
      ((afterForcedBets c).cw = 0 ∧ ∀ q ∈ (afterForcedBets c).players, q.wager = 0)) := by
  have hr := reachable_afterForcedBets c h.wf h.started
  have sp := forcedSpec c h.started
  have ok := (inv_reachable hr).chips (by rw [sp.ev]; simp)
  refine ⟨ok.wle, ?_⟩
  by_cases h0 : 0 < (afterForcedBets c).cw
  · -- a clause of `Lvl`, the invariant behind the showdown theorems, which holds from the forced bets on
    obtain ⟨q, hq, _, hw⟩ := (linv_afterForcedBets c h.wf h.started).good.lvl.holder_seat h0
    exact Or.inl ⟨q, hq, hw⟩
  · right
    have hcw := ok.cw0
    refine ⟨by omega, fun q hq => ?_⟩
    have := ok.wle q hq
    have := (ok.pinv q hq).wager0
    omega

/-- the same as a formula: the wager to match is the maximum of the posted wagers (0 for none) -/
theorem cw_eq_foldl_max {c : Config} (h : Accepted c) :
    (afterForcedBets c).cw = ((afterForcedBets c).players.map (·.wager)).foldl max 0 := by
  obtain ⟨hle, hat⟩ := cw_is_max_posted h
  have hcw0 := (inv_reachable (reachable_afterForcedBets c h.wf h.started)).chips0.cw0
  refine (foldl_max_eq _ hcw0 ?_ ?_).symm
  · intro x hx
    obtain ⟨q, hq, rfl⟩ := List.mem_map.mp hx
    exact hle q hq
  · rcases hat with ⟨q, hq, hw⟩ | ⟨h0, _⟩
    · exact Or.inr (List.mem_map.mpr ⟨q, hq, hw⟩)
    · exact Or.inl h0

/-- "with the big blind as the minimum raise": the minimum raise is BB, or the dealer blind when BB = 0. -/
theorem prev_is_bb {c : Config} (h : Accepted c) :
    (afterForcedBets c).prev = (if c.opts.blindBB > 0 then c.opts.blindBB else c.opts.blindDealer) := by
  -- every reachable state that waits for `ReadyForAll` records the size its round will open with (`RaiseInv.ready`)
  have sp := forcedSpec c h.started
  obtain ⟨gh, hG⟩ := reachable_lreachable .i8 (reachable_afterForcedBets c h.wf h.started)
  rw [(lreachable_inv hG).ready sp.ev, Game.openSize, if_pos sp.round, sp.opts]
  rfl

/-- "The ante goes straight to the pot and does not count toward the wager to match":
    (a) right after the ante step (before any blind) every wager is 0, the wager to match is 0, and the ante sits
    in the players' pot contributions;
    (b) in the final state the wager to match is 0 or one of the posted blinds
    min(bankroll − ante paid, blind owed) — the ante appears in it only as chips no longer available. -/
theorem ante_not_in_cw {c : Config} (h : Accepted c) :
    ((afterAnte c).cw = 0 ∧ ∀ q ∈ (afterAnte c).players, q.wager = 0 ∧ q.pot = min c.opts.ante q.bankroll ∧
        q.stack = q.bankroll - q.pot) ∧
    ((afterForcedBets c).cw = 0 ∨ ∃ q ∈ (afterForcedBets c).players,
        (afterForcedBets c).cw = min (q.bankroll - min c.opts.ante q.bankroll) (blindOf c.opts q)) := by
  have sp := forcedSpec c h.started
  refine ⟨⟨sp.anteCw, fun q hq => ?_⟩, ?_⟩
  · obtain ⟨j, hj⟩ := List.getElem?_of_mem hq
    obtain ⟨s, _, hb, hp, hw, hs, _⟩ := ante_seat c h.wf h.started hj
    rw [hb]
    exact ⟨hw, hp, hs⟩
  · rcases (cw_is_max_posted h).2 with ⟨q, hq, hw⟩ | ⟨h0, _⟩
    · right
      refine ⟨q, hq, ?_⟩
      rw [← hw, (blinds_posted h hq).1, ante_paid h hq]
    · exact Or.inl h0

/-- Consequence: the wager to match never exceeds the largest blind, whatever the ante. -/
theorem cw_le_blinds {c : Config} (h : Accepted c) :
    (afterForcedBets c).cw ≤ max c.opts.blindBB (max c.opts.blindSB c.opts.blindDealer) := by
  have ho := h.wf.opts
  rcases (ante_not_in_cw h).2 with h0 | ⟨q, _, hq⟩
  · rw [h0]
    exact Int.le_trans ho.bb0 (Int.le_max_left _ _)
  · rw [hq]
    exact Int.le_trans (Int.min_le_right _ _) (blindOf_le_max ho q)

/-! ## Non-vacuity: concrete tables (kernel-evaluated) -/

/-- ante 2, blinds 5/10; the small blind has 4 chips, the big blind 11: both are all-in for less -/
def exShort : Config := Ex.cfg (Ex.opts 2 0 5 10) 1000 4 11
/-- small blind 0, dealer blind 0, big blind 10: the layout of defect D6 (blinds skipped when SB = 0 and dealer blind = 0) -/
def exOnlyBB : Config := Ex.cfg (Ex.opts 0 0 0 10) 100 100 100
/-- heads-up with a dealer blind 3: the dealer also holds the small blind and posts 5 (reading I1), not 3 or 8 -/
def exHeadsUp : Config :=
  { opts := Ex.opts 0 3 5 10, seats := [⟨100, true, true, false⟩, ⟨100, false, false, true⟩] }
/-- ante only, no blinds at all: `PayBlinds` is never requested -/
def exAnteOnly : Config := Ex.cfg (Ex.opts 5 0 0 0) 100 3 100

theorem acc_exShort : Accepted exShort := ⟨⟨Ex.optsOK _ _ _ _ (by decide +kernel)⟩, by decide +kernel⟩
theorem acc_exOnlyBB : Accepted exOnlyBB := ⟨⟨Ex.optsOK _ _ _ _ (by decide +kernel)⟩, by decide +kernel⟩
theorem acc_exHeadsUp : Accepted exHeadsUp := ⟨⟨Ex.optsOK _ _ _ _ (by decide +kernel)⟩, by decide +kernel⟩
theorem acc_exAnteOnly : Accepted exAnteOnly := ⟨⟨Ex.optsOK _ _ _ _ (by decide +kernel)⟩, by decide +kernel⟩

example : forcedOps exShort.opts = [.ready, .payAnte, .payBlinds] ∧
    (afterForcedBets exShort).players.map (fun q => (q.pot, q.wager, q.stack)) = [(2, 0, 998), (2, 2, 0), (2, 9, 0)] ∧
    (afterForcedBets exShort).cw = 9 ∧ (afterForcedBets exShort).prev = 10 := by decide +kernel
example : forcedOps exOnlyBB.opts = [.ready, .payBlinds] ∧
    (afterForcedBets exOnlyBB).players.map (fun q => (q.pot, q.wager, q.stack)) = [(0, 0, 100), (0, 0, 100), (0, 10, 90)] ∧
    (afterForcedBets exOnlyBB).cw = 10 ∧ (afterForcedBets exOnlyBB).prev = 10 := by decide +kernel
example : (afterForcedBets exHeadsUp).players.map (fun q => (q.pot, q.wager, q.stack)) = [(0, 5, 95), (0, 10, 90)] ∧
    (afterForcedBets exHeadsUp).cw = 10 := by decide +kernel
example : forcedOps exAnteOnly.opts = [.ready, .payAnte] ∧
    (afterForcedBets exAnteOnly).players.map (fun q => (q.pot, q.wager, q.stack)) = [(5, 0, 95), (3, 0, 0), (5, 0, 95)] ∧
    (afterForcedBets exAnteOnly).cw = 0 ∧ (afterForcedBets exAnteOnly).event = .readyRequested := by decide +kernel

end Pokerface.C13
