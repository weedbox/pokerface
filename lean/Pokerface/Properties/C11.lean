import Pokerface.Proofs.BetsMono
import Pokerface.Proofs.BetsExamples
/-
  C11 — Offered actions fit the betting situation and do what they say.

  Setting (`AtTurn g p`): `g` is any reachable state (any accepted configuration, any
  sequence of operations, accepted or refused, with any arguments) whose event is
  `RoundStarted`, i.e. a player is asked to act, and `p` is the player at seat `g.cur`.
  `p.allowed` is the published `AllowedActions` of that seat; `g.cw` is the wager to match,
  `g.prev` the previous raise size (minimum raise), `g.miniBet` the minimum bet,
  `p.initial` the player's stack at the start of the betting round, `p.wager` what the
  player has put in during this round.
-/
namespace Pokerface.C11
open Pokerface Game

/-- Every reachable state has a player at the seat to act, so `AtTurn` only adds
    "the hand is waiting for a player action". -/
theorem atTurn_exists {g : Game} (h : Reachable g) (he : g.event = .roundStarted) : ∃ p, AtTurn g p := by
  obtain ⟨p, hp⟩ := exists_cur h
  exact ⟨p, h, he, hp⟩

/-- The list published for the player to act is the situation table of `GetAvailableActions`
    evaluated on the current state (the list is never stale). -/
theorem offered_is_table {g : Game} {p : Player} (h : AtTurn g p) : p.allowed = g.availableActions p :=
  h.allowed_eq

/-- Sentence 1, first half: "A folded or all-in seat is only asked to pass". -/
theorem offered_pass_only {g : Game} {p : Player} (h : AtTurn g p) (hp : p.fold = true ∨ p.stack = 0) :
    p.allowed = [.pass] := by
  rw [h.allowed_eq]
  exact avail_pass_only g p hp

/-- Sentence 1, the rest: for a player to act who has not folded and still has chips
    (clauses numbered as in the property text, where (1) is the clause above):
    (2) all-in is always offered and pass never; (3) fold exactly when facing a higher wager;
    (4) check exactly when not; (5) call whenever facing a wager the player can cover with chips to
    spare, (6) call never when not facing a wager; (7) bet whenever nobody has wagered this round and
    the player holds at least the minimum bet, (8) bet never when a wager stands; (9) raise whenever a
    wager stands and the player holds more than wager-to-match + minimum raise and no less than the minimum
    bet, (10) raise never when no wager stands. -/
theorem offered_spec {g : Game} {p : Player} (h : AtTurn g p) (hf : p.fold = false) (hs : p.stack ≠ 0) :
    (Act.allin ∈ p.allowed ∧ Act.pass ∉ p.allowed) ∧
    (Act.fold ∈ p.allowed ↔ p.wager < g.cw) ∧
    (Act.check ∈ p.allowed ↔ ¬ p.wager < g.cw) ∧
    (p.wager < g.cw → p.initial > g.cw → Act.call ∈ p.allowed) ∧
    (Act.call ∈ p.allowed → p.wager < g.cw) ∧
    (g.cw = 0 → p.initial ≥ g.miniBet → Act.bet ∈ p.allowed) ∧
    (Act.bet ∈ p.allowed → g.cw = 0) ∧
    (g.cw > 0 → p.initial > g.cw + g.prev → p.initial ≥ g.miniBet → Act.raise ∈ p.allowed) ∧
    (Act.raise ∈ p.allowed → g.cw > 0) := by
  obtain ⟨m1, m2, _, m3, m4, _⟩ := avail_mem (g := g) hf hs
  rw [← h.allowed_eq] at m1 m2 m3 m4
  obtain ⟨mc, mb, mr⟩ := h.mem_allowed hf hs
  have hw0 := h.pinv.wager0
  have hwle := h.chips.wle p h.mem
  have hcw := h.chips.cw0
  refine ⟨⟨m1, m2⟩, m3, m4, fun a b => mc.mpr ⟨a, b⟩, fun a => (mc.mp a).1, fun a b => mb.mpr ⟨a, b⟩,
    fun a => (mb.mp a).1, ?_, ?_⟩
  · intro a b c
    apply mr.mpr
    by_cases hc : p.wager < g.cw
    · exact Or.inl ⟨hc, b⟩
    · exact Or.inr ⟨by omega, c, by omega⟩
  · intro a
    rcases mr.mp a with ⟨a1, _⟩ | ⟨_, _, a3⟩
    · omega
    · omega

/-- The facts about the state that the clauses rely on and that hold at every decision point:
    no negative wager, nobody above the wager to match, non-negative minimum raise. -/
theorem offered_side_facts {g : Game} {p : Player} (h : AtTurn g p) :
    0 ≤ p.wager ∧ p.wager ≤ g.cw ∧ 0 ≤ g.prev ∧ 0 ≤ p.stack ∧ p.stack = p.initial - p.wager :=
  ⟨h.pinv.wager0, h.chips.wle p h.mem, h.chips.prev0, h.pinv.stack0, h.pinv.rebase⟩

/-! Non-vacuity: a preflop decision (dealer facing the big blind: fold, call, raise, all-in) and a
    flop decision (nobody has bet: check, bet, all-in). -/
example : ∃ p, AtTurn Ex.g1 p ∧ p.fold = false ∧ p.stack ≠ 0 ∧ p.wager < Ex.g1.cw ∧
    p.allowed = [.allin, .fold, .call, .raise] :=
  ⟨_, ⟨Ex.reach_g1, by decide, rfl⟩, by decide⟩
example : ∃ p, AtTurn Ex.g2 p ∧ p.fold = false ∧ p.stack ≠ 0 ∧ Ex.g2.cw = 0 ∧
    p.allowed = [.allin, .check, .bet] :=
  ⟨_, ⟨Ex.reach_g2, by decide, rfl⟩, by decide⟩


/-! ## Second sentence: what an accepted action does

  The operation is `.act seat a x` where `ByCur g seat` says that the action is addressed to the
  seat to act — either implicitly (`seat = none`, Go `Game.X()`) or by naming it (`seat = some g.cur`,
  Go `Game.Player(cur).X()`).  `(g.step op).2 = none` says the engine accepted it.  `q` is THE player
  found afterwards at the seat that acted (seat `g.cur` of the OLD state; the new state may already
  point at the next player); the theorems assert that it exists.  -/

/-- Whatever is offered is accepted when the player to act does it (for `Bet`, with any amount `x ≥ 0`;
    `Raise` is the subject of C12). -/
theorem offered_accepted {g : Game} {p : Player} (h : AtTurn g p) {seat : Option Nat} (hs : ByCur g seat)
    {a : Act} (ha : a ∈ p.allowed) (har : a ≠ .raise) (x : Int) (hx : a = .bet → 0 ≤ x) :
    (g.step (.act seat a x)).2 = none := by
  rw [step_byCur hs]
  rw [h.allowed_eq] at ha
  have hal := h.allows_of ha
  by_cases hb : a = .bet
  · subst hb
    exact act_bet_accepted_of_allows hal (hx rfl)
  · exact act_accepted_of_allows x hal hb har

/-- Conversely an action is only accepted when it is in the offered list. -/
theorem accepted_offered {g : Game} {p : Player} (h : AtTurn g p) {seat : Option Nat} (hs : ByCur g seat)
    {a : Act} {x : Int} (hacc : (g.step (.act seat a x)).2 = none) : a ∈ p.allowed := by
  rw [step_byCur hs] at hacc
  rw [h.allowed_eq]
  exact h.of_allows (act_accepted_allows hacc)

/-- "An accepted check, fold or pass moves no chips": every player's bankroll, round-start stack, stack,
    pot and wager, and the round pot, the wager to match and the minimum raise are the same afterwards.
    (Holds in every state, for every seat designation, accepted or refused.) -/
theorem effect_passive (g : Game) (seat : Option Nat) {a : Act} (ha : a = .check ∨ a = .fold ∨ a = .pass) (x : Int) :
    (g.step (.act seat a x)).1.players.map (fun q => (q.bankroll, q.initial, q.stack, q.pot, q.wager)) =
      g.players.map (fun q => (q.bankroll, q.initial, q.stack, q.pot, q.wager)) ∧
    (g.step (.act seat a x)).1.roundPot = g.roundPot ∧ (g.step (.act seat a x)).1.cw = g.cw ∧
    (g.step (.act seat a x)).1.prev = g.prev := by
  have : NoChip g (g.step (.act seat a x)).1 := by
    rw [g.step_act]
    exact act_passive_noChip g _ a x ha
  exact ⟨this.chips, this.rp, this.cw, this.prev⟩

/-- "a call brings the caller level with the wager to match" (reading I2: the wager to match after
    the call).  Also: the wager to match is not lowered, stays the same unless it was below the big
    blind (short big blind), and the caller's chips only move from stack to wager. -/
theorem effect_call {g : Game} {p : Player} (h : AtTurn g p) {seat : Option Nat} (hs : ByCur g seat) (x : Int)
    (hacc : (g.step (.act seat .call x)).2 = none) :
    ∃ q, (g.step (.act seat .call x)).1.players[g.cur]? = some q ∧
    q.wager = (g.step (.act seat .call x)).1.cw ∧ g.cw ≤ (g.step (.act seat .call x)).1.cw ∧
    (g.opts.blindBB ≤ g.cw → (g.step (.act seat .call x)).1.cw = g.cw) ∧
    q.stack = p.initial - q.wager ∧ q.pot = p.pot ∧ q.bankroll = p.bankroll := by
  rw [step_byCur hs] at hacc ⊢
  have hal := act_accepted_allows hacc
  rw [act_call_eq x hal]
  obtain ⟨q, hq, e1, e2, e3, _, e5, e6, e7⟩ := doCall_effect h (h.of_allows hal)
  exact ⟨q, hq, e1, e2, e3, e5, e6, e7⟩

/-- "a bet of a positive amount below the player's stack makes exactly that amount the new wager to match":
    also the bettor's wager is `x`, the minimum raise becomes `x`, the bettor is the last raiser. -/
theorem effect_bet {g : Game} {p : Player} (h : AtTurn g p) {seat : Option Nat} (hs : ByCur g seat) {x : Int}
    (hx0 : 0 < x) (hxs : x < p.stack)
    (hacc : (g.step (.act seat .bet x)).2 = none) :
    ∃ q, (g.step (.act seat .bet x)).1.players[g.cur]? = some q ∧
    (g.step (.act seat .bet x)).1.cw = x ∧ q.wager = x ∧ (g.step (.act seat .bet x)).1.prev = x ∧
    (g.step (.act seat .bet x)).1.raiser = g.cur ∧ q.stack = p.stack - x ∧ q.pot = p.pot ∧ q.bankroll = p.bankroll := by
  rw [step_byCur hs] at hacc ⊢
  obtain ⟨hal, _, heq⟩ := act_bet_accepted hacc
  rw [heq]
  obtain ⟨q, hq, e1, e2, e3, e4, e5, e6, e7⟩ := doBet_effect h (h.of_allows hal) hx0 hxs
  exact ⟨q, hq, e2, e1, e3, e4, e5, e6, e7⟩

/-- "all-in commits exactly the remaining stack": afterwards the stack is 0 and the wager is the whole
    round-start stack; the wager to match becomes that amount if it is larger. -/
theorem effect_allin {g : Game} {p : Player} (h : AtTurn g p) {seat : Option Nat} (hs : ByCur g seat) (x : Int)
    (hacc : (g.step (.act seat .allin x)).2 = none) :
    ∃ q, (g.step (.act seat .allin x)).1.players[g.cur]? = some q ∧
    q.stack = 0 ∧ q.wager = p.initial ∧ q.wager = p.wager + p.stack ∧ q.pot = p.pot ∧ q.bankroll = p.bankroll ∧
    (g.step (.act seat .allin x)).1.cw = (if p.initial > g.cw then p.initial else g.cw) := by
  rw [step_byCur hs] at hacc ⊢
  have hal := act_accepted_allows hacc
  rw [act_allin_eq x hal]
  obtain ⟨q, hq, e1, e2, e3, e4, _, e6, _⟩ := doAllin_effect h.seat
  have := h.pinv.rebase
  exact ⟨q, hq, e1, e2, by omega, e3, e4, e6⟩

/-- Companion to the effect theorems: whatever the action, the designated seat and the amount, accepted or
    refused, every OTHER seat keeps its positions, bankroll, round-start stack, stack, pot and wager — a player
    action moves the chips of the acting seat only.  (`i` is the acting seat: `g.cur` for `seat = none`.) -/
theorem effect_only_actor (g : Game) (seat : Option Nat) (a : Act) (x : Int) (j : Nat)
    (hj : j ≠ seat.getD g.cur) {q : Player} (hq : (g.step (.act seat a x)).1.players[j]? = some q) :
    ∃ p, g.players[j]? = some p ∧ q.bankroll = p.bankroll ∧ q.initial = p.initial ∧ q.stack = p.stack ∧
      q.pot = p.pot ∧ q.wager = p.wager := by
  rw [g.step_act] at hq
  have h1 : ((g.act (seat.getD g.cur) a x).1.players.map Player.frame)[j]? = some q.frame := by simp [hq]
  rw [onlySeat_act g _ a x j hj] at h1
  simp only [List.getElem?_map, Option.map_eq_some_iff] at h1
  obtain ⟨p, hp, he⟩ := h1
  obtain ⟨c1, c2, c3, c4, c5, _⟩ := frame_chips he.symm
  exact ⟨p, hp, c1, c2, c3, c4, c5⟩

/-! Non-vacuity of the effect theorems: accepted actions at the example decision points. -/
example : AtTurn Ex.g1 (Ex.g1.players[0]) ∧ ByCur Ex.g1 none ∧ (Ex.g1.step (.act none .call 0)).2 = none ∧
    (Ex.g1.step (.act none .fold 0)).2 = none ∧ (Ex.g1.step (.act (some 0) .allin 0)).2 = none :=
  ⟨⟨Ex.reach_g1, by decide, rfl⟩, Or.inl rfl, by decide, by decide, by decide⟩
example : AtTurn Ex.g2 (Ex.g2.players[1]) ∧ (0:Int) < 30 ∧ 30 < (Ex.g2.players[1]).stack ∧
    (Ex.g2.step (.act none .bet 30)).2 = none ∧ (Ex.g2.step (.act none .check 0)).2 = none :=
  ⟨⟨Ex.reach_g2, by decide, rfl⟩, by decide, by decide, by decide, by decide⟩
/-- reading I2 at work: short big blind (6 of 10 posted), the dealer's call completes to the big blind -/
example : AtTurn Ex.g3 (Ex.g3.players[0]) ∧ Ex.g3.cw = 6 ∧ (Ex.g3.step (.act none .call 0)).2 = none ∧
    (Ex.g3.step (.act none .call 0)).1.cw = 10 ∧
    ((Ex.g3.step (.act none .call 0)).1.players[0]?.map (·.wager)) = some 10 :=
  ⟨⟨Ex.reach_g3, by decide, rfl⟩, by decide, by decide, by decide, by decide⟩

/-! ## The opposite polarity for call, bet and raise

  `offered_spec` gives "call / bet / raise is offered WHENEVER …" and "never when no wager stands / a wager
  stands".  The property also says "call, bet and raise are never offered in the opposite situations": the
  theorems below give the converses, so that each of the three is offered EXACTLY in its situation. -/

/-- `offered_spec` and its converse (`offered_spec_converse` below) together, as equivalences: each of call, bet
    and raise is offered to the player to act exactly in its situation. -/
theorem offered_iff {g : Game} {p : Player} (h : AtTurn g p) (hf : p.fold = false) (hs : p.stack ≠ 0) :
    (Act.call ∈ p.allowed ↔ p.wager < g.cw ∧ p.initial > g.cw) ∧
    (Act.bet ∈ p.allowed ↔ g.cw = 0 ∧ p.initial ≥ g.miniBet) ∧
    (Act.raise ∈ p.allowed ↔ g.cw > 0 ∧
      ((p.wager < g.cw ∧ p.initial > g.cw + g.prev) ∨ (p.wager = g.cw ∧ p.initial ≥ g.miniBet))) := by
  obtain ⟨mc, mb, mr⟩ := h.mem_allowed hf hs
  have hw0 := h.pinv.wager0
  have hcw := h.chips.cw0
  refine ⟨mc, mb, mr.trans ⟨?_, ?_⟩⟩
  · rintro (⟨a1, a2⟩ | ⟨a1, a2, a3⟩)
    · exact ⟨by omega, Or.inl ⟨a1, a2⟩⟩
    · exact ⟨by omega, Or.inr ⟨a1, a2⟩⟩
  · rintro ⟨a, ⟨b1, b2⟩ | ⟨b1, b2⟩⟩
    · exact Or.inl ⟨b1, b2⟩
    · exact Or.inr ⟨b1, b2, by omega⟩

/-- Sentence 1, "(call, bet and raise are never offered in the opposite situations)", the other polarity.
    For the player to act at any reachable decision point (same hypotheses as `offered_spec`):
    (5') call is offered ONLY when the player faces a higher wager (`wager < cw`) and can cover it with chips
         to spare (`initial > cw`);
    (7') bet is offered ONLY when nobody has wagered this round (`cw = 0`, and indeed every seat's wager is 0)
         and the player holds at least the minimum bet (`initial ≥ miniBet`);
    (9') raise is offered ONLY when a wager stands (`cw > 0`) and either the player is behind it and holds
         more than wager-to-match + minimum raise (`wager < cw ∧ initial > cw + prev`), or the player is level
         with it (big blind / option) and holds at least the minimum bet (`wager = cw ∧ initial ≥ miniBet`).
    These are the exact branch conditions of `GetAvailableActions` (`availableActions`, `avail_mem`). -/
theorem offered_spec_converse {g : Game} {p : Player} (h : AtTurn g p) (hf : p.fold = false) (hs : p.stack ≠ 0) :
    (Act.call ∈ p.allowed → p.wager < g.cw ∧ p.initial > g.cw) ∧
    (Act.bet ∈ p.allowed → g.cw = 0 ∧ (∀ q ∈ g.players, q.wager = 0) ∧ p.initial ≥ g.miniBet) ∧
    (Act.raise ∈ p.allowed → g.cw > 0 ∧
      ((p.wager < g.cw ∧ p.initial > g.cw + g.prev) ∨ (p.wager = g.cw ∧ p.initial ≥ g.miniBet))) := by
  obtain ⟨mc, mb, mr⟩ := offered_iff h hf hs
  refine ⟨mc.mp, fun a => ?_, mr.mp⟩
  obtain ⟨c, b⟩ := mb.mp a
  refine ⟨c, fun q hq => ?_, b⟩
  have := h.chips.wle q hq
  have := (h.chips.pinv q hq).wager0
  omega

/-- Non-vacuity of the converses.  `Ex.g1` (preflop, dealer facing the big blind 10 with 1000): call and raise are
    offered, `wager 0 < cw 10`, `initial 1000 > cw + prev = 20`; `Ex.g2` (flop, nobody has bet): bet is offered,
    `cw = 0`, `initial 990 ≥ miniBet 10`. -/
example : AtTurn Ex.g1 (Ex.g1.players[0]) ∧ (Ex.g1.players[0]).fold = false ∧ (Ex.g1.players[0]).stack ≠ 0 ∧
    Act.call ∈ (Ex.g1.players[0]).allowed ∧ Act.raise ∈ (Ex.g1.players[0]).allowed ∧
    ((Ex.g1.players[0]).wager, Ex.g1.cw, Ex.g1.prev, (Ex.g1.players[0]).initial) = (0, 10, 10, 1000) :=
  ⟨⟨Ex.reach_g1, by decide, rfl⟩, by decide, by decide, by decide, by decide, by decide⟩
example : AtTurn Ex.g2 (Ex.g2.players[1]) ∧ (Ex.g2.players[1]).fold = false ∧ (Ex.g2.players[1]).stack ≠ 0 ∧
    Act.bet ∈ (Ex.g2.players[1]).allowed ∧ (Ex.g2.cw, Ex.g2.miniBet, (Ex.g2.players[1]).initial) = (0, 10, 990) :=
  ⟨⟨Ex.reach_g2, by decide, rfl⟩, by decide, by decide, by decide, by decide⟩
/-- the second raise situation (level with the wager to match): the big blind's option after two calls -/
example : let g := Ex.g1.run [.act none .call 0, .act none .call 0]
    AtTurn g (g.players[2]) ∧ Act.raise ∈ (g.players[2]).allowed ∧ Act.call ∉ (g.players[2]).allowed ∧
    ((g.players[2]).wager, g.cw, g.miniBet, (g.players[2]).initial) = (10, 10, 10, 1000) :=
  ⟨⟨Ex.reach_g1.run _, by decide, rfl⟩, by decide, by decide, by decide⟩

end Pokerface.C11
