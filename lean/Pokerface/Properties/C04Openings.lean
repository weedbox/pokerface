import Pokerface.Properties.C04
import Pokerface.Properties.C05Opens
import Pokerface.Proofs.EngineFirst
/-
  C04Openings — "play starts left of the big blind before the flop (the dealer, who is the small blind, when heads-up)
  and left of the dealer on later streets" (C04, sentence 1): the heads-up parenthesis, and that the openings C04 speaks of
  are all there are.

  Heads-up, at engine level: on a two-seat table whose non-dealer seat holds the big-blind position the first player
  asked before the flop is the dealer.  A betting round is opened ONLY by an accepted `ReadyForAll` in a state that waits
  for it on a dealt street, so C04's statements about the first actor speak of every opening.  When no seat holds the
  big-blind position (such configurations are accepted by `Start()`), `seekBB` walks once around the table and stops on
  the dealer, so the first seat asked is the one left of the DEALER, as on later streets.

  All statements are about the model `Game.step` for every reachable state.
-/
namespace Pokerface.C04O
open Pokerface Game

/-! ## Heads-up -/

/-- **Sentence 1, the parenthesis "(the dealer, who is the small blind, when heads-up)", engine level.**
    In every reachable state of a two-seat hand (`g.n = 2`) that waits for `ReadyForAll` in the preflop round, if the seat that
    is not the dealer's (`i ≠ g.dealerIdx`) holds the big-blind position and the `ReadyForAll` opens the betting round, the
    first player asked is the dealer.  Instance `j = 0` of `C04.first_preflop`. -/
theorem heads_up_first_actor {g : Game} (h : Reachable g) (he : g.event = .readyRequested) (hr : g.round = .preflop)
    (hn : g.n = 2) {i : Nat} {p : Player} (hp : g.players[i]? = some p) (hi : i ≠ g.dealerIdx) (hb : p.posBB = true)
    (hopen : (g.step .ready).1.event = .roundStarted) :
    (g.step .ready).1.cur = g.dealerIdx := by
  have hd := dealerIdx_lt (inv_reachable h).struct
  rw [hn] at hd
  have hil : i < 2 := by
    have := (List.getElem?_eq_some_iff.mp hp).1
    simp only [Game.n] at hn
    omega
  have hnext : cwNext 2 g.dealerIdx = i := by unfold cwNext; split <;> omega
  have := C04.first_preflop h he hr 0 (by omega)
    (by rw [hn]; simp only [cwIter]; rw [hnext, hp, Option.map_some, hb])
    (fun j' hj' => by omega) hopen
  rw [this, hn]
  simp only [cwIter]
  exact cwIter_full (n := 2) hd

/-- **The same on accepted configurations, without the hypothesis that the round opens** (proved from
    `heads_up_first_actor` above; `C05.preflop_first_actor_unconditional` at `j = 0` says the same): for every configuration accepted by `Start()` with exactly two seats whose
    non-dealer seat is the big blind, the `ReadyForAll` after the forced bets
    * opens the preflop betting round with the DEALER to act — when some seat's bankroll exceeds ante + the blind it owes;
    * otherwise closes the round at once and nobody is offered anything (everybody is all-in from the forced bets). -/
theorem heads_up_first_actor_config {c : Config} (h : C13.Accepted c) (h2 : c.seats.length = 2)
    {i : Nat} {s : SeatCfg} (hs : c.seats[i]? = some s) (hi : i ≠ C05.dealerSeat c) (hb : s.bb = true) :
    ((∃ s ∈ c.seats, C05.CanMove c.opts s) →
      ((afterForcedBets c).step .ready).1.event = .roundStarted ∧
      ((afterForcedBets c).step .ready).1.cur = C05.dealerSeat c ∧
      Reachable ((afterForcedBets c).step .ready).1) ∧
    ((∀ s ∈ c.seats, ¬ C05.CanMove c.opts s) →
      ((afterForcedBets c).step .ready).1.event = .roundClosed ∧
      ∀ p ∈ ((afterForcedBets c).step .ready).1.players, p.allowed = []) := by
  obtain ⟨_, _, _, _, ⟨hev, hrd⟩, _, hreach⟩ := C13.forced_path h
  have hd := C05.dealerIdx_after_forced_bets h
  refine ⟨fun hmove => ?_, C05.preflop_closes h⟩
  have hopen := (C05.preflop_opens_iff h).2.2.1.mpr hmove
  have hp := C05.posBB_after_forced_bets h i
  rw [hs, Option.map_some, hb, Option.map_eq_some_iff] at hp
  obtain ⟨p, hp, hpb⟩ := hp
  have hcur := heads_up_first_actor hreach hev hrd (by rw [afterForcedBets_n c h.started, h2]) hp (by rw [hd]; exact hi)
    hpb hopen
  exact ⟨hopen, by rw [hcur, hd], hreach.step _⟩

/-! ## The betting rounds open only where the property says -/

/-- **Closure of the openings.**  In every reachable state that is not inside a betting round, if an operation — ANY
    operation of the alphabet: a table operation or any action by any seat with any amount — leads to a state inside a
    betting round (`RoundStarted`), then that operation is `ReadyForAll`, it was accepted, the state was waiting for it
    (`ReadyRequested`) on a dealt street (preflop, flop, turn or river), and the street is unchanged.  Hence every opening of a
    betting round satisfies the hypotheses `he`, `hr`, `hopen` of `C04.first_preflop` (or `first_preflop_no_bb`) when the
    street is the preflop, and of `C04.first_postflop` otherwise. -/
theorem openings_complete {g : Game} (h : Reachable g) (op : Op) (hne : g.event ≠ .roundStarted)
    (hopen : (g.step op).1.event = .roundStarted) :
    op = .ready ∧ g.event = .readyRequested ∧ (g.step op).2 = none ∧
    (g.round = .preflop ∨ g.round = .flop ∨ g.round = .turn ∨ g.round = .river) ∧
    (g.step op).1.round = g.round := by
  by_cases hacc : (g.step op).2 = none
  · -- before the first street `ReadyForAll` requests the ante or enters the preflop round: no betting round opens
    obtain ⟨e, haw, hrn, hr, _⟩ := opens_from_outside (inv_reachable h) (flow_reachable h) hne hacc hopen
    refine ⟨e, haw, hacc, ?_, hr⟩
    cases hround : g.round with
    | none => exact absurd hround hrn
    | preflop => exact Or.inl rfl
    | flop => exact Or.inr (Or.inl rfl)
    | turn => exact Or.inr (Or.inr (Or.inl rfl))
    | river => exact Or.inr (Or.inr (Or.inr rfl))
  · have := C04.refused_no_effect h op hacc
    rw [this] at hopen
    exact absurd hopen hne

/-- Inside a betting round no operation "opens" one either: the only way from `RoundStarted` to `RoundStarted` is an
    accepted action of the seat to act (which passes the turn clockwise, `C04.clockwise`) or a refused operation (which
    changes nothing). -/
theorem within_round_only_actions {g : Game} (h : Reachable g) (op : Op) (he : g.event = .roundStarted)
    (hacc : (g.step op).2 = none) : ∃ s a x, op = .act s a x ∧ ByCur g s := by
  obtain ⟨s, a, x, rfl⟩ := accepted_at_started g he op hacc
  refine ⟨s, a, x, rfl, ?_⟩
  cases s with
  | none => exact Or.inl rfl
  | some i => exact Or.inr (by rw [(C04.accepted_only_from_current h i a x hacc).1])

/-! ## No seat holds the big-blind position -/

/-- **Sentence 1 before the flop, the case `C04.first_preflop` does not cover.**  The exact rule the engine follows
    (game.go `StartRound`, model `seekBB`): the search for the big blind walks clockwise from the dealer for at most `n` steps;
    when none of the `n` seats met holds the big-blind position it ends where it began, ON THE DEALER, and the first seat
    asked is the one LEFT OF THE DEALER — the rule of the later streets.  Hypotheses as in `C04.first_preflop`, with "no
    seat on the walk is the big blind" in place of `hbb`/`hno`. -/
theorem first_preflop_no_bb {g : Game} (h : Reachable g) (he : g.event = .readyRequested) (hr : g.round = .preflop)
    (hno : ∀ j < g.n, (g.players[cwIter g.n (j + 1) g.dealerIdx]?).map (·.posBB) = some false)
    (hopen : (g.step .ready).1.event = .roundStarted) :
    (g.step .ready).1.cur = cwNext g.n g.dealerIdx := by
  have hs := (inv_reachable h).struct
  rw [ready_first hs he (by rw [hr]; exact nofun) hopen, if_pos hr,
    bbStop_none g.bbAt g.n g.n g.dealerIdx fun j hj => bbAt_of_map (hno j hj), cwIter_full (dealerIdx_lt hs)]

/-- the same with the hypothesis in its plain form: no player holds the big-blind position -/
theorem first_preflop_no_bb' {g : Game} (h : Reachable g) (he : g.event = .readyRequested) (hr : g.round = .preflop)
    (hno : ∀ p ∈ g.players, p.posBB = false) (hopen : (g.step .ready).1.event = .roundStarted) :
    (g.step .ready).1.cur = cwNext g.n g.dealerIdx :=
  first_preflop_no_bb h he hr
    (fun j _ => walk_no_bb g (dealerIdx_lt (inv_reachable h).struct) hno j) hopen

/-- **On accepted configurations, without the hypothesis that the round opens.**  For every configuration accepted by
    `Start()` in which NO seat is configured as big blind: when some seat's bankroll exceeds ante + the blind it owes, the
    `ReadyForAll` after the forced bets opens the preflop betting round and the first seat asked is the one left of the dealer;
    otherwise the round is closed at once and nobody is offered anything. -/
theorem first_preflop_no_bb_config {c : Config} (h : C13.Accepted c) (hno : ∀ s ∈ c.seats, s.bb = false) :
    ((∃ s ∈ c.seats, C05.CanMove c.opts s) →
      ((afterForcedBets c).step .ready).1.event = .roundStarted ∧
      ((afterForcedBets c).step .ready).1.cur = cwNext c.seats.length (C05.dealerSeat c) ∧
      Reachable ((afterForcedBets c).step .ready).1) ∧
    ((∀ s ∈ c.seats, ¬ C05.CanMove c.opts s) →
      ((afterForcedBets c).step .ready).1.event = .roundClosed ∧
      ∀ p ∈ ((afterForcedBets c).step .ready).1.players, p.allowed = []) := by
  obtain ⟨_, _, _, _, ⟨hev, hrd⟩, _, hreach⟩ := C13.forced_path h
  refine ⟨fun hmove => ?_, C05.preflop_closes h⟩
  have hopen := (C05.preflop_opens_iff h).2.2.1.mpr hmove
  have hpl : ∀ p ∈ (afterForcedBets c).players, p.posBB = false := by
    intro p hp
    obtain ⟨k, hk⟩ := List.getElem?_of_mem hp
    obtain ⟨s, hs, _, _, _, hb, _⟩ := (C13.seats_kept h).2 k p hk
    rw [hb]
    exact hno s (List.mem_of_getElem? hs)
  have hcur := first_preflop_no_bb' hreach hev hrd hpl hopen
  rw [afterForcedBets_n c h.started, C05.dealerIdx_after_forced_bets h] at hcur
  exact ⟨hopen, hcur, hreach.step _⟩

/-! ## Every opening at once -/

/-- **Sentence 1, "play starts …", for EVERY opening of a betting round.**  Whenever an operation takes a reachable state
    from outside a betting round into one, the operation is an accepted `ReadyForAll` on a state waiting for it, and the
    first seat asked is
    * before the flop: the seat left of the first seat holding the big-blind position met walking clockwise from the dealer
      (`j + 1 ≤ n` seats away) — or, when no seat met holds it, the seat left of the dealer;
    * on the flop, the turn and the river: the seat left of the dealer.
    No other case exists (`openings_complete` + `bb_walk_cases`). -/
theorem first_actor_every_opening {g : Game} (h : Reachable g) (op : Op) (hne : g.event ≠ .roundStarted)
    (hopen : (g.step op).1.event = .roundStarted) :
    op = .ready ∧ g.event = .readyRequested ∧
    ((g.round = .preflop ∧
        ((∃ j < g.n, (g.players[cwIter g.n (j + 1) g.dealerIdx]?).map (·.posBB) = some true ∧
            (∀ j' < j, (g.players[cwIter g.n (j' + 1) g.dealerIdx]?).map (·.posBB) = some false) ∧
            (g.step op).1.cur = cwNext g.n (cwIter g.n (j + 1) g.dealerIdx)) ∨
         ((∀ j < g.n, (g.players[cwIter g.n (j + 1) g.dealerIdx]?).map (·.posBB) = some false) ∧
            (g.step op).1.cur = cwNext g.n g.dealerIdx))) ∨
     ((g.round = .flop ∨ g.round = .turn ∨ g.round = .river) ∧ (g.step op).1.cur = cwNext g.n g.dealerIdx)) := by
  obtain ⟨e1, e2, _, hround, _⟩ := openings_complete h op hne hopen
  subst e1
  refine ⟨rfl, e2, ?_⟩
  rcases hround with hr | hr
  · left
    refine ⟨hr, ?_⟩
    have hdl := dealerIdx_lt (inv_reachable h).struct
    rcases bb_walk_cases g (d := g.dealerIdx) hdl with ⟨j, hj, hbb, hno⟩ | hnone
    · exact Or.inl ⟨j, hj, hbb, hno, C04.first_preflop h e2 hr j hj hbb hno hopen⟩
    · exact Or.inr ⟨hnone, first_preflop_no_bb h e2 hr hnone hopen⟩
  · exact Or.inr ⟨hr, C04.first_postflop h e2 hr hopen⟩

/-! ## Non-vacuity -/

theorem acc_exHeadsUp : C13.Accepted C04.exHeadsUp := ⟨⟨⟨by decide +kernel, by decide +kernel, by decide +kernel, by decide +kernel⟩⟩, by decide +kernel⟩

/-- `heads_up_first_actor` on `C04.exHeadsUp` (seat 0 big blind, seat 1 dealer and small blind, 100 chips each): the
    hypotheses hold after `ReadyForAll`, `PayBlinds`, and the dealer (seat 1) is asked -/
example : let g := (start C04.exHeadsUp).1.run [.ready, .payBlinds]
    Reachable g ∧ g.event = .readyRequested ∧ g.round = .preflop ∧ g.n = 2 ∧ g.dealerIdx = 1 ∧
    (g.players[0]?.map (·.posBB)) = some true ∧ (g.step .ready).1.event = .roundStarted ∧ (g.step .ready).1.cur = 1 :=
  ⟨reachable_run acc_exHeadsUp.wf acc_exHeadsUp.started _, by decide +kernel⟩

/-- `heads_up_first_actor_config` on the same table: two seats, seat 0 ≠ dealer seat 1 is the big blind, somebody can move -/
example : C04.exHeadsUp.seats.length = 2 ∧ C05.dealerSeat C04.exHeadsUp = 1 ∧
    (C04.exHeadsUp.seats[0]?.map (·.bb)) = some true ∧ (∃ s ∈ C04.exHeadsUp.seats, C05.CanMove C04.exHeadsUp.opts s) ∧
    ((afterForcedBets C04.exHeadsUp).step .ready).1.cur = 1 :=
  ⟨by decide +kernel, by decide +kernel, by decide +kernel, ⟨_, List.mem_cons_self, by decide +kernel⟩, by decide +kernel⟩
/-- the other branch of `heads_up_first_actor_config`, on `C05.exShort` (5 and 10 chips, both all-in from the blinds) -/
example : (∀ s ∈ C05.exShort.seats, ¬ C05.CanMove C05.exShort.opts s) ∧ C05.exShort.seats.length = 2 := by decide +kernel

/-- `openings_complete`: the three openings of a hand played to the turn on `C05.exCfg` (each from `ReadyRequested` by
    `ReadyForAll`), and operations that do NOT open a round from outside one: `PayBlinds`, `Next` -/
example : let g0 := (start C05.exCfg).1
    let pre := g0.run [.ready, .payBlinds]
    let flop := g0.run (C05.exCalls ++ [.next])
    (pre.event, pre.round, (pre.step .ready).1.event) = (.readyRequested, .preflop, .roundStarted) ∧
    (flop.event, flop.round, (flop.step .ready).1.event, (flop.step .ready).1.cur) =
      (.readyRequested, .flop, .roundStarted, 1) ∧
    ((g0.step .ready).1.step .payBlinds).1.event = .readyRequested ∧
    ((g0.run C05.exCalls).step .next).1.event = .readyRequested ∧ (g0.run C05.exCalls).event = .roundClosed := by decide +kernel

/-- three seats, blinds 5/10, seat 0 posts the small blind, but NO seat is configured as big blind (accepted by `Start()`); dealer at seat 1 -/
def exNoBB : Config :=
  { opts := C04.exCfg.opts,
    seats := [{ bankroll := 100, dealer := false, sb := true, bb := false },
              { bankroll := 100, dealer := true, sb := false, bb := false },
              { bankroll := 100, dealer := false, sb := false, bb := false }] }

/-- heads-up, big blind 10 but no seat holds the big-blind position (the configuration `C12.exDead`); dealer at seat 0 -/
def exNoBBHeadsUp : Config :=
  { opts := Ex.opts 0 0 0 10, seats := [⟨100, true, false, false⟩, ⟨5, false, false, false⟩] }

theorem acc_exNoBB : C13.Accepted exNoBB := ⟨⟨⟨by decide +kernel, by decide +kernel, by decide +kernel, by decide +kernel⟩⟩, by decide +kernel⟩

/-- `first_preflop_no_bb` / `_config` on `exNoBB`: no big blind, somebody can move; the round opens and seat 2 — left of the
    dealer at seat 1 — is asked first; likewise heads-up on `C12.exDead` (dealer seat 0: seat 1 is asked) -/
example : (∀ s ∈ exNoBB.seats, s.bb = false) ∧ (∃ s ∈ exNoBB.seats, C05.CanMove exNoBB.opts s) ∧
    C05.dealerSeat exNoBB = 1 ∧ cwNext exNoBB.seats.length (C05.dealerSeat exNoBB) = 2 ∧
    ((afterForcedBets exNoBB).step .ready).1.event = .roundStarted ∧
    ((afterForcedBets exNoBB).step .ready).1.cur = 2 ∧
    (start exNoBBHeadsUp).2 = none ∧ (((start exNoBBHeadsUp).1.run [.ready, .payBlinds, .ready]).cur = 1) :=
  ⟨by decide +kernel, ⟨_, List.mem_cons_self, by decide +kernel⟩, by decide +kernel, by decide +kernel, by decide +kernel, by decide +kernel, by decide +kernel, by decide +kernel⟩

end Pokerface.C04O

section Axioms
open Pokerface.C04O
#print axioms heads_up_first_actor
#print axioms heads_up_first_actor_config
#print axioms openings_complete
#print axioms within_round_only_actions
#print axioms first_preflop_no_bb
#print axioms first_preflop_no_bb'
#print axioms first_preflop_no_bb_config
#print axioms first_actor_every_opening
end Axioms
