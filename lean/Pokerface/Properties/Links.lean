import Pokerface.Proofs.LinksEngine
import Pokerface.Properties.C02
/-
  Links — END-TO-END statements obtained by composing separately proved properties.

  LINK 1 (C10 ∘ C03 ∘ C14): "the reported hand is the best hand BY THE RULES OF POKER".
    C10 says the published combination is an admissible selection whose SCORE no admissible
    selection exceeds; C14 says all dealt cards are distinct cards of the deck, hence every
    five-card selection is a `C03.Valid` hand; C03 says that on valid hands score order is the
    poker order (`pokerKey`: category position in the ranking table, then tiebreak).  Together:
    no admissible selection beats the published hand under the rules of poker, and the published
    category is the category of the published cards by the rules.

  LINK 2 (C01 ∘ C02 ∘ evaluator): "the showdown of a real hand pays by the rules".
    C01 says the result of a closed hand is `C02.settle g.seats`; the theorems of C02 need
    `C02.Valid` (distinct seats, contributions ≥ 0, POSITIVE strengths for non-folded players —
    settlement.go reads strength 0 as "folded").  `score_pos` (Proofs/LinksScore.lean) shows that
    `CalculatePower` never gives 0 to a non-empty selection of deck cards, so `C02.Valid g.seats`
    holds for every real hand, and each C02 theorem becomes a statement about the engine.

  LINK 3 (C02 ∘ C10 ∘ C03 ∘ C05 ∘ C14): "every layer of the pot goes to the best POKER hand".
    At a showdown between live hands the board is full (C05), so the strengths C02 compares are
    scores of valid five-card hands; C03 turns `level_winners` of C02 into a statement about poker keys.

  Order of the file: the shipped decks and tables, LINK 2, LINK 1, LINK 3, then the example hands.

  Specification-level notions: `PokerConfig T c`, `FiveCardRule m`, `seatOf p` (Proofs/LinksEngine.lean),
  `ShippedTable T` (Proofs/LinksScore.lean), `DeckCardsOK d` (here).
-/
namespace Pokerface.Links
open Pokerface Pokerface.Game Generated

/-! ## The hypotheses hold for the shipped decks and tables -/

/-- What `PokerConfig` asks of the cards of a deck: no duplicates, suits S/H/D/C, ranks 2..14. -/
def DeckCardsOK (d : List Card) : Prop :=
  d.Nodup ∧ (∀ x ∈ d, x.suit ∈ suitCodes) ∧ ∀ x ∈ d, 2 ≤ x.rank ∧ x.rank ≤ 14

instance (d : List Card) : Decidable (DeckCardsOK d) := by unfold DeckCardsOK; infer_instance

/-- deck.go `NewStandardDeckCards()` as cards (regenerated constant). -/
def standardCards : List Card := standardDeck.map Card.ofString
/-- deck.go `NewShortDeckCards()` as cards. -/
def shortCards : List Card := shortDeck.map Card.ofString

/-- the cards with a suit of `ss` and a rank of `rs`, suit by suit -/
def grid (ss rs : List Nat) : List Card := ss.flatMap fun s => rs.map fun r => ⟨s, r⟩

theorem mem_grid {ss rs : List Nat} {x : Card} : x ∈ grid ss rs ↔ x.suit ∈ ss ∧ x.rank ∈ rs := by
  simp only [grid, List.mem_flatMap, List.mem_map]
  constructor
  · rintro ⟨s, hs, r, hr, rfl⟩
    exact ⟨hs, hr⟩
  · intro h
    exact ⟨x.suit, h.1, x.rank, h.2, rfl⟩

theorem nodup_grid {ss rs : List Nat} (hs : ss.Nodup) (hr : rs.Nodup) : (grid ss rs).Nodup := by
  rw [grid, List.Nodup, List.pairwise_flatMap]
  constructor
  · intro s _
    exact List.Pairwise.map _ (fun a b hab h => hab (Card.mk.inj h).2) hr
  · refine hs.imp ?_
    intro s t hst x hx y hy hxy
    obtain ⟨r, _, rfl⟩ := List.mem_map.mp hx
    obtain ⟨r', _, rfl⟩ := List.mem_map.mp hy
    exact hst (Card.mk.inj hxy).1

theorem deckCardsOK_grid {rs : List Nat} (hr : rs.Nodup) (hrs : ∀ r ∈ rs, 2 ≤ r ∧ r ≤ 14) :
    DeckCardsOK (grid suitCodes rs) :=
  ⟨nodup_grid (by decide) hr, fun _ hx => (mem_grid.mp hx).1, fun _ hx => hrs _ (mem_grid.mp hx).2⟩

/-- The 52-card deck is the grid of the four suits and the ranks 2..14 (kernel evaluation of the
    regenerated constant: a changed deck constant breaks the equation; deciding `Nodup` on the
    constant directly would parse every card again in each of the 1326 comparisons). -/
theorem standardCards_eq_grid : standardCards = grid suitCodes (List.range' 2 13) := by decide +kernel

theorem shortCards_eq_grid : shortCards = grid suitCodes (List.range' 6 9) := by decide +kernel

/-- The 52-card deck satisfies the deck hypotheses. -/
theorem standardCards_ok : DeckCardsOK standardCards ∧ standardCards.length = 52 := by
  rw [standardCards_eq_grid]
  exact ⟨deckCardsOK_grid (by decide) (by decide), by decide⟩

/-- The 36-card short deck satisfies them too. -/
theorem shortCards_ok : DeckCardsOK shortCards ∧ shortCards.length = 36 := by
  rw [shortCards_eq_grid]
  exact ⟨deckCardsOK_grid (by decide) (by decide), by decide⟩

/-- The deck hypotheses do not depend on the order of the deck: they hold for every shuffle
    (C14 `shuffle_perm`: `ShuffleCards` returns a permutation). -/
theorem deckCardsOK_of_perm {d d' : List Card} (p : d'.Perm d) (h : DeckCardsOK d) : DeckCardsOK d' :=
  ⟨p.nodup_iff.mpr h.1, fun x hx => h.2.1 x (p.mem_iff.mp hx), fun x hx => h.2.2 x (p.mem_iff.mp hx)⟩

/-- Both shipped ranking tables are `ShippedTable`s (by definition), and the tables the two
    shipped option sets carry are these. -/
theorem shipped_tables : ShippedTable powerStandard ∧ ShippedTable powerShortDeck ∧
    standardOptionsTable = powerStandard ∧ shortDeckOptionsTable = powerShortDeck :=
  ⟨Or.inl rfl, Or.inr rfl, by decide, by decide⟩

/-- Assembling `PokerConfig`: a configuration accepted by `Start()` with non-negative forced
    bets, the shipped sizes, table `T`, a rule in C10's domain, and a deck that is any shuffle of a
    deck `d` with `DeckCardsOK d` holding `seats·hole + 8` cards or more. -/
theorem pokerConfig_of_shuffle {T : List Cat} {c : Config} {d : List Card} (hd : DeckCardsOK d)
    (hperm : c.opts.deck.Perm d) (hlong : c.seats.length * c.opts.holeCount + 8 ≤ d.length)
    (wf : WFConfig c) (hs : (start c).2 = none) (hl : c.opts.lvl = combinationLevel) (ht : c.opts.table = T)
    (hreq : c.opts.required < 5) (hh : c.opts.holeCount ≤ 4) : PokerConfig T c :=
  have h' := deckCardsOK_of_perm hperm hd
  { wf := wf, cards := ⟨h'.1, by simpa only [hperm.length_eq] using hlong⟩, started := hs,
    suits := h'.2.1, ranks := h'.2.2, lvl := hl, table := ht, req := hreq, hole := hh }

/-! ## LINK 2, part 1: the strength is positive -/

/-- With the shipped category sizes and either shipped ranking table,
    `CalculatePower` gives a strictly positive strength to every NON-EMPTY list of cards with
    ranks ≥ 2 that has at most four cards or contains a card above the deuce.  (Any suits, any
    order, any length.  The empty list scores 0; one card is classed "Flush" because `isFlush`
    does not ask for five cards, and so gets a positive offset; five deuces of mixed suits — not
    in any four-suit deck — would score 0.  See the examples in Proofs/LinksScore.lean.) -/
theorem score_pos {T : List Cat} (hT : ShippedTable T) (cards : List Card)
    (hne : cards ≠ []) (hr : ∀ c ∈ cards, 2 ≤ c.rank)
    (hd : cards.length ≤ 4 ∨ ∃ c ∈ cards, 2 < c.rank) :
    0 < (calculatePower combinationLevel T cards).score :=
  Pokerface.score_pos hT cards hne hr hd

/-- In particular every non-empty list of distinct cards of a four-suit deck gets a positive strength. -/
theorem score_pos_of_distinct {T : List Cat} (hT : ShippedTable T) (cards : List Card)
    (hne : cards ≠ []) (hn : cards.Nodup) (hs : ∀ c ∈ cards, c.suit ∈ suitCodes) (hr : ∀ c ∈ cards, 2 ≤ c.rank) :
    0 < (calculatePower combinationLevel T cards).score :=
  Pokerface.score_pos_of_distinct hT cards hne hn hs hr

example : 0 < (calculatePower combinationLevel powerShortDeck [⟨83, 6⟩, ⟨72, 6⟩]).score :=
  score_pos (Or.inr rfl) _ (by decide) (by decide) (by decide)

/-- Every published strength is positive from the deal on: for a `PokerConfig` with a shipped
    table and `HoleCardsCount ≥ 1` (with no hole cards the preflop selection is empty and scores 0),
    in every state whose round is not "none" every seat has a combination with `Power > 0`. -/
theorem published_strength_pos {T : List Cat} (hT : ShippedTable T) {cfg : Config} (hc : PokerConfig T cfg)
    (h1 : 1 ≤ cfg.opts.holeCount) (ops : List Op) :
    let g := (start cfg).1.run ops
    g.round ≠ .none → ∀ p ∈ g.players, ∃ c, p.comb = some c ∧ 0 < c.power :=
  comb_power_pos hT hc h1 ops

/-! ## LINK 2, part 2: the seats of a real hand are in the domain of C02 -/

/-- From the deal on, the players of a real hand — as the `C02.Seat` records `g.seats` (seat
    index, bankroll, chips put in = `pot + wager`, fold flag, published strength) — satisfy
    `C02.Valid`: distinct seat indices, contributions ≥ 0, positive strength for every non-folded
    player (here even for the folded ones). -/
theorem seats_valid_from_deal {T : List Cat} (hT : ShippedTable T) {cfg : Config} (hc : PokerConfig T cfg)
    (h1 : 1 ≤ cfg.opts.holeCount) (ops : List Op) :
    let g := (start cfg).1.run ops
    g.round ≠ .none → C02.Valid g.seats := by
  intro g hr
  exact seats_valid_of_pos (hc.reach ops) (fun p hp _ => comb_power_pos hT hc h1 ops hr p hp)

/-- For every hand of a `PokerConfig` with a shipped table and at least one
    hole card, and every history that ends in `GameClosed` — showdown on the river, everybody
    else folded before or after the flop, all-in run-outs —, the seats handed to the settlement
    are in the domain of C02. -/
theorem showdown_valid {T : List Cat} (hT : ShippedTable T) {cfg : Config} (hc : PokerConfig T cfg)
    (h1 : 1 ≤ cfg.opts.holeCount) (ops : List Op) :
    let g := (start cfg).1.run ops
    g.event = .gameClosed → C02.Valid g.seats := by
  intro g he
  exact seats_valid_from_deal hT hc h1 ops (round_ne_none_of_closed (hc.reach ops) he)

/-- The result of the closed hand in C02's terms: it is `C02.settle g.seats` (C01), and its player
    list is, seat by seat, `(idx, bankroll + changed, changed)` with `changed = C02.changed g.seats idx`
    — so the corollaries below, stated with `C02.changed g.seats`, speak about `g.result`. -/
theorem showdown_result {T : List Cat} (hT : ShippedTable T) {cfg : Config} (hc : PokerConfig T cfg)
    (h1 : 1 ≤ cfg.opts.holeCount) (ops : List Op) :
    let g := (start cfg).1.run ops
    g.event = .gameClosed →
    ∃ r, g.result = some r ∧ r = C02.settle g.seats ∧
      r.players = g.players.map (fun p => ({ idx := p.idx, finalStack := p.bankroll + C02.changed g.seats p.idx,
                                             changed := C02.changed g.seats p.idx } : PlayerResult)) := by
  intro g he
  refine ⟨_, C01.closed_result_is_settle (hc.reach ops) he, rfl, ?_⟩
  rw [C02.final_eq g.seats (showdown_valid hT hc h1 ops he), seats_eq, List.map_map]
  rfl

section Corollaries
variable {T : List Cat} (hT : ShippedTable T) {cfg : Config} (hc : PokerConfig T cfg)
  (h1 : 1 ≤ cfg.opts.holeCount) (ops : List Op)
include hT hc h1

/-- "A folded player wins nothing", for the engine: in a closed hand no folded player has a
    positive change (C02 `folded_wins_nothing` applied to `g.seats`). -/
theorem showdown_folded_wins_nothing (he : ((start cfg).1.run ops).event = .gameClosed)
    (p : Player) (hp : p ∈ ((start cfg).1.run ops).players) (hf : p.fold = true) :
    C02.changed ((start cfg).1.run ops).seats p.idx ≤ 0 :=
  C02.folded_wins_nothing _ (showdown_valid hT hc h1 ops he) (seatOf p) (mem_seats hp) hf

/-- A folded player loses the whole stake as soon as a player still in the hand put in at least as much. -/
theorem showdown_folded_loses_stake (he : ((start cfg).1.run ops).event = .gameClosed)
    (p q : Player) (hp : p ∈ ((start cfg).1.run ops).players) (hq : q ∈ ((start cfg).1.run ops).players)
    (hf : p.fold = true) (hqf : q.fold = false) (hle : p.pot + p.wager ≤ q.pot + q.wager) :
    C02.changed ((start cfg).1.run ops).seats p.idx = -(p.pot + p.wager) :=
  C02.folded_loses_stake _ (showdown_valid hT hc h1 ops he) (seatOf p) (mem_seats hp) hf (seatOf q) (mem_seats hq) hqf hle

/-- "Chips only move between players": the changes of a closed hand add up to zero (C02 `zero_sum`). -/
theorem showdown_zero_sum (he : ((start cfg).1.run ops).event = .gameClosed) :
    (((start cfg).1.run ops).players.map fun p => C02.changed ((start cfg).1.run ops).seats p.idx).sum = 0 := by
  simpa [seats_eq, List.map_map, Function.comp_def, seatOf] using
    C02.zero_sum _ (showdown_valid hT hc h1 ops he)

/-- "Nobody loses more than they put in" (C02 `loses_at_most_stake`). -/
theorem showdown_loses_at_most_stake (he : ((start cfg).1.run ops).event = .gameClosed)
    (p : Player) (hp : p ∈ ((start cfg).1.run ops).players) :
    -(p.pot + p.wager) ≤ C02.changed ((start cfg).1.run ops).seats p.idx :=
  C02.loses_at_most_stake _ (showdown_valid hT hc h1 ops he) (seatOf p) (mem_seats hp)

/-- "Nobody wins from a layer they did not pay into (a short all-in collects at most its own stake
    from each opponent)" (C02 `no_gain_from_unpaid_layer`): the change of `p` is at most the sum over
    the other seats of `min (their chips in) (p's chips in)`. -/
theorem showdown_no_gain_from_unpaid_layer (he : ((start cfg).1.run ops).event = .gameClosed)
    (p : Player) (hp : p ∈ ((start cfg).1.run ops).players) :
    C02.changed ((start cfg).1.run ops).seats p.idx ≤
      ((((start cfg).1.run ops).seats.filter (fun t => t.idx != p.idx)).map
        (fun t => min t.contrib (p.pot + p.wager))).sum :=
  C02.no_gain_from_unpaid_layer _ (showdown_valid hT hc h1 ops he) (seatOf p) (mem_seats hp)

/-- "Tied winners of the same pot split it equally, their shares differing by at most one chip"
    (C02 `tie_fair`), for the pots the engine PUBLISHES: `pot` is the published pot at position
    `pre.length` of `g.pots`, `pr` the record at the same position of the result; `p`, `q` are
    non-folded players who paid into it (chips in ≥ its level) with the same published strength,
    the best among the non-folded players who paid into it. -/
theorem showdown_tie_fair (he : ((start cfg).1.run ops).event = .gameClosed)
    (pre post : List Pot) (pot : Pot) (hpots : ((start cfg).1.run ops).pots = pre ++ pot :: post)
    (r : Result) (hr : ((start cfg).1.run ops).result = some r) (pr : PotResult) (hpr : r.pots[pre.length]? = some pr)
    (p q : Player) (hp : p ∈ ((start cfg).1.run ops).players) (hq : q ∈ ((start cfg).1.run ops).players)
    (hpf : p.fold = false) (hqf : q.fold = false)
    (hpe : pot.level ≤ p.pot + p.wager) (hqe : pot.level ≤ q.pot + q.wager)
    (htie : (seatOf p).score = (seatOf q).score)
    (hbest : ∀ t ∈ ((start cfg).1.run ops).players, t.fold = false → pot.level ≤ t.pot + t.wager →
      (seatOf t).score ≤ (seatOf p).score) :
    (C02.potShare pr p.idx - C02.potShare pr q.idx).natAbs ≤ 1 := by
  have hR := hc.reach ops
  obtain rfl := result_eq_settle hR he hr
  have hp' : potsOf (C02.entriesOf ((start cfg).1.run ops).seats) = pre ++ pot :: post := by
    rw [entriesOf_seats, ← (C01.pots_published hR (Or.inr he)).1]
    exact hpots
  exact C02.tie_fair _ (showdown_valid hT hc h1 ops he) pre post pot hp' pr hpr (seatOf p) (seatOf q)
    (mem_seats hp) (mem_seats hq) hpf hqf hpe hqe htie (forall_mem_seats.mpr hbest)

end Corollaries

/-- "An uncalled excess goes back to its owner", for the engine (C02 `excess_returned` applied to
    `g.seats`, like the other `showdown_*` corollaries): in a closed hand of a `PokerConfig` with a
    shipped table and at least one hole card, if every OTHER seat put in at most `m` chips
    (`pot + wager ≤ m`, `m ≥ 0`) and player `p` put in more than `m`, then `p` loses at most `m`:
    the part of `p`'s stake above `m`, which nobody called, comes back (take for `m` the largest
    amount put in by another seat). -/
theorem showdown_excess_returned {T : List Cat} (hT : ShippedTable T) {cfg : Config} (hc : PokerConfig T cfg)
    (h1 : 1 ≤ cfg.opts.holeCount) (ops : List Op)
    (he : ((start cfg).1.run ops).event = .gameClosed)
    (p : Player) (hp : p ∈ ((start cfg).1.run ops).players) (m : Int) (hm : 0 ≤ m)
    (hothers : ∀ q ∈ ((start cfg).1.run ops).players, q.idx ≠ p.idx → q.pot + q.wager ≤ m)
    (hlt : m < p.pot + p.wager) :
    -m ≤ C02.changed ((start cfg).1.run ops).seats p.idx :=
  C02.excess_returned _ (showdown_valid hT hc h1 ops he) (seatOf p) (mem_seats hp) m hm (forall_mem_seats.mpr hothers) hlt

/-! ## LINK 1: the reported hand is the best hand by the rules of poker -/

/-- Standard ranking table.  For every `PokerConfig` with the
    standard table and every history: whenever at least three community cards are on the board,
    every seat has a published combination `c` such that
    * its cards are, up to order, an admissible selection of that seat's own hole cards and the board;
    * for every admissible selection `s` with five cards (all admissible selections of a seat
      have the same size; it is five under `FiveCardRule`, see `five_cards_from_flop`):
      the published cards and `s` are `C03.Valid` hands, the published category is the category
      the rules of poker give to the published cards, and `s` does NOT beat the published hand
      in the poker order (`pokerKey`: position of the category in the table, then tiebreak). -/
theorem reported_hand_is_poker_best {cfg : Config} (hc : PokerConfig powerStandard cfg) (ops : List Op) :
    let g := (start cfg).1.run ops
    3 ≤ g.board.length →
    ∀ p ∈ g.players, ∃ c, p.comb = some c ∧
      (∃ sel, Admissible g.board p.hole cfg.opts.required sel ∧ c.cards.Perm sel) ∧
      ∀ s, Admissible g.board p.hole cfg.opts.required s → s.length = 5 →
        C03.Valid c.cards ∧ C03.Valid s ∧
        c.cat = some (C03.specCat (C03.ranks c.cards) (C03.sameSuit c.cards)) ∧
        ¬ C03.pokerKey powerStandard c.cards < C03.pokerKey powerStandard s := by
  intro g hb p hp
  have hne : g.board ≠ [] := List.ne_nil_of_length_pos (by omega)
  obtain ⟨c, hcomb, hsel, hall⟩ := reported_poker_best_of hc ops (fun _ => True)
    (fun h₁ h₂ v₁ v₂ _ _ => C03.score_lt_iff_standard h₁ h₂ v₁ v₂) (Or.inl hne) p hp
  refine ⟨c, hcomb, hsel, fun s hs h5 => ?_⟩
  obtain ⟨v1, v2, hcat, hkey⟩ := hall s hs h5
  exact ⟨v1, v2, hcat, hkey trivial trivial⟩

/-- The same for the short-deck table (flush above
    full house), with C03's exclusion: the comparison is claimed for hands other than A-9-8-7-6,
    whose class the property leaves open. -/
theorem reported_hand_is_poker_best_shortDeck {cfg : Config} (hc : PokerConfig powerShortDeck cfg) (ops : List Op) :
    let g := (start cfg).1.run ops
    3 ≤ g.board.length →
    ∀ p ∈ g.players, ∃ c, p.comb = some c ∧
      (∃ sel, Admissible g.board p.hole cfg.opts.required sel ∧ c.cards.Perm sel) ∧
      ∀ s, Admissible g.board p.hole cfg.opts.required s → s.length = 5 →
        C03.Valid c.cards ∧ C03.Valid s ∧
        c.cat = some (C03.specCat (C03.ranks c.cards) (C03.sameSuit c.cards)) ∧
        (C03.isA6789 c.cards = false → C03.isA6789 s = false →
          ¬ C03.pokerKey powerShortDeck c.cards < C03.pokerKey powerShortDeck s) := by
  intro g hb p hp
  have hne : g.board ≠ [] := List.ne_nil_of_length_pos (by omega)
  exact reported_poker_best_of hc ops (fun h => C03.isA6789 h = false)
    (fun h₁ h₂ v₁ v₂ x₁ x₂ => C03.score_lt_iff_shortDeck h₁ h₂ v₁ v₂ x₁ x₂) (Or.inl hne) p hp

/-- Under the rules the engine ships (hold'em: any five, two hole cards; Omaha-like: exactly two
    of four) the five-card clause above is no restriction: from the flop on EVERY admissible
    selection has five cards. -/
theorem five_cards_from_flop {T : List Cat} {cfg : Config} (hc : PokerConfig T cfg) (h5 : FiveCardRule cfg.opts)
    (ops : List Op) :
    let g := (start cfg).1.run ops
    3 ≤ g.board.length → ∀ p ∈ g.players, ∀ s, Admissible g.board p.hole cfg.opts.required s → s.length = 5 :=
  fun hb _ hp _ hs => Pokerface.five_cards_from_flop hc h5 ops hp hb hs

/-! ## LINK 3 (C02 ∘ C10 ∘ C03 ∘ C05 ∘ C14): every layer goes to the best POKER hand

At a showdown between live hands the board is full (C05), so — under a five-card rule — the
strengths the settlement compares are scores of valid five-card hands, each the best its owner can
form (LINK 1); C03 turns the comparison of scores into the comparison of poker keys, and C02's
`level_winners` becomes: the winners of a layer are exactly the non-folded players who paid into
it and whose best hand is not beaten, under the rules of poker, by the best hand of any other such
player. -/

/-- The comparison the settlement makes between two seats at a showdown is the poker order of
    their published hands, for any ranking table `T` for which score order and poker order agree
    on the valid hands satisfying `ok` (as in `reported_poker_best_of`). -/
theorem showdown_strength_order_of {T : List Cat} {cfg : Config} (hc : PokerConfig T cfg)
    (h5 : FiveCardRule cfg.opts) (ops : List Op) (ok : List Card → Prop)
    (hlt : ∀ h₁ h₂, C03.Valid h₁ → C03.Valid h₂ → ok h₁ → ok h₂ →
      ((calculatePower combinationLevel T h₁).score < (calculatePower combinationLevel T h₂).score
        ↔ C03.pokerKey T h₁ < C03.pokerKey T h₂)) :
    let g := (start cfg).1.run ops
    g.event = .gameClosed → 2 ≤ g.aliveCount →
    ∀ p ∈ g.players, ∀ q ∈ g.players, ∀ c d, p.comb = some c → q.comb = some d → ok c.cards → ok d.cards →
      ((seatOf q).score ≤ (seatOf p).score ↔ ¬ C03.pokerKey T c.cards < C03.pokerKey T d.cards) := by
  intro g he h2 p hp q hq c d hpc hqd hxc hxd
  obtain ⟨_, hall⟩ := showdown_hand hc h5 ops he h2
  obtain ⟨c', hc', hvc, _, hpc'⟩ := hall p hp
  obtain ⟨d', hd', hvd, _, hpd'⟩ := hall q hq
  rw [hpc] at hc'
  cases hc'
  rw [hqd] at hd'
  cases hd'
  rw [seatOf_score hpc, seatOf_score hqd, ← hlt _ _ hvc hvd hxc hxd, ← hpc', ← hpd']
  omega

/-- The comparison the settlement makes between two seats at a showdown IS the poker order of
    their published hands (standard table): `q`'s strength is at most `p`'s iff `p`'s hand does not
    lose to `q`'s. -/
theorem showdown_strength_order {cfg : Config} (hc : PokerConfig powerStandard cfg) (h5 : FiveCardRule cfg.opts)
    (ops : List Op) :
    let g := (start cfg).1.run ops
    g.event = .gameClosed → 2 ≤ g.aliveCount →
    ∀ p ∈ g.players, ∀ q ∈ g.players, ∀ c d, p.comb = some c → q.comb = some d →
      ((seatOf q).score ≤ (seatOf p).score ↔
        ¬ C03.pokerKey powerStandard c.cards < C03.pokerKey powerStandard d.cards) :=
  fun he h2 p hp q hq c d hpc hqd =>
    showdown_strength_order_of hc h5 ops (fun _ => True)
      (fun h₁ h₂ v₁ v₂ _ _ => C03.score_lt_iff_standard h₁ h₂ v₁ v₂) he h2 p hp q hq c d hpc hqd trivial trivial

/-- The same for the short-deck table, for hands other than A-9-8-7-6 (C03's exclusion). -/
theorem showdown_strength_order_shortDeck {cfg : Config} (hc : PokerConfig powerShortDeck cfg)
    (h5 : FiveCardRule cfg.opts) (ops : List Op) :
    let g := (start cfg).1.run ops
    g.event = .gameClosed → 2 ≤ g.aliveCount →
    ∀ p ∈ g.players, ∀ q ∈ g.players, ∀ c d, p.comb = some c → q.comb = some d →
      C03.isA6789 c.cards = false → C03.isA6789 d.cards = false →
      ((seatOf q).score ≤ (seatOf p).score ↔
        ¬ C03.pokerKey powerShortDeck c.cards < C03.pokerKey powerShortDeck d.cards) :=
  showdown_strength_order_of hc h5 ops (fun h => C03.isA6789 h = false)
    (fun h₁ h₂ v₁ v₂ x₁ x₂ => C03.score_lt_iff_shortDeck h₁ h₂ v₁ v₂ x₁ x₂)

/-- Engine form of C02 `level_winners`, given that the strength comparison is the poker order
    `key` of the published cards (used for both tables below). -/
theorem showdown_winners_of {T : List Cat} (hT : ShippedTable T) {cfg : Config} (hc : PokerConfig T cfg)
    (h5 : FiveCardRule cfg.opts) (ops : List Op)
    (he : ((start cfg).1.run ops).event = .gameClosed) (h2 : 2 ≤ ((start cfg).1.run ops).aliveCount)
    (hord : ∀ p ∈ ((start cfg).1.run ops).players, ∀ q ∈ ((start cfg).1.run ops).players, ∀ c d,
      p.comb = some c → q.comb = some d →
      ((seatOf q).score ≤ (seatOf p).score ↔ ¬ C03.pokerKey T c.cards < C03.pokerKey T d.cards))
    (r : Result) (hr : ((start cfg).1.run ops).result = some r) (pr : PotResult) (hpr : pr ∈ r.pots)
    (li : LevelInfo) (hli : li ∈ pr.levels)
    (hex : ∃ t ∈ ((start cfg).1.run ops).players, t.fold = false ∧ li.level ≤ t.pot + t.wager) (i : Nat) :
    i ∈ levelWinners li ↔
      ∃ p ∈ ((start cfg).1.run ops).players, ∃ c, p.comb = some c ∧ p.idx = i ∧ p.fold = false ∧
        li.level ≤ p.pot + p.wager ∧
        ∀ q ∈ ((start cfg).1.run ops).players, ∀ d, q.comb = some d → q.fold = false →
          li.level ≤ q.pot + q.wager → ¬ C03.pokerKey T c.cards < C03.pokerKey T d.cards := by
  have h1 : 1 ≤ cfg.opts.holeCount := holeCount_of_rule h5
  obtain rfl := result_eq_settle (hc.reach ops) he hr
  obtain ⟨_, hall⟩ := showdown_hand hc h5 ops he h2
  rw [C02.level_winners _ (showdown_valid hT hc h1 ops he) pr hpr li hli (exists_mem_seats.mpr hex) i, exists_mem_seats]
  simp only [forall_mem_seats]
  -- seat by seat: the published combination exists (`hall`), and `hord` turns the comparison of strengths into that of poker keys
  refine exists_congr fun p => and_congr_right fun hp => ?_
  obtain ⟨c, hcomb, _⟩ := hall p hp
  constructor
  · rintro ⟨hi, hf, hl, hmax⟩
    exact ⟨c, hcomb, hi, hf, hl, fun q hq d hqd hqf hql => (hord p hp q hq c d hcomb hqd).mp (hmax q hq hqf hql)⟩
  · rintro ⟨c', hc', hi, hf, hl, hmax⟩
    refine ⟨hi, hf, hl, fun q hq hqf hql => ?_⟩
    obtain ⟨d, hqd, _⟩ := hall q hq
    exact (hord p hp q hq c' d hc' hqd).mpr (hmax q hq d hqd hqf hql)

/-- Standard table.  "Every layer of the pot goes to the best-ranked
    hand or hands among the non-folded players who paid into that layer", with "best-ranked" read
    by the rules of poker: at a showdown with at least two live players, for every level `li` kept
    in the result of the engine that has a non-folded contributor, seat `i` is credited as a winner of
    the level iff `i` is a non-folded player who put in at least the level and whose published
    five-card hand (its best hand, LINK 1) loses to the published hand of no non-folded player who
    put in at least the level. -/
theorem showdown_winners_by_poker {cfg : Config} (hc : PokerConfig powerStandard cfg) (h5 : FiveCardRule cfg.opts)
    (ops : List Op)
    (he : ((start cfg).1.run ops).event = .gameClosed) (h2 : 2 ≤ ((start cfg).1.run ops).aliveCount)
    (r : Result) (hr : ((start cfg).1.run ops).result = some r) (pr : PotResult) (hpr : pr ∈ r.pots)
    (li : LevelInfo) (hli : li ∈ pr.levels)
    (hex : ∃ t ∈ ((start cfg).1.run ops).players, t.fold = false ∧ li.level ≤ t.pot + t.wager) (i : Nat) :
    i ∈ levelWinners li ↔
      ∃ p ∈ ((start cfg).1.run ops).players, ∃ c, p.comb = some c ∧ p.idx = i ∧ p.fold = false ∧
        li.level ≤ p.pot + p.wager ∧
        ∀ q ∈ ((start cfg).1.run ops).players, ∀ d, q.comb = some d → q.fold = false →
          li.level ≤ q.pot + q.wager →
          ¬ C03.pokerKey powerStandard c.cards < C03.pokerKey powerStandard d.cards :=
  showdown_winners_of (Or.inl rfl) hc h5 ops he h2 (showdown_strength_order hc h5 ops he h2) r hr pr hpr li hli hex i

/-- The same for the short-deck table, when no published
    hand is A-9-8-7-6 (C03's exclusion, as a hypothesis on the hands at this showdown). -/
theorem showdown_winners_by_poker_shortDeck {cfg : Config} (hc : PokerConfig powerShortDeck cfg)
    (h5 : FiveCardRule cfg.opts) (ops : List Op)
    (he : ((start cfg).1.run ops).event = .gameClosed) (h2 : 2 ≤ ((start cfg).1.run ops).aliveCount)
    (hx : ∀ p ∈ ((start cfg).1.run ops).players, ∀ c, p.comb = some c → C03.isA6789 c.cards = false)
    (r : Result) (hr : ((start cfg).1.run ops).result = some r) (pr : PotResult) (hpr : pr ∈ r.pots)
    (li : LevelInfo) (hli : li ∈ pr.levels)
    (hex : ∃ t ∈ ((start cfg).1.run ops).players, t.fold = false ∧ li.level ≤ t.pot + t.wager) (i : Nat) :
    i ∈ levelWinners li ↔
      ∃ p ∈ ((start cfg).1.run ops).players, ∃ c, p.comb = some c ∧ p.idx = i ∧ p.fold = false ∧
        li.level ≤ p.pot + p.wager ∧
        ∀ q ∈ ((start cfg).1.run ops).players, ∀ d, q.comb = some d → q.fold = false →
          li.level ≤ q.pot + q.wager →
          ¬ C03.pokerKey powerShortDeck c.cards < C03.pokerKey powerShortDeck d.cards :=
  showdown_winners_of (Or.inr rfl) hc h5 ops he h2
    (fun p hp q hq c d hpc hqd =>
      showdown_strength_order_shortDeck hc h5 ops he h2 p hp q hq c d hpc hqd (hx p hp c hpc) (hx q hq d hqd))
    r hr pr hpr li hli hex i

/-! ## Non-vacuity: a three-seat hand on the 52-card deck, one fold, a tie with an odd chip -/
namespace Examples

def cs (l : List String) : List Card := l.map Card.ofString

/-- the 14 cards that get dealt: seat 0 holds A♥ 2♦, seat 1 5♥ 6♦, seat 2 A♦ 3♣;
    burn, flop A♣ K♠ 9♥, burn, turn 7♦, burn, river 4♣ -/
def top : List Card :=
  cs ["HA", "D2", "H5", "D6", "DA", "C3", "S2", "CA", "SK", "H9", "S3", "D7", "S4", "C4"]

/-- a shuffle of `NewStandardDeckCards()`: those 14 cards on top, the other 38 in deck order -/
def exDeck : List Card := top ++ standardCards.filter (fun c => !top.contains c)

def exMeta : Meta :=
  { ante := 0, blindDealer := 0, blindSB := 5, blindBB := 10, potLimit := false, holeCount := 2, required := 0,
    lvl := combinationLevel, table := powerStandard, deck := exDeck }

/-- dealer, small blind, big blind with 100 chips each -/
def exCfg : Config :=
  { opts := exMeta, seats := [⟨100, true, false, false⟩, ⟨100, false, true, false⟩, ⟨100, false, false, true⟩] }

theorem perm_front {l t : List Card} (hl : l.Nodup) (ht : t.Nodup) (hsub : ∀ x ∈ t, x ∈ l) :
    (t ++ l.filter (fun c => !t.contains c)).Perm l := by
  refine (List.Perm.append_right _ ?_).trans (List.filter_append_perm (fun c => t.contains c) l)
  rw [List.perm_ext_iff_of_nodup ht (hl.filter _)]
  intro a
  rw [List.mem_filter, List.contains_iff_mem]
  exact ⟨fun h => ⟨hsub a h, h⟩, fun h => h.2⟩

/-- the 14 card strings of `top` read once -/
theorem top_eq : top = [⟨72, 14⟩, ⟨68, 2⟩, ⟨72, 5⟩, ⟨68, 6⟩, ⟨68, 14⟩, ⟨67, 3⟩, ⟨83, 2⟩, ⟨67, 14⟩, ⟨83, 13⟩, ⟨72, 9⟩,
    ⟨83, 3⟩, ⟨68, 7⟩, ⟨83, 4⟩, ⟨67, 4⟩] := by decide +kernel

theorem exDeck_perm : exDeck.Perm standardCards := by
  have h : top.Nodup ∧ ∀ x ∈ top, x.suit ∈ suitCodes ∧ x.rank ∈ List.range' 2 13 := by
    rw [top_eq]
    decide +kernel
  refine perm_front standardCards_ok.1.1 h.1 (fun x hx => ?_)
  rw [standardCards_eq_grid]
  exact mem_grid.mpr (h.2 x hx)

/-- the hypotheses of all theorems of this file hold for that configuration -/
theorem exPC : PokerConfig powerStandard exCfg :=
  pokerConfig_of_shuffle standardCards_ok.1 exDeck_perm (by decide +kernel)
    ⟨⟨by decide, by decide, by decide, by decide⟩⟩ (by decide +kernel) rfl rfl (by decide) (by decide)

theorem exRule : FiveCardRule exCfg.opts := Or.inl ⟨rfl, by decide⟩

/-- a street on which the folded small blind passes and the two others check -/
def street : List Op := [.ready, .act none .pass 0, .act none .check 0, .act none .check 0]
/-- the dealer calls, the small blind folds, the big blind checks; three streets are checked down -/
def exOps : List Op :=
  [.ready, .payBlinds, .ready, .act none .call 0, .act none .fold 0, .act none .check 0, .next] ++
    street ++ [.next] ++ street ++ [.next] ++ street ++ [.next]

def gEnd : Game := (start exCfg).1.run exOps

/-- the hand of `exOps` before its last `next`, written out: river, checked down and closed; 10, 5 (folded) and 10 chips in one pot -/
def gRiverLit : Game :=
  { opts := exMeta
    players := [
      { idx := 0, posDealer := true, posSB := false, posBB := false, bankroll := 100, initial := 90, stack := 90, pot := 10,
        hole := cs ["HA", "D2"],
        comb := some { cat := some .pair, cards := cs ["HA", "CA", "SK", "H9", "D7"], power := 399612 } },
      { idx := 1, posDealer := false, posSB := true, posBB := false, fold := true, bankroll := 100, initial := 95, stack := 95,
        pot := 5, hole := cs ["H5", "D6"],
        comb := some { cat := some .highCard, cards := cs ["CA", "SK", "H9", "D7", "D6"], power := 368151 } },
      { idx := 2, posDealer := false, posSB := false, posBB := true, bankroll := 100, initial := 90, stack := 90, pot := 10,
        hole := cs ["DA", "C3"],
        comb := some { cat := some .pair, cards := cs ["DA", "CA", "SK", "H9", "D7"], power := 399612 } }]
    miniBet := 10
    pots := [⟨10, 10, 25, [(0, 10), (1, 5), (2, 10)], [⟨5, 5, 15, [0, 1, 2]⟩, ⟨10, 5, 10, [0, 2]⟩]⟩]
    round := .river
    burned := cs ["S2", "S3", "S4"]
    board := cs ["CA", "SK", "H9", "D7", "C4"]
    deckPos := 14
    event := .roundClosed }

/-- The hand is evaluated here, up to the settlement; what is said about `gEnd` below is one `next` on `gRiverLit`. -/
theorem gEnd_eq : gEnd = (gRiverLit.step .next).1 := by
  have h : (start exCfg).1.run exOps.dropLast = gRiverLit :=
    Game.ext_fields (Game.opts_run exCfg _) (by decide +kernel)
  have e : exOps = exOps.dropLast ++ [.next] := by decide
  rw [gEnd, e, run_append, h]
  rfl

/-- The hand is played to a showdown: closed on the river with a full board, seat 1 folded, seats 0
    and 2 tie with aces, K-9-7 (their deuce and trey do not play); the pot of 25 is split 13/12:
    changes +3, −5, +2. -/
theorem gEnd_facts :
    gEnd.event = .gameClosed ∧ gEnd.round = .river ∧ gEnd.board = cs ["CA", "SK", "H9", "D7", "C4"] ∧ gEnd.aliveCount = 2 ∧
    gEnd.players.map (fun p => (p.fold, p.comb.map fun c => (c.cat, c.cards))) =
      [(false, some (some .pair, cs ["HA", "CA", "SK", "H9", "D7"])),
       (true, some (some .highCard, cs ["CA", "SK", "H9", "D7", "D6"])),
       (false, some (some .pair, cs ["DA", "CA", "SK", "H9", "D7"]))] ∧
    gEnd.pots.map (fun p => (p.level, p.total)) = [(10, 25)] ∧
    gEnd.result.map (fun r => r.players.map fun p => (p.idx, p.finalStack, p.changed)) =
      some [(0, 103, 3), (1, 95, -5), (2, 102, 2)] := by
  rw [gEnd_eq]
  decide +kernel

/-- the seats the settlement is given at the end of that hand -/
theorem gEnd_seats_eq : gEnd.seats =
    [⟨0, 100, 10, false, 399612⟩, ⟨1, 100, 5, true, 368151⟩, ⟨2, 100, 10, false, 399612⟩] := by
  rw [gEnd_eq]
  decide +kernel

/-- `showdown_valid` applies to it. -/
example : C02.Valid gEnd.seats := showdown_valid (Or.inl rfl) exPC (by decide) exOps gEnd_facts.1

/-- The strengths are those of the two tied pairs of aces and (folded) a lower hand, all positive. -/
example : gEnd.seats.map (fun s => (s.idx, s.contrib, s.folded)) = [(0, 10, false), (1, 5, true), (2, 10, false)] ∧
    (gEnd.seats.map (·.score))[0]? = (gEnd.seats.map (·.score))[2]? ∧ ∀ s ∈ gEnd.seats, 0 < s.score := by
  rw [gEnd_seats_eq]
  decide +kernel

/-- `showdown_zero_sum` and `showdown_folded_wins_nothing` speak about the changes 3, −5, 2. -/
example : gEnd.players.map (fun p => C02.changed gEnd.seats p.idx) = [3, -5, 2] := by
  have h := map_seats gEnd (fun s => C02.changed gEnd.seats s.idx)
  rw [gEnd_seats_eq] at h ⊢
  exact h.symm.trans (by decide +kernel)

theorem gEnd_seats : gEnd.players.length = 3 := by
  have h := congrArg List.length gEnd_seats_eq
  rw [seats_eq, List.length_map] at h
  exact h

/-- The hypotheses of `showdown_tie_fair` hold for the published pot and seats 0 and 2 (not folded,
    paid into the pot, equal strength, the best among those who paid in), whose shares are 13
    and 12. -/
example : ∃ pot, gEnd.pots = [] ++ pot :: [] ∧ ∃ p ∈ gEnd.players, ∃ q ∈ gEnd.players,
    p.idx = 0 ∧ q.idx = 2 ∧ p.fold = false ∧ q.fold = false ∧
    pot.level ≤ p.pot + p.wager ∧ pot.level ≤ q.pot + q.wager ∧ (seatOf p).score = (seatOf q).score ∧
    (∀ t ∈ gEnd.players, t.fold = false → pot.level ≤ t.pot + t.wager → (seatOf t).score ≤ (seatOf p).score) ∧
    (C02.settle gEnd.seats).pots.map (fun pr => (C02.potShare pr 0, C02.potShare pr 2)) = [(13, 12)] := by
  rw [gEnd_eq]
  exact ⟨(gRiverLit.step .next).1.pots[0]!, by decide +kernel, (gRiverLit.step .next).1.players[0]'(by decide +kernel),
    List.getElem_mem _, (gRiverLit.step .next).1.players[2]'(by decide +kernel), List.getElem_mem _, by decide +kernel⟩

/-- LINK 1 on that hand: `reported_hand_is_poker_best` applies on the river (its hypothesis holds). -/
example : ∀ p ∈ gEnd.players, ∃ c, p.comb = some c ∧
    (∃ sel, Admissible gEnd.board p.hole 0 sel ∧ c.cards.Perm sel) ∧
    ∀ s, Admissible gEnd.board p.hole 0 s → s.length = 5 →
      C03.Valid c.cards ∧ C03.Valid s ∧ c.cat = some (C03.specCat (C03.ranks c.cards) (C03.sameSuit c.cards)) ∧
      ¬ C03.pokerKey powerStandard c.cards < C03.pokerKey powerStandard s :=
  reported_hand_is_poker_best exPC exOps (by show 3 ≤ gEnd.board.length; rw [gEnd_facts.2.2.1]; decide)

/-- It says something: seat 0 has admissible five-card selections that are strictly weaker
    than the published hand, e.g. A♥ 2♦ K♠ 9♥ 4♣ (ace high), and 21 selections in all. -/
example : Admissible (cs ["CA", "SK", "H9", "D7", "C4"]) (cs ["HA", "D2"]) 0 (cs ["HA", "D2", "SK", "H9", "C4"]) ∧
    C03.pokerKey powerStandard (cs ["HA", "D2", "SK", "H9", "C4"]) < C03.pokerKey powerStandard (cs ["HA", "CA", "SK", "H9", "D7"]) ∧
    (allPossibleCombinations (cs ["CA", "SK", "H9", "D7", "C4"]) (cs ["HA", "D2"]) 0).length = 21 :=
  ⟨by rw [Admissible, if_pos rfl]; decide +kernel, Or.inl (by decide +kernel), by decide +kernel⟩

/-- LINK 3 on that hand: the hypotheses of `showdown_winners_by_poker` hold (closed, two live
    players, a level with a non-folded contributor), and the winners of the single level are seats
    0 and 2. -/
example : gEnd.event = .gameClosed ∧ 2 ≤ gEnd.aliveCount ∧
    (gEnd.result.map fun r => r.pots.map fun pr => pr.levels.map fun li => (li.level, levelWinners li)) =
      some [[(5, [0, 2]), (10, [0, 2])]] := by
  have h : gEnd.result = some (C02.settle gEnd.seats) := C01.closed_result_is_settle (exPC.reach exOps) gEnd_facts.1
  refine ⟨gEnd_facts.1, by rw [gEnd_facts.2.2.2.1]; decide, ?_⟩
  rw [h, gEnd_seats_eq]
  decide +kernel

/-- the two tied hands have the same poker key, and the folded hand (ace high) a smaller one -/
example : C03.pokerKey powerStandard (cs ["HA", "CA", "SK", "H9", "D7"]) = C03.pokerKey powerStandard (cs ["DA", "CA", "SK", "H9", "D7"]) ∧
    C03.pokerKey powerStandard (cs ["CA", "SK", "H9", "D7", "D6"]) < C03.pokerKey powerStandard (cs ["HA", "CA", "SK", "H9", "D7"]) :=
  ⟨by decide +kernel, Or.inl (by decide +kernel)⟩

/-! ### short deck -/

/-- heads-up on the (unshuffled) 36-card deck with the short-deck table -/
def sdCfg : Config :=
  { opts := { ante := 0, blindDealer := 0, blindSB := 5, blindBB := 10, potLimit := false, holeCount := 2, required := 0,
              lvl := combinationLevel, table := powerShortDeck, deck := shortCards },
    seats := [⟨1000, true, true, false⟩, ⟨1000, false, false, true⟩] }

/-- the hypotheses of the short-deck theorems are satisfiable -/
theorem sdPC : PokerConfig powerShortDeck sdCfg :=
  pokerConfig_of_shuffle shortCards_ok.1 (List.Perm.refl _) (by decide +kernel)
    ⟨⟨by decide, by decide, by decide, by decide⟩⟩ (by decide +kernel) rfl rfl (by decide) (by decide)

def sdToFlop : List Op := [.ready, .payBlinds, .ready, .act none .call 0, .act none .check 0, .next]

/-- on the flop J♠ Q♠ K♠ both seats hold a spade flush, neither hand is A-9-8-7-6 -/
theorem sdFlop_facts :
    ((start sdCfg).1.run sdToFlop).board = cs ["SJ", "SQ", "SK"] ∧
    ((start sdCfg).1.run sdToFlop).players.map (fun p => p.comb.map fun c => (c.cat, c.cards, C03.isA6789 c.cards)) =
      [some (some .flush, cs ["SK", "SQ", "SJ", "S7", "S6"], false),
       some (some .flush, cs ["SK", "SQ", "SJ", "S9", "S8"], false)] := by
  decide +kernel

example : ∀ p ∈ ((start sdCfg).1.run sdToFlop).players, ∃ c, p.comb = some c ∧
    (∃ sel, Admissible ((start sdCfg).1.run sdToFlop).board p.hole 0 sel ∧ c.cards.Perm sel) ∧
    ∀ s, Admissible ((start sdCfg).1.run sdToFlop).board p.hole 0 s → s.length = 5 →
      C03.Valid c.cards ∧ C03.Valid s ∧ c.cat = some (C03.specCat (C03.ranks c.cards) (C03.sameSuit c.cards)) ∧
      (C03.isA6789 c.cards = false → C03.isA6789 s = false →
        ¬ C03.pokerKey powerShortDeck c.cards < C03.pokerKey powerShortDeck s) :=
  reported_hand_is_poker_best_shortDeck sdPC sdToFlop (by rw [sdFlop_facts.1]; decide)

/-- Before the flop the published "hand" is the hole
    cards alone, and since `isFlush` does not ask for five cards, two suited hole cards are
    published as category Flush — here 6♠ 7♠ and 8♠ 9♠ on the short deck.  Payouts are not
    affected: a showdown between live hands has a full board (C05 `full_board_at_showdown`), and
    when everybody else has folded the strength only has to be positive. -/
example : ((start sdCfg).1.run (sdToFlop.take 3)).round = .preflop ∧
    ((start sdCfg).1.run (sdToFlop.take 3)).players.map (fun p => p.comb.map fun c => (c.cat, c.cards)) =
      [some (some .flush, cs ["S7", "S6"]), some (some .flush, cs ["S9", "S8"])] := by
  decide +kernel

end Examples

/-! ### the uncalled excess -/

namespace Examples

/-- the dealer raises to 40, both blinds fold: 30 of the 40 chips are uncalled -/
def opsUncalled : List Op :=
  [.ready, .payBlinds, .ready, .act none .raise 40, .act none .fold 0, .act none .fold 0, .next]

/-- The hypotheses of `showdown_excess_returned` are satisfiable (closed hand, the others put in at
    most `m = 10 < 40`), and its conclusion `−10 ≤ changed` is met with `changed = +15`. -/
theorem uncalled_facts :
    ((start exCfg).1.run opsUncalled).event = .gameClosed ∧
    ((start exCfg).1.run opsUncalled).players.map (fun p => (p.idx, p.pot + p.wager, p.fold)) =
      [(0, 40, false), (1, 5, true), (2, 10, true)] ∧
    ((start exCfg).1.run opsUncalled).players.map
      (fun p => C02.changed ((start exCfg).1.run opsUncalled).seats p.idx) = [15, -5, -10] := by
  decide +kernel

example : ∀ p ∈ ((start exCfg).1.run opsUncalled).players, p.idx = 0 →
    -10 ≤ C02.changed ((start exCfg).1.run opsUncalled).seats p.idx := by
  intro p hp h0
  -- what the two hypotheses on the stakes ask of a seat, read off the evaluated list of `uncalled_facts`
  have hall : ∀ x ∈ ((start exCfg).1.run opsUncalled).players.map (fun p => (p.idx, p.pot + p.wager, p.fold)),
      (x.1 ≠ 0 → x.2.1 ≤ 10) ∧ (x.1 = 0 → 10 < x.2.1) := by
    rw [uncalled_facts.2.1]
    decide
  rw [List.forall_mem_map] at hall
  exact showdown_excess_returned (Or.inl rfl) exPC (by decide) opsUncalled uncalled_facts.1 p hp 10 (by decide)
    (fun q hq hne => (hall q hq).1 (h0 ▸ hne)) ((hall p hp).2 h0)

end Examples

end Pokerface.Links

section Axioms
open Pokerface.Links
#print axioms standardCards_ok
#print axioms shortCards_ok
#print axioms score_pos
#print axioms published_strength_pos
#print axioms showdown_valid
#print axioms showdown_result
#print axioms showdown_folded_wins_nothing
#print axioms showdown_folded_loses_stake
#print axioms showdown_zero_sum
#print axioms showdown_loses_at_most_stake
#print axioms showdown_no_gain_from_unpaid_layer
#print axioms showdown_tie_fair
#print axioms showdown_excess_returned
#print axioms reported_hand_is_poker_best
#print axioms reported_hand_is_poker_best_shortDeck
#print axioms five_cards_from_flop
#print axioms showdown_strength_order
#print axioms showdown_winners_by_poker
#print axioms showdown_winners_by_poker_shortDeck
end Axioms
