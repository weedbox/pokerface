import Pokerface.Model.Settlement
import Pokerface.Proofs.SettleDefs
/-
  C02 — the showdown as a function of a list of seats: what the statements of `Properties/C02.lean` speak about.

  `settle seats` is `potsOf` (pot.go `updatePots`: one `AddContributor` per seat, then `GetPots`) followed by
  `gameResults` (settlement.go `CalculateGameResults`).  It is a separate file only because the proof file that
  relates the engine's result to it (`Proofs/EngineResult.lean`) has to import it.
-/
namespace Pokerface.C02
open Pokerface

/-- One player at showdown: seat index, stack behind, chips put in, fold flag, hand strength. -/
structure Seat where
  idx : Nat
  bankroll : Int
  contrib : Int
  folded : Bool
  score : Int
deriving DecidableEq, Repr

/-- Entries given to the pot package. -/
def entriesOf (ss : List Seat) : List (Nat × Int × Bool) := ss.map fun s => (s.idx, s.contrib, s.folded)

/-- Rows given to `CalculateGameResults` (same players, same order). -/
def rowsOf (ss : List Seat) : List (Nat × Int × Bool × Int) := ss.map fun s => (s.idx, s.bankroll, s.folded, s.score)

/-- Domain of C02 (I4): distinct idx, contributions ≥ 0, non-folded strengths > 0. -/
def Valid (ss : List Seat) : Prop :=
  (ss.map (·.idx)).Nodup ∧ ∀ s ∈ ss, 0 ≤ s.contrib ∧ (s.folded = false → 0 < s.score)

instance (ss : List Seat) : Decidable (Valid ss) := by unfold Valid; infer_instance

def settle (ss : List Seat) : Result := gameResults (potsOf (entriesOf ss)) (rowsOf ss)

/-- Net win/loss of player `i` (`Result.Players[].Changed`). -/
def changed (ss : List Seat) (i : Nat) : Int := chg (settle ss).players i

/-- Chips player `i` has in the pot `pr`: the wagers of its levels that `i` contributes to. -/
def potStake (pr : PotResult) (i : Nat) : Int :=
  ((pr.levels.filter (fun l => l.contributors.contains i)).map (·.wager)).sum

end Pokerface.C02
