import Pokerface.Proofs.Int64Base
import Pokerface.Proofs.BetsExamples
/-
  Int64Exact — the sentence of the trusted base "no int64 overflow: the unchanged code compares
  before it subtracts" as theorems (C12 "every amount argument a caller can pass", C01).

  The model computes in `Int`; the Go code in `int64`.  The two agree as long as every value the Go
  code computes lies in `[-2^63, 2^63)`.  `intermediates g i a x` lists, in evaluation order, every
  arithmetic expression player.go evaluates when action `a` with amount `x` is requested for seat `i`
  in state `g` — only the expressions actually reached (an expression behind a refusing guard is not
  computed).  `no_overflow`: on a reachable state, with fewer than 2^62 chips in the hand and forced
  bets below 2^62, all of them fit for EVERY int64 amount `x`.

  Three parts, referred to by number here and in `Int64Full`: 1. the chip fields are bounded by the chips in
  the hand; 2. what player.go computes (`intermediates`); 3. all of it fits.
-/
namespace Pokerface.I64
open Pokerface Game

/-! ### 1. the chip fields are bounded by the chips in the hand -/

/-- Part 1, per player and round pot: in every reachable state, with `T = total g` the sum of the
    bankrolls, `0 ≤ stack, wager, pot ≤ bankroll ≤ T`, `0 ≤ initial ≤ bankroll`, `0 ≤ roundPot ≤ T`. -/
theorem fields_bounded {g : Game} (h : Reachable g) :
    (∀ p ∈ g.players, 0 ≤ p.stack ∧ p.stack ≤ p.bankroll ∧ 0 ≤ p.wager ∧ p.wager ≤ p.bankroll ∧
      0 ≤ p.pot ∧ p.pot ≤ p.bankroll ∧ 0 ≤ p.initial ∧ p.initial ≤ p.bankroll ∧ p.bankroll ≤ total g) ∧
    0 ≤ g.roundPot ∧ g.roundPot ≤ total g := by
  have hi := inv_reachable h
  refine ⟨fun p hp => ?_, roundPot_bounds hi.chips0⟩
  have := pinv_facts hi.chips0.pinv p hp
  omega

/-- `total` is the configured sum: the bankrolls never change -/
example : total Ex.g1 = 3000 := by decide

/-! ### 2. what player.go computes -/

/-- player.go `pay(chips, isWager)` -/
def payI (g : Game) (i : Nat) (chips : Int) (isWager : Bool) : List Int :=
  match g.players[i]? with
  | none => []
  | some p =>
    if p.stack ≤ chips then                        -- `if p.state.StackSize <= chips {` (a comparison)
      [ p.initial - p.wager,                       -- `p.state.InitialStackSize - p.state.Wager`
        g.roundPot + (p.initial - p.wager) ] ++    -- `gs.Status.CurrentRoundPot += …`
      (if g.opts.potLimit then                     -- `if gs.Meta.Limit == "pot" {`
        [ g.roundPot + (p.initial - p.wager) + g.prev ]  -- `gs.Status.MaxWager = gs.Status.CurrentRoundPot + gs.Status.PreviousRaiseSize`
       else []) ++
      (if isWager then
        [ p.initial - g.cw,                        -- `raised := p.state.InitialStackSize - gs.Status.CurrentWager`
          g.cw + g.prev ]                          -- `minRaise := gs.Status.CurrentWager + gs.Status.PreviousRaiseSize`
       else [])
    else
      [ p.wager + chips,                           -- `p.state.Wager += chips`
        p.initial - (p.wager + chips),             -- `p.state.StackSize = p.state.InitialStackSize - p.state.Wager`
        g.roundPot + chips ] ++                    -- `gs.Status.CurrentRoundPot += chips`
      (if g.opts.potLimit then
        [ g.roundPot + chips + g.prev ]            -- `gs.Status.MaxWager = gs.Status.CurrentRoundPot + gs.Status.PreviousRaiseSize`
       else [])

/-- player.go `Call()` after its `CheckAction` guard -/
def callI (g : Game) (i : Nat) : List Int :=
  match g.players[i]? with
  | none => []
  | some p =>
    [ g.cw - p.wager ] ++                          -- `delta := gs.Status.CurrentWager - p.state.Wager`
    (if g.cw < g.opts.blindBB then                 -- `if gs.Status.CurrentWager < gs.Meta.Blind.BB {`
      [ g.opts.blindBB - p.wager ]                 -- `delta = gs.Meta.Blind.BB - p.state.Wager`
     else []) ++
    payI g i (if g.cw < g.opts.blindBB then g.opts.blindBB - p.wager else g.cw - p.wager) true  -- `p.pay(delta, true)`

/-- player.go `Allin()` after its `CheckAction` guard -/
def allinI (g : Game) (i : Nat) : List Int :=
  match g.players[i]? with
  | none => []
  | some p =>
    [ p.initial - g.cw ] ++                        -- `raised := p.state.InitialStackSize - gs.Status.CurrentWager`
    -- `if raised >= gs.Status.PreviousRaiseSize { gs.Status.PreviousRaiseSize = raised }`, `p.pay(p.state.StackSize, true)`
    payI (if p.initial - g.cw ≥ g.prev then g.setPrev (p.initial - g.cw) else g) i p.stack true

/-- Part 2: every arithmetic expression player.go evaluates for action `a` with amount `x` on seat `i`, in
    evaluation order, only those reached.  (`Pass`, `Fold`, `Check` compute nothing; `Pay` is never offered by
    `GetAvailableActions`, its body is `pay(chips, true)`.) -/
def intermediates (g : Game) (i : Nat) (a : Act) (x : Int) : List Int :=
  match a with
  | .pass | .fold | .check => []
  | .pay => if !g.allows i .pay then [] else payI g i x true
  | .call => if !g.allows i .call then [] else callI g i
  | .allin => if !g.allows i .allin then [] else allinI g i
  | .bet =>
    if !g.allows i .bet then []                    -- `if !p.CheckAction("bet") {`
    else if x < 0 then []                          -- `if chips < 0 {`
    else payI g i x true                           -- `p.pay(chips, true)`; then `PreviousRaiseSize = p.state.Wager` (a copy)
  | .raise =>
    if !g.allows i .raise then []                  -- `if !p.CheckAction("raise") {`
    else if x = 0 ∨ x < g.cw then []               -- `if chipLevel == 0 || chipLevel < gs.Status.CurrentWager {`
    else if x = g.cw then                          -- `if chipLevel == gs.Status.CurrentWager { return p.Call() }`
      (if !g.allows i .call then [] else callI g i)
    else
      match g.players[i]? with
      | none => []
      | some p =>
        [ x - g.cw,                                -- `raised := chipLevel - gs.Status.CurrentWager`
          x - p.wager ] ++                         -- `required := chipLevel - p.state.Wager`
        (if x ≥ p.initial ∨ x - g.cw < g.prev then -- `if chipLevel >= p.state.InitialStackSize || raised < gs.Status.PreviousRaiseSize { return p.Allin() }`
          (if !g.allows i .allin then [] else allinI g i)
         else
          (if g.opts.potLimit then                 -- `if gs.Meta.Limit == "pot" {`
            [ g.cw + g.prev ] ++                   -- `maxRaise := gs.Status.CurrentWager + gs.Status.PreviousRaiseSize`
            (if x - g.cw > g.cw + g.prev then      -- `if raised > maxRaise {`
              [ g.cw + g.prev + g.cw,              -- `maxRaise + gs.Status.CurrentWager`
                g.cw + g.prev + g.cw - p.wager ]   -- `required = maxRaise + gs.Status.CurrentWager - p.state.Wager`
             else [])
           else []) ++
          -- `gs.Status.PreviousRaiseSize = raised`, `p.pay(required, true)`
          (let capped := g.opts.potLimit && decide (x - g.cw > g.cw + g.prev)
           payI (g.setPrev (if capped then g.cw + g.prev else x - g.cw)) i
             (if capped then g.cw + g.prev + g.cw - p.wager else x - p.wager) true))

/-! ### 3. they all fit -/

/-- the numeric facts about a state that the proof uses -/
structure Small (g : Game) : Prop where
  pinv : ∀ p ∈ g.players, PInv p
  tot : total g < 2^62
  rp0 : 0 ≤ g.roundPot
  rpT : g.roundPot ≤ total g
  rpS : ∀ p ∈ g.players, g.roundPot + p.stack ≤ total g
  cw0 : 0 ≤ g.cw
  cwS : g.cw < 2^62
  prev0 : 0 ≤ g.prev
  prevS : g.prev < 2^62
  bb0 : 0 ≤ g.opts.blindBB
  bbS : g.opts.blindBB < 2^62

theorem small_setPrev {g : Game} (s : Small g) (v : Int) (h0 : 0 ≤ v) (h1 : v < 2^62) : Small (g.setPrev v) :=
  { s with prev0 := h0, prevS := h1 }

theorem payI_fits {g : Game} (s : Small g) (i : Nat) (chips : Int) (hc : 0 ≤ chips) (w : Bool) :
    AllFit (payI g i chips w) := by
  unfold payI
  cases hp : g.players[i]? with
  | none => exact allFit_nil
  | some p =>
    obtain ⟨hstack0, hwager0, hpot0, hsplit, hrebase, hbank⟩ := pinv_facts s.pinv p (List.mem_of_getElem? hp)
    -- the 2^62 bound has no slack to spare: the round pot and what the seat can still add to it are
    -- together chips of the hand, so `roundPot + (initial - wager) + prev` stays below 2^63
    have hslack : g.roundPot + p.stack ≤ total g := s.rpS p (List.mem_of_getElem? hp)
    have ⟨_, htot, hrp0, hrpT, _, hcw0, hcwS, hprev0, hprevS, hbb0, hbbS⟩ := s
    refine allFit_ite (fun _ => ?_) (fun _ => ?_)
    · refine allFit_append (allFit_append (allFit_cons ?_ (allFit_one ?_)) (allFit_ite (fun _ => allFit_one ?_) (fun _ => allFit_nil)))
        (allFit_ite (fun _ => allFit_cons ?_ (allFit_one ?_)) (fun _ => allFit_nil))
      all_goals
        unfold Fits
        omega
    · refine allFit_append (allFit_cons ?_ (allFit_cons ?_ (allFit_one ?_)))
        (allFit_ite (fun _ => allFit_one ?_) (fun _ => allFit_nil))
      all_goals
        unfold Fits
        omega

theorem callI_fits {g : Game} (s : Small g) (i : Nat) (hw : ∀ p ∈ g.players, p.wager ≤ g.cw) :
    AllFit (callI g i) := by
  unfold callI
  cases hp : g.players[i]? with
  | none => exact allFit_nil
  | some p =>
    have hm := List.mem_of_getElem? hp
    obtain ⟨hstack0, hwager0, hpot0, hsplit, hrebase, hbank⟩ := pinv_facts s.pinv p hm
    have hwle : p.wager ≤ g.cw := hw p hm
    have ⟨_, htot, hrp0, hrpT, _, hcw0, hcwS, hprev0, hprevS, hbb0, hbbS⟩ := s
    refine allFit_append (allFit_append (allFit_one ?_) (allFit_ite (fun _ => allFit_one ?_) (fun _ => allFit_nil)))
      (payI_fits s i _ ?_ true)
    · unfold Fits
      omega
    · unfold Fits
      omega
    · split
      · omega
      · omega

theorem allinI_fits {g : Game} (s : Small g) (i : Nat) : AllFit (allinI g i) := by
  unfold allinI
  cases hp : g.players[i]? with
  | none => exact allFit_nil
  | some p =>
    obtain ⟨hstack0, hwager0, hpot0, hsplit, hrebase, hbank⟩ := pinv_facts s.pinv p (List.mem_of_getElem? hp)
    have ⟨_, htot, hrp0, hrpT, _, hcw0, hcwS, hprev0, hprevS, hbb0, hbbS⟩ := s
    refine allFit_append (allFit_one (by unfold Fits; omega)) ?_
    split
    · exact payI_fits (small_setPrev s _ (by omega) (by omega)) i _ (by omega) true
    · exact payI_fits s i _ (by omega) true

/-- Part 3 given the numeric facts `Small g` and "no wager above the wager to match": every int64 amount `x`. -/
theorem intermediates_fit {g : Game} (s : Small g) (hw : ∀ p ∈ g.players, p.wager ≤ g.cw)
    (hpay : ∀ i, g.allows i .pay = false) (i : Nat) (a : Act) (x : Int) (hx' : Fits x) :
    AllFit (intermediates g i a x) := by
  have hcall : AllFit (if (!g.allows i .call) = true then [] else callI g i) :=
    allFit_ite (fun _ => allFit_nil) (fun _ => callI_fits s i hw)
  have hallin : AllFit (if (!g.allows i .allin) = true then [] else allinI g i) :=
    allFit_ite (fun _ => allFit_nil) (fun _ => allinI_fits s i)
  unfold intermediates
  cases a with
  | pass => exact allFit_nil
  | fold => exact allFit_nil
  | check => exact allFit_nil
  | pay =>
    simp only [hpay i]
    exact allFit_nil
  | call => exact hcall
  | allin => exact hallin
  | bet =>
    exact allFit_ite (fun _ => allFit_nil) (fun _ => allFit_ite (fun _ => allFit_nil) (fun hx => payI_fits s i x (by omega) true))
  | raise =>
    refine allFit_ite (fun _ => allFit_nil) (fun _ => allFit_ite (fun _ => allFit_nil) (fun hx =>
      allFit_ite (fun _ => hcall) (fun hne => ?_)))
    cases hp : g.players[i]? with
    | none => exact allFit_nil
    | some p =>
      have hm := List.mem_of_getElem? hp
      obtain ⟨hstack0, hwager0, hpot0, hsplit, hrebase, hbank⟩ := pinv_facts s.pinv p hm
      have hwle : p.wager ≤ g.cw := hw p hm
      have ⟨_, htot, hrp0, hrpT, _, hcw0, hcwS, hprev0, hprevS, hbb0, hbbS⟩ := s
      unfold Fits at hx'
      -- `raised` and `required` are computed before the all-in test: `x` may be anything up to 2^63 - 1
      refine allFit_append (allFit_cons ?_ (allFit_one ?_)) (allFit_ite (fun _ => hallin) (fun hnot => ?_))
      · unfold Fits
        omega
      · unfold Fits
        omega
      · refine allFit_append (allFit_ite (fun _ => allFit_append (allFit_one ?_)
          (allFit_ite (fun _ => allFit_cons ?_ (allFit_one ?_)) (fun _ => allFit_nil))) (fun _ => allFit_nil))
          (payI_fits (small_setPrev s _ ?_ ?_) i _ ?_ true)
        · unfold Fits
          omega
        · unfold Fits
          omega
        · unfold Fits
          omega
        · split
          · omega
          · omega
        · split
          · omega
          · omega
        · split
          · omega
          · omega

theorem pay_never_allowed {g : Game} (h : Reachable g) (i : Nat) : g.allows i .pay = false := by
  cases hA : g.allows i .pay with
  | false => rfl
  | true =>
    obtain ⟨p, _, _, _, hav⟩ := allows_spec (inv_reachable h) hA
    exact absurd hav (not_available_pay g p)

/-- Part 3, partial: `no_overflow` under the additional hypothesis that the wager to match and the recorded raise
    size are below 2^62 (discharged by `table_fields_bounded`). -/
theorem no_overflow_partial {g : Game} (h : Reachable g) (hT : total g < 2^62) (hbb : g.opts.blindBB < 2^62)
    (hcw : g.cw < 2^62) (hprev : g.prev < 2^62) (i : Nat) (a : Act) (x : Int) (hx : Fits x) :
    ∀ v ∈ intermediates g i a x, Fits v := by
  have hi := inv_reachable h
  have rp := roundPot_bounds hi.chips0
  have s : Small g := ⟨hi.chips0.pinv, hT, rp.1, rp.2, roundPot_stack hi.chips0, hi.chips0.cw0, hcw, hi.chips0.prev0, hprev, hi.opts.bb0, hbb⟩
  by_cases he : g.event = .roundStarted
  · exact intermediates_fit s (hi.wle (by rw [he]; simp)) (pay_never_allowed h) i a x hx
  · -- nothing is offered outside a betting round: every guard refuses
    have hno : ∀ b, g.allows i b = false := by
      intro b
      cases hA : g.allows i b with
      | false => rfl
      | true =>
        obtain ⟨_, _, he', _, _⟩ := allows_spec hi hA
        exact absurd he' he
    intro v hv
    have hnil : intermediates g i a x = [] := by
      unfold intermediates
      cases a with
      | pass | fold | check => rfl
      | pay | call | allin | bet | raise => simp [hno]
    rw [hnil] at hv
    cases hv

/-- Non-vacuity: blinds 5/10, three stacks of 1000, the dealer to act facing the big blind; `Raise(2^63 - 1)` — the
    largest int64 — computes `raised`, `required`, then goes through `Allin()` and `pay`, all int64. -/
example : Reachable Ex.g1 ∧ total Ex.g1 < 2^62 ∧ Fits (2^63 - 1) ∧
    (intermediates Ex.g1 0 .raise (2^63 - 1)).take 3 = [2^63 - 1 - 10, 2^63 - 1, 990] ∧
    intermediates Ex.g1 0 .raise (-(2^63)) = [] ∧ intermediates Ex.g1 0 .bet (-(2^63)) = [] :=
  ⟨Ex.reach_g1, by decide, by unfold Fits; omega, by decide, by decide, by decide⟩

/-- Part 1, table fields: the wager to match and the recorded raise size never exceed any `M` that bounds the chips
    in the hand `T`, the big blind and the dealer blind.  (`cw` is only ever set to a wager or a round-start stack,
    `prev` to a wager, a difference of those, or the blind.)  Proved as `table_fields_bounded` in
    `Properties/Int64Full.lean`, by an invariant carried through `step`. -/
def table_fields_bounded_full : Prop :=
  ∀ {g : Game}, Reachable g → ∀ {M : Int}, total g ≤ M → g.opts.blindBB ≤ M → g.opts.blindDealer ≤ M →
    0 ≤ g.cw ∧ g.cw ≤ M ∧ 0 ≤ g.prev ∧ g.prev ≤ M

/-- Part 3 in full: follows from `no_overflow_partial` and `table_fields_bounded_full` (with `M = 2^62 - 1`);
    proved as `no_overflow` in `Properties/Int64Full.lean`. -/
def no_overflow_full : Prop :=
  ∀ {g : Game}, Reachable g → total g < 2^62 → g.opts.ante < 2^62 → g.opts.blindDealer < 2^62 →
    g.opts.blindSB < 2^62 → g.opts.blindBB < 2^62 →
    ∀ (i : Nat) (a : Act) (x : Int), Fits x → ∀ v ∈ intermediates g i a x, Fits v

theorem no_overflow_of_table_fields (hb : table_fields_bounded_full) : no_overflow_full := by
  intro g h hT _ hbd _ hbb i a x hx
  have := hb h (M := 2^62 - 1) (by omega) (by omega) (by omega)
  exact no_overflow_partial h hT hbb (by omega) (by omega) i a x hx

end Pokerface.I64
