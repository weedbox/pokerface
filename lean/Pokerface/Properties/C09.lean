/-
  C09  Tournament balancing never loses, duplicates or miscounts a player.

  "Across any history of registrations, table syncs with eliminations, and
   releases, every registered player who has not been eliminated is in exactly
   one place - the waiting queue or exactly one table - and is never handed out
   twice or dropped; the regulator's player total, table count and each table's
   player count always equal the real numbers at tables that follow its
   instructions.  Calls naming an unknown table and registrations after the
   deadline are refused without changing anything."

  Setting: `ReachableAny s` (Model/RegulatorEnv.lean) — the WIDEST domain: `s` is
  obtained from a fresh regulator with ANY setting (max, min) with `1 ≤ max`
  (no relation between `min` and `max`, `min = 0` included; with `max = 0` the
  Go code divides by zero in `float64` and converts `±Inf`/`NaN` to `int`, which
  is outside the model) by ANY finite sequence of operations of regulator ×
  environment valid in the wide sense `okAny` (DESIGN §5): registrations of
  fresh ids, `SetStatus` to ANY status at ANY time (also back to `Pending` on a
  running competition, which the Go code accepts), syncs in which a table
  eliminates any sub-multiset of its members and then releases exactly the
  number it is told to, dispatch choices that `getAvailableTable` can make.
  The totality theorems (`registration_possible` … `sync_possible_any_release` below, from
  Proofs/RegProps.lean, Proofs/RegTotal.lean) show that these conditions never block a history: in every such state every fresh
  registration, every status change and every sync of every table with every
  elimination subset is possible with SOME choices / release.
  Every theorem here therefore also holds on the narrower domain `Reachable` of
  C19/C20 (`Reachable.any`).
  Quiescent points = between operations, i.e. after the environment has carried
  out the instructions of the operation (a sync includes the `ReleasePlayers`
  it triggers).

  LATE RELEASE REPORTS: the last section, "asynchronous releases", proves the same
  clauses for the system `ASys` (Model/RegulatorAsync.lean) in which `SyncState`
  and the `ReleasePlayers` report it triggers are SEPARATE operations: the
  released players leave their table at the sync and are "on the way back" until
  the table reports them — registrations, status changes, syncs of other tables
  and of the same table come in between; a table may report in several parts;
  the table may have been broken meanwhile.  The synchronous system above is the
  special case "every sync is followed at once by its report"
  (`sync_then_report_eq_rsys_step`, `rsys_history_is_async`).
-/
import Pokerface.Proofs.RegProps

namespace Pokerface.C09
open Pokerface Reg RSys

/-- **counts_agree**: at every quiescent point the regulator's player total is the number of
    alive players, its table count is the number of its table records and of real tables, and
    its sheet `(id, PlayerCount)` is exactly the real sheet `(id, number of members)` — same
    tables, same order of creation, same counts. -/
theorem counts_agree {s : RSys} (h : ReachableAny s) :
    s.r.playerCount = s.env.alive.length ∧
    s.r.tableCount = s.r.tables.length ∧
    s.r.tables.length = s.env.members.length ∧
    s.r.tables.map (fun t => (t.id, t.count)) = s.env.members.map (fun e => (e.1, (e.2.length : Int))) :=
  (SInv0.of_reachable h).counts_agree

/-- **counts_agree**, per table: `GetTable(t).PlayerCount` is the real number of members of `t`,
    and `GetTable(t)` is `nil` exactly for the tables that do not exist. -/
theorem count_of_table {s : RSys} (h : ReachableAny s) (t : Nat) :
    (s.r.findTable t).map (fun tb => tb.count) = (s.env.membersOf t).map (fun ms => (ms.length : Int)) :=
  (SInv0.of_reachable h).count_of_table t

/-- **conservation**: the alive players are exactly the queue together with all table
    memberships (as multisets), and no id occurs twice — so every registered, not eliminated
    player is in exactly one place, and nobody else is anywhere. -/
theorem conservation {s : RSys} (h : ReachableAny s) :
    s.env.alive.Perm (s.r.queue ++ s.env.seated) ∧ (s.r.queue ++ s.env.seated).Nodup ∧ s.env.alive.Nodup :=
  (SInv0.of_reachable h).conservation

/-- **conservation**, spelled out: an id is alive iff it is queued or sits at some table; never
    both; never at two tables (`Nodup` of the concatenation of all memberships). -/
theorem exactly_one_place {s : RSys} (h : ReachableAny s) (p : Nat) :
    (p ∈ s.env.alive ↔ (p ∈ s.r.queue ∨ ∃ e ∈ s.env.members, p ∈ e.2)) ∧
    ¬ (p ∈ s.r.queue ∧ ∃ e ∈ s.env.members, p ∈ e.2) ∧
    s.r.queue.Nodup ∧ s.env.seated.Nodup :=
  (SInv0.of_reachable h).exactly_one_place p

/-- **the instructions can be followed** (part of "never dropped / miscounted"): a `SyncState` on
    an existing table is not refused, and the number of players it asks the table to release is
    between 0 and what the table has after the eliminations and arrivals.  (`elim`/`stay` is any
    split of the members into eliminated and remaining ones.) -/
theorem release_feasible {s : RSys} (h : ReachableAny s) (t : Nat) (ms elim stay : List Nat)
    (hm : s.env.membersOf t = some ms) (hp : ms.Perm (elim ++ stay)) :
    (s.syncAnswer t elim).2.1 = none ∧ 0 ≤ (s.syncAnswer t elim).2.2.1 ∧
    (s.syncAnswer t elim).2.2.1 ≤ ((stay ++ (s.syncAnswer t elim).2.2.2).length : Int) :=
  (SInv0.of_reachable h).release_feasible t ms elim stay hm hp

/-- **handout_once**: in every valid operation, the queue before the operation followed by the
    players entering it (`incoming`: the registrants / the released players) is, IN ORDER, the
    players returned by `SyncState`, then the players passed to callbacks, then the queue after
    the operation.  Hence every id handed out was removed from the queue in this very step and
    nobody was dropped; and since no id occurs twice in that list, nobody is handed out twice or
    handed out and still queued. -/
theorem handout_once {s : RSys} (h : ReachableAny s) (op : EOp) (hok : s.okAny op) :
    s.r.queue ++ s.incoming op = s.returned op ++ handed (s.step op).r.calls ++ (s.step op).r.queue ∧
    (s.returned op ++ handed (s.step op).r.calls ++ (s.step op).r.queue).Nodup :=
  (SInv0.of_reachable h).handout_once op ((SInv0.of_reachable h).okRe_of_okAny hok)

/-- the non-scratch part of the regulator state is the same in `r` and `r'` (`calls`, `choices`,
    `badChoice` are per-operation scratch fields of the model, not Go state) -/
def SameState (r r' : Reg) : Prop :=
  r'.max = r.max ∧ r'.min = r.min ∧ r'.playerCount = r.playerCount ∧ r'.tableCount = r.tableCount ∧
  r'.status = r.status ∧ r'.queue = r.queue ∧ r'.tables = r.tables ∧ r'.nextId = r.nextId

/-- **unknown_table_refused**: `SyncState` naming a table the regulator does not know — for ANY
    regulator state and ANY elimination count, reachable or not — returns `ErrNotFoundTable`,
    asks for nothing, makes no callback and changes nothing. -/
theorem unknown_table_refused (r : Reg) (t : Nat) (out : Int) (hf : r.findTable t = none) :
    (r.syncState t out).2.1 = some .notFoundTable ∧ (r.syncState t out).2.2.1 = 0 ∧
    (r.syncState t out).2.2.2 = [] ∧ (r.syncState t out).1.calls = [] ∧
    SameState r (r.syncState t out).1 := by
  rw [syncState_eq, hf]
  exact ⟨rfl, rfl, rfl, rfl, rfl, rfl, rfl, rfl, rfl, rfl, rfl, rfl⟩

/-- in reachable states the regulator knows exactly the tables that exist: a table unknown to the
    environment is unknown to the regulator (so the call above IS refused), and conversely. -/
theorem unknown_iff {s : RSys} (h : ReachableAny s) (t : Nat) :
    s.env.membersOf t = none ↔ s.r.findTable t = none :=
  (SInv0.of_reachable h).unknown_iff t

/-- **unknown_table_refused**, system form: a sync naming a non-existing table leaves regulator
    and environment unchanged. -/
theorem unknown_table_refused_sys {s : RSys} (h : ReachableAny s) (t : Nat) (elim stay rel keep ch : List Nat)
    (hm : s.env.membersOf t = none) :
    SameState s.r (s.step (.sync t elim stay rel keep ch)).r ∧
    (s.step (.sync t elim stay rel keep ch)).r.calls = [] ∧
    (s.step (.sync t elim stay rel keep ch)).env = s.env := by
  rw [(SInv0.of_reachable h).step_sync_unknown t elim stay rel keep ch hm]
  exact ⟨⟨rfl, rfl, rfl, rfl, rfl, rfl, rfl, rfl⟩, rfl, rfl⟩

/-- **late_registration_refused**: after the registration deadline `AddPlayers` — for ANY
    regulator state — returns `ErrAfterRegDealline` (the spelling of regulator.go), makes no callback and changes nothing. -/
theorem late_registration_refused (r : Reg) (ps ch : List Nat) (hs : r.status = .afterRegDeadline) :
    (r.addPlayers ps ch).2 = some .afterRegDeadline ∧ (r.addPlayers ps ch).1.calls = [] ∧
    SameState r (r.addPlayers ps ch).1 := by
  rw [addPlayers_refused r ps ch hs]
  exact ⟨rfl, rfl, rfl, rfl, rfl, rfl, rfl, rfl, rfl, rfl⟩

/-- system form: the refused registrants are not alive, not registered, nowhere. -/
theorem late_registration_refused_sys (s : RSys) (ps ch : List Nat) (hs : s.r.status = .afterRegDeadline) :
    SameState s.r (s.step (.add ps ch)).r ∧ (s.step (.add ps ch)).env = s.env := by
  rw [step_add_refused s ps ch hs]
  exact ⟨⟨rfl, rfl, rfl, rfl, rfl, rfl, rfl, rfl⟩, rfl⟩

/-- converse: before the deadline a registration (with admissible dispatch choices) is accepted. -/
theorem registration_accepted {s : RSys} (h : ReachableAny s) (ps ch : List Nat) (hok : s.okAny (.add ps ch))
    (hs : s.r.status ≠ .afterRegDeadline) :
    (s.r.addPlayers ps ch).2 = none ∧
    (s.step (.add ps ch)).env.alive = s.env.alive ++ ps := by
  rw [step_add_accepted s ps ch hs, addPlayers_accepted s.r ps ch hs]
  exact ⟨rfl, rfl⟩

/-! ### the domain is total: no history of tables that follow instructions is excluded

The validity conditions of `okAny` constrain the inputs the model cannot compute itself (which
table Go's map iteration offers to `dispatchPlayer`, which members a table eliminates or
releases).  The four theorems below show that they never exclude a real history: whatever was
done so far, every next call of the regulator alphabet is valid for SOME such inputs.  (The real
run supplies the inputs it observed; K2 checks that the model accepts them.) -/

/-- **totality, `AddPlayers`**: in every reachable state every batch of distinct, never registered
    ids (any size, also empty) can be registered — in every phase (after the deadline it is
    refused, which is a valid operation too). -/
theorem registration_possible {s : RSys} (h : ReachableAny s) (ps : List Nat) (hnd : ps.Nodup)
    (hfresh : ∀ p ∈ ps, p ∉ s.env.registered) : ∃ ch, s.okAny (.add ps ch) :=
  (SInv0.of_reachable h).add_total ps hnd hfresh

/-- **totality, `SetStatus`**: in every reachable state the status can be set to ANY status,
    `Pending` included. -/
theorem status_change_possible {s : RSys} (h : ReachableAny s) (st : RStatus) :
    ∃ ch, s.okAny (.status st ch) :=
  (SInv0.of_reachable h).status_total st

/-- **totality, `SyncState` + `ReleasePlayers`**: in every reachable state, for EVERY table id
    (existing or not) and EVERY split of the table's members into eliminated (`elim`) and
    remaining (`stay`) ones — i.e. every elimination count `0 … |members|` and every choice of who
    is eliminated — the sync is valid for some choice of released players (`rel`, of exactly the
    length the regulator asked for), remaining players and dispatch choices. -/
theorem sync_possible {s : RSys} (h : ReachableAny s) (t : Nat) (elim stay : List Nat)
    (hsplit : ∀ ms, s.env.membersOf t = some ms → ms.Perm (elim ++ stay)) :
    ∃ rel keep ch, s.okAny (.sync t elim stay rel keep ch) :=
  (SInv0.of_reachable h).sync_total t elim stay hsplit

/-- **totality, which players are released**: moreover ANY choice of the released players will do —
    every split `rel`/`keep` of the table's members after the arrivals in which `rel` has exactly
    the length `SyncState` returned (such splits exist by `release_feasible`). -/
theorem sync_possible_any_release {s : RSys} (h : ReachableAny s) (t : Nat) (elim stay rel keep : List Nat)
    (hsplit : ∀ ms, s.env.membersOf t = some ms → ms.Perm (elim ++ stay))
    (hrel : (stay ++ (s.syncAnswer t elim).2.2.2).Perm (rel ++ keep))
    (hlen : (rel.length : Int) = (s.syncAnswer t elim).2.2.1) :
    ∃ ch, s.okAny (.sync t elim stay rel keep ch) :=
  (SInv0.of_reachable h).sync_total_rel t elim stay rel keep hsplit hrel hlen

/-! ### non-vacuity -/

/-- 27 registrants at 9/6, six eliminations at table 1, then table 2 is told to release two
    players, who are dispatched to table 1 (choice `1`) -/
def rebalance : List EOp :=
  [.add ((List.range 27).map (· + 1)) [], .status .normal [],
   .sync 1 [1,2,3,4,5,6] [7,8,9] [] [7,8,9] [],
   .sync 2 [] [10,11,12,13,14,15,16,17,18] [10,11] [12,13,14,15,16,17,18] [1]]

example : ReachableAny ((RSys.init 9 6).run rebalance) :=
  (ReachableAny.init 9 6 (by decide +kernel)).run rebalance (by decide +kernel)
example : ((RSys.init 9 6).run rebalance).env.members =
    [(1, [7,8,9,10,11]), (2, [12,13,14,15,16,17,18]), (3, [19,20,21,22,23,24,25,26,27])] := by decide +kernel
example : ((RSys.init 9 6).run rebalance).r.calls = [.assign 1 [10, 11]] := by decide +kernel
/-- `release_feasible` with a positive release count -/
example : (((RSys.init 9 6).run (rebalance.take 3)).syncAnswer 2 []).2.2.1 = 2 := by decide +kernel

/-- a sync that receives a queued player (`returned` non-empty): 13 registrants at 6/5 leave player
    13 waiting; table 1 loses two players and is given player 13 -/
def topUp : List EOp := [.add [1,2,3,4,5,6,7,8,9,10,11,12,13] [], .status .normal []]
example : ReachableAny ((RSys.init 6 5).run topUp) :=
  (ReachableAny.init 6 5 (by decide +kernel)).run topUp (by decide +kernel)
example : ((RSys.init 6 5).run topUp).r.queue = [13] := by decide +kernel
example : ((RSys.init 6 5).run topUp).ok (.sync 1 [1,2] [3,4,5,6] [] [3,4,5,6,13] []) := by decide +kernel
example : ((RSys.init 6 5).run topUp).returned (.sync 1 [1,2] [3,4,5,6] [] [3,4,5,6,13] []) = [13] := by decide +kernel

/-- an unknown table, and a registration after the deadline -/
example : ((RSys.init 6 5).run topUp).env.membersOf 900 = none := by decide +kernel
example : ((RSys.init 6 5).run (topUp ++ [.status .afterRegDeadline []])).r.status = .afterRegDeadline := by decide +kernel
example : (((RSys.init 6 5).run (topUp ++ [.status .afterRegDeadline []])).r.addPlayers [14] []).2
    = some .afterRegDeadline := by decide +kernel

/-! ### non-vacuity on the parts of the domain that `Reachable` (C19/C20) does not have -/

/-- a competition that is set back to `Pending` while running: registrations pile up in the
    queue, a sync hands two of them to table 1, the restart dispatches two more to table 1.
    (Conservation and the counters are intact on it.  A history of this kind is where CAPACITY
    fails: `C19.capacity_fails_after_return_to_pending`, on its own shorter list
    `C19.backToPending`.) -/
def backToPending : List EOp :=
  [.status .normal [], .add [1,2,3,4,5,6,7,8] [], .sync 1 [1,2] [3,4] [] [3,4] [],
   .status .pending [], .add [9,10] [], .sync 1 [] [3,4] [] [3,4,9,10] [], .add [11,12] [],
   .status .normal [1]]

example : ReachableAny ((RSys.init 4 2).run backToPending) :=
  (ReachableAny.init 4 2 (by decide +kernel)).run backToPending (by decide +kernel)
example : ¬ (RSys.init 4 2).allOk backToPending := by decide +kernel
example : ((RSys.init 4 2).run backToPending).env.members =
    [(1, [3,4,9,10,11,12]), (2, [5,6,7,8])] := by decide +kernel
example : ((RSys.init 4 2).run backToPending).r.playerCount = 10 := by decide +kernel
/-- pending with open tables: the sync really handed queued players over -/
example : ((RSys.init 4 2).run (backToPending.take 5)).returned (.sync 1 [] [3,4] [] [3,4,9,10] []) = [9,10] := by
  decide

/-- settings outside `2 ≤ min ≤ max`: 1/1 (three one-seat tables; an eliminated player's seat is
    refilled by the next registrant), 2/3 (`min > max`: no table is ever opened), 3/0 (`min = 0`:
    a broken table's player is moved, a single late registrant gets a table of his own) -/
def oneOne : List EOp := [.status .normal [], .add [1,2,3] [], .sync 2 [2] [] [] [] [], .add [4] [2]]
example : ReachableAny ((RSys.init 1 1).run oneOne) :=
  (ReachableAny.init 1 1 (by decide +kernel)).run oneOne (by decide +kernel)
example : ((RSys.init 1 1).run oneOne).env.members = [(1, [1]), (2, [4]), (3, [3])] := by decide +kernel

def minAboveMax : List EOp := [.add [1,2,3,4,5,6,7] [], .status .normal []]
example : ReachableAny ((RSys.init 2 3).run minAboveMax) :=
  (ReachableAny.init 2 3 (by decide +kernel)).run minAboveMax (by decide +kernel)
example : ((RSys.init 2 3).run minAboveMax).r.queue = [1,2,3,4,5,6,7] := by decide +kernel

def minZero : List EOp := [.status .normal [], .add [1,2,3,4] [], .sync 1 [1] [2] [2] [] [2], .add [5] []]
example : ReachableAny ((RSys.init 3 0).run minZero) :=
  (ReachableAny.init 3 0 (by decide +kernel)).run minZero (by decide +kernel)
example : ((RSys.init 3 0).run minZero).env.members = [(2, [3,4,2]), (3, [5])] := by decide +kernel

/-- totality: hypotheses satisfiable, e.g. the sync of table 2 with one elimination after `topUp` -/
example : ((RSys.init 6 5).run topUp).env.membersOf 2 = some [7,8,9,10,11,12] := by decide +kernel

/-! ## asynchronous releases

`ASys` = regulator `r`, the tables that follow it `env` (as before), and `inflight`: the batches
`(table, players)` of players who have LEFT their table on the regulator's instruction and whose
`ReleasePlayers` has not been called yet.  Operations: `add`, `status` (as before),
`sync t elim stay rel keep` (the table eliminates `elim`, calls `SyncState(t, |elim|)`, seats the
new players, and `rel` — as many as it was told; everybody if it was broken — leave and are from
now on on the way back; NO `ReleasePlayers` call), and `report t ps rest ch`
(`ReleasePlayers(t, ps)` for some, usually all, of the players on the way back from `t`).
`AReachable` = from a fresh regulator with any setting `1 ≤ max`, any `min`, by any sequence of
operations valid in the sense `ASys.ok`, in any order of statuses.  `ok` does NOT ask a table to
report before its next sync, nor before other tables sync, nor in one piece.  The totality
theorems at the end of the section show that `ok` never blocks a history. -/

section Async
open ASys

/-- **counts_agree**, asynchronous: between any two operations the regulator's player total is
    the number of alive players (at a table, queued, or on the way back), its table count is the
    number of its table records and of real tables, and its sheet `(id, PlayerCount)` is exactly
    the real sheet `(id, number of members)`: players on the way back are NOT counted at the table
    they left (the regulator discounted them when it asked for the release). -/
theorem counts_agree_async {s : ASys} (h : AReachable s) :
    s.r.playerCount = s.env.alive.length ∧
    s.r.tableCount = s.r.tables.length ∧
    s.r.tables.length = s.env.members.length ∧
    s.r.tables.map (fun t => (t.id, t.count)) = s.env.members.map (fun e => (e.1, (e.2.length : Int))) :=
  (AInv.of_reachable h).counts_agree

/-- the regulator's own ledger, asynchronous: its player total is what it has queued, plus what it
    believes to sit at tables, plus the players on the way back -/
theorem ledger_async {s : ASys} (h : AReachable s) :
    s.r.playerCount = s.r.queue.length + ((s.r.tables.map (·.count)).sum) + (s.flying.length : Int) :=
  (AInv.of_reachable h).cnt

/-- **counts_agree**, per table, asynchronous -/
theorem count_of_table_async {s : ASys} (h : AReachable s) (t : Nat) :
    (s.r.findTable t).map (fun tb => tb.count) = (s.env.membersOf t).map (fun ms => (ms.length : Int)) :=
  (AInv.of_reachable h).count_of_table t

/-- **conservation**, asynchronous: the alive players are exactly the queue, all table
    memberships and all batches on the way back together (as multisets), and no id occurs twice. -/
theorem conservation_async {s : ASys} (h : AReachable s) :
    s.env.alive.Perm (s.r.queue ++ s.env.seated ++ s.flying) ∧
    (s.r.queue ++ s.env.seated ++ s.flying).Nodup ∧ s.env.alive.Nodup :=
  (AInv.of_reachable h).conservation

/-- **exactly one place**, asynchronous: an id is alive iff it is queued, or sits at some table, or
    is on the way back in some batch; never two of these; and no id occurs twice in the queue,
    twice at tables, or twice on the way. -/
theorem exactly_one_place_async {s : ASys} (h : AReachable s) (p : Nat) :
    (p ∈ s.env.alive ↔ (p ∈ s.r.queue ∨ (∃ e ∈ s.env.members, p ∈ e.2) ∨ (∃ e ∈ s.inflight, p ∈ e.2))) ∧
    ¬ (p ∈ s.r.queue ∧ ∃ e ∈ s.env.members, p ∈ e.2) ∧
    ¬ (p ∈ s.r.queue ∧ ∃ e ∈ s.inflight, p ∈ e.2) ∧
    ¬ ((∃ e ∈ s.env.members, p ∈ e.2) ∧ ∃ e ∈ s.inflight, p ∈ e.2) ∧
    s.r.queue.Nodup ∧ s.env.seated.Nodup ∧ s.flying.Nodup :=
  (AInv.of_reachable h).exactly_one_place p

/-- **exactly ONE table**, asynchronous: a player sits at one table only, and is on the way back
    from one table only (in one batch only). -/
theorem one_table_async {s : ASys} (h : AReachable s) (p : Nat) :
    (∀ t t' ms ms', s.env.membersOf t = some ms → s.env.membersOf t' = some ms' → p ∈ ms → p ∈ ms' → t = t') ∧
    (∀ t t', p ∈ s.flyingOf t → p ∈ s.flyingOf t' → t = t') ∧
    (∀ e ∈ s.inflight, ∀ e' ∈ s.inflight, p ∈ e.2 → p ∈ e'.2 → e = e') :=
  (AInv.of_reachable h).one_table p

/-- **the instructions can be followed**, asynchronous: a `SyncState` on an existing table — also
    one whose earlier releases have not been reported yet — is not refused, and the number of
    players it asks the table to release is between 0 and what the table has after the
    eliminations and arrivals. -/
theorem release_feasible_async {s : ASys} (h : AReachable s) (t : Nat) (ms elim stay : List Nat)
    (hm : s.env.membersOf t = some ms) (hp : ms.Perm (elim ++ stay)) :
    (s.syncAnswer t elim).2.1 = none ∧ 0 ≤ (s.syncAnswer t elim).2.2.1 ∧
    (s.syncAnswer t elim).2.2.1 ≤ ((stay ++ (s.syncAnswer t elim).2.2.2).length : Int) :=
  (AInv.of_reachable h).release_feasible t ms elim stay hm hp

/-- **handout_once**, asynchronous: in every valid operation, the queue before the operation
    followed by the players entering it (`incoming`: the registrants / the players whose release
    is reported) is, IN ORDER, the players returned by `SyncState`, then the players passed to
    callbacks, then the queue after the operation; and no id occurs twice in that list.  So every
    id handed out was removed from the queue in this very step, nobody was dropped, nobody is
    handed out twice or handed out and still queued — in particular a player on the way back is
    handed out only after his release has been reported. -/
theorem handout_once_async {s : ASys} (h : AReachable s) (op : AOp) (hok : s.ok op) :
    s.r.queue ++ s.incoming op = s.returned op ++ handed (s.step op).r.calls ++ (s.step op).r.queue ∧
    (s.returned op ++ handed (s.step op).r.calls ++ (s.step op).r.queue).Nodup :=
  (AInv.of_reachable h).handout_once op ((AInv.of_reachable h).okRe_of_ok hok)

/-- **on the way back**, bookkeeping of one operation: the players on the way after the operation
    together with those whose release was reported in it are those on the way before together
    with those who left their table in it (`departing`: the `rel` of a sync on a known table).
    Nobody else ever gets on or off the way. -/
theorem on_the_way_async {s : ASys} (h : AReachable s) (op : AOp) (hok : s.ok op) :
    ((s.step op).flying ++ ASys.reported op).Perm (s.flying ++ s.departing op) :=
  ((AInv.of_reachable h).step_full op hok).2.flying

/-- in reachable states the regulator knows exactly the tables that exist (a table whose players
    are all on the way back because it was broken is gone on both sides) -/
theorem unknown_iff_async {s : ASys} (h : AReachable s) (t : Nat) :
    s.env.membersOf t = none ↔ s.r.findTable t = none :=
  (AInv.of_reachable h).unknown_iff t

/-- **unknown_table_refused**, asynchronous system form (the regulator-level statement
    `unknown_table_refused` holds for ANY regulator state, so also here): a sync naming a
    non-existing table — e.g. a broken table whose players are still on the way back — leaves
    regulator, tables and the players on the way unchanged. -/
theorem unknown_table_refused_async {s : ASys} (h : AReachable s) (t : Nat) (elim stay rel keep : List Nat)
    (hm : s.env.membersOf t = none) :
    (s.syncAnswer t elim).2.1 = some .notFoundTable ∧
    SameState s.r (s.step (.sync t elim stay rel keep)).r ∧
    (s.step (.sync t elim stay rel keep)).r.calls = [] ∧
    (s.step (.sync t elim stay rel keep)).env = s.env ∧
    (s.step (.sync t elim stay rel keep)).inflight = s.inflight := by
  have hS := AInv.of_reachable h
  rw [hS.step_sync_unknown hm]
  exact ⟨(unknown_table_refused s.r t elim.length ((hS.unknown_iff t).1 hm)).1,
    ⟨rfl, rfl, rfl, rfl, rfl, rfl, rfl, rfl⟩, rfl, rfl, rfl⟩

/-- **late_registration_refused**, asynchronous system form, for ANY state (reachable or not):
    the refused registrants are nowhere, nothing changes — also while players are on the way. -/
theorem late_registration_refused_async (s : ASys) (ps ch : List Nat) (hs : s.r.status = .afterRegDeadline) :
    (s.r.addPlayers ps ch).2 = some .afterRegDeadline ∧
    SameState s.r (s.step (.add ps ch)).r ∧ (s.step (.add ps ch)).env = s.env ∧
    (s.step (.add ps ch)).inflight = s.inflight := by
  obtain ⟨h1, _, h3⟩ := late_registration_refused s.r ps ch hs
  rw [ASys.step_add_refused s ps ch hs]
  rw [addPlayers_refused s.r ps ch hs] at h3
  exact ⟨h1, h3, rfl, rfl⟩

/-! ### the synchronous system is the special case "report at once" -/

/-- **sync_then_report_eq_rsys_step**: from a state with nobody on the way, the asynchronous script
    of a synchronous operation (`ASys.expand`: `add ↦ add`, `status ↦ status`,
    `sync ↦ sync` followed AT ONCE by the `report` of everybody released, when somebody is released
    or the table was broken) leads to the synchronous successor state, again with nobody on the
    way.  (For ANY state and operation: a plain computation.) -/
theorem sync_then_report_eq_rsys_step (s : RSys) (op : EOp) :
    (ASys.ofRSys s).run (ASys.expand s op) = ASys.ofRSys (s.step op) :=
  ASys.run_expand s op

/-- the script of a valid synchronous operation is valid asynchronously -/
theorem sync_then_report_valid (s : RSys) (op : EOp) (hok : s.okAny op) :
    (ASys.ofRSys s).allOk (ASys.expand s op) :=
  ASys.allOk_expand s op hok

/-- **every synchronous history is an asynchronous history**: every state of the widest synchronous
    domain `ReachableAny` is, with nobody on the way, a reachable state of the asynchronous
    system.  Hence every theorem of this section specialises to the synchronous theorems above
    (`conservation_of_async` spells one out). -/
theorem rsys_history_is_async {s : RSys} (h : ReachableAny s) : AReachable (ASys.ofRSys s) :=
  AReachable.ofRSys h

/-- the synchronous `conservation` as the special case "nobody on the way" of `conservation_async` -/
theorem conservation_of_async {s : RSys} (h : ReachableAny s) :
    s.env.alive.Perm (s.r.queue ++ s.env.seated) ∧ (s.r.queue ++ s.env.seated).Nodup ∧ s.env.alive.Nodup := by
  have := conservation_async (rsys_history_is_async h)
  simpa [ASys.ofRSys, ASys.flying] using this

/-! ### totality: `ASys.ok` never blocks a history -/

/-- every batch of distinct, never registered ids can be registered, whoever is on the way -/
theorem registration_possible_async {s : ASys} (h : AReachable s) (ps : List Nat) (hnd : ps.Nodup)
    (hfresh : ∀ p ∈ ps, p ∉ s.env.registered) : ∃ ch, s.ok (.add ps ch) :=
  (AInv.of_reachable h).add_total ps hnd hfresh

/-- the status can be set to ANY status at any time -/
theorem status_change_possible_async {s : ASys} (h : AReachable s) (st : RStatus) :
    ∃ ch, s.ok (.status st ch) :=
  (AInv.of_reachable h).status_total st

/-- EVERY table (existing or not, with or without unreported releases) can sync at any time with
    EVERY split of its members into eliminated and remaining ones, and ANY choice of the players
    who leave (of exactly the number asked for) is valid. -/
theorem sync_possible_async {s : ASys} (h : AReachable s) (t : Nat) (elim stay rel keep : List Nat)
    (hsplit : ∀ ms, s.env.membersOf t = some ms → ms.Perm (elim ++ stay))
    (hrel : (stay ++ (s.syncAnswer t elim).2.2.2).Perm (rel ++ keep))
    (hlen : (rel.length : Int) = (s.syncAnswer t elim).2.2.1) :
    s.ok (.sync t elim stay rel keep) :=
  (AInv.of_reachable h).sync_total_rel t elim stay rel keep hsplit hrel hlen

/-- such a choice of leaving players exists -/
theorem sync_possible_async' {s : ASys} (h : AReachable s) (t : Nat) (elim stay : List Nat)
    (hsplit : ∀ ms, s.env.membersOf t = some ms → ms.Perm (elim ++ stay)) :
    ∃ rel keep, s.ok (.sync t elim stay rel keep) :=
  (AInv.of_reachable h).sync_total t elim stay hsplit

/-- **the report can arrive at any time**: in every reachable state, for every table id (also a
    table broken meanwhile) and every part `ps` of the players on the way back from it — all, some
    or none — `ReleasePlayers(t, ps)` is a valid operation for some dispatch choices. -/
theorem report_possible_async {s : ASys} (h : AReachable s) (t : Nat) (ps rest : List Nat)
    (hsplit : (s.flyingOf t).Perm (ps ++ rest)) : ∃ ch, s.ok (.report t ps rest ch) :=
  (AInv.of_reachable h).report_total t ps rest hsplit

/-! ### non-vacuity -/

private def rg (n k : Nat) : List Nat := (List.range k).map (· + n)

/-- 27 registrants at 9/6 (tables 1, 2, 3 of nine); table 2 loses six players.  Then
    table 1 syncs and is told to release two players (1 and 2 leave: on the way back);
    table 3 syncs with one elimination and is told to release one (20 leaves);
    players 28, 29 register and are dispatched to table 2;
    only now table 1's report arrives: 1 and 2 are dispatched to table 2.  Player 20 is still on
    the way. -/
def lateReport : List AOp :=
  [.add (rg 1 27) [], .status .normal [], .sync 2 [10,11,12,13,14,15] [16,17,18] [] [16,17,18],
   .sync 1 [] (rg 1 9) [1,2] (rg 3 7),
   .sync 3 [19] (rg 20 8) [20] (rg 21 7),
   .add [28,29] [2],
   .report 1 [1,2] [] [2]]

example : AReachable ((ASys.init 9 6).run lateReport) :=
  (AReachable.init 9 6 (by decide +kernel)).run lateReport (by decide +kernel)
/-- between the syncs and the report: two batches on the way, counted in the regulator's total (20 = 17 at
    tables + 3 on the way), not counted at their tables -/
example : ((ASys.init 9 6).run (lateReport.take 5)).inflight = [(1, [1,2]), (3, [20])] := by decide +kernel
example : ((ASys.init 9 6).run (lateReport.take 5)).r.playerCount = 20 := by decide +kernel
example : ((ASys.init 9 6).run (lateReport.take 5)).r.tables.map (fun t => (t.id, t.count)) =
    [(1, 7), (2, 3), (3, 7)] := by decide +kernel
/-- the registration in between is dispatched while players are on the way -/
example : ((ASys.init 9 6).run (lateReport.take 6)).r.calls = [.assign 2 [28, 29]] := by decide +kernel
/-- the late report: the released players are handed out now -/
example : ((ASys.init 9 6).run lateReport).r.calls = [.assign 2 [1, 2]] := by decide +kernel
example : ((ASys.init 9 6).run lateReport).env.members =
    [(1, [3,4,5,6,7,8,9]), (2, [16,17,18,28,29,1,2]), (3, [21,22,23,24,25,26,27])] := by decide +kernel
example : ((ASys.init 9 6).run lateReport).inflight = [(3, [20])] := by decide +kernel
example : ((ASys.init 9 6).run lateReport).r.playerCount = 22 := by decide +kernel
/-- this history is NOT a synchronous one: somebody is on the way at its end -/
example : ((ASys.init 9 6).run lateReport).flying ≠ [] := by decide +kernel

/-- further: table 3 syncs AGAIN before its report (three eliminations); table 1 is broken (its
    three remaining players leave); table 1 — which no longer exists — reports in two parts, with
    table 3's report in between. -/
def lateReport2 : List AOp := lateReport ++
  [.sync 3 [21,22,23] (rg 24 4) [] (rg 24 4),
   .sync 1 [3,4,5,6] [7,8,9] [7,8,9] [],
   .report 1 [8] [7,9] [3], .report 3 [20] [] [3], .report 1 [9,7] [] [2,3]]

example : AReachable ((ASys.init 9 6).run lateReport2) :=
  (AReachable.init 9 6 (by decide +kernel)).run lateReport2 (by decide +kernel)
example : ((ASys.init 9 6).run (lateReport2.take 9)).inflight = [(3, [20]), (1, [7,8,9])] := by decide +kernel
example : ((ASys.init 9 6).run (lateReport2.take 9)).env.membersOf 1 = none := by decide +kernel
example : ((ASys.init 9 6).run (lateReport2.take 10)).inflight = [(3, [20]), (1, [7,9])] := by decide +kernel
example : ((ASys.init 9 6).run lateReport2).env.members =
    [(2, [16,17,18,28,29,1,2,9]), (3, [24,25,26,27,8,20,7])] := by decide +kernel
example : ((ASys.init 9 6).run lateReport2).inflight = [] := by decide +kernel
/-- `release_feasible_async` with players on the way: table 2 is told to release one -/
example : (((ASys.init 9 6).run (lateReport2.take 8)).syncAnswer 2 []).2.2.1 = 1 := by decide +kernel
/-- a synchronous history, expanded: the sync of table 2 of `rebalance` becomes sync + report -/
example : ASys.expand ((RSys.init 9 6).run (rebalance.take 3)) (rebalance.getD 3 (.status .normal [])) =
    [.sync 2 [] [10,11,12,13,14,15,16,17,18] [10,11] [12,13,14,15,16,17,18], .report 2 [10,11] [] [1]] := by
  decide

end Async

end Pokerface.C09
