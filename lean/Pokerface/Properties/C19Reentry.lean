/-
  C19 with RE-ENTRIES (see Properties/C09Reentry.lean for the setting).

  The theorems of Properties/C19.lean (domain `Reachable`: status forward-only, every registered
  name never registered before) and Properties/C19Async.lean (`AReachableFwd`) are restated, with
  the same statements and the suffix `_re`, on the wider domains

    `ReachableReFwd`  (Proofs/RegReentry.lean: `RSys.okReFwd` = `RSys.ok` with "not alive now"
                       instead of "never registered" in a registration)
    `AReachableReFwd` (`ASys.okReFwd` = `ASys.okFwd` with the same weakening).

  `reentry_domain_wider_fwd(_async)`: the domains without re-entries are inside these.  The forward-only
  condition cannot be dropped (as in C19: `capacity_fails_after_return_to_pending`); the theorem
  that survives without it, `request_le_max_any`, is restated on `ReachableRe` / `AReachableRe`.

  `registered` in `no_table_before_min_re` / `no_request_before_min_re` is the list of ACCEPTED
  REGISTRATIONS: a re-entered name occurs in it once per registration, so its length is the
  number of registrations so far (what the Go code can know), not the number of distinct names.
-/
import Pokerface.Proofs.RegProps

namespace Pokerface.C19
open Pokerface Reg RSys

/-- the forward-only domain with re-entries contains `Reachable` -/
theorem reentry_domain_wider_fwd {s : RSys} (h : Reachable s) : ReachableReFwd s := h.reFwd

/-- **capacity** (`C19.capacity`), with re-entries. -/
theorem capacity_re {s : RSys} (h : ReachableReFwd s) :
    ∀ e ∈ s.env.members, e.2.length ≤ s.r.max :=
  fun _ he => (SInv.of_reachableReFwd h).capacity he

/-- **capacity, regulator side** (`C19.count_plus_required_le_max`), with re-entries. -/
theorem count_plus_required_le_max_re {s : RSys} (h : ReachableReFwd s) :
    ∀ tb ∈ s.r.tables, 0 ≤ tb.count ∧ 0 ≤ tb.required ∧ tb.count + tb.required ≤ s.r.max :=
  (SInv.of_reachableReFwd h).rinv.wf.bnd

/-- **capacity when opening tables** (`C19.request_le_max`), with re-entries. -/
theorem request_le_max_re {s : RSys} (h : ReachableReFwd s) (op : EOp) (hok : s.okReFwd op) :
    ∀ id ps, RCall.requestTable id ps ∈ (s.step op).r.calls → ps.length ≤ s.r.max :=
  ((SInv.of_reachableReFwd h).step_full_re op hok).2.reqmax

/-- **capacity while topping up**, at every callback (`C19.capacity_during`), with re-entries. -/
theorem capacity_during_re {s : RSys} (h : ReachableReFwd s) (op : EOp) (hok : s.okReFwd op)
    (cs₁ cs₂ : List RCall) (hcs : (s.step op).r.calls = cs₁ ++ cs₂) :
    ∀ e ∈ Env.applyCalls (s.baseMembers op) cs₁, e.2.length ≤ s.r.max :=
  let ⟨hS, hF⟩ := (SInv.of_reachableReFwd h).step_full_re op hok
  hS.capacity_during hF cs₁ cs₂ hcs

/-- **no_table_before_start**, state form (`C19.no_table_before_start`), with re-entries. -/
theorem no_table_before_start_re {s : RSys} (h : ReachableReFwd s) (hp : s.r.status = .pending) :
    s.r.tables = [] ∧ s.r.tableCount = 0 ∧ s.env.members = [] :=
  (SInv.of_reachableReFwd h).no_table_before_start hp

/-- **no_table_before_start**, callback form (`C19.no_callback_before_start`), with re-entries. -/
theorem no_callback_before_start_re {s : RSys} (h : ReachableReFwd s) (op : EOp) (hok : s.okReFwd op)
    (hp : (s.step op).r.status = .pending) : (s.step op).r.calls = [] :=
  (SInv0.of_reachableRe h.re).no_callback_before_start op (okRe_of_okReFwd hok) hp

/-- the status never returns to `pending` (`C19.pending_is_initial`), with re-entries. -/
theorem pending_is_initial_re {s : RSys} (h : ReachableReFwd s) (op : EOp) (hok : s.okReFwd op)
    (hp : (s.step op).r.status = .pending) : s.r.status = .pending := by
  refine ((SInv.of_reachableReFwd h).step_full_re op hok).2.pending_is_initial ?_ hp
  intro st ch e
  subst e
  exact hok.1

/-- **no_table_before_min**, state form (`C19.no_table_before_min`), with re-entries: `registered`
    holds a name once per accepted registration. -/
theorem no_table_before_min_re {s : RSys} (h : ReachableReFwd s) (hne : s.env.members ≠ []) :
    s.r.min ≤ s.env.registered.length :=
  (SInv.of_reachableReFwd h).no_table_before_min hne

/-- **no_table_before_min**, callback form (`C19.no_request_before_min`), with re-entries. -/
theorem no_request_before_min_re {s : RSys} (h : ReachableReFwd s) (op : EOp) (hok : s.okReFwd op)
    (id : Nat) (ps : List Nat) (hc : RCall.requestTable id ps ∈ (s.step op).r.calls) :
    s.r.min ≤ (s.step op).env.registered.length :=
  let ⟨hS, hF⟩ := (SInv.of_reachableReFwd h).step_full_re op hok
  hS.no_request_before_min hF id ps hc

/-- **initial_tables_have_min** (`C19.initial_tables_have_min`), with re-entries. -/
theorem initial_tables_have_min_re {s : RSys} (h : ReachableReFwd s) (h0 : s.r.tableCount = 0) (op : EOp)
    (hok : s.okReFwd op) (id : Nat) (ps : List Nat) (hc : RCall.requestTable id ps ∈ (s.step op).r.calls) :
    s.r.min ≤ ps.length :=
  (SInv0.of_reachableRe h.re).initial_min h.re.max_pos h0 op id ps hc

/-- **initial_tables_have_min**, the `ReleasePlayers` of a sync that broke the last table
    (`C19.initial_tables_have_min_release`), with re-entries. -/
theorem initial_tables_have_min_release_re {s : RSys} (h : ReachableReFwd s) (t : Nat)
    (elim stay rel keep ch : List Nat) (hok : s.okReFwd (.sync t elim stay rel keep ch))
    (h0 : (s.syncAnswer t elim).1.tableCount = 0) (id : Nat) (ps : List Nat)
    (hc : RCall.requestTable id ps ∈ (s.step (.sync t elim stay rel keep ch)).r.calls) :
    s.r.min ≤ ps.length :=
  RSys.initial_min_release s h.re.max_pos t elim stay rel keep ch h0 id ps hc

/-- what survives without the forward-only condition, with re-entries: the tables OPENED never
    exceed `max` -/
theorem request_le_max_any_re {s : RSys} (h : ReachableRe s) (op : EOp) (hok : s.okRe op) :
    ∀ id ps, RCall.requestTable id ps ∈ (s.step op).r.calls → ps.length ≤ s.r.max :=
  ((SInv0.of_reachableRe h).step_full_re op hok).2.reqmax

/-! ### non-vacuity -/

/-- 13 registrants at 6/5, start (two tables of six, 13 waits), players 1, 2 of table 1 are
    eliminated (13 is seated), player 1 REGISTERS AGAIN and is dispatched to table 1 (now full). -/
def reentry19 : List EOp :=
  [.add [1,2,3,4,5,6,7,8,9,10,11,12,13] [], .status .normal [],
   .sync 1 [1,2] [3,4,5,6] [] [3,4,5,6,13] [], .add [1] [1]]

example : ReachableReFwd ((RSys.init 6 5).run reentry19) :=
  (ReachableReFwd.init 6 5 (by decide +kernel)).run reentry19 (by decide +kernel)
example : ¬ (RSys.init 6 5).allOk reentry19 := by decide +kernel
example : ((RSys.init 6 5).run reentry19).env.members = [(1, [3,4,5,6,13,1]), (2, [7,8,9,10,11,12])] := by decide +kernel
example : ((RSys.init 6 5).run reentry19).r.calls = [.assign 1 [1]] := by decide +kernel
/-- 14 registrations, 13 names -/
example : ((RSys.init 6 5).run reentry19).env.registered.length = 14 := by decide +kernel
/-- a further re-entry (player 2) finds both tables full: he waits in the queue -/
example : ((RSys.init 6 5).run reentry19).okReFwd (.add [2] []) := by decide +kernel
example : (((RSys.init 6 5).run reentry19).step (.add [2] [])).r.queue = [2] := by decide +kernel

/-! ## asynchronous releases -/

section Async
open ASys

/-- the asynchronous forward-only domain with re-entries contains `AReachableFwd` -/
theorem reentry_domain_wider_fwd_async {s : ASys} (h : AReachableFwd s) : AReachableReFwd s := h.reFwd

/-- **capacity**, asynchronous (`C19.capacity_async`), with re-entries. -/
theorem capacity_async_re {s : ASys} (h : AReachableReFwd s) :
    ∀ e ∈ s.env.members, e.2.length ≤ s.r.max :=
  fun _ he => (AInvF.of_reachableReFwd h).capacity he

/-- **capacity, regulator side**, asynchronous (`C19.count_plus_required_le_max_async`), with
    re-entries. -/
theorem count_plus_required_le_max_async_re {s : ASys} (h : AReachableReFwd s) :
    ∀ tb ∈ s.r.tables, 0 ≤ tb.count ∧ 0 ≤ tb.required ∧ tb.count + tb.required ≤ s.r.max :=
  (AInvF.of_reachableReFwd h).f.wf.bnd

/-- the regulator's `PlayerCount` of a table is the real number of its members
    (`C19.count_is_membership_async`), with re-entries. -/
theorem count_is_membership_async_re {s : ASys} (h : AReachableReFwd s) :
    ∀ e ∈ s.env.members, ∃ tb ∈ s.r.tables, tb.id = e.1 ∧ tb.count = e.2.length :=
  fun _ he => (AInvF.of_reachableReFwd h).a.mem_table he

/-- **capacity when opening tables**, asynchronous (`C19.request_le_max_async`), with re-entries. -/
theorem request_le_max_async_re {s : ASys} (h : AReachableReFwd s) (op : AOp) (hok : s.okReFwd op) :
    ∀ id ps, RCall.requestTable id ps ∈ (s.step op).r.calls → ps.length ≤ s.r.max :=
  ((AInvF.of_reachableReFwd h).a.step_full_re op (okRe_of_okReFwd hok)).2.reqmax

/-- **capacity while topping up**, at every callback, asynchronous (`C19.capacity_during_async`),
    with re-entries. -/
theorem capacity_during_async_re {s : ASys} (h : AReachableReFwd s) (op : AOp) (hok : s.okReFwd op)
    (cs₁ cs₂ : List RCall) (hcs : (s.step op).r.calls = cs₁ ++ cs₂) :
    ∀ e ∈ Env.applyCalls (s.baseMembers op) cs₁, e.2.length ≤ s.r.max :=
  (AInvF.of_reachableReFwd h).capacity_during op hok cs₁ cs₂ hcs

/-- **no_table_before_start**, state form, asynchronous (`C19.no_table_before_start_async`), with
    re-entries. -/
theorem no_table_before_start_async_re {s : ASys} (h : AReachableReFwd s) (hp : s.r.status = .pending) :
    s.r.tables = [] ∧ s.r.tableCount = 0 ∧ s.env.members = [] ∧ s.inflight = [] :=
  (AInvF.of_reachableReFwd h).no_table_before_start hp

/-- **no_table_before_start**, callback form, asynchronous (`C19.no_callback_before_start_async`),
    with re-entries. -/
theorem no_callback_before_start_async_re {s : ASys} (h : AReachableReFwd s) (op : AOp) (hok : s.okReFwd op)
    (hp : (s.step op).r.status = .pending) : (s.step op).r.calls = [] :=
  (AInvF.of_reachableReFwd h).no_callback_before_start op hok hp

/-- the status never returns to `pending`, asynchronous (`C19.pending_is_initial_async`), with
    re-entries. -/
theorem pending_is_initial_async_re {s : ASys} (h : AReachableReFwd s) (op : AOp) (hok : s.okReFwd op)
    (hp : (s.step op).r.status = .pending) : s.r.status = .pending :=
  (AInvF.of_reachableReFwd h).pending_is_initial op hok hp

/-- **no_table_before_min**, state form, asynchronous (`C19.no_table_before_min_async`), with
    re-entries. -/
theorem no_table_before_min_async_re {s : ASys} (h : AReachableReFwd s) (hne : s.env.members ≠ []) :
    s.r.min ≤ s.env.registered.length :=
  (AInvF.of_reachableReFwd h).no_table_before_min hne

/-- **no_table_before_min**, callback form, asynchronous (`C19.no_request_before_min_async`), with
    re-entries. -/
theorem no_request_before_min_async_re {s : ASys} (h : AReachableReFwd s) (op : AOp) (hok : s.okReFwd op)
    (id : Nat) (ps : List Nat) (hc : RCall.requestTable id ps ∈ (s.step op).r.calls) :
    s.r.min ≤ (s.step op).env.registered.length :=
  (AInvF.of_reachableReFwd h).no_request_before_min op hok id ps hc

/-- **initial_tables_have_min**, asynchronous (`C19.initial_tables_have_min_async`), with
    re-entries. -/
theorem initial_tables_have_min_async_re {s : ASys} (h : AReachableReFwd s) (h0 : s.r.tableCount = 0)
    (op : AOp) (_hok : s.okReFwd op) (id : Nat) (ps : List Nat)
    (hc : RCall.requestTable id ps ∈ (s.step op).r.calls) : s.r.min ≤ ps.length :=
  ASys.initial_min s (AInvF.of_reachableReFwd h).f.wf.maxpos h0 op id ps hc

/-- without the forward-only condition, asynchronous, with re-entries -/
theorem request_le_max_async_any_re {s : ASys} (h : AReachableRe s) (op : AOp) (hok : s.okRe op) :
    ∀ id ps, RCall.requestTable id ps ∈ (s.step op).r.calls → ps.length ≤ s.r.max :=
  ((AInv.of_reachableRe h).step_full_re op hok).2.reqmax

/-- every synchronous forward-only history with re-entries is an asynchronous one -/
theorem rsys_reachable_is_async_fwd_re {s : RSys} (h : RSys.ReachableReFwd s) :
    AReachableReFwd (ASys.ofRSys s) :=
  AReachableReFwd.ofRSys h

/-- the synchronous `capacity_re` as the special case "nobody on the way" of `capacity_async_re` -/
theorem capacity_of_async_re {s : RSys} (h : RSys.ReachableReFwd s) :
    ∀ e ∈ s.env.members, e.2.length ≤ s.r.max :=
  capacity_async_re (rsys_reachable_is_async_fwd_re h)

/-! ### non-vacuity -/

/-- 8 registrants at 4/2; players 1, 2 are eliminated at table 1; table 2 is told to release one
    player (5 leaves: on the way back); player 1 REGISTERS AGAIN while 5 is on the way and is
    seated at table 1; then the late report of 5 arrives. -/
def lateRe : List AOp :=
  [.add [1,2,3,4,5,6,7,8] [], .status .normal [], .sync 1 [1,2] [3,4] [] [3,4],
   .sync 2 [] [5,6,7,8] [5] [6,7,8], .add [1] [1], .report 2 [5] [] [1]]

example : AReachableReFwd ((ASys.init 4 2).run lateRe) :=
  (AReachableReFwd.init 4 2 (by decide +kernel)).run lateRe (by decide +kernel)
example : ¬ (ASys.init 4 2).allOkFwd lateRe := by decide +kernel
example : ((ASys.init 4 2).run (lateRe.take 5)).inflight = [(2, [5])] := by decide +kernel
example : ((ASys.init 4 2).run (lateRe.take 5)).env.members = [(1, [3,4,1]), (2, [6,7,8])] := by decide +kernel
example : ((ASys.init 4 2).run lateRe).env.members = [(1, [3,4,1,5]), (2, [6,7,8])] := by decide +kernel
example : ((ASys.init 4 2).run lateRe).inflight = [] := by decide +kernel

end Async

end Pokerface.C19
