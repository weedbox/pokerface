/-
  C08, second sentence ("newcomer timing") — from ANY reachable arrival state.

  `C08.newcomer_timing` / `newcomer_timing_interleaved` require the newcomer's `Join` to be the first
  operation after a successful `next`.  Here:
  * the arrival state `A` is any reachable state;
  * other players' operations (`Aside x T op`: not `next`, leaves seat `x` as it is — e.g. `Join`/`Leave`/`Reserve`/`Seat`
    on other seats, `Other.aside`, or refused operations) may come before the newcomer's `Join` (`pre`), between his
    `Join` and his `Seat` (`mid`), after his `Seat` (`post`), and (`newcomer_timing_hist`) between the `next`s;
  * the `Join` may be explicit (`Join(x)`) or `Join(-1)` (`newcomer_timing_any_seat`).
  The known exclusions are explicit hypotheses, as predicates of the state in which `next` is called:
  * D9: seat `x` is *inactive* when the newcomer arrives (`hina`; right after a `next` this follows from "empty when `next`
    ran", `newcomer_timing_after_next`);
  * D10: at least two seats are playable (`2 ≤ playableCount`);
  * D4: at most one playable seat lies strictly between the dealer and `x` (`FewBetween`; right after a `next` this holds
    for every seat in front of the big blind, and is inherited as long as nobody sits in strictly between).
  `arrive A x pre seat pid c mid post` = `A.run (pre ++ Join(seat,pid) :: mid ++ Seat(x) :: post)` (`arrive_eq_run`).
  `newcomer_timing_from_hist` puts the arrival and the history with asides between the `next`s together (`Calm`, `Timing`).
  The most general statement is the last, `newcomer_timing_general`: after the `Join`, any interleaving of asides, `next`s
  and the newcomer's `Seat(x)` (`QuietRun`), with the timing as `Track` (ArrivalGeneral).
-/
import Pokerface.Proofs.ArrivalFrame
import Pokerface.Proofs.ArrivalGeneral

namespace Pokerface.C08A
open SM

/-- The 6-seat example of C08: players on 0, 2, 4, one hand started (dealer 0, sb 2, bb 4); seats 1 and 3 are empty and
deactivated, seat 5 is empty and active. -/
def ex0 : SM := (SM.new 6).run [.join 0 1 none, .seat 0, .join 2 2 none, .seat 2, .join 4 3 none, .seat 4, .next]

/-- **C08 "a player who takes an empty seat strictly between the dealer and the big blind is … dealt in from exactly the
first hand after the button has moved past that seat — not before, and not later", from any reachable arrival state.**

`A` is ANY reachable state with dealer `d`; seat `x`, `a` places clockwise after the dealer (`0 < a < max`), holds nobody
and is inactive in `A` (D9 exclusion: a seat vacated after the last `next` stays active).  History: `pre` (other players'
operations), the newcomer's `Join(x)`, `mid` (others), his `Seat(x)`, `post` (others), giving `T`; then `next`s.
Hypotheses on `T` (the state in which the first `next` is called): at least two playable seats (D10 exclusion) and at
most one playable seat strictly between dealer and `x` (D4 exclusion).
Conclusions: the `Join` is accepted on `x` and the `Seat` is accepted; the button passes `x` in the first or second
`next`; and for every `n` such that the button has not passed `x` in the first `n` `next`s: `x` is not dealt in in hand `n`
(not before), the `(n+1)`-th `next` succeeds, and if the button passes `x` in it, `x` is dealt in (not later). -/
theorem newcomer_timing_from (A : SM) (hA : Reachable A) (d a x : Nat) (s : Seat) (pid : Nat) (c : Option Nat)
    (pre mid post : List SMOp)
    (hd : A.dealer = some d) (ha0 : 0 < a) (ha : a < A.max) (hx : x = (d + a) % A.max)
    (hs : A.seats[x]? = some s) (hemp : s.player = none) (hina : s.active = false)
    (hpre : AsideRun x A pre)
    (hmid : AsideRun x (arriveJ A pre (x : Int) pid c) mid)
    (hpost : AsideRun x ((arriveM A pre (x : Int) pid c mid).step (.seat (x : Int))).1 post)
    (hD10 : 2 ≤ (arrive A x pre (x : Int) pid c mid post).playableCount)
    (hD4 : FewBetween (arrive A x pre (x : Int) pid c mid post) d a) :
    ((A.run pre).step (.join (x : Int) pid c)).2 = (none, some x) ∧
    ((arriveM A pre (x : Int) pid c mid).step (.seat (x : Int))).2.1 = none ∧
    (arrive A x pre (x : Int) pid c mid post).seats[x]? = some { player := some pid, active := false, reserved := false } ∧
    (Passed (arrive A x pre (x : Int) pid c mid post) x 0 ∨ Passed (arrive A x pre (x : Int) pid c mid post) x 1) ∧
    ∀ n, (∀ m, m < n → ¬ Passed (arrive A x pre (x : Int) pid c mid post) x m) →
      (nexts (arrive A x pre (x : Int) pid c mid post) n).playable x = false ∧
      ((nexts (arrive A x pre (x : Int) pid c mid post) n).step .next).2.1 = none ∧
      (Passed (arrive A x pre (x : Int) pid c mid post) x n →
        (nexts (arrive A x pre (x : Int) pid c mid post) (n + 1)).playable x = true) := by
  obtain ⟨p1, p2, p3⟩ := hpre.frame
  have hxm : x < (A.run pre).max := by
    rw [p2, hx]
    exact Nat.mod_lt _ (by omega)
  have hj := join_explicit_accepted (p3.trans hs) hemp hxm pid c
  obtain ⟨_, _, hseat, hTx, w⟩ :=
    waiting_arrival hA.inv hd ha0 ha hx hs hina (x : Int) pid c pre mid post hpre hj hmid hpost hD10 hD4
  exact ⟨hj, hseat, hTx, waiting_passed_soon w, fun n hnp => waiting_timing w n hnp⟩

/-- Non-vacuity of `newcomer_timing_from`: on `ex0` another player joins seat 5 (`pre`), the newcomer joins seat 3, the
other player sits in on 5 (`mid`), the newcomer sits in, a `Leave(1)` on the empty seat 1 is refused (`post`).  Four
seats are then playable/occupied (0, 2, 4, 5 playable; 3 waiting); the button goes 0 → 2 → 4 and seat 3 is dealt in from
the second hand on. -/
example : ex0.dealer = some 0 ∧ ex0.seats[3]? = some { player := none, active := false, reserved := false } ∧
    (let T := arrive ex0 3 [.join 5 7 none] 3 9 none [.seat 5] [.leave 1]
     T.playableCount = 4 ∧ T.playable 3 = false ∧ (nexts T 1).dealer = some 2 ∧ (nexts T 1).playable 3 = false ∧
     (nexts T 2).dealer = some 4 ∧ (nexts T 2).playable 3 = true) := by decide
example : OtherRun 3 ex0 [.join 5 7 none] ∧ OtherRun 3 (arriveJ ex0 [.join 5 7 none] 3 9 none) [.seat 5] ∧
    OtherRun 3 ((arriveM ex0 [.join 5 7 none] 3 9 none [.seat 5]).step (.seat 3)).1 [.leave 1] := by
  refine ⟨⟨?_, trivial⟩, ⟨?_, trivial⟩, ⟨?_, trivial⟩⟩
  · show (ex0.step (.join 5 7 none)).2.2 ≠ some 3
    decide
  · show (5 : Int) ≠ ((3 : Nat) : Int)
    decide
  · show (1 : Int) ≠ ((3 : Nat) : Int)
    decide
example : FewBetween (arrive ex0 3 [.join 5 7 none] 3 9 none [.seat 5] [.leave 1]) 0 3 := by
  refine FewBetween.of_only 2 fun j h1 h2 hp => ?_
  have hj : j = 1 ∨ j = 2 := by omega
  rcases hj with rfl | rfl
  · exfalso
    revert hp
    decide
  · rfl

/-- **The same for `Join(-1)`** (the seat is chosen by the seat manager; `c` is the choice input of the model).  If the
`Join(-1, pid)` is accepted and lands on a seat `x` that satisfies the hypotheses of `newcomer_timing_from` (inactive, `a`
places after the dealer; D10 / D4 exclusions on the state `T`), the same timing holds.  In addition (as in
`C18.join_any_lands`): the seat he landed on was free, and — being inactive — can only have been chosen because no active
free seat existed at that moment. -/
theorem newcomer_timing_any_seat (A : SM) (hA : Reachable A) (d a x : Nat) (s : Seat) (pid : Nat) (c : Option Nat)
    (pre mid post : List SMOp)
    (hd : A.dealer = some d) (ha0 : 0 < a) (ha : a < A.max) (hx : x = (d + a) % A.max)
    (hs : A.seats[x]? = some s) (hina : s.active = false)
    (hpre : AsideRun x A pre)
    (hj : ((A.run pre).step (.join (-1) pid c)).2 = (none, some x))
    (hmid : AsideRun x (arriveJ A pre (-1) pid c) mid)
    (hpost : AsideRun x ((arriveM A pre (-1) pid c mid).step (.seat (x : Int))).1 post)
    (hD10 : 2 ≤ (arrive A x pre (-1) pid c mid post).playableCount)
    (hD4 : FewBetween (arrive A x pre (-1) pid c mid post) d a) :
    (s.player = none ∧ s.reserved = false ∧ ∀ j, ¬ FreeActive (A.run pre) j) ∧
    ((arriveM A pre (-1) pid c mid).step (.seat (x : Int))).2.1 = none ∧
    (arrive A x pre (-1) pid c mid post).seats[x]? = some { player := some pid, active := false, reserved := false } ∧
    (Passed (arrive A x pre (-1) pid c mid post) x 0 ∨ Passed (arrive A x pre (-1) pid c mid post) x 1) ∧
    ∀ n, (∀ m, m < n → ¬ Passed (arrive A x pre (-1) pid c mid post) x m) →
      (nexts (arrive A x pre (-1) pid c mid post) n).playable x = false ∧
      ((nexts (arrive A x pre (-1) pid c mid post) n).step .next).2.1 = none ∧
      (Passed (arrive A x pre (-1) pid c mid post) x n →
        (nexts (arrive A x pre (-1) pid c mid post) (n + 1)).playable x = true) := by
  obtain ⟨hemp, _, hseat, hTx, w⟩ :=
    waiting_arrival hA.inv hd ha0 ha hx hs hina (-1) pid c pre mid post hpre hj hmid hpost hD10 hD4
  refine ⟨?_, hseat, hTx, waiting_passed_soon w, fun n hnp => waiting_timing w n hnp⟩
  -- `Join(-1)` landed on a seat of the pool: free, and inactive only when no free seat is active
  obtain ⟨_, _, p3⟩ := hpre.frame
  obtain ⟨⟨s', hs', _, hr⟩, hact⟩ := (mem_joinPool (run_inv hA.inv pre).wf x).mp
    (join_any_landed (congrArg (·.1) hj) (congrArg (·.2) hj))
  rw [p3, hs] at hs'
  cases hs'
  refine ⟨hemp, hr, hact.resolve_left ?_⟩
  rintro ⟨s'', hs'', _, _, ha⟩
  rw [p3, hs] at hs''
  cases hs''
  rw [hina] at ha
  cases ha

/-- Non-vacuity of `newcomer_timing_any_seat`: on `ex0` with seat 5 taken by another player first (`pre`; then no active
free seat is left), `Join(-1)` with choice 3 lands on the inactive seat 3; dealt in from the second hand on. -/
example : ((ex0.run [.join 5 7 none, .seat 5]).step (.join (-1) 9 (some 3))).2 = (none, some 3) ∧
    (let T := arrive ex0 3 [.join 5 7 none, .seat 5] (-1) 9 (some 3) [] []
     T.playableCount = 4 ∧ T.playable 3 = false ∧ (nexts T 1).dealer = some 2 ∧ (nexts T 1).playable 3 = false ∧
     (nexts T 2).dealer = some 4 ∧ (nexts T 2).playable 3 = true) := by decide
example : OtherRun 3 ex0 [.join 5 7 none, .seat 5] := by
  refine ⟨?_, ?_, trivial⟩
  · show (ex0.step (.join 5 7 none)).2.2 ≠ some 3
    decide
  · show (5 : Int) ≠ ((3 : Nat) : Int)
    decide

/-- **From a reachable post-`Next` state, with other players' operations around the newcomer's `Join` and `Seat`.**
Setting of `C08.newcomer_timing`: `S0 = (sm.step .next).1` right after a successful `next` from a reachable state, dealer
`d`, big blind `b`, seat `x` strictly between them and empty in `S0` (D9 exclusion).  Here other players' operations
`pre`, `mid`, `post` (asides for `x`) surround the newcomer's `Join(x)` and `Seat(x)`.  Exclusions, on the state `T` in
which the following `next` is called: at least two playable seats (D10), and no seat strictly between the dealer and `x`
has become playable since `S0` (D4: nobody sat in between).  Same conclusions. -/
theorem newcomer_timing_after_next (sm : SM) (h : Reachable sm) (hok : (sm.step .next).2.1 = none)
    (d b x : Nat) (s : Seat) (pid : Nat) (c : Option Nat) (pre mid post : List SMOp)
    (hd : (sm.step .next).1.dealer = some d) (hb : (sm.step .next).1.bb = some b)
    (hx : StrictlyBetween (sm.step .next).1.max d x b)
    (hs : (sm.step .next).1.seats[x]? = some s) (hemp : s.player = none)
    (hpre : AsideRun x (sm.step .next).1 pre)
    (hmid : AsideRun x (arriveJ (sm.step .next).1 pre (x : Int) pid c) mid)
    (hpost : AsideRun x ((arriveM (sm.step .next).1 pre (x : Int) pid c mid).step (.seat (x : Int))).1 post)
    (hD10 : 2 ≤ (arrive (sm.step .next).1 x pre (x : Int) pid c mid post).playableCount)
    (hD4 : ∀ y, StrictlyBetween (sm.step .next).1.max d y x →
      (arrive (sm.step .next).1 x pre (x : Int) pid c mid post).playable y = true →
      (sm.step .next).1.playable y = true) :
    ∃ T, T = arrive (sm.step .next).1 x pre (x : Int) pid c mid post ∧
      (T.seats[x]? = some { player := some pid, active := false, reserved := false }) ∧
      (Passed T x 0 ∨ Passed T x 1) ∧
      ∀ n, (∀ m, m < n → ¬ Passed T x m) →
        (nexts T n).playable x = false ∧ ((nexts T n).step .next).2.1 = none ∧
        (Passed T x n → (nexts T (n + 1)).playable x = true) := by
  obtain ⟨d', ks, kb, hn⟩ := next_ok h.inv hok
  obtain ⟨rfl, a, ha0, hab, rfl⟩ := hn.offset_of_between hd hb hx
  have hkb := hn.kb_lt
  have hina := inactive_after_next hn hab hs hemp
  have hTmax : (arrive (sm.step .next).1 ((d + a) % sm.max) pre (((d + a) % sm.max : Nat) : Int) pid c mid post).max
      = (sm.step .next).1.max := by
    exact (arrive_max_dealer hpre hmid hpost).1
  have hfew : FewBetween (arrive (sm.step .next).1 ((d + a) % sm.max) pre (((d + a) % sm.max : Nat) : Int) pid c mid post)
      d a := by
    refine (fewBetween_after_next hn hab).mono hTmax ?_
    intro j hj1 hj2 hp
    apply hD4 _ ?_ hp
    rw [hn.max_eq]
    exact ⟨j, a, hj1, hj2, by omega, hn.max_eq ▸ rfl, rfl⟩
  obtain ⟨_, _, hTx, hsoon, htim⟩ := newcomer_timing_from (sm.step .next).1 (h.step .next) d a _ s pid c pre mid post
    hn.dealer ha0 (by rw [hn.max_eq]; omega) (by rw [hn.max_eq]) hs hemp hina hpre hmid hpost hD10 hfew
  exact ⟨_, rfl, hTx, hsoon, htim⟩


/-- Non-vacuity of `newcomer_timing_after_next`: `ex0` is the state right after a successful `next` (dealer 0, big blind
4, seat 3 empty and strictly between); with the same `pre`/`mid`/`post` as above no seat strictly between the dealer and
seat 3 (seats 1, 2) has become playable. -/
example : let sm := (SM.new 6).run [.join 0 1 none, .seat 0, .join 2 2 none, .seat 2, .join 4 3 none, .seat 4]
    (sm.step .next).2.1 = none ∧ (sm.step .next).1 = ex0 ∧ ex0.dealer = some 0 ∧ ex0.bb = some 4 ∧
    2 ≤ (arrive ex0 3 [.join 5 7 none] 3 9 none [.seat 5] [.leave 1]).playableCount := by decide
example : ∀ y, StrictlyBetween ex0.max 0 y 3 →
    (arrive ex0 3 [.join 5 7 none] 3 9 none [.seat 5] [.leave 1]).playable y = true → ex0.playable y = true := by
  rintro y ⟨a, b, h1, h2, h3, rfl, h5⟩ hp
  have hm : ex0.max = 6 := by decide
  rw [hm] at h3 h5 hp ⊢
  have ha : a = 1 ∨ a = 2 := by omega
  rcases ha with rfl | rfl
  · revert hp
    decide
  · decide

/-- **Other players' operations between the `next`s as well.**  From the arrival state `T` of `newcomer_timing_from`
(any state in which the newcomer is `Waiting`), consider the history `seg₁; next; seg₂; next; …` where every `segᵢ` is
a list of other players' operations (asides for `x`).  If the history is `Calm` — every `next` up to the one in which the
button passes `x` is called in a state with at least two playable seats (D10) and at most one playable seat strictly
between the dealer and `x` (D4) — then (`Timing`): before each such `next` seat `x` is not playable, the `next` succeeds,
and in the new hand `x` is playable **iff** the button passed `x` in that `next`. -/
theorem newcomer_timing_hist {T : SM} {x d a : Nat} (w : Waiting T x d a) (segs : List (List SMOp))
    (hc : Calm x T segs) : Timing x T segs :=
  waiting_timing_hist w hc


/-- `newcomer_timing_from` / `newcomer_timing_any_seat` and `newcomer_timing_hist` combined, without the helper predicate
`Waiting`: arrival in any reachable state `A` by a `Join` (explicit seat or `-1`) accepted on the inactive seat `x`
(`pre`, `mid`, `post` other players' operations), then ANY calm history `seg₁; next; seg₂; next; …` of other players'
operations and `next`s: not dealt in before the button passes `x`, every such `next` succeeds, dealt in in the hand in
which it passes.  (`hD10`, `hD4` are the exclusions for the arrival state itself; `Calm` carries them for each `next`.) -/
theorem newcomer_timing_from_hist (A : SM) (hA : Reachable A) (d a x : Nat) (s : Seat) (seat : Int) (pid : Nat)
    (c : Option Nat) (pre mid post : List SMOp)
    (hd : A.dealer = some d) (ha0 : 0 < a) (ha : a < A.max) (hx : x = (d + a) % A.max)
    (hs : A.seats[x]? = some s) (hina : s.active = false)
    (hpre : AsideRun x A pre)
    (hj : ((A.run pre).step (.join seat pid c)).2 = (none, some x))
    (hmid : AsideRun x (arriveJ A pre seat pid c) mid)
    (hpost : AsideRun x ((arriveM A pre seat pid c mid).step (.seat (x : Int))).1 post)
    (hD10 : 2 ≤ (arrive A x pre seat pid c mid post).playableCount)
    (hD4 : FewBetween (arrive A x pre seat pid c mid post) d a)
    (segs : List (List SMOp)) (hc : Calm x (arrive A x pre seat pid c mid post) segs) :
    Timing x (arrive A x pre seat pid c mid post) segs := by
  obtain ⟨_, _, _, _, w⟩ :=
    waiting_arrival hA.inv hd ha0 ha hx hs hina seat pid c pre mid post hpre hj hmid hpost hD10 hD4
  exact waiting_timing_hist w hc

/-- Non-vacuity of `newcomer_timing_hist` / `newcomer_timing_from_hist`: the newcomer waits on seat 3 of `ex0` (`T`); history: another player joins
seat 5; `next` (button 0 → 2, not past seat 3); that player sits in on 5; `next` (button 2 → 4, past seat 3).  The history
is calm, and (`Timing`, evaluated) seat 3 is not playable in the first new hand and playable in the second. -/
example : let T := arrive ex0 3 [] 3 9 none [] []
    Calm 3 T [[.join 5 7 none], [.seat 5]] ∧
    (((T.run [.join 5 7 none]).step .next).1.playable 3 = false ∧
     ((((T.run [.join 5 7 none]).step .next).1.run [.seat 5]).step .next).1.playable 3 = true) := by
  intro T
  have hfew0 : ∀ U : SM, U.max = 6 → U.playable 1 = false → FewBetween U 0 3 := by
    intro U hm h1
    refine FewBetween.of_only 2 fun j a1 a2 hp => ?_
    rw [hm] at hp
    have hj : j = 1 ∨ j = 2 := by omega
    rcases hj with rfl | rfl
    · rw [h1] at hp
      cases hp
    · rfl
  -- the two states in which `next` is called, evaluated once each
  have h1 : let U := T.run [.join 5 7 none]
      2 ≤ U.playableCount ∧ U.dealer = some 0 ∧ U.max = 6 ∧ U.playable 1 = false := by decide
  have h2 : let U := ((T.run [.join 5 7 none]).step .next).1.run [.seat 5]
      2 ≤ U.playableCount ∧ U.dealer = some 2 ∧ U.max = 6 := by decide
  obtain ⟨c1, hd1, hm1, hp1⟩ := h1
  obtain ⟨c2, hd2, hm2⟩ := h2
  refine ⟨⟨⟨Other.aside (by show (T.step (.join 5 7 none)).2.2 ≠ some 3; decide), trivial⟩, ⟨c1, ?_⟩, fun _ =>
    ⟨⟨Other.aside (by show (5 : Int) ≠ ((3 : Nat) : Int); decide), trivial⟩, ⟨c2, ?_⟩, fun _ => trivial⟩⟩, by decide⟩
  · intro d a hd h0 ha hx
    rw [hd1] at hd
    cases hd
    rw [hm1] at ha hx
    have : a = 3 := by omega
    subst this
    exact hfew0 _ hm1 hp1
  · intro d a hd h0 ha hx
    rw [hd2] at hd
    cases hd
    rw [hm2] at ha hx
    have : a = 1 := by omega
    subst this
    intro j1 j2 a1 a2
    omega

/-- **Newcomer timing for ANY interleaving** `A` any reachable state (so whatever
other players did before is included), dealer `d`, seat `x` `a` places after him, inactive (D9 exclusion).  The newcomer's
`Join` (explicit seat or `-1`) is accepted on `x`.  Then ANY list `ops` of operations such that each one is (`Quiet`)
* an aside: another player's operation, or a refused one — anything but `next` that leaves seat `x` as it is;
* the newcomer's own `Seat(x)` (at any moment: before, between or after the `next`s; repeated or not);
* a `next`, called in a state with at least two playable seats (D10 exclusion) and — while seat `x` is still inactive —
  at most one playable seat strictly between the dealer and `x` (D4 exclusion) (`ExclN`).
Conclusion `Track x J false False ops`: with the ghost state `sat` (a `Seat(x)` has happened) and `passed` (some `next` so
far moved the button past `x`, `PassedStep`), at EVERY point of the history seat `x` is playable (dealt in) **iff**
`sat ∧ passed`; every `next` succeeds; every `Seat(x)` is accepted.  So he is not dealt in before the button has passed
(and he has sat in), and is dealt in from the first hand after both on. -/
theorem newcomer_timing_general (A : SM) (hA : Reachable A) (d a x : Nat) (s : Seat) (seat : Int) (pid : Nat)
    (c : Option Nat) (hd : A.dealer = some d) (ha0 : 0 < a) (ha : a < A.max) (hx : x = (d + a) % A.max)
    (hs : A.seats[x]? = some s) (hina : s.active = false)
    (hj : (A.step (.join seat pid c)).2 = (none, some x))
    (ops : List SMOp) (hq : QuietRun x (A.step (.join seat pid c)).1 ops) :
    Track x (A.step (.join seat pid c)).1 false False ops :=
  track_of_phase (phase_after_join hA.inv hd ha0 ha hx hs hina seat pid c hj) hq

/-- Non-vacuity of `newcomer_timing_general`: on `ex0` the newcomer joins seat 3; then `next` (button 0 → 2) while he is
only reserved, another player joins seat 5, the newcomer sits in, the other sits in, `next` (button 2 → 4, past seat 3).
The history is quiet; seat 3 is not playable before the last `next` and playable after it. -/
example : let J := (ex0.step (.join 3 9 none)).1
    (ex0.step (.join 3 9 none)).2 = (none, some 3) ∧
    QuietRun 3 J [.next, .join 5 7 none, .seat 3, .seat 5, .next] ∧
    (J.run [.next, .join 5 7 none, .seat 3, .seat 5]).playable 3 = false ∧
    (J.run [.next, .join 5 7 none, .seat 3, .seat 5, .next]).playable 3 = true := by
  intro J
  have excl : ∀ U : SM, U.max = 6 → 2 ≤ U.playableCount → U.playable 1 = false →
      (U.dealer = some 0 ∨ U.dealer = some 2) → ExclN U 3 := by
    intro U hm hc h1 hd
    refine ⟨hc, ?_⟩
    intro d a sx hd' h0 ha hx _ _
    rw [hm] at ha hx
    rcases hd with hd | hd
    all_goals
      rw [hd] at hd'
      cases hd'
    · have : a = 3 := by omega
      subst this
      refine FewBetween.of_only 2 fun j a1 a2 hp => ?_
      rw [hm] at hp
      have hj : j = 1 ∨ j = 2 := by omega
      rcases hj with rfl | rfl
      · rw [h1] at hp
        cases hp
      · rfl
    · have : a = 1 := by omega
      subst this
      intro j1 j2 a1 a2
      omega
  refine ⟨by decide, ⟨Or.inl ⟨rfl, excl _ (by decide) (by decide) (by decide) (Or.inl (by decide))⟩,
    Or.inr (Or.inr (Other.aside (by show (_ : SM × Option SMErr × Option Nat).2.2 ≠ some 3; decide))),
    Or.inr (Or.inl rfl),
    Or.inr (Or.inr (Other.aside (by show (5 : Int) ≠ ((3 : Nat) : Int); decide))),
    Or.inl ⟨rfl, excl _ (by decide) (by decide) (by decide) (Or.inr (by decide))⟩, trivial⟩, by decide, by decide⟩

end Pokerface.C08A
