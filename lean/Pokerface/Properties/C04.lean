import Pokerface.Proofs.EngineFirst
import Pokerface.Proofs.FlowStep
import Pokerface.Proofs.BetsActs
/-
  C04 — Only the player to act can act, in clockwise order, in the right phase.

  "During a betting round exactly one player is offered actions: play starts left of the
  big blind before the flop (the dealer, who is the small blind, when heads-up) and left of
  the dealer on later streets, and then passes seat by seat clockwise, folded and all-in
  seats merely being asked to pass.  Any action attempted by another seat, any action the
  current player was not offered, and any table operation invoked in the wrong phase is
  refused with an error and leaves the state exactly as it was."

  All statements are about the model `Game.step` (Model/Game.lean), for every reachable
  state (`Reachable`, Proofs/EngineReach.lean: any operation sequence, accepted or refused,
  from any successfully started configuration with non-negative forced bets).
-/
namespace Pokerface.C04
open Pokerface Game

/-- `Pass` or `Allin` is always in the list (`avail_free`) -/
theorem availableActions_ne_nil (g : Game) (p : Player) : g.availableActions p ≠ [] :=
  (avail_free g p).elim List.ne_nil_of_mem List.ne_nil_of_mem

/-- Sentence 1, first half: during a betting round exactly one seat — the seat to act — is
    offered actions (and it is offered what its situation yields, see C11); outside a
    betting round nobody is offered anything. -/
theorem one_actor {g : Game} (h : Reachable g) :
    (g.event = .roundStarted →
      (∃ p, g.players[g.cur]? = some p ∧ p.allowed = g.availableActions p ∧ p.allowed ≠ []) ∧
      (∀ (i : Nat) (p : Player), g.players[i]? = some p → i ≠ g.cur → p.allowed = [])) ∧
    (g.event ≠ .roundStarted → ∀ p ∈ g.players, p.allowed = []) := by
  have hi := inv_reachable h
  refine ⟨fun he => ?_, hi.post.noneAllowed⟩
  have hp := hi.post.offered he
  obtain ⟨p, hc⟩ := exists_cur h
  have ha : p.allowed = g.availableActions p := (hp g.cur p hc).trans (if_pos rfl)
  exact ⟨⟨p, hc, ha, ha ▸ availableActions_ne_nil _ _⟩, fun i q hq hne => (hp i q hq).trans (if_neg hne)⟩

/-- Sentence 2 (actions), for EVERY state: an action that is not in the seat's allowed list is
    refused with `invalidAction` and the state is returned unchanged. -/
theorem not_offered_refused (g : Game) (i : Nat) (a : Act) (x : Int)
    (h : g.allows i a = false) : g.act i a x = (g, some .invalidAction) :=
  act_disallowed g i a x h

/-- Sentence 2 (actions), on reachable states: an action by a seat other than the one to act,
    or outside a betting round, is refused and changes nothing. -/
theorem wrong_seat_or_phase_refused {g : Game} (h : Reachable g) (i : Nat) (a : Act) (x : Int)
    (hw : i ≠ g.cur ∨ g.event ≠ .roundStarted) : g.act i a x = (g, some .invalidAction) :=
  act_wrong_seat_or_phase (inv_reachable h) hw a x

/-- Sentence 2 (actions) through `step`, for an explicit seat. -/
theorem step_wrong_seat_refused {g : Game} (h : Reachable g) (i : Nat) (a : Act) (x : Int)
    (hw : i ≠ g.cur ∨ g.event ≠ .roundStarted) :
    g.step (.act (some i) a x) = (g, some .invalidAction) :=
  wrong_seat_or_phase_refused h i a x hw

/-- Sentence 2 (table operations): each is refused, without effect, outside its phase. -/
theorem ready_wrong_phase (g : Game) (h : g.event ≠ .readyRequested) : g.step .ready = (g, some .invalidAction) :=
  step_ready_refused h

theorem payAnte_wrong_phase (g : Game) (h : g.event ≠ .anteRequested) : g.step .payAnte = (g, some .invalidAction) :=
  step_payAnte_refused (.inr h)

theorem payBlinds_wrong_phase (g : Game) (h : g.event ≠ .blindsRequested) : g.step .payBlinds = (g, some .invalidAction) :=
  step_payBlinds_refused h

theorem next_wrong_phase (g : Game) (h : g.event ≠ .roundClosed) : g.step .next = (g, some .notClosedRound) :=
  step_next_refused h

/-- Every refusal of a player action leaves the state exactly as it was (all states). -/
theorem act_refused_no_effect (g : Game) (i : Nat) (a : Act) (x : Int) (h : (g.act i a x).2 ≠ none) :
    (g.act i a x).1 = g :=
  g.act_refused i a x h

/-- Sentence 2, in full: on every reachable state, EVERY operation that returns an error —
    any action by any seat with any amount, any table operation in any phase — leaves the
    state exactly as it was.  (The delicate case is `payAnte`: player.go `PayAnte` can return
    "paid already" from inside the per-seat loop after earlier seats have paid; the invariant
    `Flow` shows that at AnteRequested no seat has a wager, and `Seats.lean` that every seat is
    visited once, so that branch is never taken — `payAnteLoop_ok'`, the side condition of `step_refused`, on which
    `refused_same` rests.) -/
theorem refused_no_effect {g : Game} (h : Reachable g) (op : Op) (hr : (g.step op).2 ≠ none) :
    (g.step op).1 = g :=
  refused_same g (flow_reachable h) op hr

/-- Sentence 2 for all states (not only reachable ones), for every operation except `payAnte`. -/
theorem refused_no_effect_partial {g : Game} (op : Op) (hop : op ≠ .payAnte)
    (h : (g.step op).2 ≠ none) : (g.step op).1 = g :=
  step_refused h fun ho => absurd ho hop

/-- Sentence 1, clockwise: after an accepted action, if the betting round is still open the
    turn has passed to the next seat clockwise (folded and all-in seats included: they are
    asked too, and C11 shows they are only asked to pass). -/
theorem clockwise {g : Game} (h : Reachable g) (a : Act) (x : Int) (seat : Option Nat)
    (hacc : (g.step (.act seat a x)).2 = none)
    (hopen : (g.step (.act seat a x)).1.event = .roundStarted) :
    (g.step (.act seat a x)).1.cur = (if g.cur + 1 = g.n then 0 else g.cur + 1) := by
  rw [g.step_act] at hacc hopen ⊢
  obtain ⟨g1, he, hm⟩ := act_shape g (inv_reachable h) _ a x hacc
  rw [he] at hopen ⊢
  rw [resume_cur g1 hm.mid hopen]
  unfold Game.nextIdx
  rw [hm.soft.cur, hm.n]

/-- Only the seat to act can have an action accepted, and only during a betting round. -/
theorem accepted_only_from_current {g : Game} (h : Reachable g) (i : Nat) (a : Act) (x : Int)
    (hacc : (g.act i a x).2 = none) : i = g.cur ∧ g.event = .roundStarted := by
  obtain ⟨_, _, he, hc, _⟩ := allows_spec (inv_reachable h) (act_accepted_allows hacc)
  exact ⟨hc, he⟩

/-- Sentence 1, later streets: when `ready` opens a flop/turn/river betting round, the first
    seat asked is the one left of the dealer. -/
theorem first_postflop {g : Game} (h : Reachable g) (he : g.event = .readyRequested)
    (hr : g.round = .flop ∨ g.round = .turn ∨ g.round = .river)
    (hopen : (g.step .ready).1.event = .roundStarted) :
    (g.step .ready).1.cur = cwNext g.n g.dealerIdx := by
  have hrn := Round.after_preflop.mp hr
  rw [ready_first (inv_reachable h).struct he hrn.1 hopen, if_neg hrn.2]

/-- Sentence 1, before the flop: when `ready` opens the preflop betting round, the first seat
    asked is the one left of the big blind, the big blind being the first seat holding that
    position met walking clockwise from the dealer (`j + 1` seats away, `j < n`).  Heads-up
    (dealer = small blind, the other seat the big blind) this is the dealer: see the example
    below. -/
theorem first_preflop {g : Game} (h : Reachable g) (he : g.event = .readyRequested)
    (hr : g.round = .preflop) (j : Nat) (hj : j < g.n)
    (hbb : (g.players[cwIter g.n (j + 1) g.dealerIdx]?).map (·.posBB) = some true)
    (hno : ∀ j' < j, (g.players[cwIter g.n (j' + 1) g.dealerIdx]?).map (·.posBB) = some false)
    (hopen : (g.step .ready).1.event = .roundStarted) :
    (g.step .ready).1.cur = cwNext g.n (cwIter g.n (j + 1) g.dealerIdx) := by
  rw [ready_first (inv_reachable h).struct he (by rw [hr]; exact nofun) hopen, if_pos hr,
    bbStop_first g.bbAt g.n g.n g.dealerIdx j hj (bbAt_of_map hbb) fun j' hj' => bbAt_of_map (hno j' hj')]

/-- Non-vacuity: a three-seat hand (blinds 5/10, stacks 100) reaches a betting round, where
    seat 0 (left of the big blind at seat 2) is the one to act. -/
def exCfg : Config :=
  { opts := { ante := 0, blindDealer := 0, blindSB := 5, blindBB := 10, potLimit := false, holeCount := 2, required := 0,
              lvl := fun _ => 1, table := [], deck := (List.range 20).map fun k => { suit := 83, rank := k + 2 } },
    seats := [{ bankroll := 100, dealer := true, sb := false, bb := false },
              { bankroll := 100, dealer := false, sb := true, bb := false },
              { bankroll := 100, dealer := false, sb := false, bb := true }] }

def exState : Game := (start exCfg).1.run [.ready, .payBlinds, .ready]

example : Reachable exState :=
  ⟨exCfg, [.ready, .payBlinds, .ready], ⟨⟨by decide, by decide, by decide, by decide⟩⟩, by decide, rfl⟩

example : exState.event = .roundStarted ∧ exState.cur = 0 := by decide +kernel

/-- heads-up: the dealer (seat 1, also small blind) is first to act before the flop -/
def exHeadsUp : Config :=
  { exCfg with seats := [{ bankroll := 100, dealer := false, sb := false, bb := true },
                         { bankroll := 100, dealer := true, sb := true, bb := false }] }

example : ((start exHeadsUp).1.run [.ready, .payBlinds, .ready]).cur = 1
    ∧ ((start exHeadsUp).1.run [.ready, .payBlinds, .ready]).event = .roundStarted := by decide +kernel

end Pokerface.C04
