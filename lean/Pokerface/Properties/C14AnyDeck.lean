import Pokerface.Properties.C14
/-
  C14 (continued) — "cards once dealt never change", for ALL deck contents.

  `C14.cards_stable(_run)` and `C14.holes_fixed` are stated over `ReachableC`, whose configurations have
  a duplicate-free deck; the clause does not depend on that.  The theorems below quantify over
  `ReachableL g` (Proofs/CardsDefs.lean): every state reached by ANY sequence of operations (accepted
  or refused) from a successfully started hand of ANY configuration whose deck merely satisfies
  `seats·holeCount + 8 ≤ deck.length` — any deck contents, duplicates included.
-/
namespace Pokerface.C14A
open Pokerface Game

/-- **"Cards once dealt never change"**, one operation, ANY deck contents: for every reachable state
    `g` and every operation `op` (accepted or refused) the deck list is unchanged, the cursor does not
    move back, every non-empty hand of hole cards is unchanged, and the old board and burned lists are
    prefixes of the new ones. -/
theorem cards_stable_any_deck {g : Game} (h : ReachableL g) (op : Op) : Stable g (g.step op).1 :=
  stable_step g (cinvL_reachable h) op

/-- The same over any further history. -/
theorem cards_stable_run_any_deck {g : Game} (h : ReachableL g) (ops : List Op) : Stable g (g.run ops) :=
  stable_run g (cinvL_reachable h) ops

/-- From the preflop round on, nobody's hole cards change any more, for ANY deck contents (also when
    `holeCount = 0`, where `Stable.holes` says nothing). -/
theorem holes_fixed_any_deck {g : Game} (h : ReachableL g) (hr : g.round ≠ .none) (ops : List Op) :
    (g.run ops).players.map (·.hole) = g.players.map (·.hole) :=
  Pokerface.holes_fixed g (cinvL_reachable h) hr ops

/-- The board and the burned cards of a later state extend those of an earlier one (projection of
    `cards_stable_run_any_deck` on the community cards). -/
theorem board_grows_any_deck {g : Game} (h : ReachableL g) (ops : List Op) :
    g.board <+: (g.run ops).board ∧ g.burned <+: (g.run ops).burned :=
  ⟨(cards_stable_run_any_deck h ops).board, (cards_stable_run_any_deck h ops).burned⟩

namespace Examples
open Pokerface.C14.Examples

theorem dupFlop_cards : ((start dupCfg).1.run opsFlop).round = .flop ∧
    ((start dupCfg).1.run opsFlop).board.length = 3 ∧
    ((start dupCfg).1.run opsFlop).players.map (·.hole.length) = [2, 2, 2] := by
  decide +kernel

/-- The hypotheses are met by a deck that is NOT duplicate-free (7 copies each of three cards), at a
    state where cards are out (flop dealt), and the later state really differs (river dealt). -/
example : ¬ dupDeck.Nodup ∧ ((start dupCfg).1.run opsFlop).round = .flop ∧
    ((start dupCfg).1.run opsShowdown).round = .river ∧
    ((start dupCfg).1.run opsFlop).board.length = 3 ∧ ((start dupCfg).1.run opsShowdown).board.length = 5 :=
  ⟨by decide +kernel, dupFlop_cards.1, dupShow_cards.1, dupFlop_cards.2.1, dupShow_cards.2.2.2.1⟩

/-- instance of `holes_fixed_any_deck` between the flop and the showdown of the duplicate deck -/
example : (((start dupCfg).1.run opsFlop).run
      ([.ready] ++ check3 ++ [.next, .ready] ++ check3 ++ [.next, .ready] ++ check3 ++ [.next])).players.map (·.hole)
    = ((start dupCfg).1.run opsFlop).players.map (·.hole) :=
  holes_fixed_any_deck (dupReach opsFlop) (by rw [dupFlop_cards.1]; decide) _

example : ((start dupCfg).1.run opsFlop).players.map (·.hole.length) = [2, 2, 2] := dupFlop_cards.2.2

end Examples

end Pokerface.C14A

#print axioms Pokerface.C14A.cards_stable_any_deck
#print axioms Pokerface.C14A.cards_stable_run_any_deck
#print axioms Pokerface.C14A.holes_fixed_any_deck
#print axioms Pokerface.C14A.board_grows_any_deck
