/-
  C08, carried from the seat manager THROUGH the table INTO the engine's configuration.

  C08: "Whenever the seat manager successfully moves to the next hand, dealer, small blind and big blind sit on
  occupied, active, non-reserved seats; with exactly two such seats the dealer is the small blind and the other
  player the big blind, with three or more the small blind is the first such seat clockwise from the dealer and the
  big blind the first after the small blind. ..." — anchors: "table copies these positions into the next game's player
  settings (table/internal.go: setupPosition, startGame)".

  Statements about the model `Pokerface.Table` (Model/Table.lean) of `table/table.go` (`Join`, `Leave`, `Activate`,
  `Reserve`) and `table/internal.go` (`setupPosition`, `prepareNextGame`, `startGame`, `updatePlayerStates`):
  * `t.step (.hand finals)` is one `prepareNextGame`; `finals` are the closing stacks `Result.Players[k].Final` the engine
    reports, by game index; `(t.step (.hand finals)).2.cfg` is `GameOptions.Players` of the game it creates;
  * `TReachable t`: `t` is reached from `Table.new` (Go `NewTable`) by any sequence of those operations, with any closing stacks;
    `TInv t` (Proofs/TableGlue.lean, spelled out in `reachable_invariant`): the invariant of reachable tables — E, F, G take
    it as hypothesis instead of `TReachable` because the closing `setupPosition` of a hand runs from a state INSIDE
    `prepareNextGame` (`closing_setup`), which satisfies the invariant without being the result of an operation;
  * `playableSeats sm` is `GetPlayableSeats()`: the playable seats clockwise from the dealer; `t.gameSeats seats` the player
    settings made from the sheet for these seats; `startRefusal` the refusal of `Start()`;
  * `sheetTotal t`: all chips on the sheet; `playerAt t i`: the sheet entry of seat `i`; `money p = (p.pid, p.bankroll)`.
  "Undisturbed hand-off": the game is made right after the `setupPosition` that ran `Next()` (`t.inPosition = false`
  before).  When `Join` / `Leave` / `Activate` come between that `setupPosition` and `startGame` (`t.inPosition = true`),
  the positions on the sheet are stale: see `disturbed_*` at the end of the file.
-/
import Pokerface.Proofs.TableGlueLayout
import Pokerface.Properties.C01
import Pokerface.Properties.C06
import Pokerface.Properties.C08
import Pokerface.Properties.C17

namespace Pokerface.C08T
open Pokerface Table SM

/-! ## Examples used throughout -/

/-- 5 seats; players 1, 2, 3 join seats 0, 2, 3 with 100, 200, 50 chips and sit in; no hand yet. -/
def demo : Table :=
  (Table.new 5 {}).run [.join 0 1 100 none, .activate 0, .join 2 2 200 none, .activate 2, .join 3 3 50 none, .activate 3]

/-- 4 seats, players 1, 2 on seats 3, 1 with 100, 60 chips. -/
def demo2 : Table := (Table.new 4 {}).run [.join 3 1 100 none, .activate 3, .join 1 2 60 none, .activate 1]

theorem demo_reachable : TReachable demo := ⟨5, {}, _, rfl⟩
theorem demo2_reachable : TReachable demo2 := ⟨4, {}, _, rfl⟩

/-! ## A. The table's refusal computation is the engine's `Start()` -/

/-- **A.** For every configuration with a deck (`startGame` always installs one), the refusal of the engine model's
`start` is the table model's `startRefusal` of the player settings. -/
theorem startRefusal_eq_start (c : Config) (hd : c.opts.deck ≠ []) : (start c).2 = Table.startRefusal c.seats :=
  Table.startRefusal_eq_start c hd

/-- the three checks, as in `C06.start_iff` -/
theorem startRefusal_none_iff (ps : List SeatCfg) :
    Table.startRefusal ps = none ↔ 2 ≤ ps.length ∧ (∃ s ∈ ps, s.dealer = true) ∧ ∀ s ∈ ps, 0 < s.bankroll :=
  Table.startRefusal_none_iff ps

example : (start C01.exCfg).2 = Table.startRefusal C01.exCfg.seats ∧ C01.exCfg.opts.deck ≠ [] := by decide +kernel
example : Table.startRefusal [⟨10, false, true, false⟩, ⟨10, false, false, true⟩] = some .noDealer := by decide +kernel

/-! ## B. Reachable tables and their invariant -/

/-- **B.** Every reachable table satisfies the invariant `TInv`, spelled out: the sheet has one slot per seat of the
seat manager; seat `i` shows a player on the sheet iff the seat manager has a player there, with the same id; and the
seat manager is itself reachable (`SM.Reachable`, what the theorems of C08 / C17 / C18 ask for). -/
theorem reachable_invariant (t : Table) (h : TReachable t) :
    t.players.length = t.sm.max ∧ t.sm.seats.length = t.sm.max ∧ SM.Reachable t.sm ∧
    ∀ (i pid : Nat), (∃ p, t.players[i]? = some (some p) ∧ p.pid = pid) ↔ (∃ s, t.sm.seats[i]? = some s ∧ s.player = some pid) := by
  have hi := h.inv
  refine ⟨hi.len, hi.seats_len, hi.smr, ?_⟩
  intro i pid
  constructor
  · rintro ⟨p, hp, rfl⟩
    exact hi.sm_of_player hp
  · rintro ⟨s, hs, hp⟩
    obtain ⟨p, hp', hpid⟩ := hi.player_of_sm hs (by rw [hp]; rfl)
    exact ⟨p, hp', by rw [hp] at hpid; exact (Option.some.inj hpid).symm⟩

/-- The invariant is inductive: it holds for a fresh table and every operation preserves it (whatever the arguments,
accepted or refused).  In particular the table only ever moves its seat manager by the seat manager's own operations:
`SM.Reachable` is preserved (closure). -/
theorem invariant_inductive :
    (∀ max o, TInv (Table.new max o)) ∧ (∀ t op, TInv t → TInv (t.step op).1) ∧
    (∀ t op, TReachable t → SM.Reachable (t.step op).1.sm) :=
  ⟨tinv_new, fun _ op h => h.step op, fun _ op h => (h.inv.step op).smr⟩

example : TReachable (demo.step (.hand [150, 200, 0])).1 := demo_reachable.step _
example : (demo.step (.hand [150, 200, 0])).1.sm.seats.map (·.player) = [some 1, none, some 2, some 3, none] ∧
    (demo.step (.hand [150, 200, 0])).1.players.map (·.map (·.pid)) = [some 1, none, some 2, some 3, none] := by decide +kernel

/-! ## C. The positions are copied -/

/-- **C** ("table copies these positions into the next game's player settings", `setupPosition`).  When `setupPosition`
really runs (`inPosition = false`) and succeeds, the seat manager has made exactly one successful `Next()`, and every
player on the sheet carries exactly the positions of the seat manager for his seat: `"dealer"` iff his seat is the
dealer's; `"sb"` iff it is the small blind's; `"bb"` iff it is the big blind's and not the small blind's (the Go code
writes `else if`); `Playable` iff the seat is playable.  Nothing else on the sheet changes (`p0`). -/
theorem positions_copied (t t' : Table) (hp : t.inPosition = false) (h : t.setupPosition = (t', none)) :
    t'.sm = (t.sm.step .next).1 ∧ (t.sm.step .next).2.1 = none ∧ t'.inPosition = true ∧
    ∀ i p, t'.players[i]? = some (some p) →
      (p.dealer = true ↔ t'.sm.dealer = some i) ∧ (p.sb = true ↔ t'.sm.sb = some i) ∧
      (p.bb = true ↔ (t'.sm.bb = some i ∧ t'.sm.sb ≠ some i)) ∧ p.playable = t'.sm.playable i ∧
      ∃ p0, t.players[i]? = some (some p0) ∧ p.pid = p0.pid ∧ p.bankroll = p0.bankroll ∧ p.gameIdx = p0.gameIdx := by
  obtain ⟨hok, he⟩ := setupPosition_ok hp h
  refine ⟨by rw [he], hok, by rw [he], ?_⟩
  intro i p hpl
  -- the entry is the old one with the positions of `t'.sm` written onto it
  have hpa := (setupPosition_ok_playerAt hp h i).symm.trans (playerAt_eq_some.mpr hpl)
  obtain ⟨p0, hp0, rfl⟩ := Option.map_eq_some_iff.mp hpa
  refine ⟨decide_eq_true_iff, decide_eq_true_iff, ?_, rfl, p0, playerAt_eq_some.mp hp0, rfl, rfl, rfl⟩
  show (decide _ && decide _) = true ↔ _
  rw [Bool.and_eq_true, decide_eq_true_iff, decide_eq_true_iff]
  exact And.comm

example : demo.inPosition = false ∧ demo.setupPosition.2 = none ∧
    demo.setupPosition.1.players.map (·.map fun p => (p.dealer, p.sb, p.bb, p.playable)) =
      [some (true, false, false, true), none, some (false, true, false, true), some (false, false, true, true), none] ∧
    (demo.setupPosition.1.sm.dealer, demo.setupPosition.1.sm.sb, demo.setupPosition.1.sm.bb) = (some 0, some 2, some 3) := by
  decide +kernel

/-! ## D. The players of the game -/

/-- **D** (`startGame`).  Whenever `prepareNextGame` creates a game, its player settings `cfg` are made of the playable
seats clockwise from the dealer (`seats = GetPlayableSeats()`, taken from the seat manager after `setupPosition`, state
`t1`): one entry per playable seat; entry `k` is the bankroll and the positions the sheet shows for the player on seat
`seats[k]`, who is playable; the game indices on the sheet are handed out in the same order (`GetPlayerByGameIdx(k)` is
the player on `seats[k]`; everybody else carries `-1`).  When `Start()` refuses the configuration (or the closing
stacks do not fit it) the table is left in exactly that state, and `Start()` refuses exactly by `startRefusal`. -/
theorem game_players (t : Table) (h : TReachable t) (finals : List Int) (cfg : List SeatCfg)
    (hc : (t.step (.hand finals)).2.cfg = some cfg) :
    ∃ t1 seats d, t.setupPosition = (t1, none) ∧ t1.sm.dealer = some d ∧
      seats = (t1.sm.normalize d).filter t1.sm.playable ∧ playableSeats t1.sm = some seats ∧
      cfg = t1.gameSeats seats ∧ cfg.length = t1.sm.playableCount ∧
      (∀ (k s : Nat), seats[k]? = some s → t1.sm.playable s = true ∧
        ∃ p, t1.players[s]? = some (some p) ∧ cfg[k]? = some ⟨p.bankroll, p.dealer, p.sb, p.bb⟩) ∧
      (∀ (k s : Nat), seats[k]? = some s → (t1.assignGameIdx seats).seatOfGameIdx k = some s) ∧
      (∀ j, j ∉ seats → ∀ p, (t1.assignGameIdx seats).players[j]? = some (some p) → p.gameIdx = -1) ∧
      (∀ e, (t.step (.hand finals)).2.err = some (.game e) ↔ Table.startRefusal cfg = some e) ∧
      ((∃ e, (t.step (.hand finals)).2.err = some (.game e)) ∨ (Table.startRefusal cfg = none ∧ finals.length ≠ cfg.length) →
        (t.step (.hand finals)).1 = t1.assignGameIdx seats) := by
  have hi := h.inv
  obtain ⟨t1, seats, hcr, hcfg, hstep⟩ := hand_created hc
  obtain ⟨hnd, hlen, hpl, d, hd, hseats⟩ := hcr.facts hi
  refine ⟨t1, seats, d, hcr.setup, hd, hseats, hcr.seats, hcfg, by rw [hcfg, gameSeats_length, hlen], ?_, ?_, ?_, ?_, ?_⟩
  · intro k s hks
    obtain ⟨hp, p, hp'⟩ := hpl s (List.mem_of_getElem? hks)
    refine ⟨hp, p, playerAt_eq_some.mp hp', ?_⟩
    rw [hcfg, gameSeats_getElem?, hks, Option.map_some, seatCfgAt_of_player (playerAt_eq_some.mp hp')]
    rfl
  · intro k s hks
    exact (hcr.idxOK hi).seatOfGameIdx hks
  · intro j hj p hp
    exact assignGameIdx_gameIdx_of_not_mem t1 hnd hj (playerAt_eq_some.mpr hp)
  · intro e
    rw [hstep]
    exact playHand_err_game
  · intro hor
    rw [hstep] at hor ⊢
    exact playHand_badInput_or_refused hor

theorem demo_hand_cfg : (demo.step (.hand [150, 200, 0])).2.cfg =
    some [⟨100, true, false, false⟩, ⟨200, false, true, false⟩, ⟨50, false, false, true⟩] := by decide +kernel

example : (demo.step (.hand [150, 200, 0])).2.cfg =
      some [⟨100, true, false, false⟩, ⟨200, false, true, false⟩, ⟨50, false, false, true⟩] ∧
    playableSeats demo.setupPosition.1.sm = some [0, 2, 3] ∧ demo.setupPosition.1.sm.playableCount = 3 :=
  ⟨demo_hand_cfg, by decide, by decide⟩
/-- a refusal, visible in the returned state: a player with an empty bankroll sits in; the indices are handed out -/
example : let t := (Table.new 3 {}).run [.join 0 1 100 none, .activate 0, .join 1 2 0 none, .activate 1]
    (t.step (.hand [])).2.err = some (.game .notEnoughBankroll) ∧
    (t.step (.hand [])).2.cfg = some [⟨100, true, true, false⟩, ⟨0, false, false, true⟩] ∧
    (t.step (.hand [])).1.players.map (·.map (·.gameIdx)) = [some 0, some 1, none] := by decide +kernel

/-! ## E, F, G. The layout handed to the engine (undisturbed hand-off) -/

/-- **E** ("with exactly two such seats the dealer is the small blind and the other player the big blind", in the
engine's configuration).  After a `setupPosition` that ran a successful `Next()` leaving exactly two playable seats:
`GetPlayableSeats()` is `[d, b]`, the dealer's seat and one other seat, and the two player settings made from the sheet
are ⟨dealer's bankroll, dealer + sb⟩ and ⟨other bankroll, bb⟩ — what C04 / C13 need heads-up. -/
theorem hand_off_heads_up (t t' : Table) (hi : TInv t) (hp : t.inPosition = false)
    (hs : t.setupPosition = (t', none)) (h2 : t'.sm.playableCount = 2) :
    ∃ d b pd pb, t'.sm.dealer = some d ∧ t'.sm.sb = some d ∧ t'.sm.bb = some b ∧ b ≠ d ∧
      playableSeats t'.sm = some [d, b] ∧
      t'.players[d]? = some (some pd) ∧ t'.players[b]? = some (some pb) ∧
      t'.gameSeats [d, b] = [⟨pd.bankroll, true, true, false⟩, ⟨pb.bankroll, false, false, true⟩] := by
  obtain ⟨d, s, b, rest, ring, L⟩ := handoff_layout hi hp hs
  have hseats := L.seats
  obtain ⟨_, _, _, _, hlen, hmem⟩ := playableSeats_spec hseats
  rw [h2] at hlen
  cases ring with
  | true => simp at hlen
  | false =>
    simp only [Bool.false_eq_true, if_false] at hseats hlen hmem
    have hrest : rest = [] := by
      cases rest with
      | nil => rfl
      | cons _ _ => simp at hlen
    subst hrest
    have hsd : s = d := L.sb_dealer rfl
    subst hsd
    obtain ⟨pd, hpd1, hpd2⟩ := cfg_of_playable hi hp hs ((hmem s).mp (by simp)).2
    obtain ⟨pb, hpb1, hpb2⟩ := cfg_of_playable hi hp hs ((hmem b).mp (by simp)).2
    refine ⟨s, b, pd, pb, L.dealer, L.sb, L.bb, L.dealer_ne_bb.symm, hseats, hpd1, hpb1, ?_⟩
    rw [gameSeats_eq_map, List.map_cons, List.map_cons, List.map_nil, hpd2, hpb2,
      posOf_dealer L.dealer L.sb L.bb L.dealer_ne_bb, posOf_bb L.dealer L.sb L.bb L.dealer_ne_bb L.sb_ne_bb]
    simp

example : demo2.inPosition = false ∧ demo2.setupPosition.2 = none ∧ demo2.setupPosition.1.sm.playableCount = 2 ∧
    playableSeats demo2.setupPosition.1.sm = some [1, 3] ∧
    demo2.setupPosition.1.gameSeats [1, 3] = [⟨60, true, true, false⟩, ⟨100, false, false, true⟩] := by decide +kernel

/-- **F** ("with three or more the small blind is the first such seat clockwise from the dealer and the big blind the
first after the small blind", in the engine's configuration).  After a `setupPosition` that ran a successful `Next()`
whose small blind `s` is the first playable seat after the dealer `d` (hypothesis `hna`; it holds iff `renewSeatStatus`
took its ring branch, `C08.ring_layout_exact`; without it the statement is false, `hand_off_ring_false` / D4):
the big blind `b` is the first playable seat after `s`, `GetPlayableSeats()` is `d :: s :: b :: rest`, there are at
least three playable seats, and the player settings are ⟨dealer⟩ :: ⟨sb⟩ :: ⟨bb⟩ :: settings without any position. -/
theorem hand_off_ring (t t' : Table) (hi : TInv t) (hp : t.inPosition = false)
    (hs : t.setupPosition = (t', none)) (d s : Nat) (hd : t'.sm.dealer = some d) (hsb : t'.sm.sb = some s)
    (hna : IsNextAfter t'.sm d s) :
    ∃ b rest pd ps pb, t'.sm.bb = some b ∧ IsNextAfter t'.sm s b ∧ 3 ≤ t'.sm.playableCount ∧
      playableSeats t'.sm = some (d :: s :: b :: rest) ∧
      t'.players[d]? = some (some pd) ∧ t'.players[s]? = some (some ps) ∧ t'.players[b]? = some (some pb) ∧
      t'.gameSeats (d :: s :: b :: rest) =
        ⟨pd.bankroll, true, false, false⟩ :: ⟨ps.bankroll, false, true, false⟩ :: ⟨pb.bankroll, false, false, true⟩ ::
          t'.gameSeats rest ∧
      ∀ c ∈ t'.gameSeats rest, c.dealer = false ∧ c.sb = false ∧ c.bb = false := by
  obtain ⟨d', s', b, rest, ring, L⟩ := handoff_layout hi hp hs
  obtain rfl : d' = d := Option.some.inj (L.dealer.symm.trans hd)
  obtain rfl : s' = s := Option.some.inj (L.sb.symm.trans hsb)
  have hseats := L.seats
  obtain ⟨_, _, _, _, hlen, hmem⟩ := playableSeats_spec hseats
  cases ring with
  | false => exact absurd (L.sb_dealer rfl) (IsNextAfter.ne hna L.dealer_lt)
  | true =>
    simp only [if_true] at hseats hlen hmem
    have hds := L.dealer_ne_sb rfl
    obtain ⟨pd, hpd1, hpd2⟩ := cfg_of_playable hi hp hs ((hmem d').mp (by simp)).2
    obtain ⟨ps, hps1, hps2⟩ := cfg_of_playable hi hp hs ((hmem s').mp (by simp)).2
    obtain ⟨pb, hpb1, hpb2⟩ := cfg_of_playable hi hp hs ((hmem b).mp (by simp)).2
    refine ⟨b, rest, pd, ps, pb, L.bb, L.bb_next, by rw [← hlen]; simp, hseats, hpd1, hps1, hpb1, ?_, ?_⟩
    · rw [gameSeats_eq_map, gameSeats_eq_map, List.map_cons, List.map_cons, List.map_cons, hpd2, hps2, hpb2,
        posOf_dealer hd hsb L.bb L.dealer_ne_bb, posOf_sb hd hsb L.bb hds,
        posOf_bb hd hsb L.bb L.dealer_ne_bb L.sb_ne_bb]
      simp [hds.symm]
    · intro c hc
      rw [gameSeats_eq_map, List.mem_map] at hc
      obtain ⟨x, hx, rfl⟩ := hc
      obtain ⟨hxd, hxs, hxb⟩ := L.rest_ne x hx
      obtain ⟨px, _, hpx2⟩ := cfg_of_playable hi hp hs ((hmem x).mp (by simp [hx])).2
      rw [hpx2, posOf_other hd hsb L.bb hxd hxs hxb]
      exact ⟨rfl, rfl, rfl⟩

/-- **F**, with the hypothesis of `C08.ring_layout_partial`: at least three playable seats in the new hand and nobody
waiting (occupied, non-reserved, inactive) after `nextDealer`. -/
theorem hand_off_ring_of_noWaiting (t t' : Table) (hi : TInv t) (hp : t.inPosition = false)
    (hs : t.setupPosition = (t', none)) (h3 : 3 ≤ t'.sm.playableCount) (hnw : NoWaiting t.sm.nextDealer.1) :
    ∃ d s b rest pd ps pb, t'.sm.dealer = some d ∧ t'.sm.sb = some s ∧ t'.sm.bb = some b ∧
      IsNextAfter t'.sm d s ∧ IsNextAfter t'.sm s b ∧
      playableSeats t'.sm = some (d :: s :: b :: rest) ∧
      t'.players[d]? = some (some pd) ∧ t'.players[s]? = some (some ps) ∧ t'.players[b]? = some (some pb) ∧
      t'.gameSeats (d :: s :: b :: rest) =
        ⟨pd.bankroll, true, false, false⟩ :: ⟨ps.bankroll, false, true, false⟩ :: ⟨pb.bankroll, false, false, true⟩ ::
          t'.gameSeats rest ∧
      ∀ c ∈ t'.gameSeats rest, c.dealer = false ∧ c.sb = false ∧ c.bb = false := by
  obtain ⟨hsm, hok, _⟩ := positions_copied t t' hp hs
  rw [hsm] at h3
  obtain ⟨d, s, b, hd, hsb, hbb, hna, _⟩ := C08.ring_layout_partial t.sm hi.smr hok h3 hnw
  rw [← hsm] at hd hsb hna
  obtain ⟨b', rest, pd, ps, pb, hbb', hnab, _, r⟩ := hand_off_ring t t' hi hp hs d s hd hsb hna
  exact ⟨d, s, b', rest, pd, ps, pb, hd, hsb, hbb', hna, hnab, r⟩

example : demo.inPosition = false ∧ demo.setupPosition.2 = none ∧
    (demo.setupPosition.1.sm.dealer, demo.setupPosition.1.sm.sb) = (some 0, some 2) ∧
    demo.setupPosition.1.gameSeats [0, 2, 3] = [⟨100, true, false, false⟩, ⟨200, false, true, false⟩, ⟨50, false, false, true⟩] := by
  decide +kernel
theorem demo_next_after : IsNextAfter demo.setupPosition.1.sm 0 2 :=
  ⟨2, by omega, by decide, by decide, by decide, fun j h1 h2 => by
    have : j = 1 := by omega
    subst this
    decide⟩

example : IsNextAfter demo.setupPosition.1.sm 0 2 := demo_next_after

/-- the hypotheses of `hand_off_ring_of_noWaiting` for `demo`: invariant, three playable seats; nobody waiting is the next
example -/
example : TInv demo ∧ demo.setupPosition.1.sm.playableCount = 3 := ⟨demo_reachable.inv, by decide⟩
example : NoWaiting demo.sm.nextDealer.1 := by
  intro i s hs hp _
  have : i < 5 := (List.getElem?_eq_some_iff.mp hs).1
  have hall : ∀ j, j < 5 → ∀ x, demo.sm.nextDealer.1.seats[j]? = some x → x.player.isSome = true → x.active = true := by
    decide
  exact hall i this s hs hp

/-- The full statement of F, without the hypothesis on the small blind: three or more playable seats after the `Next()`
of `setupPosition` ⇒ the first three player settings are ⟨dealer⟩, ⟨sb⟩, ⟨bb⟩.  It is *false* of the model (and of the Go
code): `hand_off_ring_false` — D4 of `known_findings.json`, carried through the table into the engine. -/
def hand_off_ring_full : Prop :=
  ∀ t t' : Table, TInv t → t.inPosition = false → t.setupPosition = (t', none) → 3 ≤ t'.sm.playableCount →
    ∃ d s b rest bd bs bb, playableSeats t'.sm = some (d :: s :: b :: rest) ∧
      (t'.gameSeats (d :: s :: b :: rest)).take 3 =
        [⟨bd, true, false, false⟩, ⟨bs, false, true, false⟩, ⟨bb, false, false, true⟩]

/-- A D4 history in operations of the table (6 seats, 100 chips each).  Players 10, 11, 12, 15 sit in on seats 0, 1, 2, 5;
player 13 only joins seat 3 (reserved).  Hand 1 (dealer 0) is played, everybody keeps his chips; its closing `Next()`
gives dealer 1, small blind 2, big blind 5 and deactivates the empty seat 4.  Then: player 14 joins seat 4 and sits in
(waiting: the seat is inactive); the players on seats 5 and 0 leave; player 13 sits in (playable at once). -/
def d4pre : Table :=
  (Table.new 6 {}).run [.join 0 10 100 none, .activate 0, .join 1 11 100 none, .activate 1, .join 2 12 100 none, .activate 2,
    .join 5 15 100 none, .activate 5, .join 3 13 100 none, .hand [100, 100, 100, 100],
    .join 4 14 100 none, .activate 4, .leave 5, .leave 0, .activate 3]

/-- Hand 2 of that history is over: it was played by seats 1 (the dealer, who lost everything), 2 and 3; the closing stacks
0, 150, 150 are written back; the closing `setupPosition` has not run yet. -/
def d4closed : Table := (d4pre.assignGameIdx [1, 2, 3]).closed [0, 150, 150]

theorem d4closed_inv : TInv d4closed :=
  TInv.closed ((TReachable.inv ⟨6, {}, _, rfl⟩ : TInv d4pre).assignGameIdx _) _

/-- **D4 witness at the table, kernel-checked.**  `d4closed` is the state inside `prepareNextGame` of hand 2 (first
three clauses: that hand ends without error in the state `d4closed.setupPosition.1`).  Its closing `setupPosition` runs
`Next()` with two playable seats (2 and 3) and the waiting newcomer on seat 4 behind them: the heads-up layout is chosen
(dealer = small blind = seat 2, big blind = seat 3) and seat 4 is activated by the same call.  The game of hand 3 —
nothing happens in between — has three players: ⟨dealer + sb⟩, ⟨bb⟩ and a third without a position. -/
theorem d4_hand_off_witness :
    (d4pre.step (.hand [0, 150, 150])).2.err = none ∧
    (d4pre.step (.hand [0, 150, 150])).1.sm = d4closed.setupPosition.1.sm ∧
    (d4pre.step (.hand [0, 150, 150])).1.players = d4closed.setupPosition.1.players ∧
    d4closed.inPosition = false ∧ d4closed.setupPosition.2 = none ∧
    d4closed.setupPosition.1.sm.playableCount = 3 ∧
    playableSeats d4closed.setupPosition.1.sm = some [2, 3, 4] ∧
    d4closed.setupPosition.1.gameSeats [2, 3, 4] =
      [⟨150, true, true, false⟩, ⟨150, false, false, true⟩, ⟨100, false, false, false⟩] ∧
    ((d4pre.step (.hand [0, 150, 150])).1.step (.hand [100, 100, 200])).2.cfg =
      some [⟨150, true, true, false⟩, ⟨150, false, false, true⟩, ⟨100, false, false, false⟩] ∧
    ((d4pre.step (.hand [0, 150, 150])).1.step (.hand [100, 100, 200])).2.err = none := by decide +kernel

/-- The full statement of F is false (D4). -/
theorem hand_off_ring_false : ¬ hand_off_ring_full := by
  intro hf
  obtain ⟨_, _, _, hin, hs, hc, hps, hgs, _⟩ := d4_hand_off_witness
  obtain ⟨d, s, b, rest, bd, bs, bb, hps', htk⟩ :=
    hf d4closed d4closed.setupPosition.1 d4closed_inv hin (pair_of_snd (p := d4closed.setupPosition) hs) (Nat.le_of_eq hc.symm)
  rw [hps] at hps'
  simp only [Option.some.injEq, List.cons.injEq] at hps'
  obtain ⟨rfl, rfl, rfl, rfl⟩ := hps'
  rw [hgs] at htk
  simp at htk

/-- **G** (the undisturbed hand-off is accepted).  After a `setupPosition` that ran a successful `Next()`, if every
playable seat's player has a positive bankroll, `Start()` accepts the player settings made from the sheet: there are at
least two of them and the first one is the dealer's (and the only one with the dealer position: the game's player 0 is
the dealer — last clause: the dealer index `NewGame` caches for these settings is 0).  Hence (A) the engine model's `start` accepts the configuration, whatever the other options, as long as
there is a deck. -/
theorem hand_off_accepted (t t' : Table) (hi : TInv t) (hp : t.inPosition = false)
    (hs : t.setupPosition = (t', none))
    (hbank : ∀ i p, t'.players[i]? = some (some p) → t'.sm.playable i = true → 0 < p.bankroll) :
    ∃ seats d, playableSeats t'.sm = some seats ∧ t'.sm.dealer = some d ∧ seats[0]? = some d ∧ 2 ≤ seats.length ∧
      Table.startRefusal (t'.gameSeats seats) = none ∧
      (∀ m : Meta, m.deck ≠ [] → (start ⟨m, t'.gameSeats seats⟩).2 = none) ∧
      (∀ (k : Nat) c, (t'.gameSeats seats)[k]? = some c → (c.dealer = true ↔ k = 0)) ∧
      (∀ m : Meta, ({ opts := m, players := (⟨m, t'.gameSeats seats⟩ : Config).players } : Game).dealerIdx? = some 0) := by
  obtain ⟨d, s, b, rest, ring, L⟩ := handoff_layout hi hp hs
  have hd := L.dealer
  have hseats := L.seats
  obtain ⟨_, _, _, hnd, _, hmem⟩ := playableSeats_spec hseats
  -- the list of seats, whatever the branch
  obtain ⟨tl, htl, hlen⟩ : ∃ tl, (if ring = true then d :: s :: b :: rest else d :: b :: rest) = d :: tl ∧ 1 ≤ tl.length := by
    cases ring
    · exact ⟨_, rfl, Nat.le_add_left 1 _⟩
    · exact ⟨_, rfl, Nat.le_add_left 1 _⟩
  rw [htl] at hseats hnd hmem
  have hentry := fun x (hx : x ∈ d :: tl) => cfg_of_playable hi hp hs ((hmem x).mp hx).2
  have hlen2 : 2 ≤ (d :: tl).length := Nat.succ_le_succ hlen
  have hdealer : ∀ (k : Nat) c, (t'.gameSeats (d :: tl))[k]? = some c → (c.dealer = true ↔ k = 0) := by
    intro k c hk
    rw [gameSeats_getElem?, Option.map_eq_some_iff] at hk
    obtain ⟨x, hx, rfl⟩ := hk
    obtain ⟨px, _, hpx⟩ := hentry x (List.mem_of_getElem? hx)
    rw [hpx]
    show decide (t'.sm.dealer = some x) = true ↔ k = 0
    rw [hd, decide_eq_true_eq, Option.some.injEq]
    constructor
    · -- the dealer's seat occurs once in the list
      intro hdx
      subst hdx
      exact (List.getElem?_inj (List.getElem?_eq_some_iff.mp hx).1 hnd).mp hx
    · intro hk0
      subst hk0
      exact Option.some.inj hx
  have hrefuse : Table.startRefusal (t'.gameSeats (d :: tl)) = none := by
    rw [Table.startRefusal_none_iff]
    refine ⟨by rw [gameSeats_length]; exact hlen2, ?_, ?_⟩
    · obtain ⟨c, hc⟩ : ∃ c, (t'.gameSeats (d :: tl))[0]? = some c := by
        rw [gameSeats_getElem?]
        exact ⟨_, rfl⟩
      exact ⟨c, List.mem_of_getElem? hc, (hdealer 0 c hc).mpr rfl⟩
    · intro c hc
      rw [gameSeats_eq_map, List.mem_map] at hc
      obtain ⟨x, hx, rfl⟩ := hc
      obtain ⟨px, hpx1, hpx2⟩ := hentry x hx
      rw [hpx2]
      exact hbank x px hpx1 ((hmem x).mp hx).2
  refine ⟨d :: tl, d, hseats, hd, rfl, hlen2, hrefuse, ?_, hdealer, ?_⟩
  · intro m hm
    rw [Table.startRefusal_eq_start ⟨m, t'.gameSeats (d :: tl)⟩ hm]
    exact hrefuse
  · intro m
    exact dealerIdx?_zero m _ (by rw [gameSeats_eq_map]; exact List.cons_ne_nil _ _) hdealer

/-- **G**, as seen from `prepareNextGame`: when the positions are set up in the same call (`inPosition = false`) and
every player on a playable seat has chips, the game that is created is never refused by `Start()`. -/
theorem hand_off_accepted_step (t : Table) (h : TReachable t) (hp : t.inPosition = false) (finals : List Int)
    (cfg : List SeatCfg) (hc : (t.step (.hand finals)).2.cfg = some cfg)
    (hbank : ∀ i p, t.setupPosition.1.players[i]? = some (some p) → t.setupPosition.1.sm.playable i = true → 0 < p.bankroll) :
    Table.startRefusal cfg = none ∧ ∀ e, (t.step (.hand finals)).2.err ≠ some (.game e) := by
  obtain ⟨t1, seats, hcr, hcfg, hstep⟩ := hand_created hc
  rw [hcr.setup] at hbank
  obtain ⟨seats', _, hps', _, _, _, hr, _⟩ := hand_off_accepted t t1 h.inv hp hcr.setup hbank
  rw [hcr.seats] at hps'
  cases hps'
  rw [← hcfg] at hr
  refine ⟨hr, fun e he => ?_⟩
  rw [hstep] at he
  rw [playHand_err_game.mp he] at hr
  cases hr

example : demo.inPosition = false ∧ demo.setupPosition.2 = none ∧
    Table.startRefusal (demo.setupPosition.1.gameSeats [0, 2, 3]) = none ∧
    (demo.step (.hand [150, 200, 0])).2.err = none := by decide +kernel

/-! ## H. Chips across hands -/

/-- **H, write-back** (`updatePlayerStates`).  For a `prepareNextGame` that plays its game to the end (`Start()` accepts,
one closing stack per player): with `seats` the playable seats the game was made of,
* the player on `seats[k]` — whose bankroll was entry `k` of the configuration — now holds `finals[k]`, or, when
  `finals[k] = 0` in leave mode, has been removed from the sheet;
* every seat outside the game keeps its player and his bankroll;
* the chips on the sheet changed by exactly `Σ finals − Σ configured bankrolls`. -/
theorem bankroll_writeback (t : Table) (h : TReachable t) (finals : List Int) (cfg : List SeatCfg)
    (hc : (t.step (.hand finals)).2.cfg = some cfg) (hok : Table.startRefusal cfg = none)
    (hl : finals.length = cfg.length) :
    ∃ t1 seats, t.setupPosition = (t1, none) ∧ playableSeats t1.sm = some seats ∧ cfg = t1.gameSeats seats ∧
      (∀ (k s : Nat), seats[k]? = some s → ∃ p f, t.playerAt s = some p ∧ finals[k]? = some f ∧
        (cfg[k]?).map (·.bankroll) = some p.bankroll ∧
        ((t.step (.hand finals)).1.playerAt s).map money =
          if f = 0 ∧ t.opts.leaveMode = true then none else some (p.pid, f)) ∧
      (∀ j, j ∉ seats → ((t.step (.hand finals)).1.playerAt j).map money = (t.playerAt j).map money) ∧
      (t.step (.hand finals)).1.sheetTotal + (cfg.map (·.bankroll)).sum = t.sheetTotal + finals.sum := by
  obtain ⟨t1, seats, hcr, hcfg, _, _, hA, hB, htot, _⟩ := hand_played h.inv hc hok hl
  exact ⟨t1, seats, hcr.setup, hcr.seats, hcfg, hA, hB, htot⟩

/-- **H, conservation.**  If the closing stacks add up to the configured bankrolls, the chips on the sheet are the same
before and after the hand — also in leave mode: a player who is removed holds nothing.  (That every closing stack is
`≥ 0` is not needed for this.) -/
theorem hand_conserves_chips (t : Table) (h : TReachable t) (finals : List Int) (cfg : List SeatCfg)
    (hc : (t.step (.hand finals)).2.cfg = some cfg) (hok : Table.startRefusal cfg = none)
    (hl : finals.length = cfg.length) (hsum : finals.sum = (cfg.map (·.bankroll)).sum) :
    (t.step (.hand finals)).1.sheetTotal = t.sheetTotal := by
  obtain ⟨_, _, _, _, _, _, _, htot⟩ := bankroll_writeback t h finals cfg hc hok hl
  omega

example : (demo.step (.hand [150, 200, 0])).1.sheetTotal = 350 ∧ demo.sheetTotal = 350 ∧
    (demo.step (.hand [150, 200, 0])).1.players.map (·.map (·.bankroll)) = [some 150, none, some 200, some 0, none] := by
  decide +kernel
/-- `demo` in leave mode -/
def demoLeave : Table :=
  (Table.new 5 { leaveMode := true }).run
    [.join 0 1 100 none, .activate 0, .join 2 2 200 none, .activate 2, .join 3 3 50 none, .activate 3]
/-- leave mode: the busted player is gone, the chips are all there -/
example : (demoLeave.step (.hand [150, 200, 0])).1.sheetTotal = 350 ∧
    (demoLeave.step (.hand [150, 200, 0])).1.players.map (·.map (·.bankroll)) = [some 150, none, some 200, none, none] ∧
    ((demoLeave.step (.hand [150, 200, 0])).1.sm.seats[3]?).map (·.player) = some none := by
  decide +kernel

/-- A configuration the engine accepts is one the table's `startRefusal` lets through. -/
theorem startRefusal_of_start {m : Meta} {cfg : List SeatCfg} (hs : (start ⟨m, cfg⟩).2 = none) :
    Table.startRefusal cfg = none := by
  rw [← Table.startRefusal_eq_start ⟨m, cfg⟩ ((C06.start_iff ⟨m, cfg⟩).mp hs).2.2.2]
  exact hs

/-- **What the engine reports fits** (C01 composed).  For ANY history of the engine model from the start of ANY
configuration it accepts (non-negative forced bets, `OptsOK`) that reaches `GameClosed`, the closing stacks of the
result (`Result.Players[k].Final`, in seat = game-index order, `idx = k`) are one per configured player, none negative,
and add up to the configured bankrolls. -/
theorem engine_finals (m : Meta) (cfg : List SeatCfg) (wf : OptsOK m) (hs : (start ⟨m, cfg⟩).2 = none) (ops : List Op)
    (he : ((start ⟨m, cfg⟩).1.run ops).event = .gameClosed) :
    ∃ r, ((start ⟨m, cfg⟩).1.run ops).result = some r ∧
      (r.players.map (·.finalStack)).length = cfg.length ∧
      (r.players.map (·.finalStack)).sum = (cfg.map (·.bankroll)).sum ∧
      (∀ f ∈ r.players.map (·.finalStack), 0 ≤ f) ∧
      ∀ (k : Nat) pr, r.players[k]? = some pr → pr.idx = k := by
  obtain ⟨r, hr, hz, hlen, hall⟩ := C01.closed_result_configured ⟨m, cfg⟩ ⟨wf⟩ hs ops he
  have hrow : ∀ (i : Nat) (s : SeatCfg) (pr : PlayerResult), cfg[i]? = some s → r.players[i]? = some pr →
      pr.idx = i ∧ pr.finalStack = s.bankroll + pr.changed ∧ 0 ≤ pr.finalStack := by
    intro i s pr hs' hpr
    obtain ⟨_, pr', _, hpr', h1, h2, h3, _⟩ := hall i s hs'
    rw [hpr] at hpr'
    cases hpr'
    exact ⟨h1, h2, h3⟩
  have hcfg : ∀ (i : Nat) pr, r.players[i]? = some pr → ∃ s, cfg[i]? = some s := by
    intro i pr hpr
    have : i < cfg.length := by
      have := (List.getElem?_eq_some_iff.mp hpr).1
      rw [hlen] at this
      exact this
    exact ⟨_, List.getElem?_eq_getElem this⟩
  refine ⟨r, hr, by simpa using hlen, ?_, ?_, ?_⟩
  · have := sum_pointwise (·.bankroll) (·.finalStack) (·.changed) cfg r.players hlen.symm
      (fun i a b ha hb => (hrow i a b ha hb).2.1)
    rw [this, hz]
    simp
  · intro f hf
    rw [List.mem_map] at hf
    obtain ⟨pr, hpr, rfl⟩ := hf
    obtain ⟨i, hi⟩ := List.getElem?_of_mem hpr
    obtain ⟨s, hs'⟩ := hcfg i pr hi
    exact (hrow i s pr hs' hi).2.2
  · intro k pr hpr
    obtain ⟨s, hs'⟩ := hcfg k pr hpr
    exact (hrow k s pr hs' hpr).1

/-- **Chips are conserved across hands at a table.**  Let a reachable table create a game with player settings `cfg`
(`hc`; `finals0` is irrelevant: `hand_cfg_independent`).  Let the engine play that game: ANY history of the engine model
from `start ⟨m, cfg⟩` — any options `m` with a deck and non-negative forced bets — that is accepted and reaches
`GameClosed` with result `r`.  Feed the closing stacks of `r` back (`updatePlayerStates`).  Then the hand is played to
the end (no refusal, no input error), the chips on the sheet are what they were before the hand, and every closing stack
written back is `≥ 0`. -/
theorem table_hand_conserves (t : Table) (h : TReachable t) (finals0 : List Int) (cfg : List SeatCfg)
    (hc : (t.step (.hand finals0)).2.cfg = some cfg)
    (m : Meta) (wf : OptsOK m) (hs : (start ⟨m, cfg⟩).2 = none) (ops : List Op) (r : Result)
    (he : ((start ⟨m, cfg⟩).1.run ops).event = .gameClosed) (hr : ((start ⟨m, cfg⟩).1.run ops).result = some r) :
    let finals := r.players.map (·.finalStack)
    (t.step (.hand finals)).2.cfg = some cfg ∧
    (∀ e, (t.step (.hand finals)).2.err ≠ some (.game e)) ∧ (t.step (.hand finals)).2.err ≠ some .badInput ∧
    (t.step (.hand finals)).1.sheetTotal = t.sheetTotal ∧ ∀ f ∈ finals, 0 ≤ f := by
  intro finals
  obtain ⟨r', hr', hlen, hsum, hpos, _⟩ := engine_finals m cfg wf hs ops he
  rw [hr] at hr'
  cases hr'
  have hok := startRefusal_of_start hs
  have hc' : (t.step (.hand finals)).2.cfg = some cfg := by
    rw [hand_cfg_indep t finals finals0]
    exact hc
  obtain ⟨t1, seats, hcr, hcfg, hstep⟩ := hand_created hc'
  refine ⟨hc', ?_, ?_, hand_conserves_chips t h finals cfg hc' hok hlen hsum, hpos⟩
  · intro e he'
    rw [hstep] at he'
    rw [playHand_err_game.mp he'] at hok
    cases hok
  · rw [hstep]
    intro hbad
    exact (playHand_err_badInput hbad).2 hlen

/-- Non-vacuity of `engine_finals` / `table_hand_conserves`: a 3-seat table whose first game is exactly the side-pot hand
`C01.sideCfg` (bankrolls 100, 7, 50; dealer, sb, bb); the engine run `C01.sideOps` closes it with the stacks 50, 21, 86;
written back, the sheet shows them and still holds 157 chips. -/
def sideTable : Table :=
  (Table.new 3 {}).run [.join 0 1 100 none, .activate 0, .join 1 2 7 none, .activate 1, .join 2 3 50 none, .activate 2]

example : TReachable sideTable := ⟨3, {}, _, rfl⟩
/-- the engine run `C01.sideOps` on the game of `sideTable` (`C01.side_closed`) -/
theorem side_run : (start ⟨C01.sideCfg.opts, C01.sideCfg.seats⟩).2 = none ∧
    ((start ⟨C01.sideCfg.opts, C01.sideCfg.seats⟩).1.run C01.sideOps).event = .gameClosed ∧
    (((start ⟨C01.sideCfg.opts, C01.sideCfg.seats⟩).1.run C01.sideOps).result.map fun r => r.players.map (·.finalStack)) =
      some [50, 21, 86] := by
  refine ⟨by decide +kernel, C01.side_closed.1, ?_⟩
  obtain ⟨r, hr, hrows⟩ := Option.map_eq_some_iff.mp C01.side_closed.2.2.1
  have hf : r.players.map (·.finalStack) = [50, 21, 86] := by
    have := congrArg (List.map fun x : Nat × Int × Int => x.2.1) hrows
    rw [List.map_map] at this
    exact this
  show (((start C01.sideCfg).1.run C01.sideOps).result.map fun r => r.players.map (·.finalStack)) = _
  rw [hr, Option.map_some, hf]

theorem side_cfg : (sideTable.step (.hand [])).2.cfg = some C01.sideCfg.seats := by decide +kernel

theorem side_optsOK : OptsOK C01.sideCfg.opts := ⟨by decide, by decide, by decide, by decide⟩

example : (sideTable.step (.hand [])).2.cfg = some C01.sideCfg.seats ∧ sideTable.sheetTotal = 157 := ⟨side_cfg, by decide⟩
example : OptsOK C01.sideCfg.opts := side_optsOK
example : (start ⟨C01.sideCfg.opts, C01.sideCfg.seats⟩).2 = none ∧
    ((start ⟨C01.sideCfg.opts, C01.sideCfg.seats⟩).1.run C01.sideOps).event = .gameClosed ∧
    (((start ⟨C01.sideCfg.opts, C01.sideCfg.seats⟩).1.run C01.sideOps).result.map fun r => r.players.map (·.finalStack)) =
      some [50, 21, 86] := side_run
example : (sideTable.step (.hand [50, 21, 86])).1.sheetTotal = 157 ∧ (sideTable.step (.hand [50, 21, 86])).2.err = none ∧
    (sideTable.step (.hand [50, 21, 86])).1.players.map (·.map (·.bankroll)) = [some 50, some 21, some 86] := by decide +kernel

/-- the game a `prepareNextGame` creates does not depend on the closing stacks it is given -/
theorem hand_cfg_independent (t : Table) (f1 f2 : List Int) : (t.step (.hand f1)).2.cfg = (t.step (.hand f2)).2.cfg :=
  hand_cfg_indep t f1 f2

/-! ## I. Busted players sit out -/

/-- **I.**  After a hand that was played to the end, a player whose closing stack is 0 (`finals[k] = 0`, seat `s =
seats[k]`) is reserved — in leave mode he is gone from the seat and from the sheet.  Hence his seat is not playable:
not in the closing `setupPosition` (if it succeeded, `inPosition = true`, the sheet says `Playable = false`), and, as long
as nobody calls `Activate(s)`, not after any further operations of the table either (joins, leaves, reserves, hands…);
in particular he is not among the players of any later game. -/
theorem busted_sits_out (t : Table) (h : TReachable t) (finals : List Int) (cfg : List SeatCfg)
    (hc : (t.step (.hand finals)).2.cfg = some cfg) (hok : Table.startRefusal cfg = none)
    (hl : finals.length = cfg.length) :
    ∃ t1 seats, t.setupPosition = (t1, none) ∧ playableSeats t1.sm = some seats ∧
      ∀ (k s : Nat), seats[k]? = some s → finals[k]? = some 0 →
        (∀ x, (t.step (.hand finals)).1.sm.seats[s]? = some x → x.reserved = true ∨ x.player = none) ∧
        (t.opts.leaveMode = true → (t.step (.hand finals)).1.playerAt s = none ∧ (t.step (.hand finals)).1.sm.pidAt s = none) ∧
        (t.step (.hand finals)).1.sm.playable s = false ∧
        ((t.step (.hand finals)).1.inPosition = true → ∀ p, (t.step (.hand finals)).1.playerAt s = some p →
          p.playable = false) ∧
        (∀ ops : List TOp, (∀ op ∈ ops, op ≠ .activate (s : Int)) →
          ((t.step (.hand finals)).1.run ops).sm.playable s = false ∧
          ∀ f2 cfg2, (((t.step (.hand finals)).1.run ops).step (.hand f2)).2.cfg = some cfg2 →
            ∃ t1' seats2, ((t.step (.hand finals)).1.run ops).setupPosition = (t1', none) ∧
              playableSeats t1'.sm = some seats2 ∧ cfg2 = t1'.gameSeats seats2 ∧ s ∉ seats2) := by
  have hi := h.inv
  obtain ⟨t1, seats, hcr, hcfg, hstep, hT, hA, _, _, hbust⟩ := hand_played hi hc hok hl
  refine ⟨t1, seats, hcr.setup, hcr.seats, ?_⟩
  intro k s hks hk0
  have hH := hbust k s hk0 hks
  refine ⟨hH, ?_, hH.not_playable, ?_, ?_⟩
  · intro hlmt
    obtain ⟨p, f, _, hf, _, hm⟩ := hA k s hks
    cases hk0.symm.trans hf
    rw [if_pos ⟨rfl, hlmt⟩] at hm
    have hnone : (t.step (.hand finals)).1.playerAt s = none := Option.map_eq_none_iff.mp hm
    refine ⟨hnone, ?_⟩
    rw [← hT.sync s, pidAt_eq, hnone]
    rfl
  · intro hin p hp
    rw [hstep] at hin hp
    rw [played_flags hok hl hin hp, ← hstep]
    exact hH.not_playable
  · intro ops hops
    have hR := run_held hT hH ops hops
    refine ⟨hR.not_playable, ?_⟩
    intro f2 cfg2 hc2
    have hTR := hT.run ops
    obtain ⟨t1', seats2, hcr', hcfg', _⟩ := hand_created hc2
    refine ⟨t1', seats2, hcr'.setup, hcr'.seats, hcfg', ?_⟩
    intro hmem
    have hp := hcr'.playable hTR hmem
    have hH' : SM.Held t1'.sm s := by
      rw [hcr'.t1_eq]
      exact setupPosition_held hTR hR
    rw [hH'.not_playable] at hp
    cases hp

/-- after the demo hand the player on seat 3 is busted: reserved, `Playable = false` on the sheet, and the next game is
made of seats 2 and 0 only; once he is activated again he is dealt in again — with an empty bankroll, so that `Start()`
refuses the game (nothing in `Activate` looks at the bankroll) -/
example : let t' := (demo.step (.hand [150, 200, 0])).1
    t'.sm.seats[3]? = some { player := some 3, active := true, reserved := true } ∧ t'.sm.playable 3 = false ∧
    t'.players[3]?.join.map (·.playable) = some false ∧
    (t'.step (.hand [175, 175])).2.cfg = some [⟨200, true, true, false⟩, ⟨150, false, false, true⟩] ∧
    ((t'.step (.activate 3)).1.step (.hand [0, 0, 0])).2.err = some (.game .notEnoughBankroll) := by decide +kernel


/-! ## From one hand to the next -/

/-- **The closing `setupPosition` of a hand is a hand-off in the sense of E, F, G.**  When `prepareNextGame` creates a
game and ends without error, its last step was a successful `setupPosition` that ran `Next()` from a state `tc` (hand
over, stacks written back, `inPosition = false`) which satisfies the invariant: E, F, G apply to `tc` and the returned
table `t'`, whose `inPosition` is now `true`. -/
theorem closing_setup (t : Table) (h : TReachable t) (finals : List Int) (cfg : List SeatCfg)
    (hc : (t.step (.hand finals)).2.cfg = some cfg) (herr : (t.step (.hand finals)).2.err = none) :
    ∃ tc, TInv tc ∧ tc.inPosition = false ∧ tc.setupPosition = ((t.step (.hand finals)).1, none) ∧
      (t.step (.hand finals)).1.inPosition = true := by
  have hi := h.inv
  obtain ⟨t1, seats, hcr, hcfg, hstep⟩ := hand_created hc
  rw [hstep] at herr ⊢
  obtain ⟨_, _, hsp⟩ := playHand_ok herr
  exact ⟨_, TInv.closed ((hcr.tinv hi).assignGameIdx seats) finals, rfl, hsp, setupPosition_ok_inPosition hsp⟩

/-- **The next game, when nothing happens in between.**  A `prepareNextGame` that finds the positions already set up
(`inPosition = true`) makes its game from the sheet and the seat manager as they are: the player settings are
`gameSeats` of `GetPlayableSeats()` of the current state.  So after `closing_setup`, E, F, G describe the configuration
the engine gets for the following hand — provided no `Join` / `Leave` / `Activate` / `Reserve` came in between
(otherwise: `disturbed_*` below).  (The hypothesis that `t` is reachable is not needed.) -/
theorem next_game_undisturbed (t : Table) (h : TReachable t) (hin : t.inPosition = true) (finals : List Int)
    (cfg : List SeatCfg) (hc : (t.step (.hand finals)).2.cfg = some cfg) :
    ∃ seats, playableSeats t.sm = some seats ∧ cfg = t.gameSeats seats := by
  obtain ⟨t1, seats, hcr, hcfg, _⟩ := hand_created hc
  have hset := hcr.setup
  rw [setupPosition_of_inPosition hin] at hset
  cases hset
  exact ⟨seats, hcr.seats, hcfg⟩

/-- `demo`, two hands in a row: the closing `setupPosition` of the first hand (everybody keeps chips) gives dealer 2,
small blind 3, big blind 0; the second hand is made of exactly that. -/
example : let t' := (demo.step (.hand [150, 150, 50])).1
    (demo.step (.hand [150, 150, 50])).2.err = none ∧ t'.inPosition = true ∧
    (t'.sm.dealer, t'.sm.sb, t'.sm.bb) = (some 2, some 3, some 0) ∧ playableSeats t'.sm = some [2, 3, 0] ∧
    (t'.step (.hand [100, 100, 150])).2.cfg =
      some [⟨150, true, false, false⟩, ⟨50, false, true, false⟩, ⟨150, false, false, true⟩] := by decide +kernel

/-! ## The disturbed hand-off (findings)

`prepareNextGame` sets up the positions of the NEXT hand at the end of the current one (`inPosition = true`), but
`startGame` of that next hand reads the playable seats afresh.  `Join` / `Leave` / `Activate` between the two are not
reflected in the positions on the sheet. -/

/-- `demo` after one hand in which everybody kept chips; the positions of the next hand are set up: dealer on seat 2. -/
def afterHand : Table := (demo.step (.hand [150, 150, 50])).1

/-- **Finding (disturbed hand-off, no dealer).**  The player who has just been given the button leaves before the next
hand starts (`Leave(2)`).  `setupPosition` does nothing (`inPosition = true`), `startGame` builds the game from the two
remaining players, none of whom carries `"dealer"`: `Start()` refuses with `ErrNoDealer`.  Go-level sequence: three
players join and sit in (seats 0, 2, 3), one hand is played, `Leave(2)`, `prepareNextGame`. -/
theorem disturbed_no_dealer :
    afterHand.inPosition = true ∧ afterHand.sm.dealer = some 2 ∧
    ((afterHand.step (.leave 2)).1.step (.hand [100, 100])).2.err = some (.game .noDealer) ∧
    ((afterHand.step (.leave 2)).1.step (.hand [100, 100])).2.cfg =
      some [⟨50, false, true, false⟩, ⟨150, false, false, true⟩] := by decide +kernel

/-- **A refused game is refused for ever.**  When `Start()` refuses the game of a `prepareNextGame` (any reason: no
dealer, an empty bankroll…), `startGame` returns before `inPosition` is reset; so every further `prepareNextGame` — as
long as nothing else happens at the table — builds the same game and gets the same refusal.  (In `tableLoop` this error
is none of the cases handled: the loop schedules the next game, again and again.)  All reachable tables, any number of
retries, any closing stacks offered. -/
theorem refused_forever (t : Table) (h : TReachable t) (f : List Int) (e : Err)
    (hr : (t.step (.hand f)).2.err = some (.game e)) (fs : List (List Int)) (f' : List Int) :
    (((t.step (.hand f)).1.run (fs.map .hand)).step (.hand f')).2.err = some (.game e) ∧
    (((t.step (.hand f)).1.run (fs.map .hand)).step (.hand f')).2.cfg = (t.step (.hand f)).2.cfg := by
  obtain ⟨t1, seats, hcr, hnd, hr', hstep⟩ := hand_refused h.inv hr
  rw [hstep]
  obtain ⟨h1, h2⟩ := refused_again (Stuck.of_created hcr hnd hr') fs f'
  exact ⟨h1, by rw [h2, gameSeats_assignGameIdx]⟩

example : let t := (afterHand.step (.leave 2)).1
    ((t.run [.hand [100, 100], .hand [], .hand [7]]).step (.hand [100, 100])).2.err = some (.game .noDealer) := by decide +kernel

/-- 6 seats; players on 0, 2, 4 sit in, a fourth only joins seat 3; one hand; the closing `Next()` gives dealer 2, small
blind 4 (seat 3 is reserved), big blind 0; then the player on seat 3 sits in (`Activate(3)`: playable at once). -/
def lateSitIn : Table :=
  (Table.new 6 {}).run [.join 0 10 100 none, .activate 0, .join 2 12 100 none, .activate 2, .join 4 14 100 none, .activate 4,
    .join 3 13 100 none, .hand [100, 100, 100], .activate 3]

/-- **Finding (disturbed hand-off, layout).**  A player who sits in between two hands on a seat between the dealer and
the small blind is dealt in at once, without a position: the engine gets ⟨dealer⟩, ⟨no position⟩, ⟨sb⟩, ⟨bb⟩ — the small
blind is not the first player after the dealer.  Likewise in `d4pre` above the big blind left between two hands: the
engine gets three players ⟨dealer⟩, ⟨sb⟩, ⟨no position⟩ and no big blind at all; `Start()` accepts both. -/
theorem disturbed_layout :
    lateSitIn.inPosition = true ∧ (lateSitIn.sm.dealer, lateSitIn.sm.sb, lateSitIn.sm.bb) = (some 2, some 4, some 0) ∧
    (lateSitIn.step (.hand [100, 100, 100, 100])).2.cfg =
      some [⟨100, true, false, false⟩, ⟨100, false, false, false⟩, ⟨100, false, true, false⟩, ⟨100, false, false, true⟩] ∧
    (lateSitIn.step (.hand [100, 100, 100, 100])).2.err = none ∧
    d4pre.inPosition = true ∧
    (d4pre.step (.hand [0, 150, 150])).2.cfg =
      some [⟨100, true, false, false⟩, ⟨100, false, true, false⟩, ⟨100, false, false, false⟩] := by decide +kernel

end Pokerface.C08T

section Axioms
open Pokerface.C08T
#print axioms startRefusal_eq_start
#print axioms reachable_invariant
#print axioms invariant_inductive
#print axioms positions_copied
#print axioms game_players
#print axioms hand_off_heads_up
#print axioms hand_off_ring
#print axioms hand_off_ring_of_noWaiting
#print axioms d4_hand_off_witness
#print axioms hand_off_ring_false
#print axioms hand_off_accepted
#print axioms hand_off_accepted_step
#print axioms bankroll_writeback
#print axioms hand_conserves_chips
#print axioms engine_finals
#print axioms table_hand_conserves
#print axioms busted_sits_out
#print axioms closing_setup
#print axioms next_game_undisturbed
#print axioms disturbed_no_dealer
#print axioms refused_forever
#print axioms disturbed_layout
end Axioms

