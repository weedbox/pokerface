/-
  LinksTable — END-TO-END statements: the hand-off of the table (C08Table: seat manager → sheet → player settings)
  composed with the theorems about the engine (C06 start, C13 forced bets, C04 first to act, C01 chips).

  Setting of the theorems about one hand-off (`HandOff t t' seats m`, Proofs/TableGlueLinks.lean):
  * `t` is a table satisfying the invariant `TInv` (every reachable table does, and so does the state inside
    `prepareNextGame` from which the closing `setupPosition` of a hand runs: `C08T.closing_setup`), `t.inPosition = false`;
  * `t.setupPosition = (t', none)`: `setupPosition` ran `Next()` and succeeded; `seats` is `GetPlayableSeats()` of `t'`;
  * every player on a playable seat of `t'` has a positive bankroll;
  * `m : Meta` are the options `startGame` gives the game: ANY ante and blinds `≥ 0` (`OptsOK m`; the model of the
    table does not fix them) and a non-empty deck.
  The configuration handed to the engine is `⟨m, t'.gameSeats seats⟩`.  `posOf sm s` are the positions the seat manager
  gives seat `s` (dealer, sb, bb-and-not-sb); `owedAt sm m s` is the blind seat `s` owes under the options `m`.
  The section "From hand to hand" is about reachable tables and the closing stacks the engine reports.
-/
import Pokerface.Proofs.TableGlueLinks
import Pokerface.Properties.C01
import Pokerface.Properties.C04
import Pokerface.Properties.C06
import Pokerface.Properties.C13
import Pokerface.Properties.C08Table

namespace Pokerface.LinksT
open Pokerface Table SM Game

/-- The blind the seat `s` owes, in terms of the SEATS of the seat manager: the big-blind seat owes the big blind;
the small-blind seat the small blind — when it is also the dealer's seat (heads-up) and the small blind is 0, the dealer
blind (reading I1 of C13); the dealer's seat (otherwise) the dealer blind; every other seat nothing. -/
def owedAt (sm : SM) (m : Meta) (s : Nat) : Int :=
  if sm.bb = some s then m.blindBB
  else if sm.sb = some s then
    (if sm.dealer = some s then (if m.blindSB > 0 then m.blindSB else m.blindDealer) else m.blindSB)
  else if sm.dealer = some s then m.blindDealer
  else 0

/-- `owedAt` when the dealer's, the small-blind and the big-blind seat are known -/
theorem owedAt_of {sm : SM} {m : Meta} {d s b : Nat} (hd : sm.dealer = some d) (hs : sm.sb = some s)
    (hb : sm.bb = some b) (x : Nat) :
    owedAt sm m x =
      if b = x then m.blindBB
      else if s = x then (if d = x then (if m.blindSB > 0 then m.blindSB else m.blindDealer) else m.blindSB)
      else if d = x then m.blindDealer
      else 0 := by
  unfold owedAt
  rw [hb, hs, hd]
  simp only [Option.some.injEq]

/-- the configuration handed to the engine is in the domain of C13 / C04 / C01 -/
theorem table_accepted {t t' : Table} {seats : List Nat} {m : Meta} (h : HandOff t t' seats m) :
    C13.Accepted ⟨m, t'.gameSeats seats⟩ ∧
    (∀ (k : Nat) c, (t'.gameSeats seats)[k]? = some c → (c.dealer = true ↔ k = 0)) ∧ 2 ≤ seats.length := by
  obtain ⟨seats0, d, hps, _, _, h2, _, hstart, hdl, _⟩ := C08T.hand_off_accepted t t' h.inv h.fresh h.setup h.bank
  rw [h.seats] at hps
  cases hps
  exact ⟨⟨⟨h.opts⟩, hstart m h.deck⟩, hdl, h2⟩

theorem table_dealerIdx {t t' : Table} {seats : List Nat} {m : Meta} (h : HandOff t t' seats m) (ops : List Op) :
    ((start ⟨m, t'.gameSeats seats⟩).1.run ops).dealerIdx = 0 := by
  obtain ⟨hacc, hdl, h2⟩ := table_accepted h
  have hne : t'.gameSeats seats ≠ [] := by
    rw [gameSeats_eq_map, ← List.length_pos_iff, List.length_map]
    exact Nat.lt_of_lt_of_le Nat.zero_lt_two h2
  exact dealerIdx_run_zero m _ hacc.started hne hdl ops

/-! ## The game starts, with the players of the playable seats -/

/-- **The game starts** (C08Table ∘ C06).  `Start()` accepts the game made at the hand-off.  The game has one player per
playable seat (`playableCount ≥ 2`); player `k` of the game is the player sitting on seat `seats[k]` — the `k`-th
playable seat clockwise from the dealer — with the bankroll the sheet shows for him as bankroll AND stack, nothing
wagered, and the positions the seat manager gives his seat; player 0 is the dealer (also as cached by the engine);
the hand waits for `ReadyForAll` with no round yet. -/
theorem table_game_starts {t t' : Table} {seats : List Nat} {m : Meta} (h : HandOff t t' seats m) :
    (start ⟨m, t'.gameSeats seats⟩).2 = none ∧
    (start ⟨m, t'.gameSeats seats⟩).1.players.length = t'.sm.playableCount ∧ 2 ≤ t'.sm.playableCount ∧
    (start ⟨m, t'.gameSeats seats⟩).1.event = .readyRequested ∧ (start ⟨m, t'.gameSeats seats⟩).1.round = .none ∧
    (start ⟨m, t'.gameSeats seats⟩).1.dealerIdx = 0 ∧ t'.sm.dealer = seats[0]? ∧
    ∀ (k s : Nat), seats[k]? = some s → ∃ p q, t'.players[s]? = some (some p) ∧
      (start ⟨m, t'.gameSeats seats⟩).1.players[k]? = some q ∧ q.idx = k ∧
      q.bankroll = p.bankroll ∧ q.stack = p.bankroll ∧ q.wager = 0 ∧ q.pot = 0 ∧
      (q.posDealer, q.posSB, q.posBB) = posOf t'.sm s := by
  obtain ⟨hacc, hdl, h2⟩ := table_accepted h
  obtain ⟨d, s, b, kb, _, _, L⟩ := h.indexLayout
  have hs := hacc.started
  obtain ⟨_, hev, hrd⟩ := pre_start _ hs
  have hl : (start ⟨m, t'.gameSeats seats⟩).1.n = (t'.gameSeats seats).length := by
    unfold Game.n
    rw [start_players _ hs, List.length_map, config_players_length]
  have hdi := table_dealerIdx h []
  refine ⟨hs, hl.trans ((gameSeats_length _ _).trans L.length), by rw [← L.length]; exact h2, hev, hrd, hdi,
    by rw [L.dealer, L.at_zero], ?_⟩
  intro k s hk
  obtain ⟨p, q, hp, hq, c1, c2, c3, c4, c5, c6, c7, c8⟩ := h.seatwise hl (start_seat _ hs) hk
  refine ⟨p, q, hp, hq, c1, c5, c6, c7, c8, ?_⟩
  rw [c2, c3, c4]

/-! ## The forced bets, by seat of the seat manager -/

/-- `owedAt` in the shape of C13's `blindOf`: the first of big blind, small blind, dealer blind that is positive and
whose position the seat holds (`posOf`) -/
theorem owedAt_eq {sm : SM} {m : Meta} (wf : OptsOK m) {d s' b : Nat} (hd : sm.dealer = some d)
    (hs : sm.sb = some s') (hb : sm.bb = some b) (hdb : d ≠ b) (hsb : s' ≠ b) (x : Nat) :
    owedAt sm m x =
      if m.blindBB > 0 ∧ (posOf sm x).2.2 = true then m.blindBB
      else if m.blindSB > 0 ∧ (posOf sm x).2.1 = true then m.blindSB
      else if m.blindDealer > 0 ∧ (posOf sm x).1 = true then m.blindDealer
      else 0 := by
  have := wf.bb0
  have := wf.sb0
  have := wf.bd0
  unfold owedAt posOf
  rw [hd, hs, hb]
  simp only [Option.some.injEq, ne_eq, Bool.and_eq_true, decide_eq_true_eq]
  by_cases e1 : b = x
  · -- the big-blind seat holds no other position
    subst e1
    simp only [hsb, hdb, not_false_eq_true, and_true, and_false, if_true, if_false]
    split <;> omega
  · simp only [e1, and_false, if_false]
    by_cases e2 : s' = x
    · simp only [e2, and_true, if_true]
      by_cases e3 : d = x
      · simp only [e3, and_true, if_true]
        split
        · rfl
        · split <;> omega
      · simp only [e3, and_false, if_false]
        split <;> omega
    · simp only [e2, and_false, if_false]
      by_cases e3 : d = x
      · simp only [e3, and_true, if_true]
        split <;> omega
      · simp only [e3, and_false, if_false]

theorem blindOf_eq_owedAt {sm : SM} {m : Meta} (wf : OptsOK m) {d s' b s : Nat} (hd : sm.dealer = some d)
    (hs : sm.sb = some s') (hb : sm.bb = some b) (hdb : d ≠ b) (hsb : s' ≠ b) {q : Player}
    (hq : (q.posDealer, q.posSB, q.posBB) = posOf sm s) : blindOf m q = owedAt sm m s := by
  rw [owedAt_eq wf hd hs hb hdb hsb, ← hq]
  rfl

/-- **The forced bets** (C08Table ∘ C13).  The configuration is in C13's domain (`C13.Accepted`, so `forced_path`,
`first_preflop_ready`, `cw_is_max_posted`, `prev_is_bb`, … apply as stated there); the forced path `ReadyForAll`,
`PayAnte` iff ante > 0, `PayBlinds` iff some blind > 0 ends in the state `afterForcedBets`, which waits for `ReadyForAll`
in the preflop round.  In that state, for EVERY playable seat `s = seats[k]` with table player `p`, the game player `k`:
* still has the table bankroll, and has paid the ante `min ante bankroll` into the pot;
* has posted exactly `min (bankroll − ante paid) (owedAt s)`, `owedAt` being the blind of the SEAT: the big blind for
  the seat manager's big-blind seat, the small blind for its small-blind seat (heads-up that is the dealer's seat, which
  then posts the small blind, or the dealer blind when there is no small blind), the dealer blind for the dealer's seat
  of a ring, nothing for any other seat — so each blind is capped by that player's TABLE bankroll and nobody else posted;
* holds the rest as stack. -/
theorem table_forced_bets_by_seat {t t' : Table} {seats : List Nat} {m : Meta} (h : HandOff t t' seats m) :
    C13.Accepted ⟨m, t'.gameSeats seats⟩ ∧
    ((afterForcedBets ⟨m, t'.gameSeats seats⟩).event = .readyRequested ∧
      (afterForcedBets ⟨m, t'.gameSeats seats⟩).round = .preflop ∧
      afterForcedBets ⟨m, t'.gameSeats seats⟩ = (start ⟨m, t'.gameSeats seats⟩).1.run (forcedOps m) ∧
      Reachable (afterForcedBets ⟨m, t'.gameSeats seats⟩) ∧
      (afterForcedBets ⟨m, t'.gameSeats seats⟩).n = t'.sm.playableCount) ∧
    (∀ (k s : Nat), seats[k]? = some s → ∃ p q, t'.players[s]? = some (some p) ∧
      (afterForcedBets ⟨m, t'.gameSeats seats⟩).players[k]? = some q ∧ q.idx = k ∧ q.bankroll = p.bankroll ∧
      (q.posDealer, q.posSB, q.posBB) = posOf t'.sm s ∧
      q.pot = min m.ante p.bankroll ∧
      q.wager = min (p.bankroll - q.pot) (owedAt t'.sm m s) ∧
      q.stack = p.bankroll - q.pot - q.wager ∧
      (owedAt t'.sm m s = 0 → q.wager = 0)) ∧
    (∃ d s b, t'.sm.dealer = some d ∧ t'.sm.sb = some s ∧ t'.sm.bb = some b ∧ d ∈ seats ∧ s ∈ seats ∧ b ∈ seats ∧
      owedAt t'.sm m b = m.blindBB ∧
      (s ≠ d → owedAt t'.sm m s = m.blindSB ∧ owedAt t'.sm m d = m.blindDealer) ∧
      (s = d → owedAt t'.sm m d = if m.blindSB > 0 then m.blindSB else m.blindDealer) ∧
      ∀ x, x ≠ d → x ≠ s → x ≠ b → owedAt t'.sm m x = 0) := by
  obtain ⟨hacc, _, _⟩ := table_accepted h
  obtain ⟨d, s, b, kb, _, _, L⟩ := h.indexLayout
  obtain ⟨_, _, _, _, ⟨hev, hrd⟩, hrun, hreach⟩ := C13.forced_path hacc
  have hn := afterForcedBets_n _ hacc.started
  refine ⟨hacc, ⟨hev, hrd, hrun, hreach, hn.trans ((gameSeats_length _ _).trans L.length)⟩, ?_, ?_⟩
  · intro k x hk
    obtain ⟨p, q, hp, hq, c1, c2, c3, c4, c5, c6, c7, c8, _⟩ := h.seatwise hn (forced_seat _ hacc.wf hacc.started) hk
    have hpos : (q.posDealer, q.posSB, q.posBB) = posOf t'.sm x := by
      rw [c2, c3, c4]
    have hbl := blindOf_eq_owedAt h.opts L.dealer L.sb L.bb L.dealer_ne_bb L.sb_ne_bb hpos
    simp only at c6 c7 c8 hbl
    rw [hbl] at c7
    refine ⟨p, q, hp, hq, c1, c5, hpos, c6, c7, c8, ?_⟩
    intro h0'
    exact C13.nobody_else_posted hacc (List.mem_of_getElem? hq) (by rw [hbl]; exact h0')
  · have hsm : s ∈ seats := by
      rcases L.branch with ⟨_, rfl, _⟩ | ⟨_, h1, _⟩
      · exact List.mem_of_getElem? L.at_zero
      · exact List.mem_of_getElem? h1
    refine ⟨d, s, b, L.dealer, L.sb, L.bb, List.mem_of_getElem? L.at_zero, hsm, List.mem_of_getElem? L.at_kb, ?_, ?_, ?_, ?_⟩
    · rw [owedAt_of L.dealer L.sb L.bb, if_pos rfl]
    · intro hne
      have e1 : ¬ b = s := fun e => L.sb_ne_bb e.symm
      have e2 : ¬ b = d := fun e => L.dealer_ne_bb e.symm
      have e3 : ¬ d = s := fun e => hne e.symm
      constructor
      · rw [owedAt_of L.dealer L.sb L.bb]
        simp [e1, e3]
      · rw [owedAt_of L.dealer L.sb L.bb]
        simp [e2, hne]
    · intro he
      subst he
      have e2 : ¬ b = s := fun e => L.dealer_ne_bb e.symm
      rw [owedAt_of L.dealer L.sb L.bb]
      simp [e2]
    · intro x h1 h2 h3
      have e1 : ¬ b = x := fun e => h3 e.symm
      have e2 : ¬ s = x := fun e => h2 e.symm
      have e3 : ¬ d = x := fun e => h1 e.symm
      rw [owedAt_of L.dealer L.sb L.bb]
      simp [e1, e2, e3]

/-! ## Who acts first -/

/-- `C04.first_preflop` when the dealer is player 0 and the big blind player `kb`, nobody between them carrying the
big-blind position: the walk from the dealer stops at `kb` -/
theorem first_preflop_from_zero {g : Game} (h : Reachable g) (he : g.event = .readyRequested) (hr : g.round = .preflop)
    (hd : g.dealerIdx = 0) {kb : Nat} (hkb0 : 0 < kb) (hkb : kb < g.n)
    (hbb : (g.players[kb]?).map (·.posBB) = some true)
    (hno : ∀ k, 0 < k → k < kb → (g.players[k]?).map (·.posBB) = some false)
    (hopen : (g.step .ready).1.event = .roundStarted) : (g.step .ready).1.cur = cwNext g.n kb := by
  have hit : ∀ j, j < kb → cwIter g.n (j + 1) g.dealerIdx = j + 1 := by
    intro j hj
    rw [hd, cwIter_eq_mod _ (by omega), Nat.zero_add, Nat.mod_eq_of_lt (by omega)]
  have hcur := C04.first_preflop h he hr (kb - 1) (by omega)
    (by rw [hit _ (by omega), Nat.sub_add_cancel hkb0]; exact hbb)
    (fun j' hj' => by rw [hit _ (by omega)]; exact hno _ (Nat.succ_pos _) (by omega)) hopen
  rwa [hit _ (by omega), Nat.sub_add_cancel hkb0] at hcur

/-- Who acts first, on the named layout of the hand-off: C04's walk `seekBB` from the dealer — game index 0 — stops at
the game index `kb` of the big-blind seat, since only the small blind can sit between the two. -/
theorem first_to_act_of_layout {t t' : Table} {seats : List Nat} {m : Meta} (h : HandOff t t' seats m)
    {d s b kb : Nat} {rest : List Nat} {ring : Bool} (L : IndexLayout t t' seats d s b kb rest ring)
    (hopen : ((afterForcedBets ⟨m, t'.gameSeats seats⟩).step .ready).1.event = .roundStarted) :
    ((afterForcedBets ⟨m, t'.gameSeats seats⟩).step .ready).1.cur = cwNext seats.length kb ∧
    ∃ x, seats[cwNext seats.length kb]? = some x ∧ IsNextAfter t'.sm b x := by
  obtain ⟨_, ⟨hev, hrd, hrun, hreach, hn'⟩, hpl, _⟩ := table_forced_bets_by_seat h
  have hn : (afterForcedBets ⟨m, t'.gameSeats seats⟩).n = seats.length := hn'.trans L.length.symm
  have hdi : (afterForcedBets ⟨m, t'.gameSeats seats⟩).dealerIdx = 0 := by
    rw [hrun]
    exact table_dealerIdx h _
  -- the big-blind position of game player `k`, from the seat he sits on
  have hposBB : ∀ (k x : Nat), seats[k]? = some x →
      ((afterForcedBets ⟨m, t'.gameSeats seats⟩).players[k]?).map (·.posBB) = some (posOf t'.sm x).2.2 := by
    intro k x hk
    obtain ⟨p, q, _, hq, _, _, hpos, _⟩ := hpl k x hk
    rw [hq, ← hpos]
    rfl
  have hcur := first_preflop_from_zero hreach hev hrd hdi L.kb_pos
    (by rw [hn]; exact (List.getElem?_eq_some_iff.mp L.at_kb).1)
    (by rw [hposBB kb b L.at_kb, posOf_bb L.dealer L.sb L.bb L.dealer_ne_bb L.sb_ne_bb])
    (by
      intro k hk0 hkkb
      rcases L.branch with ⟨e, _⟩ | ⟨e, h1, hsd, _⟩
      · omega
      · have hk1 : k = 1 := by omega
        rw [hk1, hposBB 1 s h1, posOf_sb L.dealer L.sb L.bb (Ne.symm hsd)])
    hopen
  rw [hn] at hcur
  exact ⟨hcur, next_after_index L.dealer_lt L.dealer_playable L.seats_eq L.at_zero L.kb_pos L.at_kb⟩

/-- **Who acts first, general form** (C08Table ∘ C13 ∘ C04 `first_preflop`).  When the `ReadyForAll` after the forced bets opens
the first betting round (`hopen`: C04's own hypothesis — it fails only when nobody is left who could act, e.g. everybody
is all-in from the blinds; then the round is closed at once and nobody is asked), the player asked first is the game
player `cwNext n kb` sitting on the FIRST PLAYABLE SEAT CLOCKWISE AFTER THE SEAT MANAGER'S BIG-BLIND SEAT `b` (`kb` is the
game index of that seat: 1 when the small blind is the dealer, else 2; C04's walk `seekBB` from the dealer — game
index 0 — stops there).  A seat that is all-in from the blinds is still asked (C04: "merely asked to pass").  The state
is reachable, so `C04.one_actor` says that this player and nobody else is offered actions. -/
theorem table_first_to_act {t t' : Table} {seats : List Nat} {m : Meta} (h : HandOff t t' seats m)
    (hopen : ((afterForcedBets ⟨m, t'.gameSeats seats⟩).step .ready).1.event = .roundStarted) :
    ∃ b kb x, t'.sm.bb = some b ∧ seats[kb]? = some b ∧
      (kb = if t'.sm.sb = t'.sm.dealer then 1 else 2) ∧
      ((afterForcedBets ⟨m, t'.gameSeats seats⟩).step .ready).1.cur = cwNext seats.length kb ∧
      seats[((afterForcedBets ⟨m, t'.gameSeats seats⟩).step .ready).1.cur]? = some x ∧
      IsNextAfter t'.sm b x ∧
      Reachable ((afterForcedBets ⟨m, t'.gameSeats seats⟩).step .ready).1 := by
  obtain ⟨d, s, b, kb, _, _, L⟩ := h.indexLayout
  obtain ⟨hcur, x, hx, hnx⟩ := first_to_act_of_layout h L hopen
  obtain ⟨_, _, _, _, _, _, hreach⟩ := C13.forced_path (table_accepted h).1
  exact ⟨b, kb, x, L.bb, L.at_kb, L.kb_eq, hcur, by rw [hcur]; exact hx, hnx, hreach.step _⟩

/-- **Who acts first, heads-up**: with exactly two playable seats the first to act before the flop is the game player 0 — the
player on the dealer's seat (who is the small blind). -/
theorem table_first_to_act_heads_up {t t' : Table} {seats : List Nat} {m : Meta} (h : HandOff t t' seats m)
    (h2 : t'.sm.playableCount = 2)
    (hopen : ((afterForcedBets ⟨m, t'.gameSeats seats⟩).step .ready).1.event = .roundStarted) :
    ((afterForcedBets ⟨m, t'.gameSeats seats⟩).step .ready).1.cur = 0 ∧ seats[0]? = t'.sm.dealer ∧
    t'.sm.sb = t'.sm.dealer := by
  obtain ⟨d, s, b, kb, _, _, L⟩ := h.indexLayout
  obtain ⟨hcur, _⟩ := first_to_act_of_layout h L hopen
  have hlen := L.length
  rw [h2] at hlen
  have hkl := (List.getElem?_eq_some_iff.mp L.at_kb).1
  -- two seats: the big blind has game index 1, so the small blind is the dealer
  rcases L.branch with ⟨e, esd, _⟩ | ⟨e, _⟩
  · refine ⟨?_, by rw [L.at_zero, L.dealer], by rw [L.sb, L.dealer, esd]⟩
    rw [hcur, e, hlen]
    rfl
  · omega

/-- **Who acts first, ring**: when the small blind `s` is the first playable seat after the dealer `d` (the hypothesis of
`C08T.hand_off_ring`; it holds iff `renewSeatStatus` took its ring branch), the first to act before the flop is the game
player 3 — the first playable seat clockwise after the big-blind seat — when at least four seats are playable, and
the game player 0, the dealer, when exactly three are. -/
theorem table_first_to_act_ring {t t' : Table} {seats : List Nat} {m : Meta} (h : HandOff t t' seats m)
    (d s : Nat) (hd : t'.sm.dealer = some d) (hs : t'.sm.sb = some s) (hna : IsNextAfter t'.sm d s)
    (hopen : ((afterForcedBets ⟨m, t'.gameSeats seats⟩).step .ready).1.event = .roundStarted) :
    3 ≤ t'.sm.playableCount ∧
    ((afterForcedBets ⟨m, t'.gameSeats seats⟩).step .ready).1.cur = (if t'.sm.playableCount = 3 then 0 else 3) ∧
    ∃ b x, t'.sm.bb = some b ∧ seats[0]? = some d ∧ seats[1]? = some s ∧ seats[2]? = some b ∧
      seats[((afterForcedBets ⟨m, t'.gameSeats seats⟩).step .ready).1.cur]? = some x ∧ IsNextAfter t'.sm b x ∧
      (t'.sm.playableCount = 3 → x = d) := by
  obtain ⟨d', s', b, kb, _, _, L⟩ := h.indexLayout
  cases hd.symm.trans L.dealer
  cases hs.symm.trans L.sb
  obtain ⟨hcur, x, hx, hnx⟩ := first_to_act_of_layout h L hopen
  have hkb := L.at_kb
  -- the small blind is not the dealer: the big blind has game index 2
  rcases L.branch with ⟨_, e, _⟩ | ⟨e, h1, _, _⟩
  · exact absurd e (IsNextAfter.ne hna L.dealer_lt)
  · subst e
    have hkl := (List.getElem?_eq_some_iff.mp hkb).1
    have hlen := L.length
    have hnext : cwNext seats.length 2 = if seats.length = 3 then 0 else 3 := by
      unfold cwNext
      by_cases h3 : seats.length = 3
      · rw [if_pos (by omega), if_pos h3]
      · rw [if_neg (by omega), if_neg h3]
    rw [hnext] at hcur hx
    refine ⟨by omega, by rw [hcur, hlen], b, x, L.bb, L.at_zero, h1, hkb, by rw [hcur]; exact hx, hnx, ?_⟩
    intro h3
    rw [← hlen] at h3
    rw [if_pos h3, L.at_zero] at hx
    exact (Option.some.inj hx).symm

/-! ## From hand to hand -/

/-- solvency is kept by a hand whose closing stacks are not negative: a player who ends with chips has chips, a player
who ends with nothing is reserved, everybody else is as before -/
theorem solvent_after_hand (t : Table) (h : TReachable t) (hsol : Solvent t) (finals : List Int) (cfg : List SeatCfg)
    (hc : (t.step (.hand finals)).2.cfg = some cfg) (hok : Table.startRefusal cfg = none)
    (hl : finals.length = cfg.length) (hpos : ∀ f ∈ finals, 0 ≤ f) : Solvent (t.step (.hand finals)).1 := by
  obtain ⟨t1, seats, _, _, _, _, hA, hB, _, hbust⟩ := hand_played h.inv hc hok hl
  intro i p' hp'
  by_cases hi : i ∈ seats
  · obtain ⟨k, hk⟩ := List.getElem?_of_mem hi
    obtain ⟨p, f, _, hf, _, hm⟩ := hA k i hk
    rw [hp'] at hm
    have hf0 := hpos f (List.mem_of_getElem? hf)
    split at hm
    · cases hm
    · simp only [Option.map_some, Option.some.injEq, money, Prod.mk.injEq] at hm
      by_cases hz : f = 0
      · right
        subst hz
        exact hbust k i hf hk
      · left
        rw [hm.2]
        omega
  · have hm := hB i hi
    rw [hp'] at hm
    obtain ⟨q, hq, hm⟩ := Option.map_eq_some_iff.mp hm.symm
    simp only [money, Prod.mk.injEq] at hm
    rcases hsol i q hq with h1 | h1
    · left
      rw [← hm.2]
      exact h1
    · right
      exact prepareNextGame_held h.inv h1 finals

/-- **One hand fed back** (C08Table ∘ C01 ∘ the theorems above).  A reachable, solvent table creates a game with settings
`cfg`; the engine plays it — ANY history from `start ⟨m, cfg⟩` (any options with non-negative forced bets) that reaches
`GameClosed`; the closing stacks of its result are fed back.  Then the table reached
* is reachable again (hence satisfies `TInv`), holds exactly the chips it held before, and is solvent again;
* if `prepareNextGame` ended without error, its closing `setupPosition` is again a hand-off: there are `tc` and
  `seats2` with `HandOff tc t₂ seats2 m2` for every admissible `m2` — the theorems above apply to the NEXT hand (which is
  made of exactly these settings when nothing happens at the table in between, `C08T.next_game_undisturbed`);
* if it ended with an error (no more games, or too few players left), the positions are not set up, and the
  `setupPosition` of the next `prepareNextGame`, when it succeeds, is a hand-off from `t₂` itself. -/
theorem table_hand_roundtrip (t : Table) (h : TReachable t) (hsol : Solvent t) (finals0 : List Int) (cfg : List SeatCfg)
    (hc : (t.step (.hand finals0)).2.cfg = some cfg)
    (m : Meta) (wf : OptsOK m) (hs : (start ⟨m, cfg⟩).2 = none) (ops : List Op) (r : Result)
    (he : ((start ⟨m, cfg⟩).1.run ops).event = .gameClosed) (hr : ((start ⟨m, cfg⟩).1.run ops).result = some r) :
    let finals := r.players.map (·.finalStack)
    TReachable (t.step (.hand finals)).1 ∧ TInv (t.step (.hand finals)).1 ∧
    (t.step (.hand finals)).1.sheetTotal = t.sheetTotal ∧ Solvent (t.step (.hand finals)).1 ∧
    ((t.step (.hand finals)).2.err = none →
      ∃ tc seats2, ∀ m2, OptsOK m2 → m2.deck ≠ [] → HandOff tc (t.step (.hand finals)).1 seats2 m2) ∧
    ((t.step (.hand finals)).2.err ≠ none → (t.step (.hand finals)).1.inPosition = false ∧
      ∀ t3 seats3 m3, (t.step (.hand finals)).1.setupPosition = (t3, none) → playableSeats t3.sm = some seats3 →
        OptsOK m3 → m3.deck ≠ [] → HandOff (t.step (.hand finals)).1 t3 seats3 m3) := by
  intro finals
  obtain ⟨hc', _, _, htot, hpos⟩ := C08T.table_hand_conserves t h finals0 cfg hc m wf hs ops r he hr
  obtain ⟨r', hr', hlen, _, _, _⟩ := C08T.engine_finals m cfg wf hs ops he
  rw [hr] at hr'
  cases hr'
  have hok := C08T.startRefusal_of_start hs
  have hre := h.step (.hand finals)
  have hsol2 := solvent_after_hand t h hsol finals cfg hc' hok hlen hpos
  refine ⟨hre, hre.inv, htot, hsol2, ?_, ?_⟩
  · intro herr
    obtain ⟨tc, htc, hfr, hsp, _⟩ := C08T.closing_setup t h finals cfg hc' herr
    obtain ⟨d, s, b, rest, ring, L⟩ := handoff_layout htc hfr hsp
    have hseats := L.seats
    exact ⟨tc, _, fun m2 w2 d2 => ⟨htc, hfr, hsp, hseats, fun i p hp hpl => hsol2.bank hp hpl, w2, d2⟩⟩
  · intro herr
    have hin : (t.step (.hand finals)).1.inPosition = false := by
      obtain ⟨t1, seats, hcr, hcfg, hstep⟩ := hand_created hc'
      rw [hstep] at herr ⊢
      exact playHand_err_inPosition hok hlen herr
    refine ⟨hin, ?_⟩
    intro t3 seats3 m3 hsp hps w3 d3
    have hsol3 : Solvent t3 := by
      have := hsol2.setupPosition hre.inv
      rwa [hsp] at this
    exact ⟨hre.inv, hin, hsp, hps, fun i p hp hpl => hsol3.bank hp hpl, w3, d3⟩

/-- the closing stacks of a hand are what the engine reports: whenever this `prepareNextGame` creates a game that
`Start()` accepts, they are the final stacks of the result of SOME history of the engine model on that game (any
options with non-negative forced bets) that reaches `GameClosed` -/
def FairHand (t : Table) (finals : List Int) : Prop :=
  ∀ cfg, (t.step (.hand finals)).2.cfg = some cfg → Table.startRefusal cfg = none →
    ∃ (m : Meta) (ops : List Op) (r : Result), OptsOK m ∧ (start ⟨m, cfg⟩).2 = none ∧
      ((start ⟨m, cfg⟩).1.run ops).event = .gameClosed ∧ ((start ⟨m, cfg⟩).1.run ops).result = some r ∧
      finals = r.players.map (·.finalStack)

/-- every hand of the session is fed with what the engine reports; everything else is arbitrary -/
def FairSession : Table → List TOp → Prop
  | _, [] => True
  | t, op :: ops => (∀ finals, op = .hand finals → FairHand t finals) ∧ FairSession (t.step op).1 ops

/-- the chips brought to the table over a session: the bankrolls of the accepted joins minus the bankrolls of the
players who left (`chipsIn`, Proofs/TableGlueLinks.lean; a hand brings nothing) -/
def sessionChips : Table → List TOp → Int
  | _, [] => 0
  | t, op :: ops => chipsIn t op + sessionChips (t.step op).1 ops

/-- a fair hand — played or not — leaves the chips on the sheet as they were -/
theorem fair_hand_conserves (t : Table) (h : TReachable t) (finals : List Int) (hf : FairHand t finals) :
    (t.step (.hand finals)).1.sheetTotal = t.sheetTotal := by
  rcases prepareNextGame_unplayed t finals with ⟨cfg, hc, hok, hl⟩ | hu
  · obtain ⟨m, ops, r, wf, hs, he, hr, hfin⟩ := hf cfg hc hok
    obtain ⟨r', hr', _, hsum, _, _⟩ := C08T.engine_finals m cfg wf hs ops he
    rw [hr] at hr'
    cases hr'
    exact C08T.hand_conserves_chips t h finals cfg hc hok hl (by rw [hfin]; exact hsum)
  · exact hu

/-- **Sessions: chips are conserved at a table over any number of hands.**  From any reachable table, over ANY
sequence of operations — joins, leaves, sit-ins, sit-outs, hands, accepted or refused, in any order — in which every
hand is fed with the closing stacks the engine reports for it (`FairSession`), the chips on the sheet change exactly by
the bankrolls the accepted joins bring minus the bankrolls of the players who leave. -/
theorem table_session_conserves (t : Table) (h : TReachable t) (ops : List TOp) (hf : FairSession t ops) :
    (t.run ops).sheetTotal = t.sheetTotal + sessionChips t ops := by
  induction ops generalizing t with
  | nil => simp [Table.run, sessionChips]
  | cons op ops ih =>
    rw [Table.run_cons, ih _ (h.step op) hf.2]
    simp only [sessionChips]
    have : (t.step op).1.sheetTotal = t.sheetTotal + chipsIn t op := by
      by_cases hop : ∃ f, op = .hand f
      · obtain ⟨f, rfl⟩ := hop
        rw [fair_hand_conserves t h f (hf.1 f rfl)]
        exact (Int.add_zero _).symm
      · exact step_sheetTotal h.inv op fun f he => hop ⟨f, he⟩
    omega

/-- without joins and leaves the chips on the sheet never change -/
theorem table_session_conserves_closed (t : Table) (h : TReachable t) (ops : List TOp) (hf : FairSession t ops)
    (hno : ∀ op ∈ ops, (∀ seat pid b c, op ≠ .join seat pid b c) ∧ ∀ seat, op ≠ .leave seat) :
    (t.run ops).sheetTotal = t.sheetTotal := by
  rw [table_session_conserves t h ops hf]
  have : ∀ (t : Table) (ops : List TOp),
      (∀ op ∈ ops, (∀ seat pid b c, op ≠ .join seat pid b c) ∧ ∀ seat, op ≠ .leave seat) → sessionChips t ops = 0 := by
    intro t ops
    induction ops generalizing t with
    | nil =>
      intro _
      rfl
    | cons op ops ih =>
      intro hno
      simp only [sessionChips]
      rw [ih _ (fun o ho => hno o (by simp [ho]))]
      have h1 := hno op (by simp)
      cases op with
      | join seat pid b c => exact absurd rfl (h1.1 seat pid b c)
      | leave seat => exact absurd rfl (h1.2 seat)
      | _ => simp [chipsIn]
  rw [this t ops hno]
  omega

/-! ## Non-vacuity: `C08T.demo` handed to the engine -/

def allFunded (t : Table) : Bool := t.players.all fun o => match o with
  | some p => decide (0 < p.bankroll)
  | none => true

theorem funded_of_all {t : Table} (h : allFunded t = true) {i : Nat} {p : TPlayer} (hp : t.players[i]? = some (some p)) :
    0 < p.bankroll := by
  unfold allFunded at h
  rw [List.all_eq_true] at h
  have := h (some p) (List.mem_of_getElem? hp)
  simpa using this

theorem solvent_of_all {t : Table} (h : allFunded t = true) : Solvent t :=
  fun _ _ hp => Or.inl (funded_of_all h (playerAt_eq_some.mp hp))

/-- blinds 5 / 10, no ante -/
def demoMeta : Meta := Ex.opts 0 0 5 10

/-- the hypotheses of the hand-off theorems hold for `C08T.demo` (5 seats, players with 100, 200, 50 chips on seats 0, 2, 3) -/
theorem demo_handOff : HandOff C08T.demo C08T.demo.setupPosition.1 [0, 2, 3] demoMeta :=
  ⟨C08T.demo_reachable.inv, by decide +kernel, pair_of_snd (by decide +kernel), by decide +kernel,
   fun _ _ hp _ => funded_of_all (by decide +kernel) hp, Ex.optsOK _ _ _ _ (by decide +kernel), by decide +kernel⟩

/-- start, forced bets and first to act on `demo`, computed: three players with stacks 100, 200, 50; after the forced bets the player of seat 2
(the seat manager's small blind) has posted 5, the player of seat 3 (its big blind) 10; the betting round opens and the
player of seat 0 — the dealer, first playable seat after seat 3 — is asked first. -/
example : let c : Config := ⟨demoMeta, C08T.demo.setupPosition.1.gameSeats [0, 2, 3]⟩
    (C08T.demo.setupPosition.1.sm.dealer, C08T.demo.setupPosition.1.sm.sb, C08T.demo.setupPosition.1.sm.bb) =
      (some 0, some 2, some 3) ∧
    (start c).2 = none ∧ (start c).1.players.map (fun q => (q.idx, q.bankroll, q.stack)) = [(0, 100, 100), (1, 200, 200), (2, 50, 50)] ∧
    (afterForcedBets c).players.map (fun q => (q.pot, q.wager, q.stack)) = [(0, 0, 100), (0, 5, 195), (0, 10, 40)] ∧
    ((afterForcedBets c).step .ready).1.event = .roundStarted ∧ ((afterForcedBets c).step .ready).1.cur = 0 := by decide +kernel

/-- the hypotheses of `table_first_to_act_ring` hold for `demo`: seat 2 is the first playable seat after the dealer's
seat 0, and the betting round opens -/
example : 3 ≤ C08T.demo.setupPosition.1.sm.playableCount ∧
    ((afterForcedBets ⟨demoMeta, C08T.demo.setupPosition.1.gameSeats [0, 2, 3]⟩).step .ready).1.cur =
      (if C08T.demo.setupPosition.1.sm.playableCount = 3 then 0 else 3) :=
  let r := table_first_to_act_ring demo_handOff 0 2 (by decide +kernel) (by decide +kernel) C08T.demo_next_after (by decide +kernel)
  ⟨r.1, r.2.1⟩

example : owedAt C08T.demo.setupPosition.1.sm demoMeta 3 = 10 ∧ owedAt C08T.demo.setupPosition.1.sm demoMeta 2 = 5 ∧
    owedAt C08T.demo.setupPosition.1.sm demoMeta 0 = 0 := by decide +kernel

/-- heads-up: `C08T.demo2` (players on seats 3 and 1; dealer = small blind = seat 1, big blind = seat 3) -/
theorem demo2_handOff : HandOff C08T.demo2 C08T.demo2.setupPosition.1 [1, 3] demoMeta :=
  ⟨C08T.demo2_reachable.inv, by decide +kernel, pair_of_snd (by decide +kernel), by decide +kernel,
   fun _ _ hp _ => funded_of_all (by decide +kernel) hp, Ex.optsOK _ _ _ _ (by decide +kernel), by decide +kernel⟩

example : let c : Config := ⟨demoMeta, C08T.demo2.setupPosition.1.gameSeats [1, 3]⟩
    C08T.demo2.setupPosition.1.sm.playableCount = 2 ∧
    (afterForcedBets c).players.map (fun q => (q.pot, q.wager, q.stack)) = [(0, 5, 55), (0, 10, 90)] ∧
    ((afterForcedBets c).step .ready).1.event = .roundStarted ∧ ((afterForcedBets c).step .ready).1.cur = 0 := by decide +kernel

/-- a hand fed back, on `C08T.sideTable` and the side-pot hand of C01 (`C01.sideCfg`, `C01.sideOps`): the hypotheses hold -/
example : TReachable C08T.sideTable ∧ Solvent C08T.sideTable ∧
    (C08T.sideTable.step (.hand [])).2.cfg = some C01.sideCfg.seats ∧ OptsOK C01.sideCfg.opts ∧
    (start ⟨C01.sideCfg.opts, C01.sideCfg.seats⟩).2 = none ∧
    ((start ⟨C01.sideCfg.opts, C01.sideCfg.seats⟩).1.run C01.sideOps).event = .gameClosed :=
  ⟨⟨3, {}, _, rfl⟩, solvent_of_all (by decide +kernel), C08T.side_cfg, C08T.side_optsOK, C08T.side_run.1, C08T.side_run.2.1⟩

/-- a fair session: that hand, `Reserve(0)`, a newcomer with 40 chips asking for the occupied seat 1 (refused), the player
of seat 1 (21 chips) leaves, the newcomer asks again and is seated: 157 − 21 + 40 = 176 chips on the sheet -/
def sideSession : List TOp := [.hand [50, 21, 86], .reserve 0, .join 1 9 40 none, .leave 1, .join 1 9 40 none]

theorem sideSession_fair : FairSession C08T.sideTable sideSession := by
  refine ⟨?_, nofun, nofun, nofun, nofun, trivial⟩
  intro f hf
  cases hf
  intro cfg hc _
  rw [C08T.hand_cfg_independent _ _ [], C08T.side_cfg] at hc
  cases hc
  obtain ⟨r, hr, hfin⟩ := Option.map_eq_some_iff.mp C08T.side_run.2.2
  exact ⟨C01.sideCfg.opts, C01.sideOps, r, C08T.side_optsOK, C08T.side_run.1, C08T.side_run.2.1, hr, hfin.symm⟩

example : (C08T.sideTable.run sideSession).sheetTotal = C08T.sideTable.sheetTotal + sessionChips C08T.sideTable sideSession :=
  table_session_conserves _ ⟨3, {}, _, rfl⟩ _ sideSession_fair

example : sessionChips C08T.sideTable sideSession = 40 - 21 ∧ C08T.sideTable.sheetTotal = 157 ∧
    (C08T.sideTable.run sideSession).sheetTotal = 176 := by decide +kernel

end Pokerface.LinksT

section Axioms
open Pokerface.LinksT
#print axioms table_accepted
#print axioms table_game_starts
#print axioms table_forced_bets_by_seat
#print axioms table_first_to_act
#print axioms table_first_to_act_heads_up
#print axioms table_first_to_act_ring
#print axioms solvent_after_hand
#print axioms table_hand_roundtrip
#print axioms fair_hand_conserves
#print axioms table_session_conserves
#print axioms table_session_conserves_closed
#print axioms demo_handOff
#print axioms sideSession_fair
end Axioms
