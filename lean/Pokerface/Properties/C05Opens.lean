import Pokerface.Proofs.EngineOpens
import Pokerface.Properties.C04
import Pokerface.Properties.C05
import Pokerface.Properties.C13
/-
  C05Opens — WHEN a betting round opens (complement of C05 "a betting round closes exactly when it should" and of
  C04 "who acts first", whose theorems `first_preflop` / `first_postflop` carry the hypothesis `hopen`: "the
  `ReadyForAll` actually opens a betting round").

  Reading I5 of DESIGN §5: preflop betting opens whenever at least one player still has chips after ante and blinds;
  on later streets a betting round opens iff at least two non-folded players have chips.

  Before the flop this is stated on the CONFIGURATION: the betting round opens iff some seat's bankroll exceeds what it
  was forced to post (ante + the blind it owes), and then C04's first actor is asked; otherwise the round is closed at
  once, flop, turn and river are dealt without a betting round and the hand closes at showdown on a full board.
  The later streets are stated on reachable states.

  Domain: `C13.Accepted c` (ante, blinds ≥ 0 and `Start()` accepts the table), the domain of `C13.forced_path`;
  `afterForcedBets c` is the state reached by the forced path `ReadyForAll`, [`PayAnte`], [`PayBlinds`] (C13).
-/
namespace Pokerface.C05
open Pokerface Game

/-! ## Specification-level notions -/

/-- The blind a configured seat owes: that of its first position in the order bb > sb > dealer among the positions
    with a positive blind, 0 for a seat without such a position — C13's `blindOf` (reading I1) read off the
    configuration (`owed_eq_blindOf`). -/
def owed (m : Meta) (s : SeatCfg) : Int :=
  if m.blindBB > 0 ∧ s.bb then m.blindBB
  else if m.blindSB > 0 ∧ s.sb then m.blindSB
  else if m.blindDealer > 0 ∧ s.dealer then m.blindDealer
  else 0

/-- the seat's bankroll exceeds what it is forced to post: the ante plus the blind it owes -/
def CanMove (m : Meta) (s : SeatCfg) : Prop := m.ante + owed m s < s.bankroll

instance (m : Meta) (s : SeatCfg) : Decidable (CanMove m s) := by
  unfold CanMove
  exact inferInstance

/-- the dealer as the engine caches it (game.go `addPlayer`): the last configured seat carrying the dealer position -/
def dealerSeat (c : Config) : Nat := ((c.seats.zipIdx.reverse.find? (fun x => x.1.dealer)).map (·.2)).getD 0

theorem owed_eq_blindOf (m : Meta) (s : SeatCfg) (q : Player) (h1 : q.posDealer = s.dealer) (h2 : q.posSB = s.sb)
    (h3 : q.posBB = s.bb) : blindOf m q = owed m s := by
  unfold Game.blindOf owed
  rw [h1, h2, h3]

theorem dealerIdx_eq_dealerSeat {c : Config} (h : C13.Accepted c) (ops : List Op) :
    ((start c).1.run ops).dealerIdx = dealerSeat c :=
  dealerIdx_of_config c h.started ops

/-! ## Before the flop -/

theorem dealerIdx_after_forced_bets {c : Config} (h : C13.Accepted c) : (afterForcedBets c).dealerIdx = dealerSeat c := by
  rw [afterForcedBets_eq_run]
  exact dealerIdx_eq_dealerSeat h _

theorem posBB_after_forced_bets {c : Config} (h : C13.Accepted c) (k : Nat) :
    ((afterForcedBets c).players[k]?).map (·.posBB) = (c.seats[k]?).map (·.bb) := by
  have := congrArg (Option.map (·.2.2.2.1)) (seat_static_of_config c h.started (forcedOps c.opts) k)
  rw [← afterForcedBets_eq_run] at this
  simpa [Option.map_map, Function.comp_def, Player.static] using this

/-- Who can still move after the forced bets, read off the configuration: the seat `j` of the state after the forced
    path has not folded, and it has chips left iff the bankroll of the configured seat `j` exceeds its ante plus the
    blind it owes. -/
theorem seat_can_move_iff {c : Config} (h : C13.Accepted c) {j : Nat} {q : Player}
    (hq : (afterForcedBets c).players[j]? = some q) :
    ∃ s, c.seats[j]? = some s ∧ q.fold = false ∧ 0 ≤ q.stack ∧ (0 < q.stack ↔ CanMove c.opts s) := by
  obtain ⟨s, h1, h2, h3, h4, h5, h6, h7⟩ := forced_seat_movable c h.wf h.started hq
  refine ⟨s, h1, h5, h6, ?_⟩
  unfold CanMove
  rw [← owed_eq_blindOf c.opts s q h2 h3 h4]
  exact h7

/-- `GetMovablePlayerCount()` after the forced bets is the number of configured seats whose bankroll exceeds ante +
    blind owed. -/
theorem movable_after_forced_bets {c : Config} (h : C13.Accepted c) :
    (afterForcedBets c).movableCount = (c.seats.filter fun s => decide (CanMove c.opts s)).length := by
  apply movableCount_of_pointwise
  · have := afterForcedBets_n c h.started
    simpa [Game.n] using this
  · intro j q s hq hs
    obtain ⟨s', hs', hf, h0, hiff⟩ := seat_can_move_iff h hq
    rw [hs] at hs'
    cases hs'
    rw [hf]
    by_cases hc : CanMove c.opts s
    · have := hiff.mpr hc
      have hne : ¬ q.stack = 0 := by omega
      simp [hc, hne]
    · have : ¬ 0 < q.stack := fun hp => hc (hiff.mp hp)
      have he : q.stack = 0 := by omega
      simp [hc, he]

theorem movable_ne_zero_iff {c : Config} (h : C13.Accepted c) :
    (afterForcedBets c).movableCount ≠ 0 ↔ ∃ s ∈ c.seats, CanMove c.opts s := by
  rw [movable_after_forced_bets h, ← Nat.pos_iff_ne_zero, List.length_filter_pos_iff]
  simp only [decide_eq_true_eq]

/-- the state after the forced bets: everybody is still in the hand (`GetAlivePlayerCount()` = number of seats ≥ 2) -/
theorem all_alive_after_forced_bets {c : Config} (h : C13.Accepted c) :
    (∀ p ∈ (afterForcedBets c).players, p.fold = false) ∧ (afterForcedBets c).aliveCount = c.seats.length ∧
    2 ≤ c.seats.length := by
  have hn := noFold_afterForcedBets c h.started
  exact ⟨hn, by rw [hn.alive, afterForcedBets_n c h.started], h.facts.1⟩

/-- The same on the STATE (what the engine tests): the `ReadyForAll` after the forced bets opens the preflop betting round
    iff `GetMovablePlayerCount() ≠ 0`. -/
theorem preflop_opens_iff_movable {c : Config} (h : C13.Accepted c) :
    ((afterForcedBets c).step .ready).1.event = .roundStarted ↔ (afterForcedBets c).movableCount ≠ 0 := by
  obtain ⟨_, _, _, _, ⟨hev, hrd⟩, _, hreach⟩ := C13.forced_path h
  obtain ⟨_, hal, h2⟩ := all_alive_after_forced_bets h
  exact ready_opens_iff _ (inv_reachable hreach).struct hev (by rw [hrd]; simp) (by omega)

/-- **Reading I5, preflop.**  For every accepted configuration, after the forced path (`ReadyForAll`, `PayAnte` iff ante > 0,
    `PayBlinds` iff some blind > 0) the next `ReadyForAll` is accepted, stays in the preflop round, and
    * leads to `RoundStarted` — the preflop betting round opens — IFF some seat's bankroll exceeds what it was forced to
      post (ante + the blind it owes, `CanMove`), i.e. iff at least one player still has chips;
    * otherwise (everybody is all-in from ante and blinds) leads to `RoundClosed` with nobody offered anything and nobody
      able to move.
    The state reached is reachable, so all theorems about reachable states apply to it. -/
theorem preflop_opens_iff {c : Config} (h : C13.Accepted c) :
    ((afterForcedBets c).step .ready).2 = none ∧
    ((afterForcedBets c).step .ready).1.round = .preflop ∧
    (((afterForcedBets c).step .ready).1.event = .roundStarted ↔ ∃ s ∈ c.seats, CanMove c.opts s) ∧
    ((∀ s ∈ c.seats, ¬ CanMove c.opts s) →
      ((afterForcedBets c).step .ready).1.event = .roundClosed ∧
      (∀ p ∈ ((afterForcedBets c).step .ready).1.players, p.allowed = []) ∧
      ((afterForcedBets c).step .ready).1.movableCount = 0) ∧
    Reachable ((afterForcedBets c).step .ready).1 := by
  obtain ⟨_, _, _, _, ⟨hev, hrd⟩, _, hreach⟩ := C13.forced_path h
  obtain ⟨_, hal, h2⟩ := all_alive_after_forced_bets h
  have hrn : (afterForcedBets c).round ≠ .none := by
    rw [hrd]
    simp
  obtain ⟨hmv, _, hround⟩ := ready_dealt _ hev hrn
  refine ⟨ready_accepted _ hev, by rw [hround, hrd], ?_, ?_, hreach.step _⟩
  · rw [preflop_opens_iff_movable h, movable_ne_zero_iff h]
  · intro hnone
    have h0 : (afterForcedBets c).movableCount = 0 := by
      refine Decidable.byContradiction fun hne => ?_
      obtain ⟨s, hs, hc⟩ := (movable_ne_zero_iff h).mp hne
      exact hnone s hs hc
    have hc : ((afterForcedBets c).step .ready).1.event = .roundClosed := by
      rw [ready_event_eq _ (inv_reachable hreach).struct hev hrn (by omega), if_pos h0]
    refine ⟨hc, ?_, by rw [hmv]; exact h0⟩
    exact (C04.one_actor (hreach.step _)).2 (by rw [hc]; simp)

/-- the other case of `preflop_opens_iff`, as the statements about the first actor use it -/
theorem preflop_closes {c : Config} (h : C13.Accepted c) (hnone : ∀ s ∈ c.seats, ¬ CanMove c.opts s) :
    ((afterForcedBets c).step .ready).1.event = .roundClosed ∧
    ∀ p ∈ ((afterForcedBets c).step .ready).1.players, p.allowed = [] :=
  let ⟨a, b, _⟩ := (preflop_opens_iff h).2.2.2.1 hnone
  ⟨a, b⟩

/-- **C04 `first_preflop` without `hopen`.**  When some seat's bankroll exceeds ante + the blind it owes, the `ReadyForAll`
    after the forced bets opens the preflop betting round and the first seat asked is the one left of the big blind —
    the big blind being the first seat with that position met walking clockwise from the dealer (`j + 1` seats away,
    `j < n`; `hbb`, `hno`, stated on the configured seats).  Exactly that seat is offered actions (`C04.one_actor`
    on the reachable state). -/
theorem preflop_first_actor_unconditional {c : Config} (h : C13.Accepted c) (j : Nat) (hj : j < c.seats.length)
    (hbb : (c.seats[cwIter c.seats.length (j + 1) (dealerSeat c)]?).map (·.bb) = some true)
    (hno : ∀ j' < j, (c.seats[cwIter c.seats.length (j' + 1) (dealerSeat c)]?).map (·.bb) = some false)
    (hmove : ∃ s ∈ c.seats, CanMove c.opts s) :
    ((afterForcedBets c).step .ready).1.event = .roundStarted ∧
    ((afterForcedBets c).step .ready).1.cur = cwNext c.seats.length (cwIter c.seats.length (j + 1) (dealerSeat c)) ∧
    Reachable ((afterForcedBets c).step .ready).1 := by
  obtain ⟨_, _, _, _, ⟨hev, hrd⟩, _, hreach⟩ := C13.forced_path h
  have hopen := (preflop_opens_iff h).2.2.1.mpr hmove
  have hn := afterForcedBets_n c h.started
  have hd := dealerIdx_after_forced_bets h
  have hcur := C04.first_preflop hreach hev hrd j (by rw [hn]; exact hj)
    (by rw [hn, hd, posBB_after_forced_bets h]; exact hbb)
    (fun j' hj' => by rw [hn, hd, posBB_after_forced_bets h]; exact hno j' hj') hopen
  rw [hn, hd] at hcur
  exact ⟨hopen, hcur, hreach.step _⟩

/-- **No more betting.**  From a closed preflop round with at least two players left of whom at most one has chips, every
    later street is dealt by `Next` without a betting round — each `Next` is accepted and ends in `RoundClosed` on the flop,
    the turn, the river, and in none of these states anybody is offered anything — and the fourth `Next` closes the hand
    (`GameClosed`) with the same players still in: a showdown, on a full five-card board when the deck holds `n·hole + 8`
    cards (the hypothesis of `C05.full_board_at_showdown`).  (`streets_without_betting` iterated.) -/
theorem no_more_betting {g : Game} (h : Reachable g) (he : g.event = .roundClosed) (hr : g.round = .preflop)
    (h2 : 2 ≤ g.aliveCount) (hm : g.movableCount ≤ 1) :
    ((g.step .next).2 = none ∧ (g.run [.next]).event = .roundClosed ∧ (g.run [.next]).round = .flop) ∧
    (((g.run [.next]).step .next).2 = none ∧ (g.run [.next, .next]).event = .roundClosed ∧
      (g.run [.next, .next]).round = .turn) ∧
    (((g.run [.next, .next]).step .next).2 = none ∧ (g.run [.next, .next, .next]).event = .roundClosed ∧
      (g.run [.next, .next, .next]).round = .river) ∧
    (((g.run [.next, .next, .next]).step .next).2 = none ∧ (g.run [.next, .next, .next, .next]).event = .gameClosed ∧
      (g.run [.next, .next, .next, .next]).aliveCount = g.aliveCount) ∧
    (∀ k ≤ 4, ∀ p ∈ (g.run (List.replicate k .next)).players, p.allowed = []) ∧
    (g.n * g.opts.holeCount + 8 ≤ g.opts.deck.length → (g.run [.next, .next, .next, .next]).board.length = 5) := by
  have hi : g.round.idx = 1 := by
    rw [hr]
    rfl
  have key := closedNoBet_nexts g ⟨he, h2, hm⟩ (by omega)
  obtain ⟨c1, r1, _⟩ := key 1 (by omega)
  obtain ⟨c2, r2, _⟩ := key 2 (by omega)
  obtain ⟨c3, r3, l3, a⟩ := key 3 (by omega)
  rw [hi] at r1 r2 r3
  have hr3 := (round_of_idx _).2.2.2 r3
  obtain ⟨a4, e4, l4⟩ := next_river _ c3.ev hr3
  have e : g.run [.next, .next, .next, .next] = ((g.run (List.replicate 3 .next)).step .next).1 := rfl
  rw [e]
  refine ⟨⟨a 0 (by omega), c1.ev, (round_of_idx _).2.1 r1⟩, ⟨a 1 (by omega), c2.ev, (round_of_idx _).2.2.1 r2⟩,
    ⟨a 2 (by omega), c3.ev, hr3⟩, ⟨a4, e4, l4.trans l3⟩, ?_, ?_⟩
  · intro k hk p hp
    refine (C04.one_actor (h.run _)).2 ?_ p hp
    by_cases hk4 : k = 4
    · rw [hk4, show g.run (List.replicate 4 .next) = ((g.run (List.replicate 3 .next)).step .next).1 from rfl, e4]
      simp
    · rw [(key k (by omega)).1.ev]
      simp
  · intro hdeck
    have hst := wr_run g (List.replicate 3 .next ++ [.next])
    rw [run_snoc] at hst
    apply full_board_at_showdown ((h.run _).step _)
    · rw [hst.n, hst.opts]
      exact hdeck
    · exact e4
    · rw [l4, l3]
      exact h2

/-- **The other case.**  When no seat's bankroll exceeds ante + the blind it owes (everybody is all-in from the forced
    bets), the `ReadyForAll` after the forced bets closes the preflop round at once, with everybody still in and nobody
    able to move: the hypotheses of `no_more_betting` hold, so flop, turn and river are dealt without a betting round and
    the hand closes at showdown (all `n` players) on a full board. -/
theorem preflop_closed_without_betting {c : Config} (h : C13.Accepted c) (hnone : ∀ s ∈ c.seats, ¬ CanMove c.opts s) :
    Reachable ((afterForcedBets c).step .ready).1 ∧
    ((afterForcedBets c).step .ready).1.event = .roundClosed ∧ ((afterForcedBets c).step .ready).1.round = .preflop ∧
    ((afterForcedBets c).step .ready).1.aliveCount = c.seats.length ∧ 2 ≤ c.seats.length ∧
    ((afterForcedBets c).step .ready).1.movableCount = 0 ∧
    (∀ k ≤ 2, (((afterForcedBets c).step .ready).1.run (List.replicate (k + 1) .next)).event = .roundClosed ∧
      (((afterForcedBets c).step .ready).1.run (List.replicate (k + 1) .next)).round.idx = k + 2) ∧
    (((afterForcedBets c).step .ready).1.run [.next, .next, .next, .next]).event = .gameClosed ∧
    (((afterForcedBets c).step .ready).1.run [.next, .next, .next, .next]).aliveCount = c.seats.length ∧
    (c.seats.length * c.opts.holeCount + 8 ≤ c.opts.deck.length →
      (((afterForcedBets c).step .ready).1.run [.next, .next, .next, .next]).board.length = 5) := by
  obtain ⟨_, _, _, _, ⟨hev, hrd⟩, _, hreach⟩ := C13.forced_path h
  obtain ⟨_, hal, h2⟩ := all_alive_after_forced_bets h
  obtain ⟨_, hround, _, hclosed, hreach'⟩ := preflop_opens_iff h
  obtain ⟨hc, _, hm0⟩ := hclosed hnone
  have hrn : (afterForcedBets c).round ≠ .none := by
    rw [hrd]
    simp
  obtain ⟨_, hal', _⟩ := ready_dealt _ hev hrn
  have hst := (wr_step (afterForcedBets c) .ready).static
  generalize ((afterForcedBets c).step .ready).1 = g0 at *
  have hal0 : g0.aliveCount = c.seats.length := by rw [hal', hal]
  have hcn : ClosedNoBet g0 := ⟨hc, by rw [hal0]; exact h2, by rw [hm0]; omega⟩
  obtain ⟨_, _, _, ⟨_, e4, l4⟩, _, hb⟩ := no_more_betting hreach' hc hround hcn.alive hcn.mov
  refine ⟨hreach', hc, hround, hal0, h2, hm0, fun k hk => ?_, e4, by rw [l4, hal0], ?_⟩
  · obtain ⟨ck, rk, _⟩ := closedNoBet_nexts g0 hcn (by rw [hround]; decide) (k + 1) (by rw [hround]; show 1 + (k + 1) ≤ 4; omega)
    exact ⟨ck.ev, by rw [rk, hround]; show 1 + (k + 1) = k + 2; omega⟩
  · intro hdeck
    apply hb
    rw [hst.length, hst.opts, afterForcedBets_n c h.started, (forcedSpec c h.started).opts]
    exact hdeck

/-! ## Flop, turn, river -/

/-- **Converse of `no_betting_without_two_stacks`.**  On the flop, the turn and the river a state that waits for `ReadyForAll`
    always has two non-folded players with chips (C05), and the `ReadyForAll` ALWAYS opens the betting round: the event is
    `RoundStarted` and the seat left of the dealer is asked (C04 `first_postflop`, whose hypothesis `hopen` is hereby
    discharged). -/
theorem postflop_ready_opens {g : Game} (h : Reachable g) (he : g.event = .readyRequested)
    (hr : g.round = .flop ∨ g.round = .turn ∨ g.round = .river) :
    (g.step .ready).1.event = .roundStarted ∧ (g.step .ready).1.cur = cwNext g.n g.dealerIdx := by
  have h2 := (no_betting_without_two_stacks h he hr).1
  have hle := movable_le_alive g
  have hrn := (Round.after_preflop.mp hr).1
  have hopen := (ready_opens_iff g (inv_reachable h).struct he hrn (by omega)).mpr (by omega)
  exact ⟨hopen, C04.first_postflop h he hr hopen⟩

/-- **Reading I5, later streets.**  From a closed preflop, flop or turn round with at least two players left, `Next` (deal
    the following street) and `ReadyForAll` open a betting round on that street IFF at least two non-folded players have
    chips; then the first seat asked is the one left of the dealer.  Otherwise the street is closed at once by `Next`
    (`ReadyForAll` is then refused and changes nothing), nobody is offered anything, and the next thing to do is `Next`
    again (`streets_without_betting`). -/
theorem postflop_opens_iff {g : Game} (h : Reachable g) (he : g.event = .roundClosed) (h1 : g.aliveCount ≠ 1)
    (hr : g.round = .preflop ∨ g.round = .flop ∨ g.round = .turn) :
    ((g.run [.next, .ready]).event = .roundStarted ↔ 2 ≤ g.movableCount) ∧
    (2 ≤ g.movableCount → (g.step .next).1.event = .readyRequested ∧ ((g.step .next).1.step .ready).2 = none ∧
      (g.run [.next, .ready]).cur = cwNext g.n g.dealerIdx ∧ (g.run [.next, .ready]).round.idx = g.round.idx + 1) ∧
    (g.movableCount ≤ 1 → (g.run [.next, .ready]) = (g.step .next).1 ∧ (g.step .next).1.event = .roundClosed ∧
      ∀ p ∈ (g.step .next).1.players, p.allowed = []) := by
  obtain ⟨_, hidx, hle1, hge2, _⟩ := streets_without_betting h he h1 hr
  have hreach1 := h.step .next
  rw [show g.run [.next, .ready] = ((g.step .next).1.step .ready).1 from rfl]
  by_cases h2 : 2 ≤ g.movableCount
  · have hev := hge2 h2
    have hr' : (g.step .next).1.round = .flop ∨ (g.step .next).1.round = .turn ∨ (g.step .next).1.round = .river := by
      rcases hr with e | e | e
      · exact Or.inl ((round_of_idx _).2.1 (by rw [hidx, e]; rfl))
      · exact Or.inr (Or.inl ((round_of_idx _).2.2.1 (by rw [hidx, e]; rfl)))
      · exact Or.inr (Or.inr ((round_of_idx _).2.2.2 (by rw [hidx, e]; rfl)))
    obtain ⟨ho, hc⟩ := postflop_ready_opens hreach1 hev hr'
    have hrd := (no_betting_without_two_stacks hreach1 hev hr').2.2
    have hst := (wr_step g .next).static
    have hd := hst.dealerIdx
    exact ⟨⟨fun _ => h2, fun _ => ho⟩,
      fun _ => ⟨hev, ready_accepted _ hev, by rw [hc, hst.length, hd], by rw [hrd, hidx]⟩, fun hle => absurd h2 (by omega)⟩
  · have hc := hle1 (by omega)
    rw [C04.ready_wrong_phase (g.step .next).1 (by rw [hc]; exact nofun)]
    exact ⟨⟨fun hev => (nomatch hc.symm.trans hev), fun h => absurd h h2⟩, fun h => absurd h h2,
      fun _ => ⟨rfl, hc, (C04.one_actor hreach1).2 (by rw [hc]; exact nofun)⟩⟩

/-! ## Non-vacuity -/

theorem acc_exShort : C13.Accepted exShort := ⟨⟨⟨by decide +kernel, by decide +kernel, by decide +kernel, by decide +kernel⟩⟩, by decide +kernel⟩
theorem acc_exCfg : C13.Accepted exCfg := ⟨exWF, by decide +kernel⟩

/-- `owed`, `CanMove`, `dealerSeat` on the four-seat table `exCfg` (blinds 5/10, stacks 100, 100, 100, 30, dealer at seat 0)
    and on the heads-up table `exShort` (5 and 10 chips: both seats post all they have) -/
example : exCfg.seats.map (owed exCfg.opts) = [0, 5, 10, 0] ∧ dealerSeat exCfg = 0 ∧
    (exCfg.seats.filter fun s => decide (CanMove exCfg.opts s)).length = 4 ∧
    exShort.seats.map (owed exShort.opts) = [5, 10] ∧
    (exShort.seats.filter fun s => decide (CanMove exShort.opts s)).length = 0 := by decide +kernel

/-- `movable_after_forced_bets`, both tables, computed on the engine -/
example : (afterForcedBets exCfg).movableCount = 4 ∧ (afterForcedBets exShort).movableCount = 0 := by decide +kernel

/-- `preflop_opens_iff`, the ordinary table: some seat can move, and the round opens -/
example : (∃ s ∈ exCfg.seats, CanMove exCfg.opts s) ∧ ((afterForcedBets exCfg).step .ready).1.event = .roundStarted :=
  ⟨⟨_, List.mem_cons_self, by decide +kernel⟩, by decide +kernel⟩

/-- `preflop_opens_iff`, everybody all-in from the blinds: no seat can move, the round is closed at once and nobody is
    offered anything -/
example : (∀ s ∈ exShort.seats, ¬ CanMove exShort.opts s) ∧
    ((afterForcedBets exShort).step .ready).1.event = .roundClosed ∧
    ((afterForcedBets exShort).step .ready).1.players.map (·.allowed) = [[], []] := by decide +kernel

/-- `preflop_first_actor_unconditional` on `exCfg`: the big blind sits `j + 1 = 2` seats after the dealer, seat 3 is asked -/
example : (exCfg.seats[cwIter exCfg.seats.length (1 + 1) (dealerSeat exCfg)]?).map (·.bb) = some true ∧
    (∀ j' < 1, (exCfg.seats[cwIter exCfg.seats.length (j' + 1) (dealerSeat exCfg)]?).map (·.bb) = some false) ∧
    cwNext exCfg.seats.length (cwIter exCfg.seats.length (1 + 1) (dealerSeat exCfg)) = 3 ∧
    ((afterForcedBets exCfg).step .ready).1.cur = 3 := by decide +kernel

/-- `preflop_closed_without_betting` on `exShort`: flop, turn, river without betting, showdown on five cards -/
example : ((afterForcedBets exShort).run [.ready, .next]).event = .roundClosed ∧
    ((afterForcedBets exShort).run [.ready, .next, .next, .next]).round = .river ∧
    ((afterForcedBets exShort).run [.ready, .next, .next, .next, .next]).event = .gameClosed ∧
    ((afterForcedBets exShort).run [.ready, .next, .next, .next, .next]).board.length = 5 ∧
    exShort.seats.length * exShort.opts.holeCount + 8 ≤ exShort.opts.deck.length := by decide +kernel

/-- `no_more_betting` on `exAllin` of C05 (seats 3 and 0 all-in, the blinds fold): its hypotheses hold -/
example : let g := (start exCfg).1.run exAllin
    Reachable g ∧ g.event = .roundClosed ∧ g.round = .preflop ∧ 2 ≤ g.aliveCount ∧ g.movableCount ≤ 1 ∧
    (g.run [.next, .next, .next, .next]).event = .gameClosed := by
  obtain ⟨hr, he, hm, ha, _, _, hc, _⟩ := exAllin_facts
  intro g
  refine ⟨⟨exCfg, _, exWF, by decide +kernel, rfl⟩, he, hr, Nat.le_of_eq ha.symm, ?_, ?_⟩
  · show ((start exCfg).1.run exAllin).movableCount ≤ 1
    rw [hm]
    decide
  · show (((start exCfg).1.run exAllin).run [.next, .next, .next, .next]).event = .gameClosed
    rw [← run_append]
    exact hc

/-- `postflop_ready_opens` / `postflop_opens_iff`, betting branch: everybody calls, `Next` deals the flop, `ReadyForAll` opens
    the betting round and seat 1 (left of the dealer) is asked -/
def exCalls : List Op :=
  [.ready, .payBlinds, .ready, .act none .call 0, .act none .call 0, .act none .call 0, .act none .check 0]

example : let g := (start exCfg).1.run exCalls
    Reachable g ∧ g.event = .roundClosed ∧ g.aliveCount = 4 ∧ g.round = .preflop ∧ g.movableCount = 4 ∧
    (g.run [.next, .ready]).event = .roundStarted ∧ (g.run [.next, .ready]).cur = 1 ∧
    cwNext g.n g.dealerIdx = 1 :=
  ⟨⟨exCfg, _, exWF, by decide +kernel, rfl⟩, by decide +kernel⟩

/-- `postflop_opens_iff`, the other branch: one stack left (`exOneStack` of C05): the flop is closed at once -/
example : let g := (start exCfg).1.run exOneStack
    Reachable g ∧ g.event = .roundClosed ∧ g.aliveCount = 2 ∧ g.round = .preflop ∧ g.movableCount = 1 ∧
    (g.run [.next, .ready]).event = .roundClosed ∧ (g.run [.next, .ready]).round = .flop :=
  ⟨⟨exCfg, _, exWF, by decide +kernel, rfl⟩, by decide +kernel⟩

end Pokerface.C05

section Axioms
open Pokerface.C05
#print axioms owed_eq_blindOf
#print axioms dealerIdx_eq_dealerSeat
#print axioms seat_can_move_iff
#print axioms movable_after_forced_bets
#print axioms movable_ne_zero_iff
#print axioms all_alive_after_forced_bets
#print axioms preflop_opens_iff_movable
#print axioms preflop_opens_iff
#print axioms preflop_first_actor_unconditional
#print axioms no_more_betting
#print axioms preflop_closed_without_betting
#print axioms postflop_ready_opens
#print axioms postflop_opens_iff
end Axioms
