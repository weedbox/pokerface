/-
  Single clauses of C09 / C19 / C20 on the regulator model, each on the widest domain it holds on:
  "exactly ONE table" in its explicit form and the uniqueness of table ids; the C19 clauses that
  need no forward-only hypothesis (`ReachableAny` / `ReachableRe`); a broken table never comes
  back (synchronous system); the players RETURNED by `SyncState` never lift a table above `max`
  (forward-only domain, as C19 `capacity`); and the forms with re-entries of the system-level and
  totality theorems of C09 that are not in Properties/C09Reentry.lean.
-/
import Pokerface.Proofs.RegAsyncSettle
import Pokerface.Properties.C09
import Pokerface.Properties.C09Reentry
import Pokerface.Properties.C19
import Pokerface.Properties.C19Reentry

namespace Pokerface.C09O
open Pokerface Reg RSys

/-! ## exactly ONE table, synchronous -/

/-- **exactly ONE table**, synchronous, with re-entries (`ReachableRe`). -/
theorem one_table_re {s : RSys} (h : ReachableRe s) (p : Nat) :
    (∀ t t' ms ms', s.env.membersOf t = some ms → s.env.membersOf t' = some ms' → p ∈ ms → p ∈ ms' → t = t') ∧
    (∀ e ∈ s.env.members, ∀ e' ∈ s.env.members, p ∈ e.2 → p ∈ e'.2 → e = e') := by
  obtain ⟨_, _, _, hs⟩ := C09.exactly_one_place_re h p
  exact ⟨fun t t' ms ms' hm hm' hp hp' => Env.membersOf_inj hs hm hm' hp hp',
    fun e he e' he' hp hp' => seatedOf_one_entry (m := s.env.members) hs he he' hp hp'⟩

/-- **exactly ONE table** (C09 "in exactly one place — the waiting queue or exactly one table"),
    synchronous, widest domain: if player `p` is a member of table `t` and of table `t'`, then
    `t = t'`; and he is in one entry of the membership sheet only. -/
theorem one_table {s : RSys} (h : ReachableAny s) (p : Nat) :
    (∀ t t' ms ms', s.env.membersOf t = some ms → s.env.membersOf t' = some ms' → p ∈ ms → p ∈ ms' → t = t') ∧
    (∀ e ∈ s.env.members, ∀ e' ∈ s.env.members, p ∈ e.2 → p ∈ e'.2 → e = e') :=
  one_table_re h.re p

/-- a player is a member of a table once only (`Nodup` of every membership list) -/
theorem member_once_re {s : RSys} (h : ReachableRe s) : ∀ e ∈ s.env.members, e.2.Nodup := by
  intro e he
  obtain ⟨_, _, _, hs⟩ := C09.exactly_one_place_re h 0
  have : e.2 ∈ s.env.members.map (·.2) := List.mem_map.2 ⟨e, he, rfl⟩
  exact (List.pairwise_flatten.1 hs).1 _ this

/-- **table ids are unique**: no id occurs twice among the real tables, nor on the regulator's
    sheet; every id in use is below the next id to be handed out. -/
theorem table_ids_nodup_re {s : RSys} (h : ReachableRe s) :
    (s.env.members.map (·.1)).Nodup ∧ (s.r.tables.map (·.id)).Nodup ∧
    (∀ tb ∈ s.r.tables, tb.id < s.r.nextId) ∧ s.env.members.map (·.1) = s.r.tables.map (·.id) := by
  have hS := SInv0.of_reachableRe h
  refine ⟨hS.ids_nodup, hS.rinv.wf.nodup, hS.rinv.wf.idlt, ?_⟩
  rw [← mview_fst, ← hS.sim, tview_fst]

theorem table_ids_nodup {s : RSys} (h : ReachableAny s) :
    (s.env.members.map (·.1)).Nodup ∧ (s.r.tables.map (·.id)).Nodup ∧
    (∀ tb ∈ s.r.tables, tb.id < s.r.nextId) ∧ s.env.members.map (·.1) = s.r.tables.map (·.id) :=
  table_ids_nodup_re h.re

/-- non-vacuity: `C09.rebalance` (three tables, a player moved from table 2 to table 1), and the
    re-entry history `C09.reentry` -/
example : ReachableAny ((RSys.init 9 6).run C09.rebalance) :=
  (ReachableAny.init 9 6 (by decide +kernel)).run C09.rebalance (by decide +kernel)
example : ((RSys.init 9 6).run C09.rebalance).env.membersOf 1 = some [7,8,9,10,11] ∧
    ((RSys.init 9 6).run C09.rebalance).env.membersOf 2 = some [12,13,14,15,16,17,18] := by decide +kernel
example : ReachableRe ((RSys.init 9 6).run C09.reentry) :=
  (ReachableRe.init 9 6 (by decide +kernel)).run C09.reentry (by decide +kernel)
example : ((RSys.init 9 6).run C09.reentry).env.membersOf 1 = some [1,2,4,5,6,7,3] := by decide +kernel

/-! ## C19 clauses that need no forward-only hypothesis -/

/-- **no_table_before_start**, callback form, on the WIDEST domain (status changes in any
    direction, re-entries): an operation after which the competition is pending — not started yet,
    or set back to `Pending` — made no callback at all (no table opened, nobody assigned). -/
theorem no_callback_before_start_re {s : RSys} (h : ReachableRe s) (op : EOp) (hok : s.okRe op)
    (hp : (s.step op).r.status = .pending) : (s.step op).r.calls = [] :=
  (SInv0.of_reachableRe h).no_callback_before_start op hok hp

/-- **no_table_before_start**, callback form, on `ReachableAny` -/
theorem no_callback_before_start_any {s : RSys} (h : ReachableAny s) (op : EOp) (hok : s.okAny op)
    (hp : (s.step op).r.status = .pending) : (s.step op).r.calls = [] :=
  no_callback_before_start_re h.re op ((SInv0.of_reachable h).okRe_of_okAny hok) hp

/-- non-vacuity, on the part of the domain `Reachable` does not have: `C09.backToPending` — the
    competition is set back to `Pending` while tables are open; the registration and the sync that
    follow end in `pending` (and the sync DOES hand two queued players to its table — through its
    return value, not through a callback). -/
example : ReachableAny ((RSys.init 4 2).run (C09.backToPending.take 5)) :=
  (ReachableAny.init 4 2 (by decide +kernel)).run _ (by decide +kernel)
example : ((RSys.init 4 2).run (C09.backToPending.take 5)).okAny (.sync 1 [] [3,4] [] [3,4,9,10] []) ∧
    (((RSys.init 4 2).run (C09.backToPending.take 5)).step (.sync 1 [] [3,4] [] [3,4,9,10] [])).r.status = .pending ∧
    ((RSys.init 4 2).run (C09.backToPending.take 5)).env.members ≠ [] := by decide +kernel

/-- **initial_tables_have_min** on the WIDEST domain: every table opened by an operation that
    started with no table (`tableCount = 0`) gets at least `min` players. -/
theorem initial_tables_have_min_re {s : RSys} (h : ReachableRe s) (h0 : s.r.tableCount = 0) (op : EOp)
    (hok : s.okRe op) (id : Nat) (ps : List Nat) (hc : RCall.requestTable id ps ∈ (s.step op).r.calls) :
    s.r.min ≤ ps.length :=
  (SInv0.of_reachableRe h).initial_min h.max_pos h0 op id ps hc

/-- **initial_tables_have_min** on `ReachableAny` -/
theorem initial_tables_have_min_any {s : RSys} (h : ReachableAny s) (h0 : s.r.tableCount = 0) (op : EOp)
    (hok : s.okAny op) (id : Nat) (ps : List Nat) (hc : RCall.requestTable id ps ∈ (s.step op).r.calls) :
    s.r.min ≤ ps.length :=
  (SInv0.of_reachable h).initial_min h.max_pos h0 op id ps hc

/-- non-vacuity: 13 registrants at 6/5, then the start opens two tables of six from no table -/
example : ReachableAny ((RSys.init 6 5).run [.add [1,2,3,4,5,6,7,8,9,10,11,12,13] []]) :=
  (ReachableAny.init 6 5 (by decide +kernel)).run _ (by decide +kernel)
example : ((RSys.init 6 5).run [.add [1,2,3,4,5,6,7,8,9,10,11,12,13] []]).r.tableCount = 0 ∧
    ((RSys.init 6 5).run [.add [1,2,3,4,5,6,7,8,9,10,11,12,13] []]).okAny (.status .normal []) ∧
    (((RSys.init 6 5).run [.add [1,2,3,4,5,6,7,8,9,10,11,12,13] []]).step (.status .normal [])).r.calls =
      [.requestTable 1 [1,2,3,4,5,6], .requestTable 2 [7,8,9,10,11,12]] := by decide +kernel

/-- **initial_tables_have_min**, the remaining corner, on the WIDEST domain: if a sync just broke
    the last table (`tableCount = 0` after `SyncState`), tables opened by the `ReleasePlayers` it
    triggers also get at least `min` players. -/
theorem initial_tables_have_min_release_re {s : RSys} (h : ReachableRe s) (t : Nat)
    (elim stay rel keep ch : List Nat) (hok : s.okRe (.sync t elim stay rel keep ch))
    (h0 : (s.syncAnswer t elim).1.tableCount = 0) (id : Nat) (ps : List Nat)
    (hc : RCall.requestTable id ps ∈ (s.step (.sync t elim stay rel keep ch)).r.calls) :
    s.r.min ≤ ps.length :=
  RSys.initial_min_release s h.max_pos t elim stay rel keep ch h0 id ps hc

/-- the same on `ReachableAny` -/
theorem initial_tables_have_min_release_any {s : RSys} (h : ReachableAny s) (t : Nat)
    (elim stay rel keep ch : List Nat) (hok : s.okAny (.sync t elim stay rel keep ch))
    (h0 : (s.syncAnswer t elim).1.tableCount = 0) (id : Nat) (ps : List Nat)
    (hc : RCall.requestTable id ps ∈ (s.step (.sync t elim stay rel keep ch)).r.calls) :
    s.r.min ≤ ps.length :=
  initial_tables_have_min_release_re h.re t elim stay rel keep ch hok h0 id ps hc

/-- non-vacuity: 3/1 after the deadline, one table of two; both are eliminated and the table —
    the last one — is broken (`tableCount = 0` after `SyncState`, hypothesis `h0`).  As on the
    forward-only domain nobody is left then, so no table is opened. -/
example : ReachableAny ((RSys.init 3 1).run [.status .normal [], .add [1,2] [], .status .afterRegDeadline []]) :=
  (ReachableAny.init 3 1 (by decide +kernel)).run _ (by decide +kernel)
example : (((RSys.init 3 1).run [.status .normal [], .add [1,2] [], .status .afterRegDeadline []]).syncAnswer 1 [1,2]).1.tableCount = 0 ∧
    ((RSys.init 3 1).run [.status .normal [], .add [1,2] [], .status .afterRegDeadline []]).okAny (.sync 1 [1,2] [] [] [] []) := by
  decide +kernel

/-! ## broken tables never come back, synchronous system -/

/-- **gone_stays_gone**, synchronous (C20 "the broken table exists no more", for ever): a table id
    that has been handed out (`t < nextId`) and names no table now — a broken table — names no
    table after ANY further history (widest domain, with re-entries), neither in reality nor on
    the regulator's sheet; ids are never reused. -/
theorem gone_stays_gone_re {s : RSys} (h : ReachableRe s) (ops : List EOp) (hok : s.allOkRe ops) (t : Nat)
    (hlt : t < s.r.nextId) (hun : s.env.membersOf t = none) :
    (s.run ops).env.membersOf t = none ∧ (s.run ops).r.findTable t = none ∧ t < (s.run ops).r.nextId := by
  have hS := SInv0.of_reachableRe h
  obtain ⟨h1, h2⟩ := gone_stays_gone_sync_re ops s hS hok t hlt hun
  exact ⟨h1, ((SInv0.of_reachableRe (h.run ops hok)).unknown_iff t).1 h1, h2⟩

/-- **gone_stays_gone**, synchronous, on `ReachableAny` -/
theorem gone_stays_gone {s : RSys} (h : ReachableAny s) (ops : List EOp) (hok : s.allOkAny ops) (t : Nat)
    (hlt : t < s.r.nextId) (hun : s.env.membersOf t = none) :
    (s.run ops).env.membersOf t = none ∧ (s.run ops).r.findTable t = none ∧ t < (s.run ops).r.nextId :=
  gone_stays_gone_re h.re ops (allOkRe_of_allOkAny ops s (SInv0.of_reachable h) hok) t hlt hun

/-- non-vacuity: `C09.minZero` at 3/0 — table 1 is broken by the third operation; the registration
    that follows opens a NEW table, with id 3 -/
example : ReachableAny ((RSys.init 3 0).run (C09.minZero.take 3)) :=
  (ReachableAny.init 3 0 (by decide +kernel)).run _ (by decide +kernel)
example : ((RSys.init 3 0).run (C09.minZero.take 3)).env.membersOf 1 = none ∧
    1 < ((RSys.init 3 0).run (C09.minZero.take 3)).r.nextId ∧
    ((RSys.init 3 0).run (C09.minZero.take 3)).allOkAny [.add [5] []] ∧
    (((RSys.init 3 0).run (C09.minZero.take 3)).run [.add [5] []]).env.members = [(2, [3,4,2]), (3, [5])] := by
  decide +kernel

/-! ## top-up by returned players -/

/-- **topup_le_max** on a state satisfying the invariant; the two theorems below are instances -/
theorem topup_le_max_inv {s : RSys} (hS : SInv s) (t : Nat) (elim stay rel keep ch ms : List Nat)
    (hm : s.env.membersOf t = some ms) (hok : s.okReFwd (.sync t elim stay rel keep ch)) :
    stay.length + (s.returned (.sync t elim stay rel keep ch)).length ≤ s.r.max := by
  obtain ⟨hS', hF⟩ := hS.step_full_re _ hok
  obtain ⟨hp1, hp2, hrl, _, _⟩ := (ok_sync_known hm elim stay rel keep ch).1 hok
  obtain ⟨r1, relc, nw, t0, k⟩ := hS.async.a.sync_known t elim stay ms hm hp1
  have hans : s.syncAnswer t elim = (r1, none, relc, nw) := k.ans
  have hmem0 := Env.mem_members_of_membersOf hm
  have hcap : ms.length ≤ s.r.max := hS.capacity hmem0
  simp only [returned, hm]
  rw [hans] at hp2 hrl ⊢
  simp only at hp2 hrl ⊢
  by_cases hnw : nw = []
  · -- nobody arrives: those who stay were members
    subst hnw
    have := hp1.length_eq
    rw [List.length_append] at this
    simp only [List.length_nil]
    omega
  · -- somebody arrives: nobody is released and the table stays, so `keep ≈ stay ++ nw` are its
    -- members in the successor state, which satisfies the invariant
    have hr0 : relc = 0 := k.post.excl.resolve_left hnw
    have hnb : s.broken t elim = false := by
      cases hb : s.broken t elim with
      | false => rfl
      | true => exact absurd (k.broken hb).2 hnw
    have hrel : rel = [] := List.length_eq_zero_iff.1 (by omega)
    subst hrel
    have hmem : (t, keep) ∈ (s.step (.sync t elim stay [] keep ch)).env.members := by
      rw [step_sync_known hm, if_pos ⟨rfl, hnb⟩, hnb]
      exact List.mem_map.2 ⟨(t, ms), hmem0, by simp⟩
    have h1 := hS'.capacity hmem
    have h2 := hp2.length_eq
    rw [hF.max_eq] at h1
    simp only [List.length_append, List.length_nil] at h2 h1
    omega

/-- **topup_le_max** (C19 capacity, named form for the players RETURNED by `SyncState`): after a
    valid sync of an existing table, the members that stay (`stay`, after the eliminations)
    together with the new players the regulator RETURNS for this table are at most `max`.
    (Forward-only domain, as `C19.capacity`: it fails after a return to `Pending`,
    `C19.capacity_fails_after_return_to_pending`.) -/
theorem topup_le_max {s : RSys} (h : Reachable s) (t : Nat) (elim stay rel keep ch ms : List Nat)
    (hm : s.env.membersOf t = some ms) (hok : s.ok (.sync t elim stay rel keep ch)) :
    stay.length + (s.returned (.sync t elim stay rel keep ch)).length ≤ s.r.max :=
  topup_le_max_inv (SInv.of_reachable h) t elim stay rel keep ch ms hm ((SInv.of_reachable h).okReFwd_of_ok hok)

/-- **topup_le_max** with re-entries (`ReachableReFwd`) -/
theorem topup_le_max_re {s : RSys} (h : ReachableReFwd s) (t : Nat) (elim stay rel keep ch ms : List Nat)
    (hm : s.env.membersOf t = some ms) (hok : s.okReFwd (.sync t elim stay rel keep ch)) :
    stay.length + (s.returned (.sync t elim stay rel keep ch)).length ≤ s.r.max :=
  topup_le_max_inv (SInv.of_reachableReFwd h) t elim stay rel keep ch ms hm hok

/-- non-vacuity: `C09.topUp` (13 registrants at 6/5: player 13 waits); table 1 loses two players
    and is given player 13: 4 + 1 ≤ 6 -/
example : Reachable ((RSys.init 6 5).run C09.topUp) :=
  (Reachable.init 6 5 (by decide +kernel)).run C09.topUp (by decide +kernel)
example : ((RSys.init 6 5).run C09.topUp).env.membersOf 1 = some [1,2,3,4,5,6] ∧
    ((RSys.init 6 5).run C09.topUp).ok (.sync 1 [1,2] [3,4,5,6] [] [3,4,5,6,13] []) ∧
    ((RSys.init 6 5).run C09.topUp).returned (.sync 1 [1,2] [3,4,5,6] [] [3,4,5,6,13] []) = [13] := by decide +kernel

/-! ## C09 with re-entries: the unknown table, totality of the release, the asynchronous forms -/

/-- **unknown_table_refused**, system form, with re-entries: a sync naming a non-existing table
    leaves regulator and environment unchanged. -/
theorem unknown_table_refused_sys_re {s : RSys} (h : ReachableRe s) (t : Nat) (elim stay rel keep ch : List Nat)
    (hm : s.env.membersOf t = none) :
    (s.syncAnswer t elim).2.1 = some .notFoundTable ∧
    C09.SameState s.r (s.step (.sync t elim stay rel keep ch)).r ∧
    (s.step (.sync t elim stay rel keep ch)).r.calls = [] ∧
    (s.step (.sync t elim stay rel keep ch)).env = s.env := by
  have hS := SInv0.of_reachableRe h
  rw [hS.step_sync_unknown t elim stay rel keep ch hm]
  exact ⟨(C09.unknown_table_refused s.r t elim.length ((hS.unknown_iff t).1 hm)).1,
    ⟨rfl, rfl, rfl, rfl, rfl, rfl, rfl, rfl⟩, rfl, rfl⟩

/-- **totality, which players are released**, with re-entries: ANY split `rel`/`keep` of the
    table's members after the arrivals in which `rel` has exactly the length `SyncState` returned
    is a valid sync for some dispatch choices. -/
theorem sync_possible_any_release_re {s : RSys} (h : ReachableRe s) (t : Nat) (elim stay rel keep : List Nat)
    (hsplit : ∀ ms, s.env.membersOf t = some ms → ms.Perm (elim ++ stay))
    (hrel : (stay ++ (s.syncAnswer t elim).2.2.2).Perm (rel ++ keep))
    (hlen : (rel.length : Int) = (s.syncAnswer t elim).2.2.1) :
    ∃ ch, s.okRe (.sync t elim stay rel keep ch) := by
  obtain ⟨ch, hch⟩ := (SInv0.of_reachableRe h).sync_total_rel t elim stay rel keep hsplit hrel hlen
  exact ⟨ch, hch⟩

/-- non-vacuity: an unknown table and a sync with a free choice of the released players on the
    re-entry history `C09.reentry` -/
example : ((RSys.init 9 6).run C09.reentry).env.membersOf 900 = none := by decide +kernel
example : (((RSys.init 9 6).run C09.reentry).syncAnswer 1 [1]).2.2.1 = 0 ∧
    (((RSys.init 9 6).run C09.reentry).syncAnswer 1 [1]).2.2.2 = [] := by decide +kernel

section Async
open ASys

/-- **exactly ONE table**, asynchronous, with re-entries: a player sits at one table only, and is
    on the way back from one table only (in one batch only). -/
theorem one_table_async_re {s : ASys} (h : AReachableRe s) (p : Nat) :
    (∀ t t' ms ms', s.env.membersOf t = some ms → s.env.membersOf t' = some ms' → p ∈ ms → p ∈ ms' → t = t') ∧
    (∀ t t', p ∈ s.flyingOf t → p ∈ s.flyingOf t' → t = t') ∧
    (∀ e ∈ s.inflight, ∀ e' ∈ s.inflight, p ∈ e.2 → p ∈ e'.2 → e = e') :=
  (AInv.of_reachableRe h).one_table p

/-- **unknown_table_refused**, asynchronous system form, with re-entries. -/
theorem unknown_table_refused_async_re {s : ASys} (h : AReachableRe s) (t : Nat) (elim stay rel keep : List Nat)
    (hm : s.env.membersOf t = none) :
    (s.syncAnswer t elim).2.1 = some .notFoundTable ∧
    C09.SameState s.r (s.step (.sync t elim stay rel keep)).r ∧
    (s.step (.sync t elim stay rel keep)).r.calls = [] ∧
    (s.step (.sync t elim stay rel keep)).env = s.env ∧
    (s.step (.sync t elim stay rel keep)).inflight = s.inflight := by
  have hS := AInv.of_reachableRe h
  rw [hS.step_sync_unknown hm]
  exact ⟨(C09.unknown_table_refused s.r t elim.length ((hS.unknown_iff t).1 hm)).1,
    ⟨rfl, rfl, rfl, rfl, rfl, rfl, rfl, rfl⟩, rfl, rfl, rfl⟩

/-- the status can be set to ANY status at any time (asynchronous, with re-entries) -/
theorem status_change_possible_async_re {s : ASys} (h : AReachableRe s) (st : RStatus) :
    ∃ ch, s.okRe (.status st ch) :=
  (AInv.of_reachableRe h).status_total st

/-- EVERY table can sync at any time with EVERY split of its members into eliminated and remaining
    ones, and ANY choice of the players who leave (of exactly the number asked for) is valid
    (asynchronous, with re-entries). -/
theorem sync_possible_async_re {s : ASys} (h : AReachableRe s) (t : Nat) (elim stay rel keep : List Nat)
    (hsplit : ∀ ms, s.env.membersOf t = some ms → ms.Perm (elim ++ stay))
    (hrel : (stay ++ (s.syncAnswer t elim).2.2.2).Perm (rel ++ keep))
    (hlen : (rel.length : Int) = (s.syncAnswer t elim).2.2.1) :
    s.okRe (.sync t elim stay rel keep) :=
  (AInv.of_reachableRe h).sync_total_rel t elim stay rel keep hsplit hrel hlen

/-- such a choice of leaving players exists -/
theorem sync_possible_async_re' {s : ASys} (h : AReachableRe s) (t : Nat) (elim stay : List Nat)
    (hsplit : ∀ ms, s.env.membersOf t = some ms → ms.Perm (elim ++ stay)) :
    ∃ rel keep, s.okRe (.sync t elim stay rel keep) := by
  obtain ⟨rel, keep, hk⟩ := (AInv.of_reachableRe h).sync_total t elim stay hsplit
  exact ⟨rel, keep, hk⟩

/-- **the report can arrive at any time** (asynchronous, with re-entries): for every table id and
    every part `ps` of the players on the way back from it, `ReleasePlayers(t, ps)` is a valid
    operation for some dispatch choices. -/
theorem report_possible_async_re {s : ASys} (h : AReachableRe s) (t : Nat) (ps rest : List Nat)
    (hsplit : (s.flyingOf t).Perm (ps ++ rest)) : ∃ ch, s.okRe (.report t ps rest ch) := by
  obtain ⟨ch, hk⟩ := (AInv.of_reachableRe h).report_total t ps rest hsplit
  exact ⟨ch, hk⟩

/-- non-vacuity: `C09.reentryLate` before its last operation — players 1, 2 are on the way back
    from table 1 while player 10 has re-entered -/
example : AReachableRe ((ASys.init 9 6).run (C09.reentryLate.take 5)) :=
  (AReachableRe.init 9 6 (by decide +kernel)).run _ (by decide +kernel)
example : ((ASys.init 9 6).run (C09.reentryLate.take 5)).flyingOf 1 = [1,2] ∧
    ((ASys.init 9 6).run (C09.reentryLate.take 5)).env.membersOf 2 = some [16,17,18,10] ∧
    ((ASys.init 9 6).run (C09.reentryLate.take 5)).env.membersOf 900 = none ∧
    ((ASys.init 9 6).run (C09.reentryLate.take 5)).okRe (.report 1 [1,2] [] [2]) := by decide +kernel

end Async

end Pokerface.C09O
