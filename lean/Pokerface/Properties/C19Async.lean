/-
  C19 on the ASYNCHRONOUS system: histories with LATE release reports.

  "The regulator never asks a table to hold more than the configured maximum
   number of players - neither when opening tables for a batch of registrants
   nor when topping tables up later.  It opens no table before the competition
   has started or before the minimum initial number of players has registered,
   and every table opened by that initial allocation gets at least that minimum."

  `Properties/C19.lean` proves this for `RSys`, where a table's `SyncState` and the
  `ReleasePlayers` report it triggers are ONE step.  Here the same statements are proved for
  `ASys` (Model/RegulatorAsync.lean): a sync only calls `SyncState`; the players the table is told
  to release leave it and are "on the way back" (`inflight`); `ReleasePlayers` is a separate
  operation `report` that may come at ANY later time — after registrations, status changes, syncs
  of other tables and of the same table, after the table was broken — and in several parts.

  Domain: `AReachableFwd s` = `s` is obtained from a fresh regulator with ANY setting `1 ≤ max`,
  ANY `min`, by ANY finite sequence of operations valid in the sense of `ASys.okFwd`: `ASys.ok`
  (fresh ids on registration, a syncing table eliminates at most its members and lets go exactly
  the number of players it is told to, a report names players on the way back from the table,
  dispatch choices are ones `getAvailableTable` can make — these never block a history:
  `C09.registration_possible_async`, `sync_possible_async`, `report_possible_async`) plus reading
  I13: a `SetStatus` never returns to `pending`, exactly as `RSys.ok` restricts `RSys.okAny`.
  NOTHING asks for "report before the next operation / before the table's next sync".
  No theorem needs `2 ≤ min ≤ max`.  All theorems are for all settings and all histories.

  Every C19 statement holds with late reports UNCHANGED.  The regulator's count identity is
  `playerCount = |queue| + Σ PlayerCount + |on the way|` here, so the water levels are computed
  from a total that includes players sitting nowhere; the capacity invariant (`PlayerCount +
  Required ≤ max`, "a non-empty queue means no outstanding demand", "no table while pending":
  `FInv`, Proofs/RegOps.lean) does not need the identity, and the initial allocation reaches `min`
  because `drainWaitingQueue` looks at the QUEUE length (not at `playerCount`) before it opens
  the first table.
-/
import Pokerface.Proofs.RegAsyncCapEnv

namespace Pokerface.C19
open Pokerface Reg ASys

/-- **capacity** (first sentence, between operations), asynchronous: in every reachable state the
    real membership of every table is at most `max` — whoever is on the way back, whenever the
    reports arrive. -/
theorem capacity_async {s : ASys} (h : AReachableFwd s) :
    ∀ e ∈ s.env.members, e.2.length ≤ s.r.max :=
  fun _ he => (AInvF.of_reachable h).capacity he

/-- **capacity, regulator side**, asynchronous: for every table on the regulator's sheet,
    `PlayerCount` and `Required` are non-negative and `PlayerCount + Required ≤ max` — also
    between a sync that asked for a release and the report of that release. -/
theorem count_plus_required_le_max_async {s : ASys} (h : AReachableFwd s) :
    ∀ tb ∈ s.r.tables, 0 ≤ tb.count ∧ 0 ≤ tb.required ∧ tb.count + tb.required ≤ s.r.max :=
  (AInvF.of_reachable h).f.wf.bnd

/-- the regulator's `PlayerCount` of a table IS the real number of its members (the players on the
    way back are counted nowhere but in the total): the link between the two capacity statements.
    (This is `C09.counts_agree_async`, restated in the form used here.) -/
theorem count_is_membership_async {s : ASys} (h : AReachableFwd s) :
    ∀ e ∈ s.env.members, ∃ tb ∈ s.r.tables, tb.id = e.1 ∧ tb.count = e.2.length :=
  fun _ he => (AInvF.of_reachable h).a.mem_table he

/-- **capacity when opening tables**, asynchronous: every `requestTableFn` callback of every valid
    operation (registration, status change, late report) carries at most `max` players. -/
theorem request_le_max_async {s : ASys} (h : AReachableFwd s) (op : AOp) (hok : s.okFwd op) :
    ∀ id ps, RCall.requestTable id ps ∈ (s.step op).r.calls → ps.length ≤ s.r.max :=
  ((AInvF.of_reachable h).a.step_full op (ok_of_okFwd hok)).2.reqmax

/-- the same on the WIDE asynchronous domain of C09 (`SetStatus` to any status at any time): the
    tables OPENED never exceed `max`; only top-ups can, after a return to `pending`
    (`capacity_fails_after_return_to_pending`). -/
theorem request_le_max_async_any {s : ASys} (h : AReachable s) (op : AOp) (hok : s.ok op) :
    ∀ id ps, RCall.requestTable id ps ∈ (s.step op).r.calls → ps.length ≤ s.r.max :=
  ((AInv.of_reachable h).step_full op hok).2.reqmax

/-- **capacity while topping up** (first sentence, at every callback), asynchronous: inside an
    operation the environment applies the callbacks one by one to `baseMembers` (for a sync: the
    sheet after the syncing table has carried out its eliminations/arrivals/departures — a sync
    itself makes no callback here; for a registration, status change or report: the sheet as it
    is).  After EVERY prefix `cs₁` of the callbacks of the operation, every table holds at most
    `max` players. -/
theorem capacity_during_async {s : ASys} (h : AReachableFwd s) (op : AOp) (hok : s.okFwd op)
    (cs₁ cs₂ : List RCall) (hcs : (s.step op).r.calls = cs₁ ++ cs₂) :
    ∀ e ∈ Env.applyCalls (s.baseMembers op) cs₁, e.2.length ≤ s.r.max :=
  (AInvF.of_reachable h).capacity_during op ((AInvF.of_reachable h).okReFwd_of_okFwd hok) cs₁ cs₂ hcs

/-- **no_table_before_start** (state form), asynchronous: while the competition is pending there
    is no table, neither on the regulator's sheet nor in reality, and nobody is on the way back. -/
theorem no_table_before_start_async {s : ASys} (h : AReachableFwd s) (hp : s.r.status = .pending) :
    s.r.tables = [] ∧ s.r.tableCount = 0 ∧ s.env.members = [] ∧ s.inflight = [] :=
  (AInvF.of_reachable h).no_table_before_start hp

/-- **no_table_before_start** (callback form), asynchronous: an operation after which the
    competition is still pending made no callback at all (no table opened, nobody assigned). -/
theorem no_callback_before_start_async {s : ASys} (h : AReachableFwd s) (op : AOp) (hok : s.okFwd op)
    (hp : (s.step op).r.status = .pending) : (s.step op).r.calls = [] :=
  (AInvF.of_reachable h).no_callback_before_start op ((AInvF.of_reachable h).okReFwd_of_okFwd hok) hp

/-- the status never returns to `pending`: once an operation has left it, it stays left.  (So
    "still pending after the operation" is the same as "the competition has not started".) -/
theorem pending_is_initial_async {s : ASys} (h : AReachableFwd s) (op : AOp) (hok : s.okFwd op)
    (hp : (s.step op).r.status = .pending) : s.r.status = .pending :=
  (AInvF.of_reachable h).pending_is_initial op ((AInvF.of_reachable h).okReFwd_of_okFwd hok) hp

/-- **no_table_before_min** (state form), asynchronous: tables exist only if at least `min` players
    have registered so far (`registered` = every id ever accepted by `AddPlayers`). -/
theorem no_table_before_min_async {s : ASys} (h : AReachableFwd s) (hne : s.env.members ≠ []) :
    s.r.min ≤ s.env.registered.length :=
  (AInvF.of_reachable h).no_table_before_min hne

/-- **no_table_before_min** (callback form), asynchronous: an operation that opens a table
    (`requestTableFn`) ends with at least `min` registered players — registrations of that very
    operation included, which is the earliest moment the Go code could know about them. -/
theorem no_request_before_min_async {s : ASys} (h : AReachableFwd s) (op : AOp) (hok : s.okFwd op)
    (id : Nat) (ps : List Nat) (hc : RCall.requestTable id ps ∈ (s.step op).r.calls) :
    s.r.min ≤ (s.step op).env.registered.length :=
  (AInvF.of_reachable h).no_request_before_min op ((AInvF.of_reachable h).okReFwd_of_okFwd hok) id ps hc

/-- **initial_tables_have_min**, asynchronous: every table opened by an operation that started
    with no table (`tableCount = 0`, the initial allocation) gets at least `min` players —
    whichever operation it is: a registration, the start, or a (late) `ReleasePlayers` report.
    (The corner `C19.initial_tables_have_min_release` of the synchronous model — the report that
    follows the sync which broke the last table — is the `report` case here: the report is an
    operation of its own.) -/
theorem initial_tables_have_min_async {s : ASys} (h : AReachableFwd s) (h0 : s.r.tableCount = 0)
    (op : AOp) (_hok : s.okFwd op) (id : Nat) (ps : List Nat)
    (hc : RCall.requestTable id ps ∈ (s.step op).r.calls) : s.r.min ≤ ps.length :=
  ASys.initial_min s (AInvF.of_reachable h).f.wf.maxpos h0 op id ps hc

/-- **the synchronous theorems are the special case "report at once"**: every state of the
    synchronous domain of C19 (`Reachable`) is, with nobody on the way, a state of the asynchronous
    forward-only domain (by `C09.sync_then_report_eq_rsys_step`: a synchronous sync is the
    asynchronous sync followed at once by the report of everybody released). -/
theorem rsys_reachable_is_async_fwd {s : RSys} (h : RSys.Reachable s) : AReachableFwd (ASys.ofRSys s) :=
  AReachableFwd.ofRSys h

/-- the synchronous `capacity` as the special case "nobody on the way" of `capacity_async` -/
theorem capacity_of_async {s : RSys} (h : RSys.Reachable s) :
    ∀ e ∈ s.env.members, e.2.length ≤ s.r.max :=
  capacity_async (rsys_reachable_is_async_fwd h)

/-- the forward-only asynchronous domain lies inside the wide one of C09 -/
theorem async_fwd_is_async {s : ASys} (h : AReachableFwd s) : AReachable s := h.any

/-! ### non-vacuity: histories with LATE reports at 4/2

`late`: eight registrants, start (tables 1, 2 of four); table 1 loses two players and is left
with an outstanding demand; table 2 syncs and is told to release one: player 5 leaves and is ON
THE WAY BACK.  Before his report arrives: player 9 registers and is dispatched to table 1, and
registration closes.  Only then `ReleasePlayers(2, [5])`: player 5 is dispatched to table 1, which
is now full (4 of 4). -/
def late : List AOp :=
  [.add [1,2,3,4,5,6,7,8] [], .status .normal [],
   .sync 1 [1,2] [3,4] [] [3,4],
   .sync 2 [] [5,6,7,8] [5] [6,7,8],
   .add [9] [1],
   .status .afterRegDeadline [],
   .report 2 [5] [] [1]]

example : AReachableFwd ((ASys.init 4 2).run late) :=
  (AReachableFwd.init 4 2 (by decide +kernel)).run late (by decide +kernel)
/-- between the sync and its report: player 5 sits nowhere, is counted in the total (6 = 5 at tables
    + 1 on the way), and two operations come in between -/
example : ((ASys.init 4 2).run (late.take 4)).inflight = [(2, [5])] := by decide +kernel
example : ((ASys.init 4 2).run (late.take 4)).r.playerCount = 6 := by decide +kernel
example : ((ASys.init 4 2).run (late.take 4)).env.members = [(1, [3,4]), (2, [6,7,8])] := by decide +kernel
example : ((ASys.init 4 2).run (late.take 6)).inflight = [(2, [5])] := by decide +kernel
example : ((ASys.init 4 2).run (late.take 6)).env.members = [(1, [3,4,9]), (2, [6,7,8])] := by decide +kernel
/-- the late report tops table 1 up to exactly `max` (hypotheses of `capacity_during_async`,
    conclusion tight) -/
example : ((ASys.init 4 2).run late).r.calls = [.assign 1 [5]] := by decide +kernel
example : ((ASys.init 4 2).run late).env.members = [(1, [3,4,9,5]), (2, [6,7,8])] := by decide +kernel
example : ((ASys.init 4 2).run late).inflight = [] := by decide +kernel
/-- this history is not a synchronous one: somebody is on the way in the middle of it -/
example : ((ASys.init 4 2).run (late.take 5)).flying ≠ [] := by decide +kernel
/-- the start operation opened the tables from none (hypotheses of `request_le_max_async`,
    `initial_tables_have_min_async`, `no_request_before_min_async`) -/
example : ((ASys.init 4 2).run (late.take 1)).r.tableCount = 0 := by decide +kernel
example : ((ASys.init 4 2).run (late.take 2)).r.calls =
    [.requestTable 1 [1,2,3,4], .requestTable 2 [5,6,7,8]] := by decide +kernel
/-- still pending after the registration: `no_callback_before_start_async` applies -/
example : ((ASys.init 4 2).run (late.take 1)).r.status = .pending := by decide +kernel

/-- `late2`: further, table 2 loses two players; table 1 is told to release one (3 leaves), syncs
    AGAIN before that report with one more elimination and is BROKEN (9 and 5 leave): three players
    on the way back from a table that no longer exists.  The report comes in two parts with a sync
    of table 2 in between; in the end table 2 holds exactly `max`. -/
def late2 : List AOp := late ++
  [.sync 2 [6,7] [8] [] [8],
   .sync 1 [] [3,4,9,5] [3] [4,9,5],
   .sync 1 [4] [9,5] [9,5] [],
   .report 1 [9] [3,5] [2],
   .sync 2 [] [8,9] [] [8,9],
   .report 1 [3,5] [] [2]]

example : AReachableFwd ((ASys.init 4 2).run late2) :=
  (AReachableFwd.init 4 2 (by decide +kernel)).run late2 (by decide +kernel)
example : ((ASys.init 4 2).run (late2.take 10)).inflight = [(1, [3]), (1, [9,5])] := by decide +kernel
example : ((ASys.init 4 2).run (late2.take 10)).env.members = [(2, [8])] := by decide +kernel
example : ((ASys.init 4 2).run (late2.take 11)).inflight = [(1, [3,5])] := by decide +kernel
example : ((ASys.init 4 2).run (late2.take 12)).r.tables.map (fun t => (t.id, t.count, t.required)) =
    [(2, 2, 2)] := by decide +kernel
example : ((ASys.init 4 2).run late2).env.members = [(2, [8,9,3,5])] := by decide +kernel
example : ((ASys.init 4 2).run late2).r.calls = [.assign 2 [3,5]] := by decide +kernel

/-- the forward-only restriction is decidable on scripts and does exclude something: the witness
    of observation O11 (`C19.backToPending`), as an asynchronous script, is valid in the wide sense
    only -/
example : (ASys.init 4 2).allOk [.add [1,2] [], .status .normal [], .status .pending []] := by decide +kernel
example : ¬ (ASys.init 4 2).allOkFwd [.add [1,2] [], .status .normal [], .status .pending []] := by decide +kernel

end Pokerface.C19
