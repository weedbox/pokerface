/-
  C08 — "Dealer, small blind and big blind always land on the right seats".

  Statements about the model `Pokerface.SM` of `seat_manager/seat_manager.go`, on the post-state
  `sm' = (sm.step .next).1` of a successful `next` (`(sm.step .next).2.1 = none`) from any reachable state `sm`.
  `playable i` = occupied, active, not reserved.  `IsNextAfter sm' d e` = `e` is the first playable seat of `sm'`
  clockwise strictly after `d` (Proofs/SMLayout.lean).  `sm.nextDealer.1` is the intermediate state after the Go function
  `nextDealer` and before `renewSeatStatus`.  `NoWaiting t` = no seat of `t` is occupied, non-reserved and inactive.
  For the second sentence: `StrictlyBetween m d x e` = `x = (d+a) % m`, `e = (d+b) % m` for some `0 < a < b < m`
  (`x` strictly between `d` and `e` clockwise); `nexts T n` = `T` after `n` further `next` operations (and nothing
  else: "other players staying put"); `Passed T x n` = in the `(n+1)`-th of these the button passes `x`, i.e. `x` is
  strictly between the dealer of `nexts T n` and the dealer of `nexts T (n+1)`.
  For the interleaved form of the second sentence (`newcomer_timing_interleaved`): with `J`
  the state right after the newcomer's `Join(x)` and `k` the number of hands started before he sits in,
  `nhand J x k n` = the state at the start of hand `n`, i.e. right after the `n`-th `next` of the history
  `Join(x); next^k; Seat(x); next^…` (`nhand_is_run` spells it out as one `run`; `n = 0` is `J`);
  `npre J x k n` = the state in which the `(n+1)`-th `next` is called (= `nhand … n`, after the `Seat(x)` when `n = k`);
  `PassedN J x k n` = in the `(n+1)`-th `next` the button passes `x` (as `Passed`, over `nhand`).
-/
import Pokerface.Proofs.SMNewcomer

namespace Pokerface.C08
open SM

/-! ## First sentence -/

/-- **"dealer, small blind and big blind sit on occupied, active, non-reserved seats"** after every successful `next`. -/
theorem positions_playable (sm : SM) (h : Reachable sm) (hok : (sm.step .next).2.1 = none) :
    ∃ d s b, (sm.step .next).1.dealer = some d ∧ (sm.step .next).1.sb = some s ∧ (sm.step .next).1.bb = some b ∧
      (sm.step .next).1.playable d = true ∧ (sm.step .next).1.playable s = true ∧
      (sm.step .next).1.playable b = true := by
  obtain ⟨d, ks, kb, hn⟩ := next_ok h.inv hok
  exact ⟨d, _, _, hn.dealer, hn.sb, hn.bb, hn.playable_dealer, hn.playable_sb, hn.playable_bb⟩

/-- **"with exactly two such seats the dealer is the small blind and the other player the big blind"** — holds in
full: if the post-state has exactly two playable seats then `sb = dealer`, `bb ≠ dealer`, and every playable seat
is the dealer's or the big blind's. -/
theorem heads_up_layout (sm : SM) (h : Reachable sm) (hok : (sm.step .next).2.1 = none)
    (h2 : (sm.step .next).1.playableCount = 2) :
    ∃ d b, (sm.step .next).1.dealer = some d ∧ (sm.step .next).1.sb = some d ∧ (sm.step .next).1.bb = some b ∧
      b ≠ d ∧ ∀ i, (sm.step .next).1.playable i = true → i = d ∨ i = b := by
  obtain ⟨d, ks, kb, hn⟩ := next_ok h.inv hok
  have hle := hn.count_le h.inv
  have hks : ks = 0 := by
    have := hn.mid_count
    exact hn.ks_zero (by omega)
  have hsb := hn.sb
  rw [hks, hn.offset_zero] at hsb
  have hbd := hn.bb_ne_dealer
  have hinv' : Inv (sm.step .next).1 := step_inv h.inv .next
  refine ⟨d, _, hn.dealer, hsb, hn.bb, hbd, ?_⟩
  intro i hi
  exact playable_two hinv'.wf h2 hn.playable_dealer hn.playable_bb (Ne.symm hbd) hi

/-- Non-vacuity of `positions_playable` / `heads_up_layout`: two seated players on a 4-seat table. -/
example : let sm := (SM.new 4).run [.join 3 1 none, .seat 3, .join 1 2 none, .seat 1]
    (sm.step .next).2.1 = none ∧ (sm.step .next).1.playableCount = 2 ∧
    (sm.step .next).1.dealer = some 1 ∧ (sm.step .next).1.sb = some 1 ∧ (sm.step .next).1.bb = some 3 := by decide +kernel

/-- **"with three or more the small blind is the first such seat clockwise from the dealer and the big blind the
first after the small blind"** — the FULL statement.  It is *false* of the model (and of the Go code): see
`ring_layout_false` (known finding D4). -/
def ring_layout : Prop :=
  ∀ sm : SM, Reachable sm → (sm.step .next).2.1 = none → 3 ≤ (sm.step .next).1.playableCount →
    ∃ d s b, (sm.step .next).1.dealer = some d ∧ (sm.step .next).1.sb = some s ∧ (sm.step .next).1.bb = some b ∧
      IsNextAfter (sm.step .next).1 d s ∧ IsNextAfter (sm.step .next).1 s b

/-- The D4 history of `known_findings.json` up to (not including) its last `next`. -/
def d4pre : SM :=
  (SM.new 6).run [.join 0 1 none, .seat 0, .join 1 2 none, .seat 1, .join 4 3 none, .seat 4, .join 2 4 none, .next,
    .join 3 5 none, .seat 3, .leave 0, .leave 4, .seat 2]

/-- **D4 witness, kernel-checked.** After the last `next` of the D4 history three seats (1, 2, 3) are playable and
yet the heads-up layout was chosen: dealer = small blind = seat 1, big blind = seat 2.  (Seat 3 holds a newcomer
who was occupied, non-reserved and inactive when `renewSeatStatus` counted two playable seats, and who is
activated by the same call because he sits behind the new big blind.) -/
theorem d4_witness :
    (d4pre.step .next).2.1 = none ∧ (d4pre.step .next).1.playableCount = 3 ∧
    (d4pre.step .next).1.dealer = some 1 ∧ (d4pre.step .next).1.sb = some 1 ∧ (d4pre.step .next).1.bb = some 2 ∧
    (d4pre.step .next).1.playable 1 = true ∧ (d4pre.step .next).1.playable 2 = true ∧
    (d4pre.step .next).1.playable 3 = true := by decide +kernel

/-- The full `ring_layout` statement is false (D4). -/
theorem ring_layout_false : ¬ ring_layout := by
  intro hrl
  obtain ⟨hok, hc, hd, hs, _⟩ := d4_witness
  obtain ⟨d, s, b, hd', hs', _, hn, _⟩ := hrl d4pre ⟨6, _, rfl⟩ hok (by omega)
  rw [hd] at hd'
  rw [hs] at hs'
  cases hd'
  cases hs'
  exact IsNextAfter.ne hn (by decide) rfl

/-- **Exact condition.** After a successful `next` the ring layout (sb = first playable after the dealer, bb = first
playable after sb, w.r.t. the new state) holds **iff** `renewSeatStatus` did not take its heads-up branch, i.e.
iff the state after `nextDealer` did not have exactly two playable seats.  The big blind is *always* the first
playable seat after the small blind. (No hypothesis on the number of playable seats is needed here.) -/
theorem ring_layout_exact (sm : SM) (h : Reachable sm) (hok : (sm.step .next).2.1 = none) :
    ∃ d s b, (sm.step .next).1.dealer = some d ∧ (sm.step .next).1.sb = some s ∧ (sm.step .next).1.bb = some b ∧
      IsNextAfter (sm.step .next).1 s b ∧
      (IsNextAfter (sm.step .next).1 d s ↔ sm.nextDealer.1.playableCount ≠ 2) := by
  obtain ⟨d, ks, kb, hn⟩ := next_ok h.inv hok
  refine ⟨d, _, _, hn.dealer, hn.sb, hn.bb, hn.bb_next_after_sb, ?_, hn.sb_next_after_dealer⟩
  intro hna h2
  rw [hn.ks_zero h2, hn.offset_zero] at hna
  exact IsNextAfter.ne hna (by rw [hn.max_eq]; exact hn.d_lt) rfl

/-- **`ring_layout`, proved part.**  Extra hypothesis `hnw`: in the state after `nextDealer` (i.e. after the button
moved and the seats it passed were re-activated) no seat is occupied, non-reserved and still inactive.  Then with
three or more playable seats in the new hand the small blind is the first playable seat clockwise after the dealer
and the big blind the first playable seat after the small blind.
What is missing for the full statement is exactly D4: a waiting (occupied, non-reserved, inactive) seat behind the
new big blind is activated by `renewSeatStatus` *after* it chose the layout from the old count
(`ring_layout_exact` gives the precise condition, `ring_layout_false` the counterexample). -/
theorem ring_layout_partial (sm : SM) (h : Reachable sm) (hok : (sm.step .next).2.1 = none)
    (h3 : 3 ≤ (sm.step .next).1.playableCount) (hnw : NoWaiting sm.nextDealer.1) :
    ∃ d s b, (sm.step .next).1.dealer = some d ∧ (sm.step .next).1.sb = some s ∧ (sm.step .next).1.bb = some b ∧
      IsNextAfter (sm.step .next).1 d s ∧ IsNextAfter (sm.step .next).1 s b := by
  obtain ⟨d, ks, kb, hn⟩ := next_ok h.inv hok
  have hce := hn.count_eq_of_noWaiting hnw
  exact ⟨d, _, _, hn.dealer, hn.sb, hn.bb, hn.sb_next_after_dealer (by omega), hn.bb_next_after_sb⟩

/-- The same with the hypothesis on the *pre*-state: nobody is waiting before `next` is called. -/
theorem ring_layout_of_noWaiting (sm : SM) (h : Reachable sm) (hok : (sm.step .next).2.1 = none)
    (h3 : 3 ≤ (sm.step .next).1.playableCount) (hnw : NoWaiting sm) :
    ∃ d s b, (sm.step .next).1.dealer = some d ∧ (sm.step .next).1.sb = some s ∧ (sm.step .next).1.bb = some b ∧
      IsNextAfter (sm.step .next).1 d s ∧ IsNextAfter (sm.step .next).1 s b :=
  ring_layout_partial sm h hok h3 ((nextDealer_actUp sm).noWaiting hnw)

/-- Non-vacuity of `ring_layout_partial`: 5 seats, players seated on 0, 2, 3 and one hand played; nobody is waiting;
the second `next` gives dealer 2, small blind 3, big blind 0. -/
example : let sm := (SM.new 5).run [.join 0 1 none, .seat 0, .join 2 2 none, .seat 2, .join 3 3 none, .seat 3, .next]
    (sm.step .next).2.1 = none ∧ (sm.step .next).1.playableCount = 3 ∧
    (sm.step .next).1.dealer = some 2 ∧ (sm.step .next).1.sb = some 3 ∧ (sm.step .next).1.bb = some 0 := by decide +kernel
example : NoWaiting ((SM.new 5).run [.join 0 1 none, .seat 0, .join 2 2 none, .seat 2, .join 3 3 none, .seat 3, .next]) := by
  intro i s hs hp _
  have : i < 5 := (List.getElem?_eq_some_iff.mp hs).1
  have hall : ∀ j, j < 5 → ∀ t, ((SM.new 5).run [.join 0 1 none, .seat 0, .join 2 2 none, .seat 2, .join 3 3 none,
      .seat 3, .next]).seats[j]? = some t → t.player.isSome = true → t.active = true := by decide +kernel
  exact hall i this s hs hp


/-! ## Second sentence -/

/-- **"A player who takes an empty seat strictly between the dealer and the big blind is, other players staying
put, dealt in from exactly the first hand after the button has moved past that seat - not before, and not later."**

Setting: `S0 = (sm.step .next).1` is the state right after a successful `next` from a reachable state, with dealer
`d` and big blind `b`; seat `x` is empty *in `S0`* (i.e. it was empty when `next` ran, hence `renewSeatStatus`
deactivated it) and strictly between `d` and `b`.  The newcomer does `Join(x); Seat(x)` giving `T`, then only `next`
operations follow.  For every `n` such that the button did not pass `x` in the first `n` of them:
* **not before**: `x` is not playable in hand `n` (`nexts T n`; `n = 0` is the hand in progress);
* the `(n+1)`-th `next` succeeds (a hand is really started);
* **not later**: if the button passes `x` in the `(n+1)`-th `next`, `x` is playable in that hand.
Full strength: all table sizes, all reachable `sm`, any number of `next`s. -/
theorem newcomer_timing (sm : SM) (h : Reachable sm) (hok : (sm.step .next).2.1 = none)
    (d b x : Nat) (s : Seat) (pid : Nat) (c : Option Nat)
    (hd : (sm.step .next).1.dealer = some d) (hb : (sm.step .next).1.bb = some b)
    (hx : StrictlyBetween (sm.step .next).1.max d x b)
    (hs : (sm.step .next).1.seats[x]? = some s) (hemp : s.player = none) :
    ∃ T, T = (sm.step .next).1.run [.join (x : Int) pid c, .seat (x : Int)] ∧
      (∃ sx, T.seats[x]? = some sx ∧ sx.player = some pid ∧ sx.reserved = false) ∧
      (Passed T x 0 ∨ Passed T x 1) ∧
      ∀ n, (∀ m, m < n → ¬ Passed T x m) →
        (nexts T n).playable x = false ∧ ((nexts T n).step .next).2.1 = none ∧
        (Passed T x n → (nexts T (n + 1)).playable x = true) := by
  obtain ⟨d', ks, kb, hn⟩ := next_ok h.inv hok
  obtain ⟨rfl, a, ha0, hab, rfl⟩ := hn.offset_of_between hd hb hx
  obtain ⟨wp, _, hJx⟩ := pending_init h.inv hn ha0 hab rfl hs hemp pid c
  refine ⟨_, rfl, ?_, waiting_passed_soon wp.sit.1.waiting, fun n hnp => waiting_timing wp.sit.1.waiting n hnp⟩
  -- the player at x is the newcomer
  rw [run_two, step_seat_nat _ wp.pendF.x_lt]
  refine ⟨{ player := some pid, active := false, reserved := false }, ?_, rfl, rfl⟩
  rw [modSeat_seats, if_pos rfl, hJx]
  rfl

/-- Non-vacuity of `newcomer_timing`: 6 seats, players on 0, 2, 4 (one hand played: dealer 0, sb 2, bb 4); seats 1
and 3 are empty, strictly between dealer and big blind, and were deactivated.  A newcomer on seat 3 is passed by the
button only in the second `next` (dealer 0 → 2 → 4) and is playable exactly from then on; a newcomer on seat 1 is
passed in the first. -/
example : let S0 := (SM.new 6).run [.join 0 1 none, .seat 0, .join 2 2 none, .seat 2, .join 4 3 none, .seat 4, .next]
    S0.dealer = some 0 ∧ S0.bb = some 4 ∧ S0.seats[3]? = some { player := none, active := false, reserved := false } ∧
    (let T := S0.run [.join 3 9 none, .seat 3]
     T.playable 3 = false ∧ (nexts T 1).dealer = some 2 ∧ (nexts T 1).playable 3 = false ∧
     (nexts T 2).dealer = some 4 ∧ (nexts T 2).playable 3 = true) ∧
    (let T := S0.run [.join 1 9 none, .seat 1]
     T.playable 1 = false ∧ (nexts T 1).dealer = some 2 ∧ (nexts T 1).playable 1 = true) := by decide +kernel
example : StrictlyBetween 6 0 3 4 := ⟨3, 4, by omega, by omega, by omega, rfl, rfl⟩

/-- The D9 history of `known_findings.json` up to the newcomer's `Seat`: hand with dealer 0, sb 1, bb 2 on 4 seats; the
small blind leaves seat 1 (which therefore stays *active*); a newcomer joins and sits in on seat 1. -/
def d9T : SM :=
  (SM.new 4).run [.join 0 1 none, .seat 0, .join 1 2 none, .seat 1, .join 2 3 none, .seat 2, .next,
    .leave 1, .join 1 4 none, .seat 1]

/-- **D9 witness, kernel-checked.**  The hypothesis "seat `x` empty when `next` ran" of `newcomer_timing` cannot be
weakened to "seat `x` empty when the newcomer arrives": on a seat between dealer (0) and big blind (2) that was
*vacated after* the last `next`, the newcomer (seat 1) is playable immediately, and in the following hand — whose
button has moved *onto* seat 1, not past it — he is dealt in (he even is the dealer).  Only seats empty at `next`
time are deactivated. -/
theorem d9_witness :
    d9T.dealer = some 0 ∧ d9T.bb = some 2 ∧ d9T.playable 1 = true ∧
    ((nexts d9T 1).dealer = some 1 ∧ (nexts d9T 1).playable 1 = true) ∧ ¬ Passed d9T 1 0 := by
  refine ⟨by decide, by decide, by decide, by decide, ?_⟩
  rintro ⟨d, e, hd, he, a, b, h1, h2, h3, h4, h5⟩
  have hd0 : (nexts d9T 0).dealer = some 0 := by decide
  have he1 : (nexts d9T 1).dealer = some 1 := by decide
  have hm : (nexts d9T 0).max = 4 := by decide
  rw [hd0] at hd
  rw [he1] at he
  cases hd
  cases he
  rw [hm] at h3 h4 h5
  omega

/-! ## Second sentence, join and sit-in interleaved with `next` -/

/-- **"… dealt in from exactly the first hand after the button has moved past that seat - not before, and not
later"**, with the newcomer's `Join`, his sit-in (`Seat`) and the `next` operations *interleaved*.

Setting, as in `newcomer_timing`: `S0 = (sm.step .next).1` is the state right after a successful `next` from any
reachable state, dealer `d`, big blind `b`; seat `x` is empty in `S0` and strictly between `d` and `b`.
History: the newcomer does `Join(x)` (state `J`); then `k ≥ 0` hands are started (`next`) while he has only joined
(his seat is reserved); then he sits in (`Seat(x)`); then any number of further `next`s.  `nhand J x k n` is the state
at the start of hand `n` (right after the `n`-th `next`); the sit-in happens between hand `k` and hand `k+1`.
Conclusions, for every table size, every reachable `sm`, every `k` and every number of hands:
* the `Join` and the `Seat` are accepted, and every `next` of the history succeeds (hands are really started);
* the button passes `x` in the first or in the second `next` (whatever `k` is);
* **not before / not later, as one equivalence**: `x` is playable (dealt in) at the start of hand `n` **iff** both
  the sit-in has happened before that hand (`k < n`) and the button has passed `x` in one of the first `n` `next`s.
  So he is not dealt in before BOTH have happened, he is dealt in in the first hand after both, and in every later one;
* that first hand exists and is hand `k+1` (the first after the sit-in) or hand `2`: from it on, and not before;
* between hands: right after the `Seat(x)` the seat counts as playable iff the button had already passed it while it
  was reserved — the hand in progress (hand `k`) was started without him in either case (previous bullet, `n = k`).
`k = 0` is the history of `newcomer_timing`, which is stated from the state after the `Seat` (`nexts`, `Passed`).

**Excluded histories, explicitly** (all as in `newcomer_timing`):
* *other players stay put*: between the last successful `next` before the `Join` and the end of the history the only
  operations are the newcomer's own `Join(x)` and `Seat(x)` and `next`;
  - this excludes **D4** (players sitting back in move the big blind in front of the newcomer and `renewSeatStatus`
    activates him early),
  - and **D10** (others leave, fewer than two playable seats remain and `Next()` lets every waiting player in at once);
* seat `x` is empty *when the last `next` ran* (`hs`, `hemp` are about `S0`), so that `renewSeatStatus` deactivated
  it — this excludes **D9** (a seat vacated after that `next` stays active; `d9_witness`). -/
theorem newcomer_timing_interleaved (sm : SM) (h : Reachable sm) (hok : (sm.step .next).2.1 = none)
    (d b x : Nat) (s : Seat) (pid : Nat) (c : Option Nat) (k : Nat)
    (hd : (sm.step .next).1.dealer = some d) (hb : (sm.step .next).1.bb = some b)
    (hx : StrictlyBetween (sm.step .next).1.max d x b)
    (hs : (sm.step .next).1.seats[x]? = some s) (hemp : s.player = none) :
    ∃ J, J = ((sm.step .next).1.step (.join (x : Int) pid c)).1 ∧
      -- the join is accepted: the seat now holds the newcomer, reserved and (still) inactive
      ((sm.step .next).1.step (.join (x : Int) pid c)).2 = (none, some x) ∧
      J.seats[x]? = some { player := some pid, active := false, reserved := true } ∧
      -- the sit-in is accepted, every `next` succeeds
      ((nhand J x k k).step (.seat (x : Int))).2.1 = none ∧
      (∀ n, ((npre J x k n).step .next).2.1 = none) ∧
      -- the button passes soon
      (PassedN J x k 0 ∨ PassedN J x k 1) ∧
      -- dealt in exactly when both have happened
      (∀ n, (nhand J x k n).playable x = true ↔ (k < n ∧ ∃ m, m < n ∧ PassedN J x k m)) ∧
      -- there is a first such hand; from it on, and not before
      (∃ n0, k < n0 ∧ (n0 = k + 1 ∨ n0 = 2) ∧ ∀ n, (nhand J x k n).playable x = true ↔ n0 ≤ n) ∧
      -- between hands, right after the sit-in
      (((nhand J x k k).step (.seat (x : Int))).1.playable x = true ↔ ∃ m, m < k ∧ PassedN J x k m) := by
  obtain ⟨d', ks, kb, hn⟩ := next_ok h.inv hok
  obtain ⟨rfl, a, ha0, hab, rfl⟩ := hn.offset_of_between hd hb hx
  obtain ⟨w, hj, hseat⟩ := pending_init h.inv hn ha0 hab rfl hs hemp pid c
  exact ⟨_, rfl, hj, hseat, (newcomer_phase w k k).sit.1, fun n => (newcomer_phase w k n).pre.next.1, newcomer_passed_soon w k,
    newcomer_playable_iff w k, newcomer_first_hand w k, newcomer_sit_playable_iff w k⟩

/-- `nhand` is the run of the operation list `Join(x); next^k; Seat(x); next^(n-k)` (cut after `n` `next`s). -/
theorem nhand_is_run (S0 : SM) (x pid : Nat) (c : Option Nat) (k n : Nat) :
    nhand (S0.step (.join (x : Int) pid c)).1 x k n =
      S0.run (.join (x : Int) pid c ::
        (if n ≤ k then List.replicate n .next
         else List.replicate k .next ++ .seat (x : Int) :: List.replicate (n - k) .next)) := by
  unfold nhand nexts
  by_cases h : n ≤ k
  · rw [if_pos h, if_pos h]
    rfl
  · rw [if_neg h, if_neg h]
    show _ = ((S0.step (.join (x : Int) pid c)).1).run _
    simp only [run, List.foldl_append, List.foldl_cons]

/-- Non-vacuity of `newcomer_timing_interleaved`: 6 seats, players on 0, 2, 4, one hand played (dealer 0, sb 2, bb 4);
seats 1 and 3 are empty, strictly between dealer and big blind, deactivated.
(a) Newcomer joins seat 3, one hand is started while he is reserved (`k = 1`, button 0 → 2, not past seat 3), he sits
in (still not playable), the next hand moves the button 2 → 4 past him: dealt in from hand 2.
(b) Newcomer joins seat 1 and sits in only after two hands (`k = 2`): the button passes him in the first `next`
(0 → 2) while he is reserved; he is dealt in neither in hand 1 nor in hand 2, counts as playable right after his
sit-in, and is dealt in from hand 3 — the first hand after both. -/
example : let S0 := (SM.new 6).run [.join 0 1 none, .seat 0, .join 2 2 none, .seat 2, .join 4 3 none, .seat 4, .next]
    S0.dealer = some 0 ∧ S0.bb = some 4 ∧ S0.seats[3]? = some { player := none, active := false, reserved := false } ∧
    S0.seats[1]? = some { player := none, active := false, reserved := false } ∧
    (let J := (S0.step (.join 3 9 none)).1
     (nhand J 3 1 0).playable 3 = false ∧
     (nhand J 3 1 1).dealer = some 2 ∧ (nhand J 3 1 1).playable 3 = false ∧
     ((nhand J 3 1 1).step (.seat 3)).1.playable 3 = false ∧
     (nhand J 3 1 2).dealer = some 4 ∧ (nhand J 3 1 2).playable 3 = true ∧ (nhand J 3 1 3).playable 3 = true) ∧
    (let J := (S0.step (.join 1 9 none)).1
     (nhand J 1 2 1).dealer = some 2 ∧ (nhand J 1 2 1).playable 1 = false ∧
     (nhand J 1 2 2).dealer = some 4 ∧ (nhand J 1 2 2).playable 1 = false ∧
     ((nhand J 1 2 2).step (.seat 1)).1.playable 1 = true ∧
     (nhand J 1 2 3).dealer = some 0 ∧ (nhand J 1 2 3).playable 1 = true) := by decide +kernel
example : StrictlyBetween 6 0 1 4 := ⟨1, 4, by omega, by omega, by omega, rfl, rfl⟩

end Pokerface.C08
