import Pokerface.Proofs.View
import Pokerface.Proofs.ViewCards
import Pokerface.Generated.Facts
import Pokerface.Generated.Tables
/-
  C15 — Player and observer views never leak hidden cards.

  "The state prepared for a given player or for an observer never contains the undealt
   deck, the burned cards, or - before the hand is closed - any other player's hole cards
   or hand evaluation; after the hand is closed, the cards of players who folded stay
   hidden.  The viewer's own cards and all public information are left unchanged."

  The theorems about the redactions hold for ALL values of `Game` (hence for every reachable state of
  every hand), every viewer seat and the observer; those of the last part ("no hidden card in ANY card field",
  `hidden_card_nowhere` and its readings) for the reachable states of C14 (`ReachableC`), whose cards are all different.  Model: Model/View.lean
  (`Game.asPlayer`, `Game.asObserver`, mirroring game_state.go `AsPlayer`, `AsObserver`).

  Vocabulary (Proofs/View.lean): `Viewer = Option Nat` (`some i` = player with `Idx = i`,
  `none` = observer); `g.view v` = `g.asPlayer i` / `g.asObserver`;
  `Hidden g v p` = "record `p` is not the viewer's own, and the hand is not closed or `p` folded".
-/
namespace Pokerface.C15
open Pokerface Game

/-! ## Classification of the model's state into public and secret parts -/

/-- The public fields of a player record: everything except `hole` and `comb`. -/
def playerPub (p : Player) :
    Nat × Bool × Bool × Bool × Bool × Bool × List Act × Int × Int × Int × Int × Int :=
  (p.idx, p.posDealer, p.posSB, p.posBB, p.acted, p.fold, p.allowed, p.bankroll, p.initial, p.stack, p.pot, p.wager)

/-- The public options: everything in `Meta` except `deck`. -/
def metaPub (m : Meta) : Int × Int × Int × Int × Bool × Nat × Nat × (Cat → Nat) × List Cat :=
  (m.ante, m.blindDealer, m.blindSB, m.blindBB, m.potLimit, m.holeCount, m.required, m.lvl, m.table)

/-- The public part of a state: every field of `Game` except `opts.deck`, `burned`, and the
    players' `hole`/`comb`. -/
def publicPart (g : Game) :=
  (metaPub g.opts, g.miniBet, g.pots, g.round, g.board, g.prev, g.deckPos, g.roundPot, g.cw, g.raiser, g.cur,
   g.event, g.result, g.players.map playerPub)

/-- The part of a state that may have to be hidden (what the model classifies as secret). -/
def secretPart (g : Game) : List Card × List Card × List (List Card × Option Comb) :=
  (g.opts.deck, g.burned, g.players.map fun p => (p.hole, p.comb))

theorem publicPart_event {g g' : Game} (h : publicPart g = publicPart g') : g.event = g'.event :=
  congrArg (fun x => x.2.2.2.2.2.2.2.2.2.2.2.1) h

theorem publicPart_players {g g' : Game} (h : publicPart g = publicPart g') :
    g.players.map playerPub = g'.players.map playerPub :=
  congrArg (fun x => x.2.2.2.2.2.2.2.2.2.2.2.2.2) h

theorem player_ext {p q : Player} (h1 : playerPub p = playerPub q) (h2 : (p.hole, p.comb) = (q.hole, q.comb)) :
    p = q := by
  cases p
  cases q
  simp only [playerPub, Prod.mk.injEq] at h1 h2
  obtain ⟨c1, c2, c3, c4, c5, c6, c7, c8, c9, c10, c11, c12⟩ := h1
  obtain ⟨d1, d2⟩ := h2
  subst_vars
  rfl

theorem players_ext {l l' : List Player} (h1 : l.map playerPub = l'.map playerPub)
    (h2 : (l.map fun p => (p.hole, p.comb)) = l'.map fun p => (p.hole, p.comb)) : l = l' := by
  have h : (l.map playerPub).zip (l.map fun p => (p.hole, p.comb)) =
      (l'.map playerPub).zip (l'.map fun p => (p.hole, p.comb)) := by
    rw [h1, h2]
  rw [List.zip_map', List.zip_map'] at h
  exact (List.map_inj_right (fun p q hpq => player_ext (Prod.mk.inj hpq).1 (Prod.mk.inj hpq).2)).mp h

/-- The two projections together are the whole state: no field of the model escapes the
    classification (a field added to `Game`, `Meta` or `Player` breaks this proof). -/
theorem parts_cover (g g' : Game) (hp : publicPart g = publicPart g') (hs : secretPart g = secretPart g') :
    g = g' := by
  obtain ⟨o, pl, mb, pots, rd, bu, bo, pv, dp, rp, cw, ra, cu, ev, re⟩ := g
  obtain ⟨o', pl', mb', pots', rd', bu', bo', pv', dp', rp', cw', ra', cu', ev', re'⟩ := g'
  cases o
  cases o'
  simp only [publicPart, metaPub, secretPart, Prod.mk.injEq] at hp hs
  obtain ⟨⟨h1, h2, h3, h4, h5, h6, h7, h8, h9⟩, h10, h11, h12, h13, h14, h15, h16, h17, h18, h19, h20, h21, h22⟩ := hp
  obtain ⟨s1, s2, s3⟩ := hs
  have := players_ext h22 s3
  subst_vars
  rfl

/-! ## Both redactions at once -/

theorem view_hides (g : Game) (v : Viewer) :
    (g.view v).opts.deck = [] ∧ (g.view v).burned = [] ∧
    ∀ (k : Nat) (p : Player), g.players[k]? = some p → Hidden g v p →
      ∃ q, (g.view v).players[k]? = some q ∧ q.hole = [] ∧ q.comb = none := by
  rw [view_eq_blank]
  refine ⟨rfl, rfl, ?_⟩
  intro k p hp hh
  exact ⟨hidePlayer p, by simp [blank_getElem?, hp, hh], rfl, rfl⟩

theorem view_hides_mem (g : Game) (v : Viewer) :
    ∀ q ∈ (g.view v).players, v ≠ some q.idx →
      ((g.view v).event ≠ .gameClosed ∨ q.fold = true) → q.hole = [] ∧ q.comb = none := by
  rw [view_eq_blank]
  intro q hq hi hc
  simp only [Game.blank, List.mem_map] at hq
  obtain ⟨p, _, rfl⟩ := hq
  by_cases hh : Hidden g v p
  · simp [hh, hidePlayer]
  · simp only [hh, if_false] at hi hc ⊢
    exact absurd ⟨hi, hc⟩ hh

theorem view_keeps (g : Game) (v : Viewer) :
    publicPart (g.view v) = publicPart g ∧
    ∀ (k : Nat) (p : Player), g.players[k]? = some p → ¬ Hidden g v p → (g.view v).players[k]? = some p := by
  rw [view_eq_blank]
  refine ⟨?_, ?_⟩
  · simp only [publicPart, Game.blank, metaPub, List.map_map]
    congr 13
    apply List.map_congr_left
    intro p _
    by_cases hh : Hidden g v p <;> simp [hh, hidePlayer, playerPub]
  · intro k p hp hh
    simp [blank_getElem?, hp, hh]

/-! ## `AsPlayer` -/

/-- **"never contains the undealt deck, the burned cards, or - before the hand is closed - any
    other player's hole cards or hand evaluation; after the hand is closed, the cards of
    players who folded stay hidden"**, for `AsPlayer(i)`.
    For every state `g` and viewer seat `i`: in `g.asPlayer i` the deck list is empty, the
    burned list is empty, and every seat `k` whose record `p` has `p.idx ≠ i` shows empty hole
    cards and no hand evaluation — unless the hand is closed (`event = gameClosed`) and `p`
    did not fold. -/
theorem asPlayer_hides (g : Game) (i : Nat) :
    (g.asPlayer i).opts.deck = [] ∧ (g.asPlayer i).burned = [] ∧
    ∀ (k : Nat) (p : Player), g.players[k]? = some p → p.idx ≠ i →
      (g.event ≠ .gameClosed ∨ p.fold = true) →
      ∃ q, (g.asPlayer i).players[k]? = some q ∧ q.hole = [] ∧ q.comb = none := by
  obtain ⟨h1, h2, h3⟩ := view_hides g (some i)
  exact ⟨h1, h2, fun k p hp hi hc => h3 k p hp ⟨fun h => hi (Option.some.inj h).symm, hc⟩⟩

/-- The same secrecy statement read off the view alone: any record in `g.asPlayer i` that is
    not the viewer's and that is folded or seen before the close carries no cards and no
    evaluation. -/
theorem asPlayer_hides_mem (g : Game) (i : Nat) :
    ∀ q ∈ (g.asPlayer i).players, q.idx ≠ i →
      ((g.asPlayer i).event ≠ .gameClosed ∨ q.fold = true) → q.hole = [] ∧ q.comb = none :=
  fun q hq hi => view_hides_mem g (some i) q hq (fun h => hi (Option.some.inj h).symm)

/-- **"The viewer's own cards and all public information are left unchanged"**, for
    `AsPlayer(i)`: (1) the public part of the state (all fields other than the deck, the
    burned cards and the players' hole cards / evaluation — field list in `publicPart`) is
    the same in the view as in `g`; (2) every record that need not be hidden from `i` — the
    viewer's own, and after the close those of the players who did not fold — is unchanged
    as a whole, hole cards and evaluation included. -/
theorem asPlayer_keeps (g : Game) (i : Nat) :
    publicPart (g.asPlayer i) = publicPart g ∧
    ∀ (k : Nat) (p : Player), g.players[k]? = some p → ¬ Hidden g (some i) p →
      (g.asPlayer i).players[k]? = some p :=
  view_keeps g (some i)

/-- In particular the viewer's own record (own hole cards, own evaluation) is unchanged. -/
theorem asPlayer_keeps_own (g : Game) (i k : Nat) (p : Player) (hp : g.players[k]? = some p)
    (hi : p.idx = i) : (g.asPlayer i).players[k]? = some p :=
  (asPlayer_keeps g i).2 k p hp (fun h => h.1 (by rw [hi]))

/-! ## `AsObserver` -/

/-- The secrecy statement for `AsObserver()`: deck and burned cards are empty, and every
    seat shows empty hole cards and no evaluation unless the hand is closed and the player
    did not fold. -/
theorem asObserver_hides (g : Game) :
    g.asObserver.opts.deck = [] ∧ g.asObserver.burned = [] ∧
    ∀ (k : Nat) (p : Player), g.players[k]? = some p →
      (g.event ≠ .gameClosed ∨ p.fold = true) →
      ∃ q, g.asObserver.players[k]? = some q ∧ q.hole = [] ∧ q.comb = none := by
  obtain ⟨h1, h2, h3⟩ := view_hides g none
  exact ⟨h1, h2, fun k p hp hc => h3 k p hp ⟨nofun, hc⟩⟩

theorem asObserver_hides_mem (g : Game) :
    ∀ q ∈ g.asObserver.players,
      (g.asObserver.event ≠ .gameClosed ∨ q.fold = true) → q.hole = [] ∧ q.comb = none :=
  fun q hq => view_hides_mem g none q hq nofun

/-- "All public information is left unchanged" for `AsObserver()`; after the close the
    records of the players who did not fold are unchanged as a whole. -/
theorem asObserver_keeps (g : Game) :
    publicPart g.asObserver = publicPart g ∧
    ∀ (k : Nat) (p : Player), g.players[k]? = some p → ¬ Hidden g none p →
      g.asObserver.players[k]? = some p :=
  view_keeps g none

/-! ## No hidden card in a view -/

/-- The cards of a hand evaluation (`Combination.Cards`). -/
def combCards (p : Player) : List Card := (p.comb.map (·.cards)).getD []

theorem mem_combCards {p : Player} {x : Card} : x ∈ combCards p ↔ ∃ cb, p.comb = some cb ∧ x ∈ cb.cards := by
  unfold combCards
  cases p.comb <;> simp

/-- Card `c` is hidden from viewer `v` in state `g`: it is in the deck list, or burned, or a
    hole card of a player whose record must be hidden from `v`. -/
def HiddenCard (g : Game) (v : Viewer) (c : Card) : Prop :=
  c ∈ g.opts.deck ∨ c ∈ g.burned ∨ ∃ p ∈ g.players, Hidden g v p ∧ c ∈ p.hole

/-- All cards stored in the card-valued fields that the model classifies as secret for
    viewer `v`: the deck list, the burned list, and hole cards and evaluation cards of the
    records that must be hidden from `v`. -/
def secretCards (g : Game) (v : Viewer) : List Card :=
  g.opts.deck ++ g.burned ++ g.players.flatMap fun p => if Hidden g v p then p.hole ++ combCards p else []

theorem secretCards_view (g : Game) (v : Viewer) : secretCards (g.view v) v = [] := by
  rw [view_eq_blank]
  simp only [secretCards, Game.blank, List.nil_append, List.flatMap_map]
  rw [List.flatMap_eq_nil_iff]
  intro p _
  by_cases hh : Hidden g v p
  · simp only [hh, if_true]
    split <;> rfl
  · simp only [hh, if_false]
    split
    · rename_i h
      exact absurd h hh
    · rfl

/-- **No hidden card in a view.**  A card hidden from viewer `v` in `g` (in the deck list,
    burned, or in the hole cards of a record that must be hidden from `v`) occurs in none of
    the secret card fields of the view prepared for `v`.  (The hypothesis is not even needed:
    by `secretCards_view` those fields are empty.  Cards of the deck list that have been dealt
    face up — board, the viewer's own cards, cards shown at the close — are public and do
    of course occur in the public fields; that a hidden card never equals a public one is the
    no-duplicates part of C14.  The statement about ALL card fields of the view, public ones included,
    is `hidden_card_nowhere_in_view` / `hidden_card_nowhere_in_observer_view` below.) -/
theorem no_hidden_card_in_view (g : Game) (v : Viewer) (c : Card) (_h : HiddenCard g v c) :
    c ∉ secretCards (g.view v) v := by
  rw [secretCards_view]
  exact List.not_mem_nil

/-- **Non-interference** (the views depend on nothing that must be hidden): two states that
    have the same public part and the same records for every player that need not be hidden
    from `v` — i.e. that differ at most in the deck, the burned cards and the cards/evaluation
    of hidden players — yield the same view for `v`. -/
theorem view_noninterference (v : Viewer) (g1 g2 : Game)
    (hpub : publicPart g1 = publicPart g2)
    (hvis : ∀ (k : Nat) (p1 p2 : Player), g1.players[k]? = some p1 → g2.players[k]? = some p2 →
      ¬ Hidden g1 v p1 → p1 = p2) :
    g1.view v = g2.view v := by
  -- A state is its public and its secret part (`parts_cover`).  The public part of a view is that of the state
  -- (`view_keeps`), hence the same for both.  In the secret part deck and burned cards are blanked; seat by seat the two
  -- records have the same public fields, so `Hidden` selects the same seats in both states (`hiff`): a hidden record is
  -- blanked on both sides, one that is not hidden is the same record by `hvis`.
  apply parts_cover
  · rw [(view_keeps g1 v).1, (view_keeps g2 v).1, hpub]
  · rw [view_eq_blank, view_eq_blank]
    have hev : g1.event = g2.event := publicPart_event hpub
    have hpl : g1.players.map playerPub = g2.players.map playerPub := publicPart_players hpub
    simp only [secretPart, Game.blank, List.map_map, Prod.mk.injEq, true_and]
    apply List.ext_getElem?
    intro k
    have e1 := congrArg (·[k]?) hpl
    simp only [List.getElem?_map] at e1 ⊢
    cases hp : g1.players[k]? with
    | none => cases hq : g2.players[k]? with
      | none => rfl
      | some q => simp [hp, hq] at e1
    | some p => cases hq : g2.players[k]? with
      | none => simp [hp, hq] at e1
      | some q =>
        simp only [hp, hq, Option.map_some, Option.some.injEq, playerPub, Prod.mk.injEq] at e1
        have hiff : Hidden g1 v p ↔ Hidden g2 v q := by
          unfold Hidden
          rw [hev, e1.1, e1.2.2.2.2.2.1]
        simp only [Option.map_some, Function.comp_def, Option.some.injEq]
        by_cases hh : Hidden g1 v p
        · have hh2 := hiff.mp hh
          simp [hh, hh2, hidePlayer]
        · have hh2 : ¬ Hidden g2 v q := fun h => hh (hiff.mpr h)
          have := hvis k p q hp hq hh
          subst this
          simp [hh, hh2]

/-! ## K1: every field of the Go state structs is classified -/

inductive Cls
  | pub        -- public: kept by both redactions; modelled
  | secret     -- may have to be hidden; blanked by the redactions as proved above; modelled
  | nested     -- struct-valued container whose members are classified one by one
  | info       -- informational, not modelled: carries no card (scalar/action/timestamp/id)
deriving DecidableEq, Repr

/-- (struct, field) of every field reachable from the Go type `GameState`, with the model's
    classification.  Model counterparts: `Meta.Deck` = `opts.deck`, `Status.Burned` = `burned`,
    `PlayerState.HoleCards` = `hole`, `PlayerState.Combination` (+ `CombinationInfo.*`) = `comb`;
    public fields = `publicPart`. -/
def classified : List ((String × String) × Cls) := [
  (("GameState", "GameID"), .info), (("GameState", "CreatedAt"), .info), (("GameState", "UpdatedAt"), .info),
  (("GameState", "Meta"), .nested),
  (("Meta", "Ante"), .pub), (("Meta", "Blind"), .nested),
  (("BlindSetting", "Dealer"), .pub), (("BlindSetting", "SB"), .pub), (("BlindSetting", "BB"), .pub),
  (("Meta", "Limit"), .pub), (("Meta", "HoleCardsCount"), .pub), (("Meta", "RequiredHoleCardsCount"), .pub),
  (("Meta", "CombinationPowers"), .pub),
  (("Meta", "Deck"), .secret),
  (("Meta", "BurnCount"), .info),
  (("GameState", "Status"), .nested),
  (("Status", "MiniBet"), .pub), (("Status", "MaxWager"), .info),
  (("Status", "Pots"), .pub),
  (("Pot", "Level"), .pub), (("Pot", "Wager"), .pub), (("Pot", "Total"), .pub), (("Pot", "Contributors"), .pub),
  (("Pot", "Levels"), .pub),
  (("Level", "Level"), .pub), (("Level", "Wager"), .pub), (("Level", "Total"), .pub), (("Level", "Contributors"), .pub),
  (("Status", "Round"), .pub),
  (("Status", "Burned"), .secret),
  (("Status", "Board"), .pub),
  (("Status", "PreviousRaiseSize"), .pub), (("Status", "CurrentDeckPosition"), .pub),
  (("Status", "CurrentRoundPot"), .pub), (("Status", "CurrentWager"), .pub), (("Status", "CurrentRaiser"), .pub),
  (("Status", "CurrentPlayer"), .pub), (("Status", "CurrentEvent"), .pub),
  (("Status", "LastAction"), .info),
  (("Action", "Source"), .info), (("Action", "Type"), .info), (("Action", "Value"), .info),
  (("GameState", "Players"), .nested),
  (("PlayerState", "Idx"), .pub), (("PlayerState", "Positions"), .pub), (("PlayerState", "Acted"), .pub),
  (("PlayerState", "DidAction"), .info),
  (("PlayerState", "Fold"), .pub),
  (("PlayerState", "VPIP"), .info),
  (("PlayerState", "AllowedActions"), .pub), (("PlayerState", "Bankroll"), .pub),
  (("PlayerState", "InitialStackSize"), .pub), (("PlayerState", "StackSize"), .pub), (("PlayerState", "Pot"), .pub),
  (("PlayerState", "Wager"), .pub),
  (("PlayerState", "HoleCards"), .secret),
  (("PlayerState", "Combination"), .secret),
  (("CombinationInfo", "Type"), .secret), (("CombinationInfo", "Cards"), .secret), (("CombinationInfo", "Power"), .secret),
  (("GameState", "Result"), .pub),
  (("Result", "Players"), .pub),
  (("PlayerResult", "Idx"), .pub), (("PlayerResult", "Final"), .pub), (("PlayerResult", "Changed"), .pub),
  (("Result", "Pots"), .pub),
  (("PotResult", "rank"), .info),
  (("Rank", "contributerCount"), .info), (("Rank", "groups"), .info),
  (("RankGroup", "Contributors"), .info), (("RankGroup", "Score"), .info),
  (("PotResult", "level"), .pub),
  (("PotLevel", "levels"), .pub),
  (("LevelInfo", "rank"), .pub),
  (("LevelInfo", "Level"), .pub), (("LevelInfo", "Wager"), .pub), (("LevelInfo", "Total"), .pub),
  (("LevelInfo", "Contributors"), .pub),
  (("PotResult", "oddChipOffset"), .info),
  (("PotResult", "Total"), .pub), (("PotResult", "Winners"), .pub),
  (("Winner", "Idx"), .pub), (("Winner", "Withdraw"), .pub)
]

/-- The classification lists the fields of the Go structs one by one, in the order of the
    regenerated list (evaluation of 83 equal pairs; membership both ways follows). -/
theorem classified_fields :
    classified.map Prod.fst = Generated.stateFields.map fun f => (f.1, f.2.1) := by decide +kernel

/-- **K1 obligation.**  Every field reachable from the Go type `GameState` (list regenerated
    from the Go source by reflection on every run) is classified by the model.  A field added
    to any state struct later is not in `classified` and breaks this proof. -/
theorem fields_covered :
    ∀ f ∈ Generated.stateFields, (f.1, f.2.1) ∈ classified.map Prod.fst := by
  intro f hf
  rw [classified_fields]
  exact List.mem_map_of_mem hf

/-- The classification has no stale entries (every classified field exists in the Go
    structs) and classifies every field exactly once. -/
theorem classified_exact :
    (∀ c ∈ classified, c.1 ∈ Generated.stateFields.map fun f => (f.1, f.2.1)) ∧
    (classified.map Prod.fst).Nodup := by
  refine ⟨fun c hc => ?_, by decide +kernel⟩
  rw [← classified_fields]
  exact List.mem_map_of_mem hc

/-- Card-carrying Go fields are `[]string` fields named Deck/Burned/Board/HoleCards/Cards.
    None of them (indeed no `[]string` field at all) is dismissed as informational or as a
    mere container: each is public or secret, i.e. modelled and covered by the theorems above. -/
theorem card_fields_modelled :
    ∀ f ∈ Generated.stateFields, f.2.2.1 = "[]string" →
      ((f.1, f.2.1), Cls.pub) ∈ classified ∨ ((f.1, f.2.1), Cls.secret) ∈ classified := by decide +kernel

/-- The `[]string` fields of the Go state are exactly these (so the naming convention above
    is checked too): the card lists plus `Positions` and `AllowedActions`. -/
theorem string_list_fields :
    (Generated.stateFields.filter (fun f => f.2.2.1 == "[]string")).map (fun f => (f.1, f.2.1)) =
      [("Meta", "Deck"), ("Status", "Burned"), ("Status", "Board"), ("PlayerState", "Positions"),
       ("PlayerState", "AllowedActions"), ("PlayerState", "HoleCards"), ("CombinationInfo", "Cards")] := by decide +kernel

/-- The fields classified secret are exactly the ones the redactions blank (and the theorems
    above speak about): deck, burned cards, hole cards, the evaluation and its members. -/
theorem secret_fields :
    (classified.filter (fun c => c.2 == .secret)).map Prod.fst =
      [("Meta", "Deck"), ("Status", "Burned"), ("PlayerState", "HoleCards"), ("PlayerState", "Combination"),
       ("CombinationInfo", "Type"), ("CombinationInfo", "Cards"), ("CombinationInfo", "Power")] := by decide +kernel

/-! ## Non-vacuity: a concrete closed and a concrete running hand -/

section Examples

def c1 : Card := ⟨83, 14⟩
def c2 : Card := ⟨72, 13⟩
def c3 : Card := ⟨68, 12⟩
def c4 : Card := ⟨67, 11⟩
def c5 : Card := ⟨83, 10⟩
def c6 : Card := ⟨72, 9⟩
def c7 : Card := ⟨68, 8⟩

def mkP (i : Nat) (fold : Bool) (h : List Card) : Player :=
  { idx := i, posDealer := i == 0, posSB := i == 1, posBB := i == 2, fold := fold, bankroll := 100, initial := 100,
    stack := 90, wager := 10, hole := h, comb := some { cat := some .highCard, cards := h, power := 7 } }

def exMeta : Meta :=
  { ante := 0, blindDealer := 0, blindSB := 5, blindBB := 10, potLimit := false, holeCount := 2, required := 0,
    lvl := fun _ => 0, table := [], deck := [c1, c2, c3, c4, c5, c6, c7] }

/-- three seats, seat 1 folded, one burned card, mid-hand -/
def exRunning : Game :=
  { opts := exMeta, players := [mkP 0 false [c1, c2], mkP 1 true [c3, c4], mkP 2 false [c5, c6]],
    round := .flop, burned := [c7], deckPos := 7, event := .roundStarted }

def exClosed : Game := { exRunning with event := .gameClosed }

def holes (g : Game) : List (List Card) := g.players.map (·.hole)

example : holes (exRunning.asPlayer 0) = [[c1, c2], [], []] := by decide
example : holes (exRunning.asPlayer 2) = [[], [], [c5, c6]] := by decide
example : holes exRunning.asObserver = [[], [], []] := by decide
example : holes (exClosed.asPlayer 0) = [[c1, c2], [], [c5, c6]] := by decide
/-- the folded viewer still sees the own cards after the close -/
example : holes (exClosed.asPlayer 1) = [[c1, c2], [c3, c4], [c5, c6]] := by decide
example : holes exClosed.asObserver = [[c1, c2], [], [c5, c6]] := by decide
example : (exRunning.asPlayer 0).opts.deck = [] ∧ (exRunning.asPlayer 0).burned = [] := by decide
/-- hypotheses of `asPlayer_hides` are satisfiable: seat 2 is hidden from seat 0 while running -/
example : exRunning.players[2]? = some (mkP 2 false [c5, c6]) ∧ (mkP 2 false [c5, c6]).idx ≠ 0 ∧
    exRunning.event ≠ .gameClosed := by decide
/-- hypotheses of `asPlayer_keeps` (2): seat 2 is not hidden from seat 0 after the close -/
example : ¬ Hidden exClosed (some 0) (mkP 2 false [c5, c6]) := by decide
/-- `HiddenCard` is satisfiable: `c7` (burned) and `c5` (seat 2's card) are hidden from seat 0 -/
example : HiddenCard exRunning (some 0) c7 := Or.inr (Or.inl (by simp [exRunning]))
example : HiddenCard exRunning (some 0) c5 :=
  Or.inr (Or.inr ⟨mkP 2 false [c5, c6], by simp [exRunning], by decide, by simp [mkP]⟩)
/-- non-interference is not vacuous: a state with other hidden cards, same view for seat 0 -/
def exRunning' : Game :=
  { exRunning with opts := { exMeta with deck := [c7, c6, c5] }, burned := [c4],
                   players := [mkP 0 false [c1, c2], { mkP 1 true [c7, c7] with comb := none }, mkP 2 false [c3, c3]] }
example : exRunning.view (some 0) = exRunning'.view (some 0) :=
  view_noninterference (some 0) exRunning exRunning' (by simp [publicPart, exRunning, exRunning', metaPub, exMeta, playerPub, mkP])
    (by
      intro k p1 p2 h1 h2 hh
      match k with
      | 0 =>
        simp [exRunning, exRunning'] at h1 h2
        rw [← h1, ← h2]
      | 1 =>
        simp [exRunning] at h1
        subst h1
        exact absurd (by decide) hh
      | 2 =>
        simp [exRunning] at h1
        subst h1
        exact absurd (by decide) hh
      | k + 3 => simp [exRunning] at h1)

end Examples

/-! ## No hidden card in ANY card field of a view (public fields included)

`no_hidden_card_in_view` above only looks at the fields the redaction blanks.  The theorems of this
section look at EVERY card-valued field of the state prepared for a viewer — the public ones
included — and use that the cards of a real hand are all different (C14) and that a reported
combination is made of its owner's hole cards and of board cards (the enumeration of C10 only picks
among the cards it is given: `combOwn_reachable`, Proofs/CombosOwn.lean).

Card-valued fields of `Game` (by `parts_cover` every field is in `publicPart` or `secretPart`; the
only component of `publicPart` whose type mentions `Card` is `board`):
`opts.deck`, `burned`, `board`, `players[].hole`, `players[].comb.cards` — collected in `cardFields`. -/

/-- Card `c` is hidden from viewer `v` in state `g`: it is in the UNDEALT rest of the deck (below the
    cursor `deckPos`), or burned, or a hole card of a player whose record the view rules hide from
    `v` (`Hidden g v p`: not the viewer's own record, and the hand is not closed or `p` folded — i.e.
    during the hand every other player, after the close the folded other players). -/
def HiddenFrom (g : Game) (v : Viewer) (c : Card) : Prop :=
  c ∈ g.opts.deck.drop g.deckPos ∨ c ∈ g.burned ∨ ∃ p ∈ g.players, Hidden g v p ∧ c ∈ p.hole

instance (g : Game) (v : Viewer) (c : Card) : Decidable (HiddenFrom g v c) := by
  unfold HiddenFrom
  infer_instance

/-- Every card stored anywhere in a state: deck list, burned cards, board, and every player's hole
    cards and reported combination cards. -/
def cardFields (g : Game) : List Card :=
  g.opts.deck ++ g.burned ++ g.board ++ g.players.flatMap fun p => p.hole ++ combCards p

/-- **A hidden card occurs nowhere in the state prepared for a viewer** (player or observer).
    `g` is any state reached by any sequence of operations from a successfully started hand whose
    deck is duplicate-free and long enough (`ReachableC`, the domain of C14 — any seat count, any
    rule, any hole-card count, any ranking table); `v` is a seat or the observer; `c` is hidden
    from `v` (`HiddenFrom`).  Then `c` is not in the view's deck list, not among its burned cards,
    NOT ON ITS BOARD, in NO player's hole cards as shown in the view (own cards, cards shown after
    the close) and in NO player's reported combination as shown in the view (the viewer's own
    combination and the combinations of shown players contain only their owners' hole cards and
    board cards — `combOwn_reachable` —, none of which is hidden). -/
theorem hidden_card_nowhere (g : Game) (h : ReachableC g) (v : Viewer) (c : Card) (hc : HiddenFrom g v c) :
    c ∉ (g.view v).opts.deck ∧ c ∉ (g.view v).burned ∧ c ∉ (g.view v).board ∧
    ∀ q ∈ (g.view v).players, c ∉ q.hole ∧ c ∉ combCards q := by
  rw [view_eq_blank]
  obtain ⟨h1, h2, h3, h4⟩ := hidden_nowhere_in_blank (cinv_reachable h).core (combOwn_reachable h) v c hc
  refine ⟨h1, h2, h3, fun q hq => ⟨(h4 q hq).1, fun hx => ?_⟩⟩
  obtain ⟨cb, hqc, hx⟩ := mem_combCards.mp hx
  exact (h4 q hq).2 cb hqc hx

/-- The statement for `AsPlayer(i)`: no card hidden from seat
    `i` (undealt, burned, or a hole card of another player who is still hidden: everybody else
    during the hand, the folded others after the close) occurs in any card field of `g.asPlayer i`. -/
theorem hidden_card_nowhere_in_view (g : Game) (h : ReachableC g) (i : Nat) (c : Card)
    (hc : HiddenFrom g (some i) c) :
    c ∉ (g.asPlayer i).opts.deck ∧ c ∉ (g.asPlayer i).burned ∧ c ∉ (g.asPlayer i).board ∧
    ∀ q ∈ (g.asPlayer i).players, c ∉ q.hole ∧ c ∉ combCards q :=
  hidden_card_nowhere g h (some i) c hc

/-- The statement for `AsObserver()`: no card hidden
    from an observer (undealt, burned, or a hole card of anybody during the hand / of a folded
    player after the close) occurs in any card field of `g.asObserver`. -/
theorem hidden_card_nowhere_in_observer_view (g : Game) (h : ReachableC g) (c : Card) (hc : HiddenFrom g none c) :
    c ∉ g.asObserver.opts.deck ∧ c ∉ g.asObserver.burned ∧ c ∉ g.asObserver.board ∧
    ∀ q ∈ g.asObserver.players, c ∉ q.hole ∧ c ∉ combCards q :=
  hidden_card_nowhere g h none c hc

/-- The same in one line: a hidden card is not among the cards stored anywhere in the view. -/
theorem hidden_card_not_in_cardFields (g : Game) (h : ReachableC g) (v : Viewer) (c : Card)
    (hc : HiddenFrom g v c) : c ∉ cardFields (g.view v) := by
  obtain ⟨h1, h2, h3, h4⟩ := hidden_card_nowhere g h v c hc
  simp only [cardFields, List.mem_append, List.mem_flatMap, not_or, not_exists, not_and]
  exact ⟨⟨⟨h1, h2⟩, h3⟩, fun q hq => ⟨(h4 q hq).1, (h4 q hq).2⟩⟩

/-- The facts about the state the theorem rests on, for reference: in every reachable state the
    published combination of every seat is made of that seat's own hole cards and of board cards
    (any rule, any table). -/
theorem combination_cards_are_own (g : Game) (h : ReachableC g) :
    ∀ p ∈ g.players, ∀ x ∈ combCards p, x ∈ p.hole ∨ x ∈ g.board := by
  intro p hp x hx
  obtain ⟨cb, hpc, hx⟩ := mem_combCards.mp hx
  exact combOwn_reachable h p hp cb hpc x hx

/-! ### Non-vacuity: a real three-seat hand on a 26-card deck -/
section ReachableExamples

/-- 26 cards: spades 2…A, then hearts 2…A -/
def rDeck : List Card :=
  ((List.range 13).map fun r => (⟨83, r + 2⟩ : Card)) ++ ((List.range 13).map fun r => (⟨72, r + 2⟩ : Card))

def rMeta : Meta :=
  { ante := 0, blindDealer := 0, blindSB := 5, blindBB := 10, potLimit := false, holeCount := 2, required := 0,
    lvl := Generated.combinationLevel, table := Generated.powerStandard, deck := rDeck }

/-- dealer, small blind, big blind with 100 chips each -/
def rCfg : Config :=
  { opts := rMeta, seats := [⟨100, true, false, false⟩, ⟨100, false, true, false⟩, ⟨100, false, false, true⟩] }

theorem rReach (ops : List Op) : ReachableC ((start rCfg).1.run ops) :=
  ⟨rCfg, ops, ⟨⟨by decide, by decide, by decide, by decide⟩⟩, ⟨by decide +kernel, by decide⟩, by decide, rfl⟩

/-- to the flop: the dealer calls, the small blind folds, the big blind checks -/
def rToFlop : List Op := [.ready, .payBlinds, .ready, .act none .call 0, .act none .fold 0, .act none .check 0, .next]
/-- a street on which the folded small blind passes and the two others check -/
def rStreet : List Op := [.ready, .act none .pass 0, .act none .check 0, .act none .check 0]
def rToClose : List Op := rToFlop ++ rStreet ++ [.next] ++ rStreet ++ [.next] ++ rStreet ++ [.next]

def gFlop : Game := (start rCfg).1.run rToFlop
def gClose : Game := (start rCfg).1.run rToClose

theorem gFlop_facts : gFlop.event = .readyRequested ∧ gFlop.deckPos = 10 ∧ gFlop.opts.required = 0 ∧ gFlop.opts.holeCount = 2 ∧
    gFlop.players.map (fun p => (p.idx, p.fold, p.hole)) =
      [(0, false, [⟨83, 2⟩, ⟨83, 3⟩]), (1, true, [⟨83, 4⟩, ⟨83, 5⟩]), (2, false, [⟨83, 6⟩, ⟨83, 7⟩])] ∧
    gFlop.burned = [⟨83, 8⟩] ∧ gFlop.board = [⟨83, 9⟩, ⟨83, 10⟩, ⟨83, 11⟩] := by decide +kernel

/-- the king-high spade flush of the board with the kicker `k` -/
def flushK (k power : Nat) : Option Comb :=
  some { cat := some .flush, cards := [⟨83, 13⟩, ⟨83, 11⟩, ⟨83, 10⟩, ⟨83, 9⟩, ⟨83, k⟩], power := power }

/-- the hand of `rToClose` before its last `next`, written out: river, checked down and closed, seat 1 folded -/
def gRiverLit : Game :=
  { opts := rMeta
    players := [
      { idx := 0, posDealer := true, posSB := false, posBB := false, bankroll := 100, initial := 90, stack := 90, pot := 10,
        hole := [⟨83, 2⟩, ⟨83, 3⟩], comb := flushK 3 739649 },
      { idx := 1, posDealer := false, posSB := true, posBB := false, fold := true, bankroll := 100, initial := 95, stack := 95,
        pot := 5, hole := [⟨83, 4⟩, ⟨83, 5⟩], comb := flushK 5 739651 },
      { idx := 2, posDealer := false, posSB := false, posBB := true, bankroll := 100, initial := 90, stack := 90, pot := 10,
        hole := [⟨83, 6⟩, ⟨83, 7⟩], comb := flushK 7 739653 }]
    miniBet := 10
    pots := [⟨10, 10, 25, [(0, 10), (1, 5), (2, 10)], [⟨5, 5, 15, [0, 1, 2]⟩, ⟨10, 5, 10, [0, 2]⟩]⟩]
    round := .river
    burned := [⟨83, 8⟩, ⟨83, 12⟩, ⟨83, 14⟩]
    board := [⟨83, 9⟩, ⟨83, 10⟩, ⟨83, 11⟩, ⟨83, 13⟩, ⟨72, 2⟩]
    deckPos := 14
    event := .roundClosed }

/-- The hand is evaluated here, up to the settlement; `gClose` is one `next` on `gRiverLit`. -/
theorem gClose_eq : gClose = (gRiverLit.step .next).1 := by
  have ho : ((start rCfg).1.run rToClose.dropLast).opts = gRiverLit.opts := by
    rw [(wr_run _ _).opts, (start_ok rCfg (by decide)).2.2]
    rfl
  have h : (start rCfg).1.run rToClose.dropLast = gRiverLit := Game.ext_fields ho (by decide +kernel)
  have e : rToClose = rToClose.dropLast ++ [.next] := by decide
  rw [gClose, e, run_append, h]
  rfl

theorem gClose_facts : gClose.event = .gameClosed ∧ gClose.deckPos = 14 ∧ gClose.opts.required = 0 ∧ gClose.opts.holeCount = 2 ∧
    gClose.players.map (fun p => (p.idx, p.fold, p.hole)) =
      [(0, false, [⟨83, 2⟩, ⟨83, 3⟩]), (1, true, [⟨83, 4⟩, ⟨83, 5⟩]), (2, false, [⟨83, 6⟩, ⟨83, 7⟩])] ∧
    gClose.burned = [⟨83, 8⟩, ⟨83, 12⟩, ⟨83, 14⟩] ∧
    gClose.board = [⟨83, 9⟩, ⟨83, 10⟩, ⟨83, 11⟩, ⟨83, 13⟩, ⟨72, 2⟩] := by
  rw [gClose_eq]
  decide +kernel

/-- `HiddenFrom` is satisfiable in a REACHABLE state, by each of its three clauses: on the flop the
    undealt Q♠, the burned 8♠ and seat 2's 6♠ are hidden from seat 0 … -/
theorem gFlop_hidden : HiddenFrom gFlop (some 0) ⟨83, 12⟩ ∧ HiddenFrom gFlop (some 0) ⟨83, 8⟩ ∧
    HiddenFrom gFlop (some 0) ⟨83, 6⟩ ∧ HiddenFrom gFlop none ⟨83, 2⟩ := by
  decide +kernel

/-- The theorem applies (all hypotheses hold) and says they are nowhere in seat 0's view. -/
example : (⟨83, 6⟩ : Card) ∉ cardFields (gFlop.view (some 0)) :=
  hidden_card_not_in_cardFields gFlop (rReach rToFlop) (some 0) _ gFlop_hidden.2.2.1

/-- Computed independently, that view holds exactly the viewer's own cards, the board, and the cards of
    the viewer's own combination (a subset of these). -/
example : cardFields (gFlop.asPlayer 0) =
    [⟨83, 9⟩, ⟨83, 10⟩, ⟨83, 11⟩, ⟨83, 2⟩, ⟨83, 3⟩, ⟨83, 11⟩, ⟨83, 10⟩, ⟨83, 9⟩, ⟨83, 3⟩, ⟨83, 2⟩] := by decide +kernel

/-- After the close the folded seat 1 stays hidden from seat 0 and from the observer, seat 2 is shown:
    4♠ (seat 1) is hidden, 6♠ (seat 2) is not — and does occur in the view. -/
theorem gClose_hidden : HiddenFrom gClose (some 0) ⟨83, 4⟩ ∧ HiddenFrom gClose none ⟨83, 4⟩ ∧
    ¬ HiddenFrom gClose (some 0) ⟨83, 6⟩ ∧ (⟨83, 6⟩ : Card) ∈ cardFields (gClose.asPlayer 0) ∧
    ¬ HiddenFrom gClose (some 1) ⟨83, 4⟩ := by
  rw [gClose_eq]
  decide +kernel

example : (⟨83, 4⟩ : Card) ∉ cardFields gClose.asObserver :=
  hidden_card_not_in_cardFields gClose (rReach rToClose) none _ gClose_hidden.2.1

/-- The no-duplicates hypothesis (inside `ReachableC`) is essential: on a deck that contains 9♠
    twice, the undealt copy is "hidden" yet the same card lies on the board. -/
example : let g := (start { rCfg with opts := { rMeta with deck := rDeck ++ [⟨83, 9⟩] } }).1.run rToFlop
    HiddenFrom g (some 0) ⟨83, 9⟩ ∧ (⟨83, 9⟩ : Card) ∈ (g.asPlayer 0).board := by
  decide +kernel

end ReachableExamples

end Pokerface.C15

section Axioms
open Pokerface.C15
#print axioms hidden_card_nowhere
#print axioms hidden_card_nowhere_in_view
#print axioms hidden_card_nowhere_in_observer_view
#print axioms hidden_card_not_in_cardFields
#print axioms combination_cards_are_own
end Axioms
