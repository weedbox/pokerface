/-
  C20  Rebalancing settles: players are not moved between tables forever.

  "With no new registrations and no eliminations, repeatedly syncing every table
   and carrying out the moves the regulator asks for reaches, within a small
   bounded number of sweeps, a state in which no table is asked to release,
   receive or break.  A table that is told to break hands back all of its
   players, and each of them is queued for another table."

  Proved here (all settings, all reachable states, all choices):
    * `break_returns_all`    — the second sentence, in full;
    * `stable_is_fixed`      — balanced states are fixed points of every `SyncState(t,0)`;
    * `moves_are_directed`   — releases only from above the water level and never below its
                               floor, arrivals only up to the floor, dispatch only up to `Required`;
    * `table_count_monotone` — the number of tables only moves towards the number needed;
    * `rebalancing_settles`  — the convergence bound of the first sentence: from every reachable
                               state at most `B` elimination-free syncs ask for anything, whatever
                               the order of tables, the choice of released players and the dispatch
                               choices (`B` explicit: `settle_bound`);
    * `rebalancing_reaches_settled`, `settled_persists` — hence among any `B + 1` sweeps one starts
                               in a state where no table is asked anything, and that stays so;
    * `rebalancing_settles_small` (end of file) — the SMALL bound: at most
                               `2·(e+1)·max + 5·T + 2·e + 2·(max+3)·u + 1` syncs, a fortiori sweeps, ask for
                               anything (`T` tables, `e` spare, `u` missing tables; `2·max + 5·T + 1` when
                               there are exactly the tables needed), and `sweeps_exceed_tables`: no bound
                               of the form `T + C` holds (3 tables, 9 players, 6 asking sweeps at max = 8;
                               3 tables, 17 players, 14 asking sweeps at max = 16).

  Domain: `Reachable s` (Model/RegulatorEnv.lean) = every state obtained from a fresh regulator
  with ANY setting with `1 ≤ max` (any `min`, no relation to `max`; with `max = 0` the Go code
  divides by zero in `float64`) by ANY finite history of valid operations in which the status
  only moves forward (`RSys.ok`; these conditions never block a history: `Reachable.add_total`,
  `Reachable.status_total`, `Reachable.sync_total`, Properties/C19.lean).
  No theorem here needs `2 ≤ min ≤ max`.  The forward-only restriction is needed by the
  convergence proof (its measure uses `count + required ≤ max` and the invariant `Q`, both false
  once `SetStatus(Pending)` is applied to a running competition, `C19.capacity_fails_after_
  return_to_pending`); the second sentence is proved without it (`break_returns_all_any`).

  A theorem named `…_inv` is stated for ANY state satisfying the invariant it names (`SInv`, `SInv0`;
  in C20Async.lean `AInv`, `IdsIssued`, `AInvF`); the theorem about reachable states of the same
  name, here and in C20Reentry.lean, is its instance at the invariant of that domain.
-/
import Pokerface.Proofs.RegSettleSys
import Pokerface.Proofs.RegAsyncSettle
import Pokerface.Proofs.RegSweepBound
import Pokerface.Proofs.RegSweepExplore

namespace Pokerface.C20
open Pokerface Reg RSys

theorem break_returns_all_inv {s : RSys} (hS : SInv0 s) (t : Nat) (elim stay rel keep ch ms : List Nat)
    (hm : s.env.membersOf t = some ms) (hok : s.okAny (.sync t elim stay rel keep ch))
    (hb : s.broken t elim = true) :
    ((s.syncAnswer t elim).2.2.1 = stay.length ∧ (s.syncAnswer t elim).2.2.2 = [] ∧
      rel.Perm stay ∧ keep = []) ∧
    (t ∉ (s.step (.sync t elim stay rel keep ch)).env.members.map (·.1) ∧
      (s.step (.sync t elim stay rel keep ch)).r.findTable t = none) ∧
    (∀ p ∈ rel,
      (p ∈ (s.step (.sync t elim stay rel keep ch)).r.queue ∨
        p ∈ handed (s.step (.sync t elim stay rel keep ch)).r.calls) ∧
      (p ∈ (s.step (.sync t elim stay rel keep ch)).r.queue ∨
        ∃ e ∈ (s.step (.sync t elim stay rel keep ch)).env.members, e.1 ≠ t ∧ p ∈ e.2)) := by
  -- the synchronous step is the sync followed at once by the report of everybody: the two halves
  -- of the asynchronous statement, joined by "the id of a broken table is not used again"
  have hA := hS.async
  have hex : ASys.expand s (.sync t elim stay rel keep ch) = [.sync t elim stay rel keep, .report t rel [] ch] := by
    simp only [ASys.expand, hm, hb]
    rw [if_neg (fun h => Bool.noConfusion h.2)]
  have hrun := ASys.run_expand s (.sync t elim stay rel keep ch)
  have hall := ASys.allOk_expand s _ hok
  rw [hex] at hrun hall
  obtain ⟨hok1, hok2, _⟩ := hall
  change ((ASys.ofRSys s).step (.sync t elim stay rel keep)).step (.report t rel [] ch) = _ at hrun
  have hm' : (ASys.ofRSys s).env.membersOf t = some ms := hm
  obtain ⟨h1, ⟨_, _, hgone⟩, _⟩ := break_returns_all_async_inv hA t elim stay rel keep ms hm' hok1 hb
  have hA1 := (hA.step_full _ hok1).1
  have hN1 : ASys.IdsIssued ((ASys.ofRSys s).step (.sync t elim stay rel keep)) :=
    (hA.step_ids _ (hA.okRe_of_ok hok1)).2.2 (fun e he => nomatch he)
  have hlt := sync_id_lt hA t elim stay rel keep ms hm' (hA.okRe_of_ok hok1)
  have hun2 := (((hA1.step_full _ hok2).1).unknown_iff t).1
    ((ASys.gone_stays_gone [.report t rel [] ch] _ hA1 ⟨hok2, trivial⟩ t hlt hgone).1)
  have hreq := requeued_elsewhere_inv hA1 hN1 t rel [] ch hok2 hgone
  rw [hrun] at hun2 hreq
  refine ⟨h1, ⟨fun hin => ?_, hun2⟩, hreq⟩
  have := (Env.membersOf_isSome_iff _ t).2 hin
  rw [((hS.step_full _ hok).1.unknown_iff t).2 hun2] at this
  cases this

/-- **break_returns_all** on the WIDEST domain (`ReachableAny`, C09: any setting, status changes in
    any direction — if the competition is pending again, "queued" is all that happens to the
    released players until the restart).  Let a valid sync of an existing table `t` (members `≈ elim ++ stay`)
    from a reachable state break the table.  Then
    * the regulator tells the table to release exactly its whole remaining membership
      (`|stay|`) and gives it nobody; the released players are all of `stay`, nobody is kept;
    * afterwards table `t` exists neither in reality nor on the regulator's sheet;
    * every released player is, after the environment's `ReleasePlayers`, in the waiting queue or
      was handed to a table by a callback of this very step — and that table is another table. -/
theorem break_returns_all_any {s : RSys} (h : ReachableAny s) (t : Nat) (elim stay rel keep ch ms : List Nat)
    (hm : s.env.membersOf t = some ms) (hok : s.okAny (.sync t elim stay rel keep ch))
    (hb : s.broken t elim = true) :
    ((s.syncAnswer t elim).2.2.1 = stay.length ∧ (s.syncAnswer t elim).2.2.2 = [] ∧
      rel.Perm stay ∧ keep = []) ∧
    (t ∉ (s.step (.sync t elim stay rel keep ch)).env.members.map (·.1) ∧
      (s.step (.sync t elim stay rel keep ch)).r.findTable t = none) ∧
    (∀ p ∈ rel,
      (p ∈ (s.step (.sync t elim stay rel keep ch)).r.queue ∨
        p ∈ handed (s.step (.sync t elim stay rel keep ch)).r.calls) ∧
      (p ∈ (s.step (.sync t elim stay rel keep ch)).r.queue ∨
        ∃ e ∈ (s.step (.sync t elim stay rel keep ch)).env.members, e.1 ≠ t ∧ p ∈ e.2)) :=
  break_returns_all_inv (SInv0.of_reachable h) t elim stay rel keep ch ms hm hok hb

/-- **break_returns_all**.  Let a valid sync of an existing table `t` (members `≈ elim ++ stay`)
    from a reachable state break the table.  Then
    * the regulator tells the table to release exactly its whole remaining membership
      (`|stay|`) and gives it nobody; the released players are all of `stay`, nobody is kept;
    * afterwards table `t` exists neither in reality nor on the regulator's sheet;
    * every released player is, after the environment's `ReleasePlayers`, in the waiting queue or
      was handed to a table by a callback of this very step — and that table is another table. -/
theorem break_returns_all {s : RSys} (h : Reachable s) (t : Nat) (elim stay rel keep ch ms : List Nat)
    (hm : s.env.membersOf t = some ms) (hok : s.ok (.sync t elim stay rel keep ch))
    (hb : s.broken t elim = true) :
    ((s.syncAnswer t elim).2.2.1 = stay.length ∧ (s.syncAnswer t elim).2.2.2 = [] ∧
      rel.Perm stay ∧ keep = []) ∧
    (t ∉ (s.step (.sync t elim stay rel keep ch)).env.members.map (·.1) ∧
      (s.step (.sync t elim stay rel keep ch)).r.findTable t = none) ∧
    (∀ p ∈ rel,
      (p ∈ (s.step (.sync t elim stay rel keep ch)).r.queue ∨
        p ∈ handed (s.step (.sync t elim stay rel keep ch)).r.calls) ∧
      (p ∈ (s.step (.sync t elim stay rel keep ch)).r.queue ∨
        ∃ e ∈ (s.step (.sync t elim stay rel keep ch)).env.members, e.1 ≠ t ∧ p ∈ e.2)) :=
  break_returns_all_any h.any t elim stay rel keep ch ms hm (okAny_of_ok hok) hb

/-- **stable_is_fixed** (regulator level, ANY state): if the regulator's total is the sum of its
    table counts (nobody queued, counts agree), it has exactly as many tables as it needs, and
    every table holds at least the floor of the water level `⌊players / tables needed⌋`, then
    `SyncState(t, 0)` on any table returns `(0, [])`, breaks nothing and changes nothing
    (`beginOp` only resets the model's scratch fields).  The upper bound `≤ ⌈wl⌉` of the informal
    statement is not needed. -/
theorem stable_is_fixed (r : Reg) (t : Nat) (t0 : RTable) (hf : r.findTable t = some t0)
    (hlen : r.tableCount = r.tables.length) (hT : r.tableCount = r.requiredTables)
    (hpc : r.playerCount = sumCount r.tables)
    (hfl : ∀ tb ∈ r.tables, r.playerCount / r.requiredTables ≤ tb.count) :
    r.syncState t 0 = (r.beginOp [], none, 0, []) :=
  syncState_zero_stable r t t0 hf hlen hT hpc hfl

theorem stable_is_fixed_inv {s : RSys} (hS : SInv s) (hq : s.r.queue = [])
    (hT : s.r.tableCount = s.r.requiredTables)
    (hfl : ∀ tb ∈ s.r.tables, s.r.playerCount / s.r.requiredTables ≤ tb.count)
    (t : Nat) (ms : List Nat) (hm : s.env.membersOf t = some ms) :
    s.syncAnswer t [] = (s.r.beginOp [], none, 0, []) ∧ s.broken t [] = false := by
  obtain ⟨⟨t0, hf⟩, _⟩ := hS.toSInv0.async.known_table hm
  have hpc : s.r.playerCount = sumCount s.r.tables := by
    have := hS.rinv.cnt
    rw [hq] at this
    simpa using this
  have heq := syncState_zero_stable s.r t t0 hf hS.rinv.wf.tc hT hpc hfl
  have hans : s.syncAnswer t [] = (s.r.beginOp [], none, 0, []) := heq
  refine ⟨hans, ?_⟩
  simp only [broken, hans]
  have : (s.r.beginOp []).findTable t = some t0 := hf
  rw [this]
  rfl

/-- **stable_is_fixed** for reachable states: queue empty ∧ tableCount = requiredTables ∧ every
    table at or above `⌊wl⌋` ⇒ no table is asked to release, receive or break. -/
theorem stable_is_fixed_reachable {s : RSys} (h : Reachable s) (hq : s.r.queue = [])
    (hT : s.r.tableCount = s.r.requiredTables)
    (hfl : ∀ tb ∈ s.r.tables, s.r.playerCount / s.r.requiredTables ≤ tb.count)
    (t : Nat) (ms : List Nat) (hm : s.env.membersOf t = some ms) :
    s.syncAnswer t [] = (s.r.beginOp [], none, 0, []) ∧ s.broken t [] = false :=
  stable_is_fixed_inv (SInv.of_reachable h) hq hT hfl t ms hm

/-- **moves_are_directed**, `SyncState` half (ANY state, ANY elimination count `out`).  With
    `pc = playerCount − out`, `R = ⌈pc / max⌉`, `tc` = the table's count after the eliminations:
    * if the table is not broken and told to release `rel > 0` players, it is strictly above the
      water level (`pc < tc·R`) and stays at or above its floor (`⌊pc/R⌋ ≤ tc − rel`);
    * if it receives players from the queue, it is strictly below the water level, ends at or
      below the floor (`tc + |new| ≤ ⌊pc/R⌋`), and is told to release nobody. -/
theorem moves_are_directed (r : Reg) (t : Nat) (out : Int) (t0 : RTable) (hf : r.findTable t = some t0) :
    ((r.syncState t out).1.findTable t ≠ none → 0 < (r.syncState t out).2.2.1 →
        r.playerCount - out < (t0.count - out) * ceilDiv (r.playerCount - out) r.max ∧
        (r.playerCount - out) / ceilDiv (r.playerCount - out) r.max ≤ t0.count - out - (r.syncState t out).2.2.1) ∧
    ((r.syncState t out).2.2.2 ≠ [] →
        (t0.count - out) * ceilDiv (r.playerCount - out) r.max < r.playerCount - out ∧
        t0.count - out + ((r.syncState t out).2.2.2.length : Int) ≤
          (r.playerCount - out) / ceilDiv (r.playerCount - out) r.max ∧
        (r.syncState t out).2.2.1 = 0) :=
  syncState_directed r t out t0 hf

/-- **moves_are_directed**, dispatch half: every `assignPlayersFn` callback is made by
    `dispatchPlayer`, which picks a table with `Required > 0` and hands it a prefix of the
    candidates no longer than that `Required`. -/
theorem dispatch_is_directed {r r' : Reg} {cands rest : List Nat}
    (h : r.dispatchPlayer cands = some (rest, r')) (hb : r'.badChoice = false) :
    ∃ tb ∈ r.tables, 0 < tb.required ∧ ∃ picked, r'.calls = r.calls ++ [RCall.assign tb.id picked] ∧
      (picked.length : Int) ≤ tb.required ∧ cands = picked ++ rest :=
  dispatchPlayer_directed h hb

/-- **table_count_monotone** (ANY regulator state with
    `max > 0`).  In a sync without eliminations followed by the `ReleasePlayers` it triggers, the
    number of tables needed `R = ⌈players/max⌉` does not change, and the number of tables `T`
    * drops by at most one in `SyncState`, and only if `R < T` (a break),
    * never drops and never rises above `max T R` in `ReleasePlayers` (allocations only while `T < R`).
    So `|T − R|` never increases, and decreases by one at each break and each allocation. -/
theorem table_count_monotone (r : Reg) (t : Nat) (rel ch : List Nat) (hm : 0 < r.max) :
    let r1 := (r.syncState t 0).1
    let r2 := r1.releasePlayers rel ch
    r1.requiredTables = r.requiredTables ∧ r2.requiredTables = r.requiredTables ∧
    (r1.tableCount = r.tableCount ∨ (r1.tableCount = r.tableCount - 1 ∧ r.requiredTables < r.tableCount)) ∧
    r1.tableCount ≤ r2.tableCount ∧
    (r2.tableCount = r1.tableCount ∨ r2.tableCount ≤ r.requiredTables) := by
  intro r1 r2
  obtain ⟨h1, h2⟩ := syncState_zero_tc r t
  obtain ⟨h3, h4, h5⟩ := releasePlayers_tc r1 rel ch (by rw [h1.max]; exact hm)
  refine ⟨h1.req, (h1.trans h3).req, h2, h4, ?_⟩
  rcases h5 with h5 | h5
  · exact Or.inl h5
  · exact Or.inr (by rw [h1.req] at h5; exact h5)

/-- no table is asked to release, receive or break -/
def Settled (s : RSys) : Prop :=
  ∀ t ms, s.env.membersOf t = some ms →
    (s.syncAnswer t []).2.2.1 = 0 ∧ (s.syncAnswer t []).2.2.2 = [] ∧ s.broken t [] = false

theorem settled_iff_answer0 (s : RSys) :
    Settled s ↔ ∀ t, (s.env.membersOf t).isSome = true → answer0 s.r t = (0, [], false) := by
  constructor
  · intro h t ht
    obtain ⟨ms, hm⟩ := Option.isSome_iff_exists.1 ht
    obtain ⟨h1, h2, h3⟩ := h t ms hm
    exact Prod.ext h1 (Prod.ext h2 h3)
  · intro h t ms hm
    have := h t (by rw [hm]; rfl)
    exact ⟨congrArg (·.1) this, congrArg (·.2.1) this, congrArg (·.2.2) this⟩

/-- being settled reads nothing but what a `Frame` keeps and which tables exist -/
theorem settled_of_frame {s s' : RSys} (hfr : Frame s.r s'.r)
    (hids : s'.env.members.map (·.1) = s.env.members.map (·.1)) (hs : Settled s) : Settled s' := by
  rw [settled_iff_answer0] at hs ⊢
  intro t ht
  rw [frame_answer hfr t]
  apply hs t
  rw [Env.membersOf_isSome_iff, ← hids, ← Env.membersOf_isSome_iff]
  exact ht

/-- `Settled` says exactly that no elimination-free sync asks for anything
    (`RSys.asks`: release count ≠ 0, or new players, or the table is broken). -/
theorem settled_iff (s : RSys) :
    Settled s ↔ ∀ t stay rel keep ch, s.asks (.sync t [] stay rel keep ch) = false := by
  rw [settled_iff_answer0]
  exact ⟨fun h t stay rel keep ch => (asks_false_iff s t stay rel keep ch).2 (h t),
    fun h t => (asks_false_iff s t [] [] [] []).1 (h t [] [] [] [])⟩

/-- the explicit bound: the termination measure of the state, encoded as a number, with
    `Tmax = max(tables, tables needed)` and weight `W = Tmax·max + Tmax + 1`; it is below `W⁶`,
    a (coarse) polynomial in the number of tables and `max` -/
def settle_bound (s : RSys) : Nat :=
  let Tmax := (Max.max s.r.tableCount s.r.requiredTables).toNat
  Reg.pot (Tmax * s.r.max + Tmax + 1) s.r

/-- the statement of **rebalancing_settles**: from every reachable state there is a bound `B`
    such that along EVERY valid sequence of elimination-free syncs — any order of tables, any
    choice of who is released, any dispatch choices — at most `B` syncs ask their table to
    release, receive or break.  A sweep that asks for something contains such a sync, so at most
    `B` sweeps do. -/
def rebalancing_settles : Prop :=
  ∀ s : RSys, Reachable s → ∃ B : Nat, ∀ ops : List EOp,
    (∀ op ∈ ops, quietOp op = true) → s.allOk ops → s.askCount ops ≤ B

theorem settle_bound_inv {s : RSys} (hS : SInv s) (ops : List EOp)
    (hq : ∀ op ∈ ops, quietOp op = true) (hok : s.allOk ops) : s.askCount ops ≤ settle_bound s := by
  have h0 : 0 ≤ s.r.tableCount := by
    rw [hS.rinv.wf.tc]
    omega
  exact askCount_le s.r.max (Max.max s.r.tableCount s.r.requiredTables).toNat ops s hS rfl
    (by omega) (by omega) hq hok

/-- **rebalancing_settles**, with the explicit bound.  The proof is a termination argument: the
    lexicographic measure `( |T − R| , #deficit tables , B , A , S , Λ )` of
    `Proofs/RegMeasure.lean` strictly decreases at every sync that asks for something and never
    increases otherwise (`RSys.quiet_step`), and all its components are bounded by `W` on the
    states of such a run. -/
theorem rebalancing_settles_bound {s : RSys} (h : Reachable s) (ops : List EOp)
    (hq : ∀ op ∈ ops, quietOp op = true) (hok : s.allOk ops) : s.askCount ops ≤ settle_bound s :=
  settle_bound_inv (SInv.of_reachable h) ops hq hok

theorem rebalancing_settles_holds : rebalancing_settles :=
  fun s h => ⟨settle_bound s, fun ops hq hok => rebalancing_settles_bound h ops hq hok⟩

/-- balanced states are settled (and by `stable_is_fixed` stay exactly as they are under every
    further sync) -/
theorem balanced_is_settled {s : RSys} (h : Reachable s) (hq : s.r.queue = [])
    (hT : s.r.tableCount = s.r.requiredTables)
    (hfl : ∀ tb ∈ s.r.tables, s.r.playerCount / s.r.requiredTables ≤ tb.count) : Settled s := by
  intro t ms hm
  obtain ⟨h1, h2⟩ := stable_is_fixed_reachable h hq hT hfl t ms hm
  rw [h1]
  exact ⟨rfl, rfl, h2⟩

theorem settled_persists_inv {s : RSys} (hS : SInv s) (hs : Settled s) (op : EOp)
    (hq : quietOp op = true) (hok : s.ok op) : s.asks op = false ∧ Settled (s.step op) := by
  obtain ⟨t, stay, rel, keep, ch, rfl⟩ := quietOp_sync hq
  have hna := (settled_iff s).1 hs t stay rel keep ch
  obtain ⟨hfr, hids⟩ := noask_frame hS t stay rel keep ch hok hna
  exact ⟨hna, settled_of_frame hfr hids hs⟩

/-- a settled state stays settled: an elimination-free sync asks nothing there and leaves a
    settled state (it can only refresh a `Required`, which no answer depends on) -/
theorem settled_persists {s : RSys} (h : Reachable s) (hs : Settled s) (op : EOp)
    (hq : quietOp op = true) (hok : s.ok op) : s.asks op = false ∧ Settled (s.step op) :=
  settled_persists_inv (SInv.of_reachable h) hs op hq hok

theorem quiet_sweep_settled_inv {s : RSys} (hS : SInv s) (ops : List EOp)
    (hq : ∀ op ∈ ops, quietOp op = true) (hok : s.allOk ops) (h0 : s.askCount ops = 0)
    (hcover : ∀ t ms, s.env.membersOf t = some ms → ∃ stay rel keep ch, EOp.sync t [] stay rel keep ch ∈ ops) :
    Settled s :=
  (settled_iff_answer0 s).2 fun t ht =>
    have ⟨ms, hm⟩ := Option.isSome_iff_exists.1 ht
    noask_script_answers ops s hS hq hok h0 t (hcover t ms hm) ht

/-- a whole sweep (every existing table is synced at least once) in which nobody is asked
    anything starts — and by `settled_persists` ends — in a settled state -/
theorem quiet_sweep_settled {s : RSys} (h : Reachable s) (ops : List EOp)
    (hq : ∀ op ∈ ops, quietOp op = true) (hok : s.allOk ops) (h0 : s.askCount ops = 0)
    (hcover : ∀ t ms, s.env.membersOf t = some ms → ∃ stay rel keep ch, EOp.sync t [] stay rel keep ch ∈ ops) :
    Settled s :=
  quiet_sweep_settled_inv (SInv.of_reachable h) ops hq hok h0 hcover

/-- whatever bounds the number of asking syncs bounds the number of sweeps before a settled state:
    among more than `B` covering sweeps one starts in a settled state -/
theorem reaches_settled_of_bound {s : RSys} (hS : SInv s) (sweeps : List (List EOp))
    (hq : ∀ sw ∈ sweeps, ∀ op ∈ sw, quietOp op = true) (hok : s.allOk sweeps.flatten)
    (hcover : ∀ pre sw post, sweeps = pre ++ sw :: post → ∀ t ms,
      (s.run pre.flatten).env.membersOf t = some ms → ∃ stay rel keep ch, EOp.sync t [] stay rel keep ch ∈ sw)
    (B : Nat) (hb : s.askCount sweeps.flatten ≤ B) (hlen : B < sweeps.length) :
    ∃ pre sw post, sweeps = pre ++ sw :: post ∧ Settled (s.run pre.flatten) := by
  obtain ⟨pre, sw, post, he, h0, hok1, hok2⟩ :=
    exists_zero_block run_append (fun _ => rfl) askCount_append allOk_append (fun _ => trivial) sweeps s hok
      (by omega)
  exact ⟨pre, sw, post, he, quiet_sweep_settled_inv (hS.run pre.flatten hok1) sw
    (fun op hop => hq sw (by rw [he]; simp) op hop) hok2 h0 (hcover pre sw post he)⟩

/-- **rebalancing reaches a settled state within `settle_bound + 1` sweeps**: take any valid
    sequence of more than `settle_bound s` elimination-free sweeps from a reachable state, each
    sweep syncing every table that exists when the sweep starts (in any order, possibly more
    than once, with any choices).  Then one of the sweeps starts in a state in which no table is
    asked to release, receive or break — and by `settled_persists` this remains so. -/
theorem rebalancing_reaches_settled {s : RSys} (h : Reachable s) (sweeps : List (List EOp))
    (hq : ∀ sw ∈ sweeps, ∀ op ∈ sw, quietOp op = true) (hok : s.allOk sweeps.flatten)
    (hcover : ∀ pre sw post, sweeps = pre ++ sw :: post → ∀ t ms,
      (s.run pre.flatten).env.membersOf t = some ms → ∃ stay rel keep ch, EOp.sync t [] stay rel keep ch ∈ sw)
    (hlen : settle_bound s < sweeps.length) :
    ∃ pre sw post, sweeps = pre ++ sw :: post ∧ Settled (s.run pre.flatten) :=
  reaches_settled_of_bound (SInv.of_reachable h) sweeps hq hok hcover (settle_bound s)
    (rebalancing_settles_bound h sweeps.flatten (List.forall_mem_flatten.2 hq) hok) hlen

/-! ### non-vacuity -/

/-- 12 registrants at 9/6 make two tables of six; four eliminations at table 1 leave 8 players,
    one table suffices, both tables are low: table 1 is broken and its two players go to table 2 -/
def start12 : List EOp := [.add [1,2,3,4,5,6,7,8,9,10,11,12] [], .status .normal []]
def breakOp : EOp := .sync 1 [1,2,3,4] [5,6] [5,6] [] [2]

example : Reachable ((RSys.init 9 6).run start12) :=
  (Reachable.init 9 6 (by decide +kernel)).run start12 (by decide +kernel)
example : ((RSys.init 9 6).run start12).ok breakOp := by decide +kernel
example : ((RSys.init 9 6).run start12).broken 1 [1,2,3,4] = true := by decide +kernel
example : (((RSys.init 9 6).run start12).step breakOp).env.members = [(2, [7,8,9,10,11,12,5,6])] := by decide +kernel
example : (((RSys.init 9 6).run start12).step breakOp).r.calls = [.assign 2 [5, 6]] := by decide +kernel

/-- the state after the start is balanced: the hypotheses of `stable_is_fixed_reachable` hold -/
example : ((RSys.init 9 6).run start12).r.queue = [] ∧
    ((RSys.init 9 6).run start12).r.tableCount = ((RSys.init 9 6).run start12).r.requiredTables ∧
    (∀ tb ∈ ((RSys.init 9 6).run start12).r.tables,
      ((RSys.init 9 6).run start12).r.playerCount / ((RSys.init 9 6).run start12).r.requiredTables ≤ tb.count) := by
  decide +kernel

/-- a release from above the water level (hypotheses of `moves_are_directed`, first half):
    27 registrants at 9/6, six eliminations at table 1; table 2 (9 players, water level 7) is told
    to release two -/
def start27 : List EOp :=
  [.add ((List.range 27).map (· + 1)) [], .status .normal [], .sync 1 [1,2,3,4,5,6] [7,8,9] [] [7,8,9] []]
example : Reachable ((RSys.init 9 6).run start27) :=
  (Reachable.init 9 6 (by decide +kernel)).run start27 (by decide +kernel)
example : (((RSys.init 9 6).run start27).r.syncState 2 0).2.2.1 = 2 := by decide +kernel
/-- an arrival from the queue (second half): player 13 waits, table 1 loses two and receives him -/
example : (((RSys.init 6 5).run [.add [1,2,3,4,5,6,7,8,9,10,11,12,13] [], .status .normal []]).r.syncState 1 2).2.2.2
    = [13] := by decide +kernel
/-- the counting of asking syncs is not trivial -/
example : ((RSys.init 9 6).run start12).askCount [breakOp, .sync 2 [] [7,8,9,10,11,12,5,6] [] [7,8,9,10,11,12,5,6] []] = 1 := by
  decide +kernel

/-- a rebalancing run (hypotheses of `rebalancing_settles_bound`, `quiet_sweep_settled`,
    `rebalancing_reaches_settled` are satisfiable): after `start27` the tables hold 3/9/9; the first
    sweep moves two players from table 2 and two from table 3 to table 1 (two asking syncs), the
    second sweep asks nothing and covers all three tables: 7/7/7 is settled -/
def sweep1 : List EOp :=
  [.sync 2 [] [10,11,12,13,14,15,16,17,18] [10,11] [12,13,14,15,16,17,18] [1],
   .sync 3 [] [19,20,21,22,23,24,25,26,27] [19,20] [21,22,23,24,25,26,27] [1],
   .sync 1 [] [7,8,9,10,11,19,20] [] [7,8,9,10,11,19,20] []]
def sweep2 : List EOp :=
  [.sync 1 [] [7,8,9,10,11,19,20] [] [7,8,9,10,11,19,20] [],
   .sync 2 [] [12,13,14,15,16,17,18] [] [12,13,14,15,16,17,18] [],
   .sync 3 [] [21,22,23,24,25,26,27] [] [21,22,23,24,25,26,27] []]

example : ((RSys.init 9 6).run start27).allOk (sweep1 ++ sweep2) := by decide +kernel
example : ∀ op ∈ sweep1 ++ sweep2, quietOp op = true := by decide +kernel
example : ((RSys.init 9 6).run start27).askCount (sweep1 ++ sweep2) = 2 := by decide +kernel
example : (((RSys.init 9 6).run start27).run sweep1).askCount sweep2 = 0 := by decide +kernel
example : (((RSys.init 9 6).run start27).run sweep1).env.members =
    [(1, [7,8,9,10,11,19,20]), (2, [12,13,14,15,16,17,18]), (3, [21,22,23,24,25,26,27])] := by decide +kernel

/-- the small bound, closed form.  With `T` = number of tables, `R = ⌈players/max⌉` = tables
    needed, `e = (T − R)⁺` spare tables and `u = (R − T)⁺` missing tables it is
    `2·(e + 1)·max + 5·T + 2·e + 2·(max + 3)·u + 1`; with exactly the tables needed, `2·max + 5·T + 1`.
    It does not mention the number of players. -/
def small_bound (s : RSys) : Nat := Reg.smallBound s.r

theorem small_bound_eq (s : RSys) :
    small_bound s =
      2 * ((s.r.tableCount - s.r.requiredTables).toNat + 1) * s.r.max + 5 * s.r.tables.length +
        2 * (s.r.tableCount - s.r.requiredTables).toNat +
        2 * (s.r.max + 3) * (s.r.requiredTables - s.r.tableCount).toNat + 1 := rfl

/-- with exactly the tables needed the bound is `2·max + 5·tables + 1` -/
theorem small_bound_balanced (s : RSys) (h : s.r.tableCount = s.r.requiredTables) :
    small_bound s = 2 * s.r.max + 5 * s.r.tables.length + 1 := by
  rw [small_bound_eq, h]
  simp

/-- the finer, state-dependent bound behind it: the potential `Reg.phi` of `Proofs/RegSweepDefs.lean`,
    `2·(G + [not calm]·T + e + (max+2)·u) + D + [queue ≠ ∅]` with `G = Σ (count + Required − ⌊wl⌋)⁺`
    and `D` the number of tables below `⌊wl⌋` -/
def potential (s : RSys) : Nat := Reg.phi s.r

theorem potential_le_small_bound_inv {s : RSys} (hS : SInv s) : potential s ≤ small_bound s :=
  phi_le_smallBound s.r hS.rinv.wf hS.rinv.pc_nonneg

theorem small_syncs_inv {s : RSys} (hS : SInv s) (ops : List EOp)
    (hq : ∀ op ∈ ops, quietOp op = true) (hok : s.allOk ops) : s.askCount ops ≤ small_bound s :=
  Nat.le_trans (askCount_le_phi ops s hS hq hok) (potential_le_small_bound_inv hS)

theorem potential_le_small_bound {s : RSys} (h : Reachable s) : potential s ≤ small_bound s :=
  potential_le_small_bound_inv (SInv.of_reachable h)

/-- **rebalancing_settles_small**, counted in syncs.  From every reachable state, along EVERY valid
    sequence of elimination-free syncs — any order of tables, any choice of who is released, any
    dispatch choices — at most `small_bound s` syncs ask their table to release, receive or break.
    The proof is a potential argument: `Reg.phi` never rises in such a sync (together with the
    `ReleasePlayers` it triggers) and drops by at least one when the sync asks for something
    (`RSys.quiet_step_phi`). -/
theorem rebalancing_settles_small_syncs {s : RSys} (h : Reachable s) (ops : List EOp)
    (hq : ∀ op ∈ ops, quietOp op = true) (hok : s.allOk ops) : s.askCount ops ≤ small_bound s :=
  small_syncs_inv (SInv.of_reachable h) ops hq hok

/-- number of sweeps of a sequence in which at least one sync asks for something -/
def askingSweeps : RSys → List (List EOp) → Nat
  | _, [] => 0
  | s, sw :: rest => (if 1 ≤ s.askCount sw then 1 else 0) + askingSweeps (s.run sw) rest

theorem askingSweeps_le (sweeps : List (List EOp)) : ∀ s : RSys,
    askingSweeps s sweeps ≤ s.askCount sweeps.flatten := by
  induction sweeps with
  | nil =>
    intro _
    exact Nat.zero_le _
  | cons sw rest ih =>
    intro s
    have := ih (s.run sw)
    simp only [askingSweeps, List.flatten_cons, askCount_append]
    split <;> omega

/-- **rebalancing_settles_small** (first sentence of C20, with a small bound in SWEEPS).  From every
    reachable state `s`, take any valid sequence of elimination-free sweeps (`sweeps`: each a list of
    syncs without eliminations — in particular each may be one sync of every open table, in any order,
    with any choice of released players and any dispatch choices; tables broken during a sweep simply
    drop out).  Then the number of sweeps in which at least one table is asked to release, receive or
    break is at most `small_bound s = 2·(e+1)·max + 5·T + 2·e + 2·(max+3)·u + 1`
    (`2·max + 5·T + 1` with exactly the tables needed): linear in the number of tables plus `max`,
    independent of the number of players.  No covering hypothesis is needed for the count: the bound
    holds for every way of cutting an elimination-free script into blocks.  A bound `T + C` is
    impossible, see `sweeps_exceed_tables`. -/
theorem rebalancing_settles_small {s : RSys} (h : Reachable s) (sweeps : List (List EOp))
    (hq : ∀ sw ∈ sweeps, ∀ op ∈ sw, quietOp op = true) (hok : s.allOk sweeps.flatten) :
    askingSweeps s sweeps ≤ small_bound s :=
  Nat.le_trans (askingSweeps_le sweeps s) (rebalancing_settles_small_syncs h _ (List.forall_mem_flatten.2 hq) hok)

/-- the usual case spelled out: when the state has exactly the tables it needs, at most
    `2·max + 5·tables + 1` sweeps ask for anything -/
theorem rebalancing_settles_small_balanced {s : RSys} (h : Reachable s) (hT : s.r.tableCount = s.r.requiredTables)
    (sweeps : List (List EOp)) (hq : ∀ sw ∈ sweeps, ∀ op ∈ sw, quietOp op = true)
    (hok : s.allOk sweeps.flatten) :
    askingSweeps s sweeps ≤ 2 * s.r.max + 5 * s.r.tables.length + 1 := by
  rw [← small_bound_balanced s hT]
  exact rebalancing_settles_small h sweeps hq hok

/-- the same with the state-dependent potential as bound (it is usually far smaller) -/
theorem rebalancing_settles_potential {s : RSys} (h : Reachable s) (sweeps : List (List EOp))
    (hq : ∀ sw ∈ sweeps, ∀ op ∈ sw, quietOp op = true) (hok : s.allOk sweeps.flatten) :
    askingSweeps s sweeps ≤ potential s :=
  Nat.le_trans (askingSweeps_le sweeps s)
    (askCount_le_phi _ s (SInv.of_reachable h) (List.forall_mem_flatten.2 hq) hok)

/-- **rebalancing reaches a settled state within `small_bound + 1` sweeps**: take any valid sequence
    of more than `small_bound s` elimination-free sweeps from a reachable state, each sweep syncing
    every table that exists when the sweep starts (any order, possibly more than once, any choices).
    Then one of the sweeps starts in a state in which no table is asked to release, receive or
    break — and by `settled_persists` this remains so. -/
theorem rebalancing_reaches_settled_small {s : RSys} (h : Reachable s) (sweeps : List (List EOp))
    (hq : ∀ sw ∈ sweeps, ∀ op ∈ sw, quietOp op = true) (hok : s.allOk sweeps.flatten)
    (hcover : ∀ pre sw post, sweeps = pre ++ sw :: post → ∀ t ms,
      (s.run pre.flatten).env.membersOf t = some ms → ∃ stay rel keep ch, EOp.sync t [] stay rel keep ch ∈ sw)
    (hlen : small_bound s < sweeps.length) :
    ∃ pre sw post, sweeps = pre ++ sw :: post ∧ Settled (s.run pre.flatten) :=
  reaches_settled_of_bound (SInv.of_reachable h) sweeps hq hok hcover (small_bound s)
    (rebalancing_settles_small_syncs h sweeps.flatten (List.forall_mem_flatten.2 hq) hok) hlen

/-! non-vacuity of the small bound: the rebalancing run `sweep1`, `sweep2` after `start27`
    (three tables 3/9/9 at max 9): one asking sweep, bound `2·9 + 5·3 + 1 = 34`, potential 9 -/
example : ∀ sw ∈ [sweep1, sweep2], ∀ op ∈ sw, quietOp op = true := by decide +kernel
example : ((RSys.init 9 6).run start27).allOk [sweep1, sweep2].flatten := by decide +kernel
example : askingSweeps ((RSys.init 9 6).run start27) [sweep1, sweep2] = 1 := by decide +kernel
example : small_bound ((RSys.init 9 6).run start27) = 34 := by decide +kernel
example : potential ((RSys.init 9 6).run start27) = 9 := by decide +kernel

/-! ### a bound `tables + C` is impossible: the number of asking sweeps grows with `max`

  At `max = M` (even, ≥ 8), `min = 2`: `M²` registrants make `M` tables of `M`.  Table 1 loses `M/2`
  players (`Required := M/2 − 1`), table 2 loses `M/2 − 1` (`Required := M/2 − 2`), tables 3 … M lose
  everybody (3 … M−1 are broken; table `M` is then the only table below the level and survives, empty,
  with `Required = M/2`).  Now `M + 1` players sit at 3 tables (`M/2`, `M/2 + 1`, 0), two tables would
  do, `⌊wl⌋ = M/2`.  In every sweep the table holding `M/2 + 1` is told to release one player (table
  `M` is in deficit), and `getAvailableTable` (a Go map iteration) may hand that player to the other
  table, whose stale `Required` is still positive, instead of table `M`: `M − 2` sweeps in a row ask
  for something.  The stale `Required`s — the term `G` of the potential — are what a dispatch order
  can waste one sweep at a time.  Kernel-checked below for `M = 8` (6 asking sweeps) and `M = 16`
  (14 asking sweeps on 3 tables with 17 players: more than `tables + 10`). -/

def witStart (M : Nat) : List EOp := [.add ((List.range (M * M)).map (· + 1)) [], .status .normal []]
/-- `(table, eliminations, dispatch choices)` of the syncs that lead to the witness state -/
def witPrep (M : Nat) : List (Nat × Nat × List Nat) :=
  [(1, M / 2, []), (2, M / 2 - 1, [])] ++ ((List.range (M - 2)).map fun i => (i + 3, M, []))
def witOps (M : Nat) : List EOp := witStart M ++ scriptOps ((RSys.init M 2).run (witStart M)) (witPrep M)
def wit (M : Nat) : RSys := (RSys.init M 2).run (witOps M)

/-- a sweep: the empty table `M` first, then the table at the level, then the table above it, whose
    released player is dispatched to the other one — `swA`: table 2 releases to table 1, `swB`: table 1
    releases to table 2, `swLast`: table 1 releases and only table `M` is left to take the player -/
def swA (M : Nat) : List (Nat × Nat × List Nat) := [(M, 0, []), (1, 0, []), (2, 0, [1])]
def swB (M : Nat) : List (Nat × Nat × List Nat) := [(M, 0, []), (2, 0, []), (1, 0, [2])]
def swLast (M : Nat) : List (Nat × Nat × List Nat) := [(M, 0, []), (2, 0, []), (1, 0, [M])]
def swAlt (M : Nat) : Nat → List (List (Nat × Nat × List Nat))
  | 0 => []
  | n + 1 => swA M :: swB M :: swAlt M n
/-- `M − 2` sweeps -/
def witSweeps (M : Nat) : List (List (Nat × Nat × List Nat)) := swAlt M (M / 2 - 2) ++ [swA M, swLast M]

/-- the operations of a list of sweep scripts, sweep by sweep -/
def sweepOps : RSys → List (List (Nat × Nat × List Nat)) → List (List EOp)
  | _, [] => []
  | s, sw :: rest => scriptOps s sw :: sweepOps (s.run (scriptOps s sw)) rest

/-- the registrants `1 … n` of `witStart` are distinct: by the order of `List.range`, not by
    comparing them pairwise -/
theorem nodup_range_succ (n : Nat) : ((List.range n).map (· + 1)).Nodup :=
  List.pairwise_lt_range.map _ fun _ _ h => Nat.ne_of_lt (Nat.succ_lt_succ h)

/-- the witness history is valid: its registration by `nodup_range_succ`, the rest by evaluation -/
theorem witOps_ok (M : Nat) (h1 : ∀ p ∈ (List.range (M * M)).map (· + 1), p ∉ (RSys.init M 2).env.registered)
    (h2 : ((RSys.init M 2).r.addPlayers ((List.range (M * M)).map (· + 1)) []).1.badChoice = false)
    (h3 : ((RSys.init M 2).step (.add ((List.range (M * M)).map (· + 1)) [])).ok (.status .normal []))
    (h4 : ((RSys.init M 2).run (witStart M)).allOk (scriptOps ((RSys.init M 2).run (witStart M)) (witPrep M))) :
    (RSys.init M 2).allOk (witOps M) :=
  (allOk_append _ _ _).2 ⟨⟨⟨nodup_range_succ _, h1, h2⟩, h3, trivial⟩, h4⟩

theorem wit8_reachable : Reachable (wit 8) :=
  (Reachable.init 8 2 (by decide +kernel)).run (witOps 8)
    (witOps_ok 8 (by decide +kernel) (by decide +kernel) (by decide +kernel) (by decide +kernel))

theorem wit16_reachable : Reachable (wit 16) :=
  (Reachable.init 16 2 (by decide +kernel)).run (witOps 16)
    (witOps_ok 16 (by decide +kernel) (by decide +kernel) (by decide +kernel) (by decide +kernel))

/-- **sweeps_exceed_tables** (`max = 8`): a reachable state with 3 tables and 9 players and six
    consecutive valid elimination-free sweeps, each syncing each of the three tables exactly once,
    each asking for something. -/
theorem sweeps_exceed_tables :
    Reachable (wit 8) ∧ (wit 8).r.tables.length = 3 ∧ (wit 8).r.playerCount = 9 ∧
    (wit 8).r.requiredTables = 2 ∧
    (∀ sw ∈ sweepOps (wit 8) (witSweeps 8), ∀ op ∈ sw, quietOp op = true) ∧
    (wit 8).allOk (sweepOps (wit 8) (witSweeps 8)).flatten ∧
    (sweepOps (wit 8) (witSweeps 8)).length = 6 ∧
    askingSweeps (wit 8) (sweepOps (wit 8) (witSweeps 8)) = 6 :=
  ⟨wit8_reachable, by decide +kernel⟩

/-- the witness run at `max = 16`, evaluated once -/
theorem wit16_run :
    (wit 16).r.tables.length = 3 ∧ (wit 16).r.playerCount = 17 ∧
    (∀ sw ∈ sweepOps (wit 16) (witSweeps 16), ∀ op ∈ sw, quietOp op = true) ∧
    (wit 16).allOk (sweepOps (wit 16) (witSweeps 16)).flatten ∧
    askingSweeps (wit 16) (sweepOps (wit 16) (witSweeps 16)) = 14 := by decide +kernel

/-- **sweeps_exceed_tables_plus_ten** (`max = 16`): a reachable state with 3 tables and 17 players
    and fourteen consecutive valid elimination-free sweeps, each syncing each of the three tables
    exactly once, each asking for something: `askingSweeps ≤ tables + 10` is false of the model. -/
theorem sweeps_exceed_tables_plus_ten :
    Reachable (wit 16) ∧ (wit 16).r.tables.length = 3 ∧ (wit 16).r.playerCount = 17 ∧
    (∀ sw ∈ sweepOps (wit 16) (witSweeps 16), ∀ op ∈ sw, quietOp op = true) ∧
    (wit 16).allOk (sweepOps (wit 16) (witSweeps 16)).flatten ∧
    (wit 16).r.tables.length + 10 < askingSweeps (wit 16) (sweepOps (wit 16) (witSweeps 16)) :=
  ⟨wit16_reachable, wit16_run.1, wit16_run.2.1, wit16_run.2.2.1, wit16_run.2.2.2.1, by
    rw [wit16_run.1, wit16_run.2.2.2.2]
    decide⟩

/-- every sweep of the witness run syncs each of the open tables 1, 2 and 8 exactly once (none is
    broken: the final sheet below still lists all three) -/
example : (sweepOps (wit 8) (witSweeps 8)).map (fun sw => sw.map fun op =>
      match op with
      | .sync t _ _ _ _ _ => t
      | _ => 0) =
    [[8, 1, 2], [8, 2, 1], [8, 1, 2], [8, 2, 1], [8, 1, 2], [8, 2, 1]] := by decide +kernel

/-- the tables of the witness: ids, counts, `Required`s; what the bound and the potential say; and
    the settled state the run ends in (three tables where two would do, one of them with one player) -/
example : (wit 8).sheet = [(1, 4, 3), (2, 5, 2), (8, 0, 4)] := by decide +kernel
example : small_bound (wit 8) = 2 * 2 * 8 + 5 * 3 + 2 * 1 + 1 := by decide +kernel
example : potential (wit 8) = 21 := by decide +kernel
example : ((wit 8).run (sweepOps (wit 8) (witSweeps 8)).flatten).sheet = [(1, 4, 0), (2, 4, 0), (8, 1, 3)] := by
  decide +kernel
example : askingSweeps (wit 16) (sweepOps (wit 16) (witSweeps 16)) = 14 := wit16_run.2.2.2.2

end Pokerface.C20
