import Pokerface.Properties.C03Spec
import Pokerface.Proofs.EvalOrder
import Pokerface.Proofs.EvalKey
import Pokerface.Proofs.EvalValid
import Pokerface.Proofs.CombosReport
/-!
  # C03 — Five-card hand ranking is the poker order

  *"For any two five-card hands the evaluator gives the higher strength score to the
  hand that wins under the rules of poker and equal scores exactly to hands that
  tie, and it names the hand's category correctly; the order of categories follows
  the ranking table of the variant (flush above full house in short deck).  The ace
  plays low only in the five-high straight (how a short-deck A-6-7-8-9 is classed
  is not fixed by this property)."*

  The rules of poker are the declarative specification of `Properties/C03Spec.lean`
  (`specCat`, `specTiebreak`, `pokerKey`, `Valid`): it consults the hand only through
  the multiset of its ranks and the all-suits-equal flag, and never mentions the
  evaluator.  The evaluator is `calculatePower` of `Model/Eval.lean`
  (power.go `CalculatePower`) with `lvl = Generated.combinationLevel`
  (`CombinationLevel`) and `T` one of the two shipped ranking tables
  `Generated.powerStandard`, `Generated.powerShortDeck`; these constants are
  regenerated from the Go source, and the proofs depend on them only through
  decided checks (`level_ok`, `tableOK_standard`, `tableOK_shortDeck`) which fail
  when a constant changes.

  All statements hold for every order of the five cards within the hand: the hand
  is an arbitrary `List Card`, and the model sorts it itself (`sortCards`).

  `powerScore` computes `rank − 2` with `Nat` subtraction; valid ranks are ≥ 2, so
  this is exact (every tiebreak entry is in 2..14, `specTiebreak_inRange`, and the
  raw score is the base-13 value of those entries, less 3 for the two straight categories, `normalForm_sorted`).

  Idea of the proof: the evaluator sorts the hand; on sorted ranks its category and raw
  score are the specified category and the base-13 value of the specified tiebreak;
  that value is monotone for the lexicographic order; the category offsets of a ranking
  table separate the categories.
-/
namespace Pokerface.C03
open Generated

/-- The domain of the property ("all 2,598,960 five-card hands of the 52-card deck
    and all 376,992 of the 36-card deck"): five pairwise distinct cards whose suits
    are among the four suits of deck.go and whose ranks are in 2..14 satisfy `Valid`
    — in particular no rank occurs five times, and a one-suited hand has five
    different ranks.  `Valid` itself is weaker (it does not restrict the suits), so
    the theorems below cover more than the property asks. -/
theorem valid_of_distinct (h : List Card) (h5 : h.length = 5) (hd : h.Nodup)
    (hs : ∀ c ∈ h, c.suit ∈ suitCodes) (hr : ∀ c ∈ h, 2 ≤ c.rank ∧ c.rank ≤ 14) : Valid h :=
  { five := h5
    inRange := hr
    atMostFour := fun r => count_rank_le suitCodes h hd hs r
    flushDistinct := ranks_nodup_of_sameSuit h hd }

/-- A royal flush in spades, cards in scrambled order. -/
def royal : List Card := [⟨83, 12⟩, ⟨83, 14⟩, ⟨83, 10⟩, ⟨83, 13⟩, ⟨83, 11⟩]
/-- The wheel 5-4-3-2-A in mixed suits, scrambled. -/
def wheel : List Card := [⟨72, 3⟩, ⟨83, 14⟩, ⟨68, 5⟩, ⟨67, 2⟩, ⟨83, 4⟩]
/-- A six-high straight. -/
def sixHigh : List Card := [⟨72, 3⟩, ⟨83, 6⟩, ⟨68, 5⟩, ⟨67, 2⟩, ⟨83, 4⟩]
/-- Short deck: a full house (nines over sixes) and a flush (K-J-9-8-6 of hearts). -/
def sdFullHouse : List Card := [⟨83, 9⟩, ⟨72, 6⟩, ⟨68, 9⟩, ⟨67, 6⟩, ⟨72, 9⟩]
def sdFlush : List Card := [⟨72, 8⟩, ⟨72, 13⟩, ⟨72, 6⟩, ⟨72, 11⟩, ⟨72, 9⟩]
/-- Two hands that tie (same ranks, other suits). -/
def pairA : List Card := [⟨83, 9⟩, ⟨72, 9⟩, ⟨68, 14⟩, ⟨67, 6⟩, ⟨72, 2⟩]
def pairB : List Card := [⟨67, 2⟩, ⟨68, 9⟩, ⟨67, 9⟩, ⟨83, 6⟩, ⟨83, 14⟩]

example : Valid royal := valid_of_distinct _ rfl (by decide +kernel) (by decide +kernel) (by decide +kernel)
example : Valid wheel := valid_of_distinct _ rfl (by decide +kernel) (by decide +kernel) (by decide +kernel)
theorem valid_sixHigh : Valid sixHigh := valid_of_distinct _ rfl (by decide +kernel) (by decide +kernel) (by decide +kernel)
theorem valid_wheel : Valid wheel := valid_of_distinct _ rfl (by decide +kernel) (by decide +kernel) (by decide +kernel)
theorem valid_sdFullHouse : Valid sdFullHouse := valid_of_distinct _ rfl (by decide +kernel) (by decide +kernel) (by decide +kernel)
theorem valid_sdFlush : Valid sdFlush := valid_of_distinct _ rfl (by decide +kernel) (by decide +kernel) (by decide +kernel)
theorem valid_pairA : Valid pairA := valid_of_distinct _ rfl (by decide +kernel) (by decide +kernel) (by decide +kernel)
theorem valid_pairB : Valid pairB := valid_of_distinct _ rfl (by decide +kernel) (by decide +kernel) (by decide +kernel)

/-- Of two keys at least one of "loses", "ties", "wins" holds (totality) … -/
theorem pokerKey_trichotomy (k₁ k₂ : PokerKey) : k₁ < k₂ ∨ k₁ = k₂ ∨ k₂ < k₁ :=
  PokerKey.lt_trichotomy k₁ k₂

/-- … and "loses" excludes "wins" (hence also "ties": take `k₁ = k₂`), so exactly one holds. -/
theorem pokerKey_lt_asymm (k₁ k₂ : PokerKey) (h : k₁ < k₂) : ¬ k₂ < k₁ :=
  PokerKey.lt_asymm k₁ k₂ h

theorem pokerKey_order_irrelevant (T : List Cat) (h h' : List Card) (p : h.Perm h') :
    pokerKey T h = pokerKey T h' :=
  pokerKey_perm T p

/-- "The ace plays low only in the five-high straight": sanity checks of the
    specification.  The wheel is a straight with top card five, below the six-high
    straight; Q-K-A-2-3 is no straight; A-K-Q-J-T is the highest. -/
example : specCat [14, 5, 4, 3, 2] false = .straight ∧ specTiebreak [14, 5, 4, 3, 2] = [5] := by decide +kernel
example : specCat [3, 14, 2, 13, 12] false = .highCard := by decide +kernel
example : specTiebreak [10, 14, 13, 11, 12] = [14] := by decide +kernel
example : specTiebreak [9, 14, 9, 3, 14] = [14, 9, 3] := by decide +kernel
example : pokerKey powerStandard wheel < pokerKey powerStandard sixHigh := Or.inr ⟨by decide +kernel, by decide +kernel⟩

/-- "the order of categories follows the ranking table of the variant": the
    standard table is the order of categories of the rules of poker, weakest first
    (a fact about the regenerated constant `CombinationPowerStandard`). -/
theorem standard_table_is_poker_order :
    powerStandard = [.highCard, .pair, .twoPair, .trips, .straight, .flush, .fullHouse, .quads,
      .straightFlush] := by decide +kernel

/-- "(flush above full house in short deck)": the short-deck table is the standard
    one with flush and full house exchanged (regenerated constant
    `CombinationPowerShortDeck`). -/
theorem shortDeck_table_flush_above_fullHouse :
    powerShortDeck = [.highCard, .pair, .twoPair, .trips, .straight, .fullHouse, .flush, .quads,
      .straightFlush] ∧
    powerShortDeck.idxOf Cat.fullHouse < powerShortDeck.idxOf Cat.flush := by decide +kernel

/-- "… and it names the hand's category correctly": for every valid hand, in any
    card order, under any ranking table `T` and sizes `lvl` (the category does not
    depend on them), the reported category is the specified one. -/
theorem category_correct (lvl : Cat → Nat) (T : List Cat) (h : List Card) (hv : Valid h) :
    (calculatePower lvl T h).cat = specCat (ranks h) (sameSuit h) := by
  obtain ⟨_, n⟩ := normalForm lvl T h hv
  exact n.cat_eq

example : (calculatePower combinationLevel powerStandard royal).cat = .straightFlush := by
  rw [category_correct _ _ _ (valid_of_distinct _ rfl (by decide +kernel) (by decide +kernel) (by decide +kernel))]
  decide +kernel

/-- "For any two five-card hands the evaluator gives the higher strength score to
    the hand that wins under the rules of poker": with the standard table, for all
    valid hands `h₁ h₂` (any card order), `h₁` scores strictly below `h₂` iff `h₁`
    loses to `h₂` in the specified order (category position in the table first,
    then the tiebreak). -/
theorem score_lt_iff_standard (h₁ h₂ : List Card) (hv₁ : Valid h₁) (hv₂ : Valid h₂) :
    (calculatePower combinationLevel powerStandard h₁).score
        < (calculatePower combinationLevel powerStandard h₂).score
      ↔ pokerKey powerStandard h₁ < pokerKey powerStandard h₂ :=
  score_lt_iff_of_tableOK powerStandard tableOK_standard h₁ h₂ hv₁ hv₂

/-- "… and equal scores exactly to hands that tie": standard table. -/
theorem score_eq_iff_standard (h₁ h₂ : List Card) (hv₁ : Valid h₁) (hv₂ : Valid h₂) :
    (calculatePower combinationLevel powerStandard h₁).score
        = (calculatePower combinationLevel powerStandard h₂).score
      ↔ pokerKey powerStandard h₁ = pokerKey powerStandard h₂ :=
  score_eq_iff_of_tableOK powerStandard tableOK_standard h₁ h₂ hv₁ hv₂

/-- The wheel loses to the six-high straight (through the theorem). -/
example : (calculatePower combinationLevel powerStandard wheel).score
    < (calculatePower combinationLevel powerStandard sixHigh).score :=
  (score_lt_iff_standard _ _ valid_wheel valid_sixHigh).2 (Or.inr ⟨by decide +kernel, by decide +kernel⟩)

/-- Two hands with the same ranks in other suits and another card order tie. -/
example : (calculatePower combinationLevel powerStandard pairA).score
    = (calculatePower combinationLevel powerStandard pairB).score :=
  (score_eq_iff_standard _ _ valid_pairA valid_pairB).2 (by decide +kernel)

/-- Standard table: full house above flush. -/
example : (calculatePower combinationLevel powerStandard sdFlush).score
    < (calculatePower combinationLevel powerStandard sdFullHouse).score :=
  (score_lt_iff_standard _ _ valid_sdFlush valid_sdFullHouse).2 (Or.inl (by decide +kernel))

/-- Same as `score_lt_iff_standard` for the short-deck table, where the position of
    the categories is that of `CombinationPowerShortDeck` (flush above full house).
    Hands consisting of A-9-8-7-6 are excluded (`isA6789 … = false`) because the
    property leaves their class open.  (The proof does not use these two hypotheses:
    the evaluator classes such a hand as high card or flush, which is also what the
    specification says when the ace is low only in the wheel.) -/
theorem score_lt_iff_shortDeck (h₁ h₂ : List Card) (hv₁ : Valid h₁) (hv₂ : Valid h₂)
    (_hx₁ : isA6789 h₁ = false) (_hx₂ : isA6789 h₂ = false) :
    (calculatePower combinationLevel powerShortDeck h₁).score
        < (calculatePower combinationLevel powerShortDeck h₂).score
      ↔ pokerKey powerShortDeck h₁ < pokerKey powerShortDeck h₂ :=
  score_lt_iff_of_tableOK powerShortDeck tableOK_shortDeck h₁ h₂ hv₁ hv₂

/-- "… equal scores exactly to hands that tie": short-deck table, same exclusion. -/
theorem score_eq_iff_shortDeck (h₁ h₂ : List Card) (hv₁ : Valid h₁) (hv₂ : Valid h₂)
    (_hx₁ : isA6789 h₁ = false) (_hx₂ : isA6789 h₂ = false) :
    (calculatePower combinationLevel powerShortDeck h₁).score
        = (calculatePower combinationLevel powerShortDeck h₂).score
      ↔ pokerKey powerShortDeck h₁ = pokerKey powerShortDeck h₂ :=
  score_eq_iff_of_tableOK powerShortDeck tableOK_shortDeck h₁ h₂ hv₁ hv₂

/-- "(flush above full house in short deck)": through the theorem … -/
example : (calculatePower combinationLevel powerShortDeck sdFullHouse).score
    < (calculatePower combinationLevel powerShortDeck sdFlush).score :=
  (score_lt_iff_shortDeck _ _ valid_sdFullHouse valid_sdFlush (by decide +kernel) (by decide +kernel)).2
    (Or.inl (by decide +kernel))

/-- … and by direct evaluation of the model. -/
example : (calculatePower combinationLevel powerShortDeck sdFullHouse).score
    < (calculatePower combinationLevel powerShortDeck sdFlush).score := by decide +kernel

/-- What the model does with the hand the property leaves open (observation, not an
    obligation): short-deck A-9-8-7-6 in mixed suits is reported as high card. -/
example : (calculatePower combinationLevel powerShortDeck
    [⟨83, 14⟩, ⟨72, 9⟩, ⟨68, 8⟩, ⟨67, 7⟩, ⟨83, 6⟩]).cat = .highCard := by decide +kernel

theorem card_order_irrelevant (T : List Cat) (hT : T = powerStandard ∨ T = powerShortDeck)
    (h h' : List Card) (hv : Valid h) (p : h.Perm h') :
    (calculatePower combinationLevel T h).cat = (calculatePower combinationLevel T h').cat ∧
    (calculatePower combinationLevel T h).score = (calculatePower combinationLevel T h').score := by
  exact calculatePower_of_perm combinationLevel T p

example : (royal).Perm [⟨83, 14⟩, ⟨83, 13⟩, ⟨83, 12⟩, ⟨83, 11⟩, ⟨83, 10⟩] := by decide +kernel

end Pokerface.C03
