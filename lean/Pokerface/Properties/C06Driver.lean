import Pokerface.Proofs.TableDriverBlinds
import Pokerface.Properties.C01
import Pokerface.Properties.C08Table
/-
  C06 / C04 at the level of the table's DRIVER of a hand (`table/game.go`, model `Model/TableDriver.lean`).

  C06: "a hand always tells its driver what comes next and always finishes";
  C04: "only the player to act can act".

  The engine theorems (C01 … C14) are about `Reachable` engine states: runs of engine operations from
  `start c`.  The table does not run the engine directly: `table.game` holds the last state the stateless
  backend returned, reacts to it in `handleState` (automatic `Next`, ready groups with "ready"/"pay" marks
  written into `AllowedActions`), and offers wrappers `Ready, Pay, Pass, Fold, …(playerIdx, …)` that check
  `HasAction(playerIdx, name)` and then call the backend operation, which acts for the engine's current
  player.  The theorems here say that every history of wrapper calls — any player index, any action, any
  amount, in any order — is an engine history (`driver_refines_engine`), so that the engine theorems hold
  of every state a table-driven hand can hold, and that the driver's own calls are always accepted.
-/
namespace Pokerface.C06D
open Pokerface Game Drv

/-! ## Specification-level notions

The statements below also speak of `C06D.AllAccepted`, `C06D.Held` (what the held state is, given the engine state behind
it) and `Drv.Performs` (the operation a wrapper call performs), defined in `Proofs/TableDriverSim.lean`, and of `Drv.pending`,
`Drv.readyCall` (the progress measure and the call that lowers it), defined in `Proofs/TableDriverProgress.lean`: the proofs
of those files are about them. -/

/-- the states of `table.game` for engine-accepted configurations: `Start()` and then ANY sequence of wrapper calls -/
def DReach (d : D) : Prop :=
  ∃ (c : Config) (cs : List Call), WFConfig c ∧ (start c).2 = none ∧ d = runD (startD (start c).1) cs

/-- the invariant of the driver: behind the held state there is an engine history of accepted operations -/
def DInv (g0 : Game) (d : D) : Prop :=
  ∃ ops : List Op, AllAccepted g0 ops ∧ Held d (g0.run ops)

/-! ## the backend -/

/-- `table.NativeBackend` as modelled in `Model/TableDriver.lean` (`Drv.backend`, the JSON round trip rendered by
    `Game.hop`) is `C07.backendCall` (rendered by the coarser `Game.json`) up to that coarser serialisation: same
    error, and the JSON of the same state.  (`Game.hop` keeps the internals of the settlement result, which the
    real JSON drops and nothing reads; `C07.json_of_hop`.) -/
theorem backend_is_backendCall (s : Game) (op : Op) :
    (backend s op).map Game.json = C07.backendCall s op := by
  obtain ⟨h1, h2⟩ := C07.hop_step s op
  obtain ⟨j1, j2⟩ := C07.json_step s op
  unfold backend C07.backendCall
  revert h1 h2 j1 j2
  generalize s.hop.step op = x
  generalize s.json.step op = z
  generalize s.step op = y
  obtain ⟨x1, x2⟩ := x
  obtain ⟨y1, y2⟩ := y
  obtain ⟨z1, z2⟩ := z
  intro h1 h2 j1 j2
  simp only at h1 h2 j1 j2
  subst h2
  subst j2
  cases z2 with
  | some e => rfl
  | none =>
    show Except.ok x1.hop.json = Except.ok z1.json
    have := congrArg Game.json h1
    rw [C07.json_of_hop, C07.json_of_hop] at this
    rw [C07.json_of_hop, this, j1]

/-- One backend call on the serialised state of an in-memory game answers as that game does
    (`C07.backend_call` for the `hop` rendering). -/
theorem backend_is_memCall (g : Game) (op : Op) :
    backend g.hop op = (C07.memCall g op).map Game.hop := by
  rw [backend_hop]
  have h1 := @backend_ok g op
  have h2 := @backend_error g op
  unfold C07.memCall
  generalize g.step op = y at h1 h2 ⊢
  obtain ⟨y1, y2⟩ := y
  cases y2 with
  | none => exact h1 rfl
  | some err => exact h2 rfl

/-! ## the simulation, the invariant and termination -/

theorem DReach.tracks {d : D} (h : DReach d) : ∃ g0, Start0 g0 ∧ Tracks g0 d := by
  obtain ⟨c, cs, wf, hs, rfl⟩ := h
  exact ⟨_, ⟨c, wf, hs, rfl⟩, runD_ok ⟨c, wf, hs, rfl⟩ cs⟩

/-- C06 "… and always finishes", at table level: whatever the players call, the backend accepts at most
    `C06.bound c` operations during the hand (those of the wrappers and the driver's own together): the engine
    history behind any driver state has at most that many operations, all accepted (transfer of `C06.no_infinite_play`). -/
theorem driver_terminates (c : Config) (wf : WFConfig c) (hs : (start c).2 = none) (cs : List Call) :
    ∃ ops : List Op, AllAccepted (start c).1 ops ∧ Held (runD (startD (start c).1) cs) ((start c).1.run ops) ∧
      ops.length ≤ C06.bound c := by
  obtain ⟨ops, e, hh, hp, _⟩ := runD_ok ⟨c, wf, hs, rfl⟩ cs
  have he := hh.run_eq
  subst he
  exact ⟨ops, hh.allAccepted, hp, C06.no_infinite_play c wf hs ops hh.accepted_eq⟩

/-- C06 "a hand always tells its driver what comes next", driver side: the invariant `DInv` holds after
    `game.Start()` and after every sequence of wrapper calls (`Ready, Pay, Pass, Fold, Check, Call, Allin, Bet,
    Raise` with any player index and any amount), for every configuration the engine accepts. -/
theorem dinv (c : Config) (wf : WFConfig c) (hs : (start c).2 = none) (cs : List Call) :
    DInv (start c).1 (runD (startD (start c).1) cs) := by
  obtain ⟨ops, ha, hp, _⟩ := driver_terminates c wf hs cs
  exact ⟨ops, ha, hp⟩

/-! ## refinement -/

/-- REFINEMENT: every table-level history is an engine history.  For every accepted configuration and every
    sequence `cs` of wrapper calls there is a list `ops` of engine operations, ALL accepted, such that the state
    the driver holds is — up to the "pay" marks in `AllowedActions` (`clr` empties `AllowedActions` on both sides) —
    the serialisation of `Game.run g0 ops`; outside `AnteRequested`/`BlindsRequested` it is exactly that
    serialisation.  Hence `e` below is `Reachable`, and every engine theorem applies to what the table holds.
    The number of engine operations is within C06's bound. -/
theorem driver_refines_engine (c : Config) (wf : WFConfig c) (hs : (start c).2 = none) (cs : List Call) :
    ∃ ops : List Op, AllAccepted (start c).1 ops ∧ Reachable ((start c).1.run ops) ∧
      clr (runD (startD (start c).1) cs).gs = clr ((start c).1.run ops).hop ∧
      (((start c).1.run ops).event ≠ .anteRequested → ((start c).1.run ops).event ≠ .blindsRequested →
        (runD (startD (start c).1) cs).gs = ((start c).1.run ops).hop) ∧
      ops.length ≤ C06.bound c := by
  obtain ⟨ops, ha, hp, hb⟩ := driver_terminates c wf hs cs
  exact ⟨ops, ha, ⟨c, ops, wf, hs, rfl⟩, hp.clr_eq, hp.gs_eq, hb⟩

/-- corollary (C01 through the table): in every state held by the driver, every player's chips are conserved —
    `C01.chip_inv` transferred through the refinement (the marks do not touch chips). -/
theorem held_chips_conserved {d : D} (h : DReach d) (p : Player) (hp : p ∈ d.gs.players) :
    p.bankroll = p.stack + p.wager + p.pot ∧ 0 ≤ p.stack ∧ 0 ≤ p.wager ∧ 0 ≤ p.pot ∧ p.stack = p.initial - p.wager := by
  obtain ⟨c, cs, wf, hs, rfl⟩ := h
  obtain ⟨ops, _, hR, hc, _, _⟩ := driver_refines_engine c wf hs cs
  obtain ⟨q, hq, hqp⟩ := mem_of_clr_eq hc hp
  have := C01.chip_inv hR q hq
  have e1 : q.bankroll = p.bankroll := (congrArg Player.bankroll hqp :)
  have e2 : q.stack = p.stack := (congrArg Player.stack hqp :)
  have e3 : q.wager = p.wager := (congrArg Player.wager hqp :)
  have e4 : q.pot = p.pot := (congrArg Player.pot hqp :)
  have e5 : q.initial = p.initial := (congrArg Player.initial hqp :)
  rw [e1, e2, e3, e4, e5] at this
  exact this

/-- corollary (C06 through the table): the driver is closed exactly when the held state is `GameClosed`; then the
    held state carries the settlement result and the backend refuses every further operation (`C06.closed_final`). -/
theorem held_closed_final {d : D} (h : DReach d) :
    (d.closed = true ↔ d.gs.event = .gameClosed) ∧
    (d.closed = true → d.gs.result ≠ none ∧ ∀ op, ∃ err, backend d.gs op = .error err) := by
  obtain ⟨g0, h0, ops, e, hh, hp, _⟩ := h.tracks
  refine ⟨hp.event_eq ▸ hp.closed_iff, fun hc => ?_⟩
  have hg := hp.closed_iff.mp hc
  obtain ⟨r1, r2⟩ := C06.closed_final (hh.reach h0) hg
  rw [hp.gs_eq (by simp [hg]) (by simp [hg])]
  refine ⟨r1, fun op => ?_⟩
  rw [backend_hop]
  cases hacc : (e.step op).2 with
  | none => exact absurd hacc (r2 op).1
  | some err => exact ⟨err, backend_error hacc⟩

/-! ## the driver's own calls, fuel -/

/-- `update`'s fuel is sufficient: for every state `s` the backend returns to the driver (for the state `CreateGame`
    returns: `fuel_sufficient_start`), `update` gives the same result for every fuel `k ≥ 5` — in particular for `Drv.fuel = 8` —
    for whatever driver record `d'` it is applied to: the chain `RoundClosed → Next → RoundClosed → …` is at most four
    links long (one per street) and the `0` case of `update` is never reached (`driver_calls_accepted`). -/
theorem fuel_sufficient {d : D} (h : DReach d) (op : Op) (s : Game) (hperf : Performs d op)
    (hb : backend d.gs op = .ok s) (d' : D) (k : Nat) (hk : 5 ≤ k) :
    update k d' s = update fuel d' s ∧ updateBad k d' s = false := by
  obtain ⟨g0, h0, ops, e, hh, hp, _⟩ := h.tracks
  obtain ⟨e1, hh1, rfl⟩ := (backend_answer h0 hh hp op hperf).1 s hb
  exact update_any_fuel (hh1.reach h0) d' k hk

/-- `update_any_fuel` for the state `CreateGame` returns -/
theorem update_start_any_fuel (c : Config) (wf : WFConfig c) (hs : (start c).2 = none) (d' : D) (k : Nat) (hk : 5 ≤ k) :
    update k d' (start c).1 = update fuel d' (start c).1 ∧ updateBad k d' (start c).1 = false := by
  have h0 : Start0 (start c).1 := ⟨c, wf, hs, rfl⟩
  have := update_any_fuel (Hist.nil.reach h0) d' k hk
  rw [start_hop h0] at this
  exact this

theorem fuel_sufficient_start (c : Config) (wf : WFConfig c) (hs : (start c).2 = none) (k : Nat) (hk : 5 ≤ k) :
    update k { gs := (start c).1 } (start c).1 = startD (start c).1 :=
  (update_start_any_fuel c wf hs _ k hk).1

/-- The driver's own calls at `game.Start()`: the state `CreateGame` returns is handled without error. -/
theorem start_accepted (c : Config) (wf : WFConfig c) (hs : (start c).2 = none) (d' : D) :
    updateBad fuel d' (start c).1 = false :=
  (update_start_any_fuel c wf hs d' fuel (by decide)).2

/-- C06 "a hand always tells its driver what comes next": the backend calls `table.game` makes on its own
    initiative are always accepted.  In every state of the driver: (a) if a started, not yet completed ready group
    exists at a request event, its callback (`ReadyForAll` / `PayAnte` / `PayBlinds`, `Drv.fireOp`) is accepted by
    the backend; (b) for every state `s` the backend returns to the driver (`Drv.Performs`: for the callback of the
    pending group, or for a player action at `RoundStarted` — by `wrapper_acts_for_caller` and `Held` nothing else
    reaches the backend), the chain `handleState(RoundClosed) → backend.Next → …` never takes the error branch
    (`fmt.Println(err); return`, which would leave the table waiting forever) and never runs out of the model's fuel
    (`Drv.updateBad … = false`). -/
theorem driver_calls_accepted {d : D} (h : DReach d) :
    (∀ G, d.group = some G → G.completed = false →
      (d.gs.event = .readyRequested ∨ d.gs.event = .anteRequested ∨ d.gs.event = .blindsRequested) →
      ∃ s, backend d.gs (fireOp G.fire) = .ok s) ∧
    (∀ op s, Performs d op → backend d.gs op = .ok s → ∀ d', updateBad fuel d' s = false) := by
  obtain ⟨g0, h0, ops, e, hh, hp, _⟩ := h.tracks
  constructor
  · intro G hG hc hev
    refine (backend_answer h0 hh hp _ (Or.inl ⟨G, hG, hc, rfl, hev⟩)).2.2 ?_
    intro a x
    cases G.fire <;> simp [fireOp]
  · exact fun op s hperf hb d' => (fuel_sufficient h op s hperf hb d' fuel (by decide)).2

/-- The marks are invisible to the engine: the "pay" marks `handleState` writes into `AllowedActions` of the held
    state do not change what the backend answers to any operation the driver performs — the answer is the one the
    unmarked serialised engine state `e.hop` gets (`PayAnte` / `PayBlinds` / `ReadyForAll` never read
    `AllowedActions` before resetting them). -/
theorem marks_invisible (c : Config) (wf : WFConfig c) (hs : (start c).2 = none) (cs : List Call) :
    ∃ ops : List Op, AllAccepted (start c).1 ops ∧ Held (runD (startD (start c).1) cs) ((start c).1.run ops) ∧
      ∀ op, Performs (runD (startD (start c).1) cs) op →
        backend (runD (startD (start c).1) cs).gs op = backend ((start c).1.run ops).hop op := by
  have h0 : Start0 (start c).1 := ⟨c, wf, hs, rfl⟩
  obtain ⟨ops, e, hh, hp, _⟩ := runD_ok h0 cs
  have he := hh.run_eq
  subst he
  exact ⟨ops, hh.allAccepted, hp, fun op hperf => (backend_answer h0 hh hp op hperf).2.1⟩

/-! ## the wrapper acts for its caller -/

/-- C04 "only the player to act can act", at table level.  The wrappers `Pass, Fold, Check, Call, Allin, Bet, Raise,
    Pay(playerIdx, …)` check `HasAction(playerIdx, name)` on the held state and then call a backend operation that
    acts for the engine's CURRENT player.  Whenever such a call reaches the backend (`playerIdx` is a seat, it has the
    action, and it is not the ready-group branch of `Pay`), the caller IS the current player and the hand is in an open
    betting round: the operation performed "for the current player" is performed for the caller. -/
theorem wrapper_acts_for_caller {d : D} (h : DReach d) (i : Nat) (a : Act) (x : Int)
    (h1 : ¬ d.gs.players.length ≤ i) (h2 : hasAction d i a = true)
    (h3 : ¬(a = .pay ∧ (d.gs.event = .anteRequested ∨ d.gs.event = .blindsRequested))) :
    call d (.act i a x) = callBackend d (.act none a x) ∧ i = d.gs.cur ∧ d.gs.event = .roundStarted := by
  obtain ⟨g0, h0, ops, e, hh, hp, _⟩ := h.tracks
  refine ⟨?_, act_for_caller h0 hh hp i a h2 h3⟩
  simp only [call, h1, h2, h3, if_false, Bool.not_true, Bool.false_eq_true]

/-! ## progress -/

/-- C06 "a hand always tells its driver what comes next", for the PLAYERS at the table: in every state of the driver
    that is not closed, someone can make a wrapper call that is accepted and makes progress — either the held state
    changes (`updates`, the number of `onStateUpdated` callbacks, grows: a backend operation was accepted), or the
    number of participants the pending ready group still waits for (`Drv.pending`) decreases.
    Hypothesis `hB`: when blinds are requested, some player holds a position that owes one (see
    `blinds_group_empty_stalls` for what happens otherwise).  The witness call is: at `RoundStarted`, `Pass` or `Allin`
    of the current player, who is always offered one of the two (`avail_free`; amount 0); at a request event, the readying call
    (`Drv.readyCall`: `Ready(i)` resp. `Pay(i, x)`) of a participant that is not ready yet. -/
theorem no_stall {d : D} (h : DReach d) (hnc : d.closed = false)
    (hB : d.gs.event = .blindsRequested → ∃ p ∈ d.gs.players, owesBlind d.gs.opts p = true) :
    ∃ c, (call d c).2 = none ∧ (d.updates < (call d c).1.updates ∨ pending (call d c).1 < pending d) := by
  obtain ⟨g0, h0, ops, e, hh, hp, _, hg⟩ := h.tracks
  have hR := hh.reach h0
  cases ha : arm e.hop with
  | some t =>
    obtain ⟨g', m, grp⟩ := t
    have hne := arm_parts_ne (inv_reachable hR).struct ha
      (fun hb => owes_transfer (b := e.hop) hp.clr_eq (hB (hp.event_eq.trans hb)))
    obtain ⟨i, hi, hprog⟩ := group_progress h0 hh hp ha hg hne
    have hc := readyCall_eq h0 hh hp ha i hi 0
    refine ⟨readyCall e.event i 0, ?_, ?_⟩
    · rw [hc]
    · rw [hc]
      exact hprog
  | none =>
    have hrs : e.event = .roundStarted := by
      rcases C06.wait_points hR with he | he | he | he | he | he
      · exact absurd ha (arm_isSome (flow_reachable hR) (Or.inl he))
      · exact absurd ha (arm_isSome (flow_reachable hR) (Or.inr (Or.inl he)))
      · exact absurd ha (arm_isSome (flow_reachable hR) (Or.inr (Or.inr he)))
      · exact he
      · exact absurd he hp.not_roundClosed
      · rw [hp.closed_iff.mpr he] at hnc
        cases hnc
    obtain ⟨a, x, _, h1, h2⟩ := act_progress h0 hh hp hrs
    exact ⟨_, h1, Or.inl h2⟩

/-- EVERY participant of the pending group passes the wrapper's checks: at a request event a started, not
    completed group `G` exists, and for each of its participants `i` the readying call (`Ready(i)` at `ReadyRequested`,
    `Pay(i, x)` with any `x` at `AnteRequested` / `BlindsRequested`) returns no error and reaches `rg.Ready(i)`. -/
theorem participants_accepted {d : D} (h : DReach d)
    (hev : d.gs.event = .readyRequested ∨ d.gs.event = .anteRequested ∨ d.gs.event = .blindsRequested) :
    ∃ G, d.group = some G ∧ G.completed = false ∧
      ∀ i ∈ G.parts.map (·.1), ∀ x, call d (readyCall d.gs.event i x) = (groupReady d i, none) := by
  obtain ⟨g0, h0, ops, e, hh, hp, _⟩ := h.tracks
  rw [hp.event_eq] at hev ⊢
  cases ha : arm e.hop with
  | none => exact absurd ha (arm_isSome (flow_reachable (hh.reach h0)) hev)
  | some t =>
    obtain ⟨g', m, grp⟩ := t
    obtain ⟨_, _, G, q3, _, q5, q6⟩ := hp.armed ha
    refine ⟨G, q3, q5, fun i hi x => ?_⟩
    rw [q6] at hi
    exact readyCall_eq h0 hh hp ha i hi x

/-- `AnteRequested` with `ante = 0` (the `break` in `handleState`, after which nothing is armed and the table would
    wait forever) is never held by the driver: the engine requests antes only when `ante > 0`. -/
theorem ante_zero_unreachable {d : D} (h : DReach d) (he : d.gs.event = .anteRequested) : 0 < d.gs.opts.ante := by
  obtain ⟨g0, h0, ops, e, hh, hp, _⟩ := h.tracks
  rw [hp.opts_eq]
  rw [hp.event_eq] at he
  exact ((flow_reachable (hh.reach h0)).ante he).1

/-- some configured seat owes a blind: it holds a position (bb, sb or dealer) whose blind is positive -/
def OwesCfg (c : Config) : Prop := ∃ s ∈ c.seats, seatOwes c.opts s = true

/-- The hypothesis `hB` of `no_stall` holds in EVERY state of the driver (not only when blinds are requested) for a
    configuration in which some seat owes a blind: positions and options never change during a hand
    (`seat_static_of_config`), and the marks do not touch them. -/
theorem blind_owed_of_config (c : Config) (wf : WFConfig c) (hs : (start c).2 = none) (ho : OwesCfg c) (cs : List Call) :
    ∃ p ∈ (runD (startD (start c).1) cs).gs.players, owesBlind (runD (startD (start c).1) cs).gs.opts p = true := by
  obtain ⟨ops, _, hp, _⟩ := driver_terminates c wf hs cs
  exact owes_transfer (a := ((start c).1.run ops).hop) hp.clr_eq.symm (owes_of_seat c hs ops ho)

/-- the configuration is fit for the driver's blinds group: either no blind is requested at all (all three are zero)
    or some seat owes one -/
def BlindsOK (c : Config) : Prop :=
  (c.opts.blindDealer = 0 ∧ c.opts.blindSB = 0 ∧ c.opts.blindBB = 0) ∨ OwesCfg c

/-- The hypothesis `hB` of `no_stall` holds in every state of the driver for a `BlindsOK` configuration: the engine
    requests blinds only when one of them is not zero (`Drv.nz_reachable`), and then some seat owes one. -/
theorem blind_owed_when_requested (c : Config) (wf : WFConfig c) (hs : (start c).2 = none) (hok : BlindsOK c)
    (cs : List Call) (he : (runD (startD (start c).1) cs).gs.event = .blindsRequested) :
    ∃ p ∈ (runD (startD (start c).1) cs).gs.players, owesBlind (runD (startD (start c).1) cs).gs.opts p = true := by
  rcases hok with hz | ho
  · exfalso
    obtain ⟨ops, _, hp, _⟩ := driver_terminates c wf hs cs
    rw [hp.event_eq] at he
    have := nz_reachable ⟨c, ops, wf, hs, rfl⟩ he
    rw [(Game.run_opts _ ops).trans (wr_start c hs).opts] at this
    exact this hz
  · exact blind_owed_of_config c wf hs ho cs

/-- `no_stall` without a hypothesis on the state: for a `BlindsOK` configuration, in every state of the driver that is
    not closed somebody can make an accepted call that makes progress. -/
theorem no_stall_of_config (c : Config) (wf : WFConfig c) (hs : (start c).2 = none) (ho : BlindsOK c) (cs : List Call)
    (hnc : (runD (startD (start c).1) cs).closed = false) :
    ∃ k, (call (runD (startD (start c).1) cs) k).2 = none ∧
      ((runD (startD (start c).1) cs).updates < (call (runD (startD (start c).1) cs) k).1.updates ∨
       pending (call (runD (startD (start c).1) cs) k).1 < pending (runD (startD (start c).1) cs)) :=
  no_stall ⟨c, cs, wf, hs, rfl⟩ hnc (blind_owed_when_requested c wf hs ho cs)

/-- C06 "… and always finishes", at table level, for the players: for a `BlindsOK` configuration (no blinds, or some seat owes one),
    from EVERY state of the driver (after any calls `cs`, refused or accepted, by anybody) the players can finish the
    hand: there is a continuation `cs'` of wrapper calls after which the driver is closed (`g.isClosed`, the held state
    is `GameClosed` with the result, `held_closed_final`).  (Measure: the callbacks still possible within `C06.bound`,
    then the participants the pending group waits for; `no_stall_of_config` decreases it.) -/
theorem driver_can_finish (c : Config) (wf : WFConfig c) (hs : (start c).2 = none) (ho : BlindsOK c) (cs : List Call) :
    ∃ cs', (runD (startD (start c).1) (cs ++ cs')).closed = true := by
  have hcall : ∀ d k, (∃ cs, d = runD (startD (start c).1) cs) → ∃ cs, (call d k).1 = runD (startD (start c).1) cs := by
    rintro _ k ⟨cs, rfl⟩
    exact ⟨cs ++ [k], (runD_append _ cs [k]).symm⟩
  have hmono : ∀ d k, (∃ cs, d = runD (startD (start c).1) cs) → d.updates ≤ (call d k).1.updates := by
    rintro _ k ⟨cs, rfl⟩
    obtain ⟨ops, hs'⟩ := runD_ok ⟨c, wf, hs, rfl⟩ cs
    exact hs'.updates_mono ⟨c, wf, hs, rfl⟩ k
  have hB : ∀ d, (∃ cs, d = runD (startD (start c).1) cs) → d.updates ≤ C06.bound c + 1 := by
    rintro _ ⟨cs, rfl⟩
    exact updates_le c wf hs cs
  have hprog : ∀ d, (∃ cs, d = runD (startD (start c).1) cs) → d.closed = false →
      ∃ k, d.updates < (call d k).1.updates ∨ pending (call d k).1 < pending d := by
    rintro _ ⟨cs, rfl⟩ hcl
    obtain ⟨k, _, hk⟩ := no_stall_of_config c wf hs ho cs hcl
    exact ⟨k, hk⟩
  obtain ⟨cs', h⟩ := finish_of_progress hcall hmono hB hprog _ ⟨cs, rfl⟩
  exact ⟨cs', (runD_append _ cs cs').symm ▸ h⟩

/-- Configurations coming from the table's hand-off satisfy `OwesCfg` whenever the engine requests blinds at all (not
    all three blinds are zero): by `C08T.hand_off_heads_up` / `C08T.hand_off_ring` the seat list handed to the engine
    is `[⟨_, dealer+sb⟩, ⟨_, bb⟩]` heads-up and `⟨_, dealer⟩ :: ⟨_, sb⟩ :: ⟨_, bb⟩ :: rest` otherwise, so a dealer, a
    small-blind and a big-blind seat exist — which is all that is needed.  (`LinksD.table_config_blindsOK` takes this
    route with the seats from `HandOff.has_blind_seats`.) -/
theorem owesCfg_of_positions (c : Config) (wf : WFConfig c)
    (hnb : ¬(c.opts.blindDealer = 0 ∧ c.opts.blindSB = 0 ∧ c.opts.blindBB = 0))
    (hd : ∃ s ∈ c.seats, s.dealer = true) (hsb : ∃ s ∈ c.seats, s.sb = true) (hbb : ∃ s ∈ c.seats, s.bb = true) :
    OwesCfg c := by
  have h1 := wf.opts.bd0
  have h2 := wf.opts.sb0
  have h3 := wf.opts.bb0
  by_cases b : c.opts.blindBB > 0
  · obtain ⟨s, hs, hp⟩ := hbb
    exact ⟨s, hs, by simp [seatOwes, b, hp]⟩
  · by_cases sb : c.opts.blindSB > 0
    · obtain ⟨s, hs, hp⟩ := hsb
      exact ⟨s, hs, by simp [seatOwes, sb, hp]⟩
    · have d : c.opts.blindDealer > 0 := by
        by_cases d : c.opts.blindDealer > 0
        · exact d
        · exact absurd ⟨by omega, by omega, by omega⟩ hnb
      obtain ⟨s, hs, hp⟩ := hd
      exact ⟨s, hs, by simp [seatOwes, d, hp]⟩

/-- Every accepted configuration that has a small-blind seat and a big-blind seat (a dealer seat it has anyway,
    `C06.start_iff`) — in particular every configuration of an UNDISTURBED hand-off of the table — is `BlindsOK`, whatever
    the blinds: `no_stall_of_config` and `driver_can_finish` apply to it. -/
theorem blindsOK_of_positions (c : Config) (wf : WFConfig c) (hs : (start c).2 = none)
    (hsb : ∃ s ∈ c.seats, s.sb = true) (hbb : ∃ s ∈ c.seats, s.bb = true) : BlindsOK c := by
  by_cases hz : c.opts.blindDealer = 0 ∧ c.opts.blindSB = 0 ∧ c.opts.blindBB = 0
  · exact Or.inl hz
  · exact Or.inr (owesCfg_of_positions c wf hz ((C06.start_iff c).mp hs).2.1 hsb hbb)

/-- the two shapes of `C08T.hand_off_heads_up` and `C08T.hand_off_ring` -/
theorem owesCfg_heads_up (m : Meta) (wf : OptsOK m) (hnb : ¬(m.blindDealer = 0 ∧ m.blindSB = 0 ∧ m.blindBB = 0)) (x y : Int) :
    OwesCfg ⟨m, [⟨x, true, true, false⟩, ⟨y, false, false, true⟩]⟩ :=
  owesCfg_of_positions _ ⟨wf⟩ hnb ⟨⟨x, true, true, false⟩, by simp, rfl⟩ ⟨⟨x, true, true, false⟩, by simp, rfl⟩
    ⟨⟨y, false, false, true⟩, by simp, rfl⟩

theorem owesCfg_ring (m : Meta) (wf : OptsOK m) (hnb : ¬(m.blindDealer = 0 ∧ m.blindSB = 0 ∧ m.blindBB = 0)) (x y z : Int)
    (rest : List SeatCfg) :
    OwesCfg ⟨m, ⟨x, true, false, false⟩ :: ⟨y, false, true, false⟩ :: ⟨z, false, false, true⟩ :: rest⟩ :=
  owesCfg_of_positions _ ⟨wf⟩ hnb ⟨⟨x, true, false, false⟩, by simp, rfl⟩ ⟨⟨y, false, true, false⟩, by simp, rfl⟩
    ⟨⟨z, false, false, true⟩, by simp, rfl⟩

/-! ## a stall: blinds requested, nobody holds a position that owes one -/

/-- two players, the first is the dealer, NOBODY is small or big blind; blinds 5/10, no dealer blind, no ante.
    The engine accepts this configuration (`start` checks seats, dealer, bankrolls, deck only). -/
def stallCfg : Config :=
  { opts := { ante := 0, blindDealer := 0, blindSB := 5, blindBB := 10, potLimit := false, holeCount := 2, required := 0,
              lvl := fun _ => 1, table := [], deck := (List.range 20).map fun k => { suit := 83, rank := k + 2 } },
    seats := [{ bankroll := 100, dealer := true, sb := false, bb := false },
              { bankroll := 100, dealer := false, sb := false, bb := false }] }

/-- `Start()`, then both players call `Ready` -/
def stallD : D := runD (startD (start stallCfg).1) [.ready 0, .ready 1]

theorem stallD_reach : DReach stallD := ⟨stallCfg, _, ⟨⟨by decide, by decide, by decide, by decide⟩⟩, by decide, rfl⟩

example : OwesCfg C06.exCfg ∧ BlindsOK C06.exCfg ∧ ¬ OwesCfg stallCfg ∧ ¬ BlindsOK stallCfg := by
  have h1 : OwesCfg C06.exCfg := ⟨⟨100, false, false, true⟩, by decide, by decide⟩
  have h2 : ¬ OwesCfg stallCfg := by
    intro ⟨s, hs, h⟩
    simp only [stallCfg, List.mem_cons, List.not_mem_nil, or_false] at hs
    rcases hs with rfl | rfl
    · revert h
      decide
    · revert h
      decide
  refine ⟨h1, Or.inr h1, h2, ?_⟩
  rintro (h | h)
  · exact absurd h.2.1 (by decide)
  · exact h2 h

/-- WITNESS (kernel-checked): `table.game` can wait forever.  For the engine-accepted configuration `stallCfg` the
    engine requests blinds (`blindsRequested`: SB and BB are not zero) but no player holds a position that owes one,
    so `handleState(BlindsRequested)` starts a ready group with NO participants and allows nobody "pay".  A
    `syncsaga.ReadyGroup` only completes inside `Ready(id)`; no wrapper call can reach it (`Pay` needs the "pay" mark,
    `Ready` the "ready" mark): every wrapper call with any player index, action and amount is refused and the driver
    does not change — the hand never finishes although the engine itself would accept `PayBlinds` at once
    (`C06.expected_step_succeeds`).  (The hypothesis `hB` of `no_stall` excludes exactly this.) -/
theorem blinds_group_empty_stalls :
    DReach stallD ∧ stallD.gs.event = .blindsRequested ∧ stallD.closed = false ∧
    (∃ G, stallD.group = some G ∧ G.parts = [] ∧ G.completed = false ∧ G.fire = .payBlinds) ∧
    (∀ c, (call stallD c).1 = stallD ∧ (call stallD c).2 ≠ none) ∧
    (∀ cs, runD stallD cs = stallD) ∧
    (∃ s, backend stallD.gs .payBlinds = .ok s) := by
  have h1 : stallD.readyMarks = [] := by decide +kernel
  have h2 : ∀ p ∈ stallD.gs.players, p.allowed = [] := by decide +kernel
  refine ⟨stallD_reach, by decide +kernel, by decide +kernel, ⟨_, rfl, by decide +kernel, by decide +kernel, by decide +kernel⟩,
    stuck_of_no_marks _ h1 h2, stuck_run _ h1 h2, ?_⟩
  exact (driver_calls_accepted stallD_reach).1 _ rfl (by decide +kernel) (Or.inr (Or.inr (by decide +kernel)))

/-- A table history that hands exactly `stallCfg`'s seats to the engine (a "disturbed hand-off" in the sense of
    `C08T.disturbed_layout`): 6 seats; players on 0, 2, 4 sit in, a fourth joins seat 3 without sitting in; one hand; its
    closing `Next()` sets up dealer 2, small blind 4, big blind 0 for the next hand (`inPosition = true`); then the two
    blinds leave (`Leave(4)`, `Leave(0)`) and the player on seat 3 sits in (`Activate(3)`). -/
def stallTable : Table :=
  (Table.new 6 {}).run [.join 0 10 100 none, .activate 0, .join 2 12 100 none, .activate 2, .join 4 14 100 none, .activate 4,
    .join 3 13 100 none, .hand [100, 100, 100], .leave 4, .leave 0, .activate 3]

/-- WITNESS (kernel-checked): the stall is reachable through `table.Table`.  `stallTable` is a reachable table; its next
    `startGame` builds the game from the two remaining players ⟨dealer⟩, ⟨no position⟩ — exactly `stallCfg.seats` — and
    `Start()` accepts it.  With blinds 5/10 (`stallCfg.opts`) `table.game` then waits at `BlindsRequested` for ever
    (`blinds_group_empty_stalls`; the ready group has no timeout: `timeoutInterval = 0`). -/
theorem stall_through_table :
    Table.TReachable stallTable ∧ stallTable.inPosition = true ∧
    (stallTable.step (.hand [100, 100])).2.cfg = some stallCfg.seats ∧
    (stallTable.step (.hand [100, 100])).2.err = none :=
  ⟨⟨6, {}, _, rfl⟩, by decide +kernel, by decide +kernel, by decide +kernel⟩

/-! ## Non-vacuity: a hand played through the wrappers -/

section Examples

/-- `C06.exCfg` (ante 2, blinds 5/10, three players with 100 on dealer / sb / bb) played through `table.game`:
    everybody `Ready`, everybody `Pay`s the ante, the two blinds `Pay`, everybody `Ready`; the dealer (first to act)
    raises to 30, seat 2 tries to fold out of turn (refused), seats 1 and 2 fold in turn: the driver calls `Next` itself
    and closes. -/
def exCalls : List Call :=
  [.ready 0, .ready 1, .ready 2, .act 0 .pay 0, .act 1 .pay 0, .act 2 .pay 7, .act 2 .pay 0, .act 1 .pay 0,
   .ready 2, .ready 0, .ready 1, .act 0 .raise 30, .act 2 .fold 0, .act 1 .fold 0, .act 2 .fold 0]

def exD (k : Nat) : D := runD (startD (start C06.exCfg).1) (exCalls.take k)

theorem exD_reach (k : Nat) : DReach (exD k) := ⟨C06.exCfg, _, C06.exWF, by decide, rfl⟩

/-- the events the driver holds along the hand, the callbacks delivered, and the end: closed, at `GameClosed` -/
example : ((List.range 16).map fun k => (exD k).gs.event) =
    [.readyRequested, .readyRequested, .readyRequested, .anteRequested, .anteRequested, .anteRequested,
     .blindsRequested, .blindsRequested, .readyRequested, .readyRequested, .readyRequested, .roundStarted,
     .roundStarted, .roundStarted, .roundStarted, .gameClosed] ∧
    (exD 15).closed = true ∧ (exD 15).updates = 9 ∧ (exD 15).gs.result.isSome = true := by decide +kernel

/-- the out-of-turn fold (call 12) is refused by the wrapper; the in-turn calls are not -/
example : (call (exD 12) (.act 2 .fold 0)).2 = some .invalidAction ∧ (call (exD 13) (.act 1 .fold 0)).2 = none ∧
    (exD 12).gs.cur = 1 ∧ (call (exD 3) (.act 5 .pay 0)).2 = some .playerNotInGame := by decide +kernel

/-- `no_stall` / `participants_accepted` are about something: at call 6 (blinds requested) the pending group waits for
    the small and the big blind, both marked "pay", the dealer is not -/
example : (exD 6).gs.event = .blindsRequested ∧ (exD 6).closed = false ∧
    (exD 6).group = some { parts := [(1, false), (2, false)], fire := .payBlinds } ∧ pending (exD 6) = 2 ∧
    pending (exD 7) = 1 ∧ hasAction (exD 6) 1 .pay = true ∧ hasAction (exD 6) 0 .pay = false ∧
    (∃ p ∈ (exD 6).gs.players, owesBlind (exD 6).gs.opts p = true) := by decide +kernel

/-- `wrapper_acts_for_caller`'s hypotheses hold at call 11 for the dealer's raise; `Performs` is inhabited -/
example : ¬ (exD 11).gs.players.length ≤ 0 ∧ hasAction (exD 11) 0 .raise = true ∧ (exD 11).gs.cur = 0 ∧
    (exD 11).gs.event = .roundStarted := by decide +kernel

example : Performs (exD 11) (.act none .raise 30) := Or.inr ⟨by decide +kernel, _, _, rfl⟩

/-- the marks are there (so `marks_invisible` says something): at `AnteRequested` the held state differs from the
    engine's state in `AllowedActions` -/
example : (exD 3).gs.players.map (·.allowed) = [[.pay], [.pay], [.pay]] ∧
    (((start C06.exCfg).1.run [.ready]).players.map (·.allowed)) = [[], [], []] := by decide +kernel

end Examples

end Pokerface.C06D

section Axioms
open Pokerface.C06D
#print axioms backend_is_backendCall
#print axioms backend_is_memCall
#print axioms dinv
#print axioms driver_refines_engine
#print axioms held_chips_conserved
#print axioms held_closed_final
#print axioms driver_terminates
#print axioms driver_calls_accepted
#print axioms start_accepted
#print axioms marks_invisible
#print axioms fuel_sufficient
#print axioms fuel_sufficient_start
#print axioms wrapper_acts_for_caller
#print axioms no_stall
#print axioms participants_accepted
#print axioms ante_zero_unreachable
#print axioms blind_owed_of_config
#print axioms blind_owed_when_requested
#print axioms no_stall_of_config
#print axioms driver_can_finish
#print axioms owesCfg_of_positions
#print axioms blindsOK_of_positions
#print axioms owesCfg_heads_up
#print axioms owesCfg_ring
#print axioms blinds_group_empty_stalls
#print axioms stall_through_table
end Axioms
