import Pokerface.Proofs.PotsEntries
/-
  C16 — "Published pots partition the chips into correctly nested side pots".

  `potsOf entries` is the model of pot.go `updatePots`: one `AddContributor` per entry
  `(idx, contribution, folded)` in list order, then `GetPots`.  All theorems hold for EVERY
  list of entries with distinct idx and contributions ≥ 0 (`Valid`), in any insertion order.
  Reading I3 (DESIGN §5): the "eligible players" of a pot are the non-folded keys of its
  `contributors`; folded contributors are listed too and are characterised by `folded_listing`.
-/
namespace Pokerface.C16
open Pokerface

/-- "The pots … have strictly increasing levels." -/
theorem levels_increasing (es : List Entry) (_h : Valid es) :
    ((potsOf es).map (·.level)).Pairwise (· < ·) :=
  potsOf_levels_sorted es

/-- "Each pot's total equals what all players, folded or not, put in between the previous level
    and its own": total of the pot `p` standing after the pots `pre` is
    `Σ_i (min cᵢ Lₖ − min cᵢ Lₖ₋₁)`, the sum ranging over ALL entries. -/
theorem pot_total (es : List Entry) (h : Valid es) (pre post : List Pot) (p : Pot)
    (hp : potsOf es = pre ++ p :: post) :
    p.total = (es.map (fun e => min e.2.1 p.level - min e.2.1 (prevLevel pre))).sum := by
  rw [(getPots_at h.levelsOK hp).total, prevLevel_eq]
  exact sum_contribs h (fun c => min c p.level - min c (lastD 0 (pre.map (·.level))))

/-- "Its eligible players are exactly the non-folded players who reached that level": `i` is listed
    in `p.contributors` and not folded iff `i` is a non-folded entry with contribution `≥ p.level`. -/
theorem eligible_exact (es : List Entry) (h : Valid es) (p : Pot) (hp : p ∈ potsOf es) (i : Nat) :
    ((∃ a, (i, a) ∈ p.contributors) ∧ isFolded es i = false) ↔ ∃ c, (i, c, false) ∈ es ∧ p.level ≤ c := by
  obtain ⟨pre, post, hsplit⟩ := List.append_of_mem hp
  have hmem := fun a => getPots_contributors_mem h.levelsOK hsplit i a
  constructor
  · rintro ⟨⟨a, ha⟩, hnf⟩
    rcases (hmem a).1 ha with ⟨h1, _⟩ | ⟨_, h1⟩
    · rw [mem_folded, hnf] at h1
      exact Bool.noConfusion h1
    · exact (mem_live_llOf h).1 h1
  · rintro ⟨c, hc, hle⟩
    exact ⟨⟨p.wager, (hmem p.wager).2 (Or.inr ⟨rfl, (mem_live_llOf h).2 ⟨c, hc, hle⟩⟩)⟩, isFolded_false h hc⟩

/-- A player is listed at most once in a pot (the Go map has one entry per key). -/
theorem contributors_keys_nodup (es : List Entry) (h : Valid es) (p : Pot) (hp : p ∈ potsOf es) :
    (p.contributors.map (·.1)).Nodup := by
  obtain ⟨pre, post, hsplit⟩ := List.append_of_mem hp
  exact (getPots_contributors_sorted h.levelsOK hsplit).nodup_keys

/-- The pot's own `Wager` field is that same per-pot amount. -/
theorem pot_wager (es : List Entry) (h : Valid es) (pre post : List Pot) (p : Pot)
    (hp : potsOf es = pre ++ p :: post) : p.wager = p.level - prevLevel pre := by
  rw [(getPots_at h.levelsOK hp).wager, prevLevel_eq]

/-- "… each listed with that per-pot amount": a non-folded listed player is listed with
    `Lₖ − Lₖ₋₁`. -/
theorem eligible_amount (es : List Entry) (h : Valid es) (pre post : List Pot) (p : Pot)
    (hp : potsOf es = pre ++ p :: post) (i : Nat) (a : Int)
    (hm : (i, a) ∈ p.contributors) (hf : isFolded es i = false) :
    a = p.level - prevLevel pre := by
  rcases (getPots_contributors_mem h.levelsOK hp i a).1 hm
    with ⟨h1, _⟩ | ⟨h2, _⟩
  · rw [mem_folded, hf] at h1
    exact Bool.noConfusion h1
  · rw [h2]
    exact pot_wager es h pre post p hp

/-- "The eligible sets strictly shrink from the main pot to the last side pot": the number of
    eligible players strictly decreases along the pot list (the sets are nested by `eligible_exact`
    and `levels_increasing`, so this is strict inclusion). -/
theorem eligible_shrink (es : List Entry) (_h : Valid es) :
    ((potsOf es).map (eligibleCount es)).Pairwise (· > ·) := by
  have hcount := getPots_nonfolded_counts (llOf_inv es)
  have : (potsOf es).map (eligibleCount es)
      = (mergedPots (llOf es)).map (fun q => q.contributors.length) := by
    rw [← hcount, potsOf_eq]
    apply List.map_congr_left
    intro p _
    simp only [eligibleCount, folded_contains]
  rw [this, List.pairwise_map]
  exact (mergedPots_spec (llOf_inv es)).2.2

/-- "The totals add up to all chips put in, so no chip is created, lost …". -/
theorem totals_sum (es : List Entry) (h : Valid es) :
    ((potsOf es).map (·.total)).sum = (es.map (·.2.1)).sum :=
  potsOf_totals_sum h

/-- "… in any insertion order": permuting the entries does not change the published pots
    (Go map iteration order is canonicalised in the model, so this is an equality). -/
theorem order_independent (es es' : List Entry) (h : Valid es) (hp : es'.Perm es) :
    potsOf es' = potsOf es := by
  rw [potsOf_eq, potsOf_eq, llOf_perm hp.symm h.1]

/-- Reading I3 / observation O1: a folded player with stake `c` is listed in the pot standing
    after the pots `pre` iff `c ≠ 0` and `prevLevel pre ≤ c`, and then with the whole stake `c`
    — i.e. in every pot up to the one holding their last chip, and in the next one too when `c`
    equals a pot boundary. -/
theorem folded_listing (es : List Entry) (h : Valid es) (pre post : List Pot) (p : Pot)
    (hp : potsOf es = pre ++ p :: post) (i : Nat) (c : Int) (hi : (i, c, true) ∈ es) (a : Int) :
    (i, a) ∈ p.contributors ↔ a = c ∧ c ≠ 0 ∧ prevLevel pre ≤ c := by
  have hfold : i ∈ (llOf es).folded := (llOf_folded es i).2 ⟨c, hi⟩
  have hstake : (assocGet? (llOf es).contribs i).getD 0 = c := by
    rw [assocGet?_of_mem (llOf_inv es).contribs ((llOf_contribs es h.1 (i, c)).2 ⟨true, hi⟩)]
    rfl
  have hsorted : (pre.map (·.level)).Pairwise (· < ·) := by
    have := levels_increasing es h
    rw [hp, List.map_append, List.pairwise_append] at this
    exact this.1
  have hall := forall_le_iff_lastD_le hsorted (show (0 : Int) ≤ c from h.2 _ hi)
  rw [← prevLevel_eq] at hall
  rw [getPots_contributors_mem h.levelsOK hp i a, hstake]
  constructor
  · rintro (⟨_, h2, h3, h4⟩ | ⟨_, h1⟩)
    · subst h2
      exact ⟨rfl, h3, hall.1 h4⟩
    · exact absurd hfold (mem_live.1 h1).1
  · rintro ⟨h1, h2, h3⟩
    subst h1
    exact Or.inl ⟨hfold, rfl, h2, hall.2 h3⟩

/-! ### non-vacuity: a three-level side-pot layout with a fold and equal amounts -/

/-- 0:30, 1:100, 2:60 folded, 3:100, 4:30 folded at a pot boundary. -/
def sample : List Entry := [(3, 100, false), (0, 30, false), (2, 60, true), (1, 100, false), (4, 30, true)]

example : Valid sample := by decide +kernel

example : (potsOf sample).map (fun p => (p.level, p.wager, p.total, p.contributors)) =
    [(30, 30, 150, [(0, 30), (1, 30), (2, 60), (3, 30), (4, 30)]),
     (100, 70, 170, [(1, 70), (2, 60), (3, 70), (4, 30)])] := by decide +kernel

/-- The second pot of the sample: hypotheses of the positional theorems are satisfiable. -/
example : ∃ pre p post, potsOf sample = pre ++ p :: post ∧ pre ≠ [] ∧ prevLevel pre = 30 ∧ p.level = 100 :=
  ⟨[(potsOf sample)[0]!], (potsOf sample)[1]!, [], by decide +kernel, by decide +kernel, by decide +kernel,
    by decide +kernel⟩

example : (potsOf sample).map (eligibleCount sample) = [3, 2] := by decide +kernel

/-- A permutation of the sample gives the same pots (instance of `order_independent`). -/
example : potsOf sample.reverse = potsOf sample := by decide +kernel

end Pokerface.C16
