import Pokerface.Proofs.CombosReport
import Pokerface.Proofs.CombosEngineBounds
import Pokerface.Generated.Tables
/-
  C10 — Each player's reported hand is their true best hand.

  "Whenever community cards are on the board, the hand reported for every player is a
  five-card selection from that player's own hole cards and the board that no other
  admissible selection beats; in variants that require a fixed number of hole cards the
  selection uses exactly that many.  The reported category, cards and strength describe one
  and the same hand, and that strength is the one the showdown compares."

  Specification-level notions used below (defined next to the lemmas about them):
  * `gospersCut`                                            — Proofs/CombosGosper.lean
  * `Admissible board hole req s`                           — Proofs/CombosSelect.lean
  * `SortedDescPermOf l l'` (an outcome of `sort.Slice`)    — Proofs/CombosBest.lean
  * `Game.CombFresh g`, `Game.CombInv g`, `combOfPower`,
    `showdownStrength p`, `showdownInput pots players`      — Proofs/CombosEngine.lean
  `ReportedBest` (what C10 demands of one published combination) is defined here.

  Domain: `gospersHack` is verified on the whole domain the engine reaches — at most
  4 hole cards and 5 board cards, i.e. `n ≤ 9` — by kernel evaluation of the finite table;
  the pure-function theorems carry `hole.length ≤ 4`, `board.length ≤ 5` (or the weaker `≤ 9`) and
  `required < 5` as hypotheses (`required ≥ 5` makes Go divide by zero in `gospersHack(0, n)`:
  observation O4 of DESIGN §7, outside the domain).  The all-histories theorem
  `reported_hand_is_best` only assumes `required < 5` and `holeCount ≤ 4` of the configuration:
  the size bounds on board and hole cards are proved as an invariant of all histories.
-/
namespace Pokerface.C10
open Pokerface Pokerface.Game

/-- Sentence "five-card selection" (enumeration soundness+completeness, bit level):
    for every `n ≤ 9` and `0 < k ≤ n`, `gospersHack k n` is the list of numbers below `2^n`
    with exactly `k` one-bits, in ascending order, each once (the right-hand side is a filter
    of `List.range (2^n)`, spelled out here with no auxiliary definition). -/
theorem gospers_spec {n k : Nat} (hn : n ≤ 9) (hk : 0 < k) (hkn : k ≤ n) :
    gospersHack k n =
      (List.range (2 ^ n)).filter (fun v => ((List.range n).filter (fun i => v.testBit i)).length == k) :=
  gospersHack_eq hn hk hkn

/-- Fuel sufficiency (DESIGN §4: loops whose bound is data take fuel, with sufficiency proved
    where a theorem depends on it): on that
    domain the model's loop ends because `cur ≥ limit`, as in Go, never because the fuel ran out
    (`gospersCut` follows the same recursion and returns `true` iff fuel hits 0 with `cur < limit`). -/
theorem gospers_fuel_sufficient {n k : Nat} (hn : n ≤ 9) (hk : 0 < k) (hkn : k ≤ n) :
    gospersCut (1 <<< n) (1 <<< n) ((1 <<< k) - 1) = false := by
  have h := gospersCheck_of_le hn hk hkn
  simp only [gospersCheck, Bool.and_eq_true, Bool.not_eq_true'] at h
  exact h.2

theorem gospers_ascending {n k : Nat} (hn : n ≤ 9) (hk : 0 < k) (hkn : k ≤ n) :
    (gospersHack k n).Pairwise (· < ·) := by
  rw [gospers_spec hn hk hkn]
  exact List.Pairwise.filter _ List.pairwise_lt_range

example : gospersHack 5 7 = [31, 47, 55, 59, 61, 62, 79, 87, 91, 93, 94, 103, 107, 109, 110, 115,
    117, 118, 121, 122, 124] := by decide
example : (gospersHack 2 4).length = 6 ∧ (gospersHack 3 5).length = 10 := by decide

/-- `GetPossibleCombinations(cards, n)` for `0 < n` and at most 9 cards: a list `s` occurs iff
    it is a sub-list of `cards` (cards in their original relative order) with `min n |cards|`
    elements.  For `|cards| ≤ n` this says the only selection is `cards` itself. -/
theorem selections_spec {α : Type} [Inhabited α] {cards : List α} {n : Nat}
    (hn : 0 < n) (hlen : cards.length ≤ 9) (s : List α) :
    s ∈ possibleCombinations cards n ↔ s.Sublist cards ∧ s.length = min n cards.length :=
  mem_possibleCombinations hn hlen s

/-- … and for `|cards| ≤ n` the result is literally `[cards]`. -/
theorem selections_all_when_few {α : Type} [Inhabited α] {cards : List α} {n : Nat}
    (h : cards.length ≤ n) : possibleCombinations cards n = [cards] := by
  simp [possibleCombinations, h]

/-- Sentence 1, rule "any five" (`required = 0`): the candidates are exactly the five-element
    sub-lists of the player's own hole cards followed by the board (all cards when there are
    at most five). -/
theorem selections_spec_any {α : Type} [Inhabited α] {board hole : List α}
    (hall : hole.length + board.length ≤ 9) (s : List α) :
    s ∈ allPossibleCombinations board hole 0 ↔
      s.Sublist (hole ++ board) ∧ s.length = min 5 (hole.length + board.length) := by
  rw [mem_allPossibleCombinations (by omega) (by omega) (by omega) (fun _ => hall), admissible_zero]

/-- Sentence 1, second half ("in variants that require a fixed number of hole cards the selection
    uses exactly that many"): for `required = k`, `0 < k < 5`, the candidates are exactly the
    `hs ++ bs` with `hs` a `k`-element sub-list of the hole cards and `bs` a `(5-k)`-element
    sub-list of the board (all of them when fewer are available). -/
theorem selections_spec_fixed {α : Type} [Inhabited α] {board hole : List α} {k : Nat}
    (hk : 0 < k) (hk5 : k < 5) (hh : hole.length ≤ 9) (hb : board.length ≤ 9) (s : List α) :
    s ∈ allPossibleCombinations board hole k ↔
      ∃ hs bs, s = hs ++ bs ∧ hs.Sublist hole ∧ hs.length = min k hole.length ∧
        bs.Sublist board ∧ bs.length = min (5 - k) board.length := by
  rw [mem_allPossibleCombinations hk5 hh hb (fun h => by omega), admissible_pos (by omega)]

/-- Both rules at once, through the predicate `Admissible`. -/
theorem selections_spec_all {α : Type} [Inhabited α] {board hole : List α} {req : Nat}
    (hreq : req < 5) (hh : hole.length ≤ 4) (hb : board.length ≤ 5) (s : List α) :
    s ∈ allPossibleCombinations board hole req ↔ Admissible board hole req s :=
  mem_allPossibleCombinations hreq (by omega) (by omega) (fun _ => by omega) s

/-- An admissible selection consists of the player's own hole cards and the board only, … -/
theorem admissible_own_cards {α : Type} {board hole : List α} {req : Nat} {s : List α}
    (h : Admissible board hole req s) : s.Sublist (hole ++ board) := h.sublist

/-- … and has exactly five cards as soon as enough cards are out (post-flop hold'em: `req = 0`,
    2 + 3 cards; Omaha-like: `req = 2`, 4 hole cards, 3 board cards). -/
theorem admissible_five {α : Type} {board hole : List α} {req : Nat} {s : List α}
    (h : Admissible board hole req s) (hreq : req ≤ 5) (hh : req ≤ hole.length)
    (hb : 5 - req ≤ board.length) : s.length = 5 := h.length_eq_five hreq hh hb

/-- For pairwise distinct cards (a deck has no duplicates) no candidate is enumerated twice, under
    either rule. -/
theorem selections_each_once {α : Type} [Inhabited α] {board hole : List α} {req : Nat}
    (hreq : req < 5) (hh : hole.length ≤ 4) (hb : board.length ≤ 5) (hnd : (hole ++ board).Nodup) :
    (allPossibleCombinations board hole req).Nodup :=
  nodup_allPossibleCombinations hreq (by omega) (by omega) (fun _ => by omega) hnd

/-- The two counts that `combination_test.go` checks on one input hold for every input of that
    shape: C(7,5) = 21 candidates for 2 + 5 cards under "any five", and C(4,2)·C(5,3) = 60 for
    4 + 5 cards under "exactly two". -/
theorem selections_count {α : Type} [Inhabited α] {board hole : List α} (hb : board.length = 5) :
    (hole.length = 2 → (allPossibleCombinations board hole 0).length = 21) ∧
    (hole.length = 4 → (allPossibleCombinations board hole 2).length = 60) :=
  ⟨fun hh => length_allPossibleCombinations_any (by omega),
   fun hh => length_allPossibleCombinations_two_of_four hh hb⟩

example : (allPossibleCombinations [10, 11, 12, 13, 14] [1, 2] 0).length = 21 ∧
    (allPossibleCombinations [10, 11, 12, 13, 14] [1, 2, 3, 4] 2).length = 60 := by decide
example : Admissible [10, 11, 12, 13, 14] [1, 2, 3, 4] 2 [2, 4, 10, 12, 13] :=
  (selections_spec_all (by decide) (by decide) (by decide) _).mp (by decide)
example : ¬ Admissible [10, 11, 12, 13, 14] [1, 2, 3, 4] 2 [2, 10, 11, 12, 13] := by
  intro h
  exact absurd ((selections_spec_all (by decide) (by decide) (by decide) _).mpr h) (by decide)

/-- Sentence 1 ("that no other admissible selection beats"), stated for every order Go's
    `sort.Slice(powers, Score >)` may produce (DESIGN §4: only "sorted permutation" is trusted):
    if `l'` is a permutation of the scored candidates `l` in which scores never increase, then
    its first element is one of the candidates and no candidate has a larger score. -/
theorem best_is_max {l l' : List Power} (h : SortedDescPermOf l l') {p : Power}
    (hp : l'.head? = some p) : p ∈ l ∧ ∀ q ∈ l, q.score ≤ p.score := by
  obtain ⟨hperm, hsort⟩ := h
  cases l' with
  | nil => simp at hp
  | cons a t =>
    simp only [List.head?_cons, Option.some.injEq] at hp
    subst hp
    refine ⟨hperm.mem_iff.mp (List.mem_cons_self ..), ?_⟩
    intro q hq
    have hq' : q ∈ a :: t := hperm.mem_iff.mpr hq
    rcases List.mem_cons.mp hq' with rfl | hqt
    · exact Nat.le_refl _
    · exact (List.pairwise_cons.mp hsort).1 q hqt

/-- `powers[0]` exists for every such outcome as soon as there is a candidate (Go would panic
    otherwise). -/
theorem best_exists {l l' : List Power} (h : SortedDescPermOf l l') (hne : l ≠ []) :
    l'.head?.isSome := by
  cases l' with
  | nil => exact absurd (h.1.symm.eq_nil) hne
  | cons a t => rfl

theorem bestPower_is_max {l : List Power} {p : Power} (h : bestPower l = some p) :
    p ∈ l ∧ ∀ q ∈ l, q.score ≤ p.score := bestPower_spec h

/-- The model's `bestPower` is the head of one of the sorted permutations, i.e. one of the outcomes Go may
    produce.  (All outcomes have the same score; category and cards may differ among ties.) -/
theorem bestPower_is_some_sort_outcome {l : List Power} {p : Power} (h : bestPower l = some p) :
    ∃ l', SortedDescPermOf l l' ∧ l'.head? = some p := by
  have ⟨hm, hmax⟩ := bestPower_spec h
  obtain ⟨s, t, rfl⟩ := List.append_of_mem hm
  let le : Power → Power → Bool := fun a b => decide (a.score ≥ b.score)
  refine ⟨p :: (s ++ t).mergeSort le, ⟨?_, ?_⟩, rfl⟩
  · exact ((List.mergeSort_perm _ _).cons p).trans List.perm_middle.symm
  · rw [List.pairwise_cons]
    constructor
    · intro q hq
      rw [List.mem_mergeSort, List.mem_append] at hq
      apply hmax
      rcases hq with hq | hq
      · exact List.mem_append_left _ hq
      · exact List.mem_append_right _ (List.mem_cons_of_mem _ hq)
    · have := List.pairwise_mergeSort (le := le)
        (by intro a b c; simp only [le, decide_eq_true_eq]; omega)
        (by intro a b; simp only [le, Bool.or_eq_true, decide_eq_true_eq]; omega) (s ++ t)
      exact this.imp (by intro a b; simp [le])

theorem best_score_unique {l l₁ l₂ : List Power} (h₁ : SortedDescPermOf l l₁) (h₂ : SortedDescPermOf l l₂)
    {p₁ p₂ : Power} (hp₁ : l₁.head? = some p₁) (hp₂ : l₂.head? = some p₂) : p₁.score = p₂.score := by
  have a := best_is_max h₁ hp₁
  have b := best_is_max h₂ hp₂
  exact Nat.le_antisymm (b.2 _ a.1) (a.2 _ b.1)

example : SortedDescPermOf
    [⟨.pair, 5, []⟩, ⟨.flush, 9, []⟩, ⟨.trips, 9, []⟩] [⟨.trips, 9, []⟩, ⟨.flush, 9, []⟩, ⟨.pair, 5, []⟩] := by
  constructor
  · exact (List.Perm.swap _ _ _).trans ((List.Perm.swap _ _ _).cons _) |>.trans (List.Perm.swap _ _ _)
  · simp

/-- What C10 demands of the combination `c` published for a player holding `hole` on `board`,
    under ranking table `pr`/`lvl` and rule `req`:
    there is an admissible selection `sel` such that the reported cards are `sel` sorted by rank
    (a permutation of it), the reported category and strength are those `CalculatePower` assigns
    to the reported cards themselves (and re-evaluating reports the same cards again), and no
    admissible selection — handed to `CalculatePower` in any order — evaluates to a larger
    strength. -/
def ReportedBest (lvl : Cat → Nat) (pr : List Cat) (req : Nat) (board hole : List Card) (c : Comb) : Prop :=
  ∃ sel, Admissible board hole req sel ∧
    c.cards = sortCards sel ∧ c.cards.Perm sel ∧
    c.cat = some (calculatePower lvl pr c.cards).cat ∧
    c.power = (calculatePower lvl pr c.cards).score ∧
    (calculatePower lvl pr c.cards).cards = c.cards ∧
    ∀ adm sel', Admissible board hole req adm → sel'.Perm adm →
      (calculatePower lvl pr sel').score ≤ c.power

/-- Any scored candidate that no candidate beats yields a `ReportedBest` combination when published
    the way `UpdateCombinationOfAllPlayers` does (`combOfPower`). -/
theorem reportedBest_of_max {lvl : Cat → Nat} {pr : List Cat} {board hole : List Card} {req : Nat}
    (hreq : req < 5) (hh : hole.length ≤ 4) (hb : board.length ≤ 5) {pw : Power}
    (hm : pw ∈ (allPossibleCombinations board hole req).map (calculatePower lvl pr))
    (hmax : ∀ q ∈ (allPossibleCombinations board hole req).map (calculatePower lvl pr), q.score ≤ pw.score) :
    ReportedBest lvl pr req board hole (combOfPower pw) := by
  obtain ⟨sel, hsel, rfl⟩ := List.mem_map.mp hm
  have hA := selections_spec_all (board := board) (hole := hole) hreq hh hb
  have hc : (combOfPower (calculatePower lvl pr sel)).cards = (calculatePower lvl pr sel).cards := rfl
  refine ⟨sel, (hA sel).mp hsel, rfl, sortCards_perm sel, ?_, ?_, ?_, ?_⟩
  · show some _ = some _
    rw [hc, calculatePower_cards]
  · show (calculatePower lvl pr sel).score = _
    rw [hc, calculatePower_cards]
  · rw [hc, calculatePower_cards]
  · intro adm sel' hadm hperm
    rw [(calculatePower_of_perm lvl pr hperm).2]
    exact hmax _ (List.mem_map_of_mem ((hA adm).mpr hadm))

/-- Sentences 1 and 2 for EVERY outcome Go's `sort.Slice` may produce in `GetAllPowersByPlayer`:
    whichever descending-sorted permutation `l'` of the scored candidates comes out, publishing
    `powers[0]` gives a `ReportedBest` combination (and `powers[0]` exists). -/
theorem any_sort_outcome_reported {lvl : Cat → Nat} {pr : List Cat} {board hole : List Card} {req : Nat}
    (hreq : req < 5) (hh : hole.length ≤ 4) (hb : board.length ≤ 5) {l' : List Power}
    (hs : SortedDescPermOf ((allPossibleCombinations board hole req).map (calculatePower lvl pr)) l') :
    ∃ pw, l'.head? = some pw ∧ ReportedBest lvl pr req board hole (combOfPower pw) := by
  have hne : (allPossibleCombinations board hole req).map (calculatePower lvl pr) ≠ [] := by
    simp only [ne_eq, List.map_eq_nil_iff]
    exact allPossibleCombinations_ne_nil hreq (by omega) (by omega) (fun _ => by omega)
  obtain ⟨pw, hpw⟩ := Option.isSome_iff_exists.mp (best_exists hs hne)
  have ⟨hm, hmax⟩ := best_is_max hs hpw
  exact ⟨pw, hpw, reportedBest_of_max hreq hh hb hm hmax⟩

/-- The evaluation of five cards depends on the cards only, not on the order in which they are
    handed over (so "admissible selection" may be read as a set of cards). -/
theorem evaluation_order_independent (lvl : Cat → Nat) (pr : List Cat) {l₁ l₂ : List Card}
    (h : l₁.Perm l₂) :
    (calculatePower lvl pr l₁).cat = (calculatePower lvl pr l₂).cat ∧
    (calculatePower lvl pr l₁).score = (calculatePower lvl pr l₂).score :=
  calculatePower_of_perm lvl pr h

/-- `CalculatePlayerPower` + the three assignments of `UpdateCombinationOfAllPlayers` in the model
    (which picks the first maximal candidate): a best hand is always returned on the domain, and
    the combination published from it is `ReportedBest`. -/
theorem playerPower_reported {lvl : Cat → Nat} {pr : List Cat} {board hole : List Card} {req : Nat}
    (hreq : req < 5) (hh : hole.length ≤ 4) (hb : board.length ≤ 5) :
    ∃ pw, playerPower lvl pr board hole req = some pw ∧
      ReportedBest lvl pr req board hole (combOfPower pw) := by
  obtain ⟨pw, hpw⟩ := playerPower_isSome (lvl := lvl) (pr := pr) hreq
    (show hole.length ≤ 9 by omega) (show board.length ≤ 9 by omega) (fun _ => by omega)
  have ⟨hm, hmax⟩ := bestPower_spec hpw
  exact ⟨pw, hpw, reportedBest_of_max hreq hh hb hm hmax⟩

/-- Every combination that is fresh (`fresh_on_all_histories` says when that is) is `ReportedBest`. -/
theorem reported_of_fresh (g : Game) (hf : g.CombFresh) (hreq : g.opts.required < 5)
    (hb : g.board.length ≤ 5) (p : Player) (hp : p ∈ g.players) (hh : p.hole.length ≤ 4)
    (c : Comb) (hc : p.comb = some c) :
    ReportedBest g.opts.lvl g.opts.table g.opts.required g.board p.hole c := by
  obtain ⟨pw, hpw, hR⟩ := playerPower_reported (lvl := g.opts.lvl) (pr := g.opts.table) hreq hh hb
  have := hf p hp pw hpw
  rw [hc] at this
  rcases this with h | h
  · exact absurd h (by simp)
  · simp only [Option.some.injEq] at h
    rw [h]
    exact hR

/-- Sentence 2 ("The reported category, cards and strength describe one and the same hand"), and
    sentence 1, on the engine: right after `UpdateCombinationOfAllPlayers`, every player that has
    a combination object has a `ReportedBest` one for the current board and their own hole cards.
    Hypotheses: the domain (`required < 5`, at most 4 hole cards, at most 5 board cards). -/
theorem reported_consistent (g : Game) (hreq : g.opts.required < 5) (hb : g.board.length ≤ 5)
    (p : Player) (hp : p ∈ g.updateCombinations.players) (hh : p.hole.length ≤ 4)
    (c : Comb) (hc : p.comb = some c) :
    ReportedBest g.opts.lvl g.opts.table g.opts.required g.board p.hole c :=
  reported_of_fresh g.updateCombinations (combFresh_updateCombinations g) hreq hb p hp hh c hc

/-- Mechanism "recomputed whenever a street is dealt": whatever the state, after
    `InitializeRound` (+ the handlers it triggers) every published combination is the one
    `CalculatePlayerPower` gives for the board as it is now and the player's own hole cards. -/
theorem recomputed_on_initializeRound (g : Game) : g.initializeRound.CombFresh :=
  combFresh_enterRound g g.round

/-- Whole-operation form: after ANY operation (from ANY state) that changes the board, every
    published combination is the one for the new board. -/
theorem recomputed_each_street (g : Game) (op : Op) (h : (g.step op).1.board ≠ g.board) :
    (g.step op).1.CombFresh :=
  (step_key_or_fresh g op).elim (fun hk => absurd (key_board hk) h) id

/-- … likewise after any operation that changes the street, … -/
theorem recomputed_each_round (g : Game) (op : Op) (h : (g.step op).1.round ≠ g.round) :
    (g.step op).1.CombFresh :=
  (step_key_or_fresh g op).elim (fun hk => absurd (key_round hk) h) id

/-- … and no operation ever makes a fresh combination stale: nothing but `InitializeRound`
    touches board, hole cards, rule, ranking table or the published combinations. -/
theorem fresh_preserved (g : Game) (op : Op) (h : g.CombFresh) : (g.step op).1.CombFresh :=
  (step_key_or_fresh g op).elim (fun hk => combFresh_of_key hk h) id

/-- All histories: in every state reached from `NewGame(opts).Start()` by any sequence of
    operations (accepted or refused), if community cards are on the board — or merely a street
    has been entered — every published combination is fresh. -/
theorem fresh_on_all_histories (c : Config) (ops : List Op) :
    let g := (start c).1.run ops
    (g.board ≠ [] ∨ g.round ≠ .none) → g.CombFresh := by
  intro g h
  rcases combInv_run _ ops (combInv_start c) with ⟨h1, h2⟩ | hf
  · rcases h with h | h
    · exact absurd h2 h
    · exact absurd h1 h
  · exact hf

/-- The size bounds of the domain hold on all histories: never more than five board cards,
    never more than `holeCount` hole cards on a seat, every seat has a combination object, and the
    options are those of the configuration. -/
theorem domain_bounds_on_all_histories (cfg : Config) (ops : List Op) :
    let g := (start cfg).1.run ops
    g.opts = cfg.opts ∧ g.board.length ≤ 5 ∧
      ∀ p ∈ g.players, p.hole.length ≤ cfg.opts.holeCount ∧ p.comb.isSome := by
  intro g
  have h := bounds_on_all_histories cfg ops
  rw [opts_run] at h
  exact ⟨opts_run cfg ops, h⟩

/-- Sentences 1 and 2 from the moment a street has been entered (`reported_hand_is_best` is the case of a
    non-empty board): before the flop the "hand" is the hole cards alone. -/
theorem reported_from_preflop (cfg : Config) (ops : List Op)
    (hreq : cfg.opts.required < 5) (hhc : cfg.opts.holeCount ≤ 4) :
    let g := (start cfg).1.run ops
    (g.board ≠ [] ∨ g.round ≠ .none) →
    ∀ p ∈ g.players, ∃ c, p.comb = some c ∧
      ReportedBest cfg.opts.lvl cfg.opts.table cfg.opts.required g.board p.hole c := by
  intro g hne p hp
  obtain ⟨ho, hb, hpl⟩ := domain_bounds_on_all_histories cfg ops
  obtain ⟨hh, hs⟩ := hpl p hp
  obtain ⟨c, hc⟩ := Option.isSome_iff_exists.mp hs
  refine ⟨c, hc, ?_⟩
  have := reported_of_fresh g (fresh_on_all_histories cfg ops hne) (by rw [ho]; exact hreq) hb p hp
    (by omega) c hc
  rw [ho] at this
  exact this

/-- **C10, sentences 1 and 2 over all histories.**  For every configuration with
    `RequiredHoleCardsCount < 5` and `HoleCardsCount ≤ 4` (the engine's variants: 0 of 2, 2 of 4),
    every ranking table and deck, in every state reached by any sequence of operations, if
    community cards are on the board then every seat has a published combination and it is
    `ReportedBest` for the current board and that seat's own hole cards. -/
theorem reported_hand_is_best (cfg : Config) (ops : List Op)
    (hreq : cfg.opts.required < 5) (hhc : cfg.opts.holeCount ≤ 4) :
    let g := (start cfg).1.run ops
    g.board ≠ [] →
    ∀ p ∈ g.players, ∃ c, p.comb = some c ∧
      ReportedBest cfg.opts.lvl cfg.opts.table cfg.opts.required g.board p.hole c :=
  fun hne => reported_from_preflop cfg ops hreq hhc (Or.inl hne)

/-- Sentence 3 ("that strength is the one the showdown compares"): `CalculateGameResults`
    stores `Calculate()` of the settlement input built from the pots and, per player in seat
    order, `AddPlayer(idx, bankroll)` and `UpdateScore(idx, s)` with
    `s = showdownStrength p` = the published `Combination.Power`, or 0 for a folded player. -/
theorem showdown_uses_published_strength (g : Game) :
    g.calculateGameResults.result = some (showdownInput g.pots g.players).calculate ∧
    g.calculateGameResults.players = g.players :=
  ⟨result_calculateGameResults g, rfl⟩

theorem showdownStrength_eq (p : Player) :
    showdownStrength p = if p.fold then 0 else match p.comb with | some c => (c.power : Int) | none => 0 := by
  unfold showdownStrength
  cases p.comb <;> rfl

/-- All histories: whenever an operation writes the result, the written result is the settlement
    of the *published* strengths of the state it is stored in, and those published combinations
    are fresh (hence, with `reported_of_fresh`, the strengths of the true best hands). -/
theorem showdown_on_all_histories (cfg : Config) (ops : List Op) (op : Op) :
    let g := (start cfg).1.run ops
    let g' := (g.step op).1
    g'.result ≠ g.result →
      g'.result = some (showdownInput g'.pots g'.players).calculate ∧ g'.CombFresh := by
  intro g g' h
  rcases step_result_or_completed g op with h1 | ⟨g0, hr, he⟩
  · exact absurd h1 h
  · have hinv : CombInv g' := combInv_step g op (combInv_run _ ops (combInv_start cfg))
    have hround : g'.round ≠ .none := by
      show (g.step op).1.round ≠ .none
      rw [he]
      have := key_round (key_gameCompleted g0)
      rw [this]
      exact hr
    refine ⟨?_, ?_⟩
    · show (g.step op).1.result = some (showdownInput (g.step op).1.pots (g.step op).1.players).calculate
      rw [he]
      exact result_gameCompleted g0
    · rcases hinv with ⟨h1, _⟩ | hf
      · exact absurd h1 hround
      · exact hf

section Examples
open Generated

private def cs (l : List String) : List Card := l.map Card.ofString
private def view (o : Option Power) : Option (Cat × Nat × List String) :=
  o.map fun p => (p.cat, p.score, p.cards.map Card.toString)

/-- 2 hole cards, 5 board cards, any five (hold'em): two pair aces and kings with a nine. -/
example : view (playerPower combinationLevel powerStandard
      (cs ["HA", "D9", "C4", "DK", "C7"]) (cs ["SA", "HK"]) 0)
    = some (.twoPair, 371293 + 28561 + (12 * 169 + 11 * 13 + 7), ["SA", "HA", "HK", "DK", "D9"]) := by
  decide +kernel

/-- 4 hole cards, exactly 2 required (Omaha-like): the ace-high straight A-K-Q-J-T would need
    three hole cards, so the reported hand is the king-high straight using K and Q from the hole. -/
example : view (playerPower combinationLevel powerStandard
      (cs ["S5", "H9", "DT", "CJ", "S2"]) (cs ["SA", "HA", "DK", "CQ"]) 2)
    = some (.straight, 371293 + 28561 + 2197 + 2197 + (13 - 5), ["DK", "CQ", "CJ", "DT", "H9"]) := by
  decide +kernel

/-- The same nine cards under "any five": the ace-high straight. -/
example : view (playerPower combinationLevel powerStandard
      (cs ["S5", "H9", "DT", "CJ", "S2"]) (cs ["SA", "HA", "DK", "CQ"]) 0)
    = some (.straight, 371293 + 28561 + 2197 + 2197 + (14 - 5), ["SA", "DK", "CQ", "CJ", "DT"]) := by
  decide +kernel

/-- A heads-up hand played to the end on a chosen deck. -/
private def exOpts : Meta where
  ante := 0
  blindDealer := 0
  blindSB := 5
  blindBB := 10
  potLimit := false
  holeCount := 2
  required := 0
  lvl := combinationLevel
  table := powerStandard
  deck := cs ["SA", "HK", "D7", "C2", "S3", "HA", "D9", "C4", "S5", "DK", "S6", "C7", "H2", "H3"]

private def exCfg : Config :=
  { opts := exOpts, seats := [⟨1000, true, true, false⟩, ⟨1000, false, false, true⟩] }

private def toFlop : List Op := [.ready, .payBlinds, .ready, .act none .call 0, .act none .check 0, .next]
private def street : List Op := [.ready, .act none .check 0, .act none .check 0]
private def toRiverClosed : List Op := toFlop ++ street ++ [.next] ++ street ++ [.next] ++ street

/-- The hypotheses of `reported_hand_is_best` hold on the flop of that hand, for both seats, and
    both seats have a combination object. -/
example :
    let g := (start exCfg).1.run toFlop
    (start exCfg).2 = none ∧ g.round = .flop ∧ g.board = cs ["HA", "D9", "C4"] ∧
    g.opts.required < 5 ∧ g.board.length ≤ 5 ∧
    g.players.map (fun p => (p.hole, p.comb.map fun c => (c.cat, c.power, c.cards))) =
      [(cs ["SA", "HK"], some (some .pair, 371293 + (12 * 2197 + 11 * 169 + 7 * 13 + 2), cs ["SA", "HA", "HK", "D9", "C4"])),
       (cs ["D7", "C2"], some (some .highCard, 12 * 28561 + 7 * 2197 + 5 * 169 + 2 * 13 + 0, cs ["HA", "D9", "D7", "C4", "C2"]))] := by
  decide +kernel

/-- `reported_hand_is_best` applied to that flop. -/
example : ∀ p ∈ ((start exCfg).1.run toFlop).players, ∃ c, p.comb = some c ∧
    ReportedBest combinationLevel powerStandard 0 (cs ["HA", "D9", "C4"]) p.hole c := by
  have h := reported_hand_is_best exCfg toFlop (by decide) (by decide) (by decide +kernel)
  have hb : ((start exCfg).1.run toFlop).board = cs ["HA", "D9", "C4"] := by decide +kernel
  rw [hb] at h
  exact h

/-- The hypothesis of `showdown_on_all_histories` holds for the `next` that ends that hand: the
    result is written, and seat 0 (two pair) takes seat 1's ten chips. -/
example :
    let g := (start exCfg).1.run toRiverClosed
    let g' := (g.step .next).1
    g.result = none ∧ g'.event = .gameClosed ∧
    g'.players.map showdownStrength = [371293 + 28561 + (12 * 169 + 11 * 13 + 7), 371293 + (5 * 2197 + 12 * 169 + 11 * 13 + 7)] ∧
    g'.result.map (fun r => r.players.map (·.changed)) = some [10, -10] := by
  decide +kernel

end Examples

end Pokerface.C10

section Axioms
open Pokerface.C10
#print axioms gospers_spec
#print axioms gospers_fuel_sufficient
#print axioms selections_spec
#print axioms selections_spec_any
#print axioms selections_spec_fixed
#print axioms best_is_max
#print axioms bestPower_is_some_sort_outcome
#print axioms any_sort_outcome_reported
#print axioms reported_consistent
#print axioms recomputed_each_street
#print axioms reported_hand_is_best
#print axioms showdown_uses_published_strength
#print axioms showdown_on_all_histories
end Axioms
