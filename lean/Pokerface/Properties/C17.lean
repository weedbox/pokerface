/-
  C17 — "The button moves to the next player who can play, never skipping or stalling".

  Statements about the model `Pokerface.SM` of `seat_manager/seat_manager.go`, for every reachable state
  (`SM.Reachable`: any table size, any history of join / sit-in / reserve / leave / next-hand operations).
  `playable i` = seat `i` is occupied, active and not reserved (what `getPlayableSeatCount` counts).
  `IsNextAfter sm d e` : `e = (d + k) % max` for some `1 ≤ k < max`, `e` is playable in `sm`, and none of the seats
  `(d + 1) % max, …, (d + k - 1) % max` is playable in `sm` — the first playable seat clockwise strictly after `d`.
  `IsFirstPlayable sm e` : `e` is playable and no lower-numbered seat is.
  `NoButtonAfterNext sm` (Proofs/SMRefuse.lean) : `sm.nonEmptyCount = 0 ∨ (sm.dealer = none ∧ sm.nonEmptyCount = 1 ∧
  sm.playableCount = 1)` — the states in which a call of `Next()` leaves the seat manager without a dealer.
-/
import Pokerface.Proofs.SMRefuse

namespace Pokerface.C17
open SM

/-- **C17, first sentence.** If at least two seats are playable before `next`, then `next` succeeds and the new
dealer is, with respect to the *pre*-state, the first playable seat clockwise strictly after the old dealer
(`IsNextAfter sm d e`: so it is never the old dealer's seat again, never a seat behind a playable one — no player
who could play is skipped — and never further than one lap); when there is no previous dealer (`sm.dealer = none`)
it is the first playable seat scanning from seat 0 inclusive.
"No previous dealer" is *not* only "before the very first hand": `nextDealer` also resets the dealer to `none` in a
refused `Next()` that finds nobody to give the button to (e.g. after everybody has left), so the next successful
`Next()` after such a refusal starts from seat 0 again, whoever held the button before.  `dealer_none_iff` below
states exactly in which reachable states `dealer = none`; the example after `next_dealer_none_iff` below shows the reset. -/
theorem button_next (sm : SM) (h : Reachable sm) (hc : 2 ≤ sm.playableCount) :
    (sm.step .next).2.1 = none ∧
    ∃ e, (sm.step .next).1.dealer = some e ∧
      match sm.dealer with
      | some d => IsNextAfter sm d e
      | none => IsFirstPlayable sm e := by
  cases hdl : sm.dealer with
  | none =>
    obtain ⟨hok, k, ks, kb, hk, hn⟩ := next_of_count h.inv hc (scanBase_of_none hdl)
    have hp := hk.playable
    rw [Nat.zero_add, Nat.mod_eq_of_lt hk.k_lt] at hp hn
    refine ⟨hok, k, hn.dealer, hp, fun j hj => ?_⟩
    have := hk.skipped j (Nat.zero_le j) hj
    rwa [Nat.zero_add, Nat.mod_eq_of_lt (Nat.lt_trans hj hk.k_lt)] at this
  | some d =>
    obtain ⟨hok, k, ks, kb, hk, hn⟩ := next_of_count h.inv hc (scanBase_of_dealer hdl)
    exact ⟨hok, _, hn.dealer, k, hk.k_ge, hk.k_lt, rfl, hk.playable, hk.skipped⟩

/-- "It never stays put": the new dealer differs from the old one. -/
theorem button_moves (sm : SM) (h : Reachable sm) (hc : 2 ≤ sm.playableCount) (d : Nat) (hd : sm.dealer = some d) :
    (sm.step .next).1.dealer ≠ some d := by
  obtain ⟨_, e, he, hspec⟩ := button_next sm h hc
  rw [hd] at hspec
  rw [he]
  intro heq
  cases heq
  exact (IsNextAfter.ne hspec (h.inv.dealer_lt d hd)) rfl

/-- Non-vacuity: 5 seats, players on 0, 2, 3 (all playable), dealer 0 after the first hand; the next `next`
moves the button to seat 2 (seat 1 is empty), then to 3, then back to 0. -/
example : let sm := (SM.new 5).run [.join 0 1 none, .seat 0, .join 2 2 none, .seat 2, .join 3 3 none, .seat 3, .next]
    sm.dealer = some 0 ∧ sm.playableCount = 3 ∧ (sm.step .next).1.dealer = some 2 ∧
    (sm.run [.next, .next]).dealer = some 3 ∧ (sm.run [.next, .next, .next]).dealer = some 0 := by decide +kernel
/-- Non-vacuity of the no-dealer clause: players on 1 and 3, first `next` puts the button on seat 1. -/
example : let sm := (SM.new 4).run [.join 3 1 none, .seat 3, .join 1 2 none, .seat 1]
    sm.dealer = none ∧ sm.playableCount = 2 ∧ (sm.step .next).1.dealer = some 1 := by decide +kernel

/-- **C17, second sentence.** "If, even after waiting players have been let in, fewer than two players can play,
the move is refused with the insufficient-players error."  Waiting players are the occupied, non-reserved seats
that are not active yet; once they are all let in, the players who can play are exactly the occupied non-reserved
seats (`nonEmptyCount`, Go: `getNonEmptySeatCount`).  So: fewer than two occupied non-reserved seats ⇒ `next`
returns `insufficientPlayers` (in particular it does not panic — defect D7 — and does not succeed). -/
theorem insufficient_refused (sm : SM) (h : Reachable sm) (hc : sm.nonEmptyCount < 2) :
    (sm.step .next).2.1 = some .insufficientPlayers := by
  have hinv := h.inv
  rcases step_next_cases hinv with ⟨he, _⟩ | ⟨_, d, ks, kb, hn⟩
  · rw [he]
  · exfalso
    have hc2 := hn.mid_count
    have h1 := playableCount_le_nonEmpty (nextDealer_inv hinv).wf
    have h2 := (nextDealer_actUp sm).samePlayers.nonEmptyCount
    omega

/-- `next` has only two outcomes, and when it succeeds at least two seats are playable in the new hand. -/
theorem next_outcome (sm : SM) (h : Reachable sm) :
    (sm.step .next).2.1 = some .insufficientPlayers ∨
    ((sm.step .next).2.1 = none ∧ 2 ≤ (sm.step .next).1.playableCount) := by
  have hinv := h.inv
  rcases step_next_cases hinv with ⟨he, _⟩ | ⟨hok, d, ks, kb, hn⟩
  · left
    rw [he]
  · exact Or.inr ⟨hok, hn.count_ge hinv⟩

/-- The refusal rule is exact: `next` is refused **iff** fewer than two seats are occupied and not reserved; with two
or more it succeeds (all waiting players who are needed are let in).  This uses one more invariant of reachable
states: the dealer's seat is active (`SM.DealerActive`). -/
theorem next_refused_iff (sm : SM) (h : Reachable sm) :
    ((sm.step .next).2.1 = some .insufficientPlayers ↔ sm.nonEmptyCount < 2) ∧
    ((sm.step .next).2.1 = none ↔ 2 ≤ sm.nonEmptyCount) := by
  have h1 := insufficient_refused sm h
  have h2 := next_succeeds_of_nonEmpty h.inv h.dealerActive
  constructor
  · constructor
    · intro he
      apply Decidable.byContradiction
      intro hc
      rw [h2 (by omega)] at he
      cases he
    · exact h1
  · constructor
    · intro he
      apply Decidable.byContradiction
      intro hc
      rw [h1 (by omega)] at he
      cases he
    · exact h2

/-- Non-vacuity: the D7 history (one newcomer left alone: 1 occupied non-reserved seat) and an empty table. -/
example : ((SM.new 3).run [.join 0 1 none, .seat 0, .join 2 2 none, .seat 2, .next, .join 1 3 none, .seat 1,
    .leave 0, .leave 2]).nonEmptyCount = 1 := by decide +kernel
example : (SM.new 3).nonEmptyCount = 0 := by decide +kernel

/-! ## When is there no previous dealer? -/

/-- **Exactly when `dealer = none`** in a reachable state, for every table size and history: either no `Next()` has
been called yet (fresh table, possibly with joins / sit-ins / reserves / leaves), or the *last* `Next()` of the
history was called in a state `NoButtonAfterNext`: no seat occupied-and-not-reserved at all (then `nextDealer`
resets the dealer to `none`), or no dealer yet and exactly one occupied non-reserved seat which is already
playable (then `nextDealer` touches nothing).  Operations other than `Next()` never change the dealer. -/
theorem dealer_none_iff (max : Nat) (ops : List SMOp) :
    ((SM.new max).run ops).dealer = none ↔
      SMOp.next ∉ ops ∨
      ∃ pre post, ops = pre ++ SMOp.next :: post ∧ SMOp.next ∉ post ∧
        NoButtonAfterNext ((SM.new max).run pre) := by
  have key : ∀ pre post, ops = pre ++ SMOp.next :: post → SMOp.next ∉ post →
      (((SM.new max).run ops).dealer = none ↔ NoButtonAfterNext ((SM.new max).run pre)) := by
    intro pre post he hp
    have hr : Reachable ((SM.new max).run pre) := ⟨max, pre, rfl⟩
    rw [he, run_append, run_cons, run_dealer_of_no_next _ _ hp]
    exact step_next_dealer_none_iff hr.inv hr.dealerActive
  by_cases hm : SMOp.next ∈ ops
  · obtain ⟨pre, post, he, hp⟩ := split_last_next ops hm
    constructor
    · intro hd
      right
      exact ⟨pre, post, he, hp, (key pre post he hp).mp hd⟩
    · rintro (hno | ⟨pre', post', he', hp', hnb⟩)
      · exact absurd hm hno
      · exact (key pre' post' he' hp').mpr hnb
  · constructor
    · intro _
      left
      exact hm
    · intro _
      rw [run_dealer_of_no_next _ _ hm]
      rfl

/-- Consequence: in a reachable state without a dealer, either the table is fresh (no
`Next()` so far) or the last `Next()` was refused with the insufficient-players error.  (The converse fails: a
refused `Next()` may also keep, or even move, the button — see the examples.) -/
theorem dealer_none_fresh_or_refused (max : Nat) (ops : List SMOp) (hd : ((SM.new max).run ops).dealer = none) :
    SMOp.next ∉ ops ∨
    ∃ pre post, ops = pre ++ SMOp.next :: post ∧ SMOp.next ∉ post ∧
      (((SM.new max).run pre).step .next).2.1 = some .insufficientPlayers := by
  rcases (dealer_none_iff max ops).mp hd with h | ⟨pre, post, he, hp, hnb⟩
  · exact Or.inl h
  · right
    refine ⟨pre, post, he, hp, insufficient_refused _ ⟨max, pre, rfl⟩ ?_⟩
    rcases hnb with h0 | ⟨_, h1, _⟩ <;> omega

/-- One step: after `Next()` (accepted or refused) from a reachable state there is no dealer iff the state was
`NoButtonAfterNext`; in particular after a successful `Next()` there always is one. -/
theorem next_dealer_none_iff (sm : SM) (h : Reachable sm) :
    (sm.step .next).1.dealer = none ↔ NoButtonAfterNext sm :=
  step_next_dealer_none_iff h.inv h.dealerActive

/-- Non-vacuity, the reset: a hand is played with the button on seat 2 (players on 2 and 3), everybody leaves, `Next()`
is refused and resets the dealer; two new players on seats 3 and 1 then get the button on seat 1 (first playable
seat from seat 0), not on seat 3 (first playable seat after the old button). -/
example : let ops : List SMOp := [.join 2 1 none, .seat 2, .join 3 2 none, .seat 3, .next, .leave 2, .leave 3, .next,
      .join 3 3 none, .seat 3, .join 1 4 none, .seat 1]
    ((SM.new 4).run (ops.take 5)).dealer = some 2 ∧ ((SM.new 4).run (ops.take 7)).dealer = some 2 ∧
    ((SM.new 4).run (ops.take 7)).nonEmptyCount = 0 ∧
    (((SM.new 4).run (ops.take 7)).step .next).2.1 = some .insufficientPlayers ∧
    ((SM.new 4).run ops).dealer = none ∧ ((SM.new 4).run ops).playableCount = 2 ∧
    (((SM.new 4).run ops).step .next).1.dealer = some 1 := by decide +kernel
/-- Non-vacuity, the other disjunct of `NoButtonAfterNext`: a lone seated player, no dealer yet; `Next()` is refused
and there is still no dealer. -/
example : let sm := (SM.new 3).run [.join 1 1 none, .seat 1]
    sm.dealer = none ∧ sm.nonEmptyCount = 1 ∧ sm.playableCount = 1 ∧ (sm.step .next).1.dealer = none := by decide +kernel
/-- A refused `Next()` does not always clear the button: with one player left it stays where it was; and a lone
*waiting* player (seat 1 was deactivated, then taken) even receives it although `Next()` is refused. -/
example : let sm := (SM.new 3).run [.join 0 1 none, .seat 0, .join 2 2 none, .seat 2, .next, .leave 2]
    (sm.step .next).2.1 = some .insufficientPlayers ∧ (sm.step .next).1.dealer = some 0 := by decide +kernel
example : let sm := (SM.new 3).run [.join 0 1 none, .seat 0, .join 2 2 none, .seat 2, .next, .join 1 3 none, .seat 1,
      .leave 0, .leave 2]
    sm.dealer = some 0 ∧ (sm.step .next).2.1 = some .insufficientPlayers ∧ (sm.step .next).1.dealer = some 1 := by decide +kernel

end Pokerface.C17
