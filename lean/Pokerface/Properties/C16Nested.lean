import Pokerface.Proofs.PotsNested
import Pokerface.Properties.C16
/-
  C16 (continued) — "Published pots partition the chips into correctly NESTED side pots … no chip is
  placed in a pot above what its owner actually paid".

  Two clauses that `Properties/C16.lean` renders only through consequences:
  * the eligible SETS (not only their sizes) strictly shrink from the main pot to the last side pot;
  * per-owner conservation: the chips of a player who paid `c` lie in the pots slice by slice,
    `min c Lₖ − min c Lₖ₋₁` in the pot of level `Lₖ`; the slices are within `[0, Lₖ − Lₖ₋₁]`, vanish
    from the first pot whose lower boundary is `≥ c`, add up to `c`, and each pot's total is the sum
    of its owners' slices; every owner of a chip in a pot is listed in the pot's `Contributors` map,
    and a player still in the hand either covers a pot completely or has no chip in it.
  Domain as in C16: every list of entries `(idx, contribution, folded)` with distinct idx and
  contributions `≥ 0` (`C16.Valid`), any insertion order.
-/
namespace Pokerface.C16N
open Pokerface Pokerface.C16

/-- `i` is an eligible player of the pot `p`: listed in `p.contributors` and not folded (reading I3). -/
def Eligible (es : List Entry) (p : Pot) (i : Nat) : Prop :=
  (∃ a, (i, a) ∈ p.contributors) ∧ isFolded es i = false

/-- Re-export of the slice of an owner's chips between two levels: `min c hi − min c lo`. -/
abbrev slice := Pokerface.slice

/-- The per-owner slices along the published pots: entry `k` is the number of chips of an owner who
    paid `c` that lie in the `k`-th published pot. -/
def ownerSlices (es : List Entry) (c : Int) : List Int :=
  slicesFrom c 0 ((potsOf es).map (·.level))

/-! ### 1. the eligible SETS are strictly nested -/

/-- "The eligible sets strictly shrink from the main pot to the last side pot", as SETS: if the pot `p`
    is published before the pot `q`, every eligible player of `q` is an eligible player of `p`, and some
    eligible player of `p` is not eligible for `q`. -/
theorem eligible_nested (es : List Entry) (h : Valid es) (pre mid post : List Pot) (p q : Pot)
    (hp : potsOf es = pre ++ p :: (mid ++ q :: post)) :
    (∀ i, Eligible es q i → Eligible es p i) ∧ (∃ i, Eligible es p i ∧ ¬ Eligible es q i) := by
  have hpm : p ∈ potsOf es := hp ▸ List.mem_append_cons_self
  have hqm : q ∈ potsOf es := by
    rw [hp]
    simp
  have hlt : p.level < q.level := by
    have hs := levels_increasing es h
    rw [hp] at hs
    simp only [List.map_append, List.map_cons, List.pairwise_append, List.pairwise_cons] at hs
    exact hs.2.1.1 q.level (by simp)
  have hsub : ∀ i, Eligible es q i → Eligible es p i := by
    intro i hi
    obtain ⟨c, hc, hle⟩ := (eligible_exact es h q hqm i).1 hi
    exact (eligible_exact es h p hpm i).2 ⟨c, hc, by omega⟩
  refine ⟨hsub, ?_⟩
  -- strictness from the counts
  have hcnt : eligibleCount es q < eligibleCount es p := by
    have hs := eligible_shrink es h
    rw [hp] at hs
    simp only [List.map_append, List.map_cons, List.pairwise_append, List.pairwise_cons] at hs
    exact hs.2.1.1 _ (by simp)
  apply Classical.byContradiction
  intro hno
  have hall : ∀ i, Eligible es p i → Eligible es q i := by
    intro i hi
    apply Classical.byContradiction
    intro hn
    exact hno ⟨i, hi, hn⟩
  -- then the eligible keys of p are among those of q
  have hnd : (((p.contributors.filter (fun kv => !isFolded es kv.1))).map (·.1)).Nodup :=
    ((contributors_keys_nodup es h p hpm).sublist (List.filter_sublist.map _))
  have hss : ((p.contributors.filter (fun kv => !isFolded es kv.1))).map (·.1)
      ⊆ ((q.contributors.filter (fun kv => !isFolded es kv.1))).map (·.1) := by
    intro i hi
    simp only [List.mem_map, List.mem_filter, Bool.not_eq_true'] at hi ⊢
    obtain ⟨⟨j, a⟩, ⟨hm, hf⟩, rfl⟩ := hi
    obtain ⟨⟨b, hb⟩, hf'⟩ := hall j ⟨⟨a, hm⟩, hf⟩
    exact ⟨(j, b), ⟨hb, hf'⟩, rfl⟩
  have := hnd.length_le_of_subset hss
  simp only [List.length_map] at this
  unfold eligibleCount at hcnt
  omega

/-- Instance: in the sample, the eligible players of the side pot (1, 3) are among those of the main
    pot (0, 1, 3), and player 0 is eligible for the main pot only. -/
example : ∃ pre mid post p q, potsOf sample = pre ++ p :: (mid ++ q :: post) ∧
    (p.contributors.filter (fun kv => !isFolded sample kv.1)).map (·.1) = [0, 1, 3] ∧
    (q.contributors.filter (fun kv => !isFolded sample kv.1)).map (·.1) = [1, 3] :=
  ⟨[], [], [], (potsOf sample)[0]!, (potsOf sample)[1]!, by decide +kernel, by decide +kernel, by decide +kernel⟩

/-! ### 2. per-owner conservation -/

/-- "No chip is placed in a pot above what its owner actually paid", size of a slice: the chips of an
    owner (folded or not) in the pot `p` standing after the pots `pre` are between `0` and the pot's
    per-player amount `Lₖ − Lₖ₋₁ = p.wager`, and together with the owner's chips in the earlier pots
    (`min c Lₖ₋₁`) they never exceed what the owner paid. -/
theorem slice_bounds (es : List Entry) (h : Valid es) (pre post : List Pot) (p : Pot)
    (hp : potsOf es = pre ++ p :: post) (c : Int) :
    0 ≤ slice c (prevLevel pre) p.level ∧ slice c (prevLevel pre) p.level ≤ p.wager ∧
    min c (prevLevel pre) + slice c (prevLevel pre) p.level ≤ c := by
  have h1 := prevLevel_le es h hp
  rw [pot_wager es h pre post p hp]
  exact ⟨slice_nonneg h1, slice_le h1, min_add_slice_le _ _ _⟩

/-- "… above what its owner actually paid": an owner who paid `c` has NO chip in a pot whose lower
    boundary is `≥ c`. -/
theorem slice_zero_above (es : List Entry) (h : Valid es) (pre post : List Pot) (p : Pot)
    (hp : potsOf es = pre ++ p :: post) (c : Int) (hc : c ≤ prevLevel pre) :
    slice c (prevLevel pre) p.level = 0 := by
  exact slice_eq_zero hc (prevLevel_le es h hp)

/-- … and conversely, in a pot whose level lies above the lower boundary (the first pot may be empty at level 0), an
    owner who paid more than the lower boundary has a chip in the pot. -/
theorem slice_pos_iff (es : List Entry) (_h : Valid es) (pre post : List Pot) (p : Pot)
    (_hp : potsOf es = pre ++ p :: post) (c : Int) (hne : prevLevel pre < p.level) :
    0 < slice c (prevLevel pre) p.level ↔ prevLevel pre < c := by
  exact Pokerface.slice_pos_iff hne

/-- `ownerSlices` lists, position by position, the slice between the previous pot's level and the
    pot's own level. -/
theorem ownerSlices_at (es : List Entry) (pre post : List Pot) (p : Pot)
    (hp : potsOf es = pre ++ p :: post) (c : Int) :
    (ownerSlices es c)[pre.length]? = some (slice c (prevLevel pre) p.level) := by
  have := slicesFrom_getElem? c 0 (pre.map (·.level)) p.level (post.map (·.level))
  simp only [List.length_map] at this
  rw [ownerSlices, hp, List.map_append, List.map_cons, this, prevLevel_eq]

/-- Per-owner conservation: the slices of every player (folded or not) over all published pots add
    up to exactly what the player paid — none of an owner's chips is lost, duplicated or moved to
    another owner. -/
theorem slices_sum (es : List Entry) (h : Valid es) (e : Entry) (he : e ∈ es) :
    (ownerSlices es e.2.1).sum = e.2.1 := by
  rw [ownerSlices, slicesFrom_sum, potsOf_eq, getPots_last_level (llOf_inv es)]
  have h0 := h.2 e he
  have hmem : e.2.1 ∈ (llOf es).levels.map (·.level) := (llOf_levels es e.2.1).2 ⟨e, he, rfl⟩
  rw [Int.min_eq_left (le_lastD_of_sorted (llOf_inv es).sorted 0 _ hmem), Int.min_eq_right h0, Int.sub_zero]

/-- There is one slice per published pot. -/
theorem ownerSlices_length (es : List Entry) (c : Int) : (ownerSlices es c).length = (potsOf es).length := by
  simp [ownerSlices, slicesFrom_length]

/-- "Each pot's total equals what all players put in between the previous level and its own": the
    total of a pot is the sum of its owners' slices (`C16.pot_total` in terms of `slice`). -/
theorem pot_total_slices (es : List Entry) (h : Valid es) (pre post : List Pot) (p : Pot)
    (hp : potsOf es = pre ++ p :: post) :
    p.total = (es.map (fun e => slice e.2.1 (prevLevel pre) p.level)).sum :=
  pot_total es h pre post p hp

/-- A player still in the hand either covers a pot completely or has no chip in it: the slice of a
    NON-FOLDED player is the full per-pot amount if the player is listed (eligible), and `0`
    otherwise.  So nobody who can still win has chips in a pot they cannot win. -/
theorem nonfolded_slice (es : List Entry) (h : Valid es) (pre post : List Pot) (p : Pot)
    (hp : potsOf es = pre ++ p :: post) (i : Nat) (c : Int) (hi : (i, c, false) ∈ es) :
    (Eligible es p i → slice c (prevLevel pre) p.level = p.wager) ∧
    (¬ Eligible es p i → slice c (prevLevel pre) p.level = 0) := by
  have hpm : p ∈ potsOf es := hp ▸ List.mem_append_cons_self
  have h1 := prevLevel_le es h hp
  have hiff := eligible_exact es h p hpm i
  constructor
  · intro hel
    obtain ⟨c', hc', hle⟩ := hiff.1 hel
    rw [(h.unique hi hc').1, pot_wager es h pre post p hp]
    exact slice_eq_full hle h1
  · intro hnel
    have hlt : ¬ prevLevel pre < c := fun hlt => hnel (hiff.2 ⟨c, hi, nonfolded_covers es h hp hi hlt⟩)
    exact slice_eq_zero (Int.not_lt.1 hlt) h1

/-- The amount the `Contributors` map of a pot shows for an eligible player IS that player's slice. -/
theorem listed_amount_is_slice (es : List Entry) (h : Valid es) (pre post : List Pot) (p : Pot)
    (hp : potsOf es = pre ++ p :: post) (i : Nat) (c a : Int) (hi : (i, c, false) ∈ es)
    (hm : (i, a) ∈ p.contributors) : a = slice c (prevLevel pre) p.level := by
  have hf := isFolded_false h hi
  rw [eligible_amount es h pre post p hp i a hm hf,
    ((nonfolded_slice es h pre post p hp i c hi).1 ⟨⟨a, hm⟩, hf⟩), pot_wager es h pre post p hp]

/-- Every owner of a chip in a pot is listed in the pot's `Contributors` map (folded or not): no
    chip lies in a pot whose map does not name its owner. -/
theorem chip_owner_listed (es : List Entry) (h : Valid es) (pre post : List Pot) (p : Pot)
    (hp : potsOf es = pre ++ p :: post) (e : Entry) (he : e ∈ es)
    (hpos : 0 < slice e.2.1 (prevLevel pre) p.level) : ∃ a, (e.1, a) ∈ p.contributors := by
  obtain ⟨i, c, f⟩ := e
  have hlt : prevLevel pre < c := lt_of_slice_pos hpos
  cases f with
  | true =>
    have h0 := prevLevel_nonneg es h hp
    exact ⟨c, (folded_listing es h pre post p hp i c he c).2 ⟨rfl, by omega, by omega⟩⟩
  | false =>
    apply Classical.byContradiction
    intro hno
    have := (nonfolded_slice es h pre post p hp i c he).2 (fun hel => hno hel.1)
    rw [this] at hpos
    exact Int.lt_irrefl _ hpos

/-- Pot by pot, the total splits into the eligible players' full shares and the folded players'
    slices: `total = Σ_{non-folded e, Lₖ ≤ cₑ} (Lₖ − Lₖ₋₁) + Σ_{folded e} slice`. -/
theorem pot_total_split (es : List Entry) (h : Valid es) (pre post : List Pot) (p : Pot)
    (hp : potsOf es = pre ++ p :: post) :
    p.total = ((es.filter (fun e => !e.2.2 && decide (p.level ≤ e.2.1))).length : Int) * p.wager
      + ((es.filter (fun e => e.2.2)).map (fun e => slice e.2.1 (prevLevel pre) p.level)).sum := by
  have hpm : p ∈ potsOf es := hp ▸ List.mem_append_cons_self
  rw [pot_total_slices es h pre post p hp, length_filter_mul, sum_filter_map, sum_map_add]
  congr 1
  apply List.map_congr_left
  rintro ⟨i, c, f⟩ he
  cases f with
  | true => simp
  | false =>
    -- a player still in the hand covers the pot or has nothing in it
    have hns := nonfolded_slice es h pre post p hp i c he
    have hiff := eligible_exact es h p hpm i
    by_cases hle : p.level ≤ c
    · simpa [hle] using hns.1 (hiff.2 ⟨c, he, hle⟩)
    · have hnel : ¬ Eligible es p i := by
        rintro hel
        obtain ⟨c', hc', hle'⟩ := hiff.1 hel
        rw [(h.unique he hc').1] at hle
        exact hle hle'
      simpa [hle] using hns.2 hnel

/-! ### non-vacuity on the C16 sample (0:30, 1:100, 2:60 folded, 3:100, 4:30 folded at a boundary) -/

/-- The slices of the folded player 2 (paid 60): 30 in the main pot, 30 of the 70 in the side pot. -/
example : ownerSlices sample 60 = [30, 30] := by decide +kernel
/-- Player 0 (paid 30) has nothing in the side pot; player 4 (folded at the boundary) neither. -/
example : ownerSlices sample 30 = [30, 0] := by decide +kernel
example : ownerSlices sample 100 = [30, 70] := by decide +kernel

/-- The positional hypotheses are met by the side pot of the sample, and there the formula of
    `pot_total_split` reads `170 = 2 * 70 + (30 + 0)`. -/
example : ∃ pre p post, potsOf sample = pre ++ p :: post ∧ prevLevel pre = 30 ∧ p.level = 100 ∧
    p.total = 170 ∧ (sample.filter (fun e => !e.2.2 && decide (p.level ≤ e.2.1))).length = 2 ∧
    (sample.filter (fun e => e.2.2)).map (fun e => slice e.2.1 (prevLevel pre) p.level) = [30, 0] :=
  ⟨[(potsOf sample)[0]!], (potsOf sample)[1]!, [], by decide +kernel, by decide +kernel, by decide +kernel,
    by decide +kernel, by decide +kernel, by decide +kernel⟩

/-- `chip_owner_listed` is not vacuous: the folded player 2 owns 30 chips of the side pot. -/
example : 0 < slice 60 30 100 := by decide +kernel

end Pokerface.C16N

#print axioms Pokerface.C16N.eligible_nested
#print axioms Pokerface.C16N.slice_bounds
#print axioms Pokerface.C16N.slice_zero_above
#print axioms Pokerface.C16N.slice_pos_iff
#print axioms Pokerface.C16N.ownerSlices_at
#print axioms Pokerface.C16N.slices_sum
#print axioms Pokerface.C16N.pot_total_slices
#print axioms Pokerface.C16N.nonfolded_slice
#print axioms Pokerface.C16N.listed_amount_is_slice
#print axioms Pokerface.C16N.chip_owner_listed
#print axioms Pokerface.C16N.pot_total_split
