/-
  C08, second sentence, carried THROUGH THE TABLE: "a player who takes an empty seat strictly between the dealer and the
  big blind is not DEALT IN until the button has passed that seat".

  The seat-manager theorems (`C08.newcomer_timing`, `C08A.newcomer_timing_general`) speak about seat `x` being PLAYABLE in
  the seat manager.  `C08T.game_players` says that the players of the game the table creates (`prepareNextGame` /
  `startGame`, table/internal.go) are exactly the playable seats, clockwise from the dealer.  This file composes the two:
  "dealt in" (`DealtIn`) is "playable at the hand-off", and with the conclusion `Track` of `C08A.newcomer_timing_general`
  (same hypotheses D4 / D9 / D10, in `QuietRun`) the newcomer is among the players of the table's next game iff he has sat
  in and some `next` so far — including the one of this hand-off — moved the button past his seat.
-/
import Pokerface.Properties.C08Table
import Pokerface.Properties.C08Arrival

namespace Pokerface.C08D
open Pokerface Table SM

/-- "The player on seat `x` is dealt in by the table": the game created by `t.step (.hand finals)` (`prepareNextGame`)
has player settings made of the seats `GetPlayableSeats()` of the seat manager after `setupPosition` (state `t1`), seat
`x` is the `k`-th of them, and the sheet hands game index `k` to the player on seat `x`. -/
def DealtIn (t : Table) (finals : List Int) (x : Nat) : Prop :=
  ∃ t1 seats k, t.setupPosition = (t1, none) ∧ playableSeats t1.sm = some seats ∧
    (t.step (.hand finals)).2.cfg = some (t1.gameSeats seats) ∧ seats[k]? = some x ∧
    (t1.assignGameIdx seats).seatOfGameIdx k = some x ∧
    ∃ p, t1.players[x]? = some (some p) ∧ (t1.gameSeats seats)[k]? = some ⟨p.bankroll, p.dealer, p.sb, p.bb⟩

/-- **C08, "dealt in" = "playable at the hand-off"** (`C08T.game_players` composed with playability).
Whenever a reachable table creates a game, the player on seat `x` is among its players (with a game index and an
entry of the player settings) iff seat `x` is a playable seat of the table's seat manager after `setupPosition`. -/
theorem dealt_in_iff_playable (t : Table) (h : TReachable t) (finals : List Int) (cfg : List SeatCfg)
    (hc : (t.step (.hand finals)).2.cfg = some cfg) (x : Nat) :
    DealtIn t finals x ↔ (x < t.setupPosition.1.sm.max ∧ t.setupPosition.1.sm.playable x = true) := by
  obtain ⟨t1, seats, d, hset, _, _, hps, hcfg, _, hpl, hidx, _⟩ := C08T.game_players t h finals cfg hc
  obtain ⟨_, _, _, _, _, hmem⟩ := playableSeats_spec hps
  rw [hset]
  constructor
  · rintro ⟨t1', seats', k, hset', hps', _, hk, _⟩
    rw [hset] at hset'
    cases hset'
    rw [hps] at hps'
    cases hps'
    exact (hmem x).mp (List.mem_of_getElem? hk)
  · intro hx
    obtain ⟨k, hk⟩ := List.getElem?_of_mem ((hmem x).mpr hx)
    obtain ⟨_, p, hp, hck⟩ := hpl k x hk
    exact ⟨t1, seats, k, hset, hps, by rw [hc, hcfg], hk, hidx k x hk, p, hp, by rw [← hcfg]; exact hck⟩

/-- Undisturbed hand-off (`inPosition = false`: the positions are set up by this very `prepareNextGame`): the seat
manager at the hand-off is the table's seat manager after exactly one successful `Next()`. -/
theorem dealt_in_iff_playable_after_next (t : Table) (h : TReachable t) (hp : t.inPosition = false) (finals : List Int)
    (cfg : List SeatCfg) (hc : (t.step (.hand finals)).2.cfg = some cfg) (x : Nat) :
    (t.sm.step .next).2.1 = none ∧
    (DealtIn t finals x ↔ (x < (t.sm.step .next).1.max ∧ (t.sm.step .next).1.playable x = true)) := by
  obtain ⟨t1, _, _, hset, _⟩ := C08T.game_players t h finals cfg hc
  obtain ⟨hsm, hok, _⟩ := C08T.positions_copied t t1 hp hset
  refine ⟨hok, ?_⟩
  have := dealt_in_iff_playable t h finals cfg hc x
  rw [hset] at this
  rw [← hsm]
  exact this

/-- **C08 second sentence at the table** ("… is not dealt in until the button has passed that seat — not before, and
not later").  `t` is a reachable table about to hand off undisturbed (`inPosition = false`) and it creates a game.  Its
seat manager `t.sm` (a reachable seat manager, `C08T.reachable_invariant`) is at a point of a history of the newcomer on
seat `x` as in `C08A.newcomer_timing_general`: `Track x t.sm sat passed (.next :: ops)` — the conclusion of that theorem
at the moment the `Next()` of this hand-off is the next operation (ghost state: `sat` the newcomer's `Seat(x)` has
happened, `passed` some earlier `next` moved the button past `x`); it holds under the hypotheses D4 / D9 / D10 of the
seat-manager theorem (`QuietRun`).  Then the newcomer is among the players of the game the table creates **iff** he has
sat in and the button has passed his seat, in an earlier `next` or in the `Next()` of this hand-off. -/
theorem newcomer_dealt_in_iff (t : Table) (h : TReachable t) (hp : t.inPosition = false) (finals : List Int)
    (cfg : List SeatCfg) (hc : (t.step (.hand finals)).2.cfg = some cfg) (x : Nat) (hx : x < t.sm.max)
    (sat : Bool) (passed : Prop) (ops : List SMOp) (htr : Track x t.sm sat passed (.next :: ops)) :
    DealtIn t finals x ↔ (sat = true ∧ (passed ∨ PassedStep t.sm x)) := by
  obtain ⟨_, hiff⟩ := dealt_in_iff_playable_after_next t h hp finals cfg hc x
  -- the `Track` of `.next :: ops` holds, after the step, the `Track` of the state at the hand-off
  rw [hiff, SM.step_max h.inv.smr.inv .next, track_head htr.2.2.2]
  simp [hx]

/-- **"Not before"**, literally about being dealt in by the table: in the situation of `newcomer_dealt_in_iff`, if no
`next` so far has moved the button past seat `x` and the `Next()` of this hand-off does not either, the newcomer is NOT
among the players of the game the table creates — although the game is created and he may well have sat in. -/
theorem newcomer_not_dealt_in_before_pass (t : Table) (h : TReachable t) (hp : t.inPosition = false) (finals : List Int)
    (cfg : List SeatCfg) (hc : (t.step (.hand finals)).2.cfg = some cfg) (x : Nat) (hx : x < t.sm.max)
    (sat : Bool) (passed : Prop) (ops : List SMOp) (htr : Track x t.sm sat passed (.next :: ops))
    (hnp : ¬ passed) (hns : ¬ PassedStep t.sm x) : ¬ DealtIn t finals x := by
  rw [newcomer_dealt_in_iff t h hp finals cfg hc x hx sat passed ops htr]
  rintro ⟨_, hor⟩
  exact hor.elim hnp hns

/-! ## The hand-off in general (also `inPosition = true`: every hand but the first)

After a hand has been played, `prepareNextGame` closes it with a `setupPosition` of its own (`C08T.closing_setup`), so the
NEXT `prepareNextGame` finds `inPosition = true`, its `setupPosition` does nothing, and the seat manager at the hand-off is
the table's current one — the `Next()` that belongs to this hand-off is the closing one of the previous call. -/

theorem setupPosition_of_inPosition (t : Table) (hp : t.inPosition = true) : t.setupPosition = (t, none) :=
  Table.setupPosition_of_inPosition hp

/-- **C08 second sentence at the table, any hand-off.**  A reachable table creates a game.  The seat manager at the
hand-off, `t.setupPosition.1.sm` (= `t.sm` when `inPosition = true`, = `t.sm` after one `Next()` otherwise), is at a
point of a history of the newcomer on seat `x` as in `C08A.newcomer_timing_general` (`Track …`, ghost state `sat` /
`passed`; whatever operations `ops` follow).  Then the newcomer is among the players of that game **iff** he has sat in
and some `next` so far has moved the button past his seat. -/
theorem newcomer_dealt_in_iff_at_hand_off (t : Table) (h : TReachable t) (finals : List Int)
    (cfg : List SeatCfg) (hc : (t.step (.hand finals)).2.cfg = some cfg) (x : Nat) (hx : x < t.setupPosition.1.sm.max)
    (sat : Bool) (passed : Prop) (ops : List SMOp) (htr : Track x t.setupPosition.1.sm sat passed ops) :
    DealtIn t finals x ↔ (sat = true ∧ passed) := by
  rw [dealt_in_iff_playable t h finals cfg hc x, track_head htr]
  exact ⟨fun a => a.2, fun a => ⟨hx, a⟩⟩

/-- **"Not dealt in until the button has passed that seat"**, any hand-off, literally about the players of the table's
game: as long as no `next` has moved the button past seat `x` (`¬ passed`), the newcomer is not among them. -/
theorem newcomer_not_dealt_in_before_pass_at_hand_off (t : Table) (h : TReachable t) (finals : List Int)
    (cfg : List SeatCfg) (hc : (t.step (.hand finals)).2.cfg = some cfg) (x : Nat) (hx : x < t.setupPosition.1.sm.max)
    (sat : Bool) (passed : Prop) (ops : List SMOp) (htr : Track x t.setupPosition.1.sm sat passed ops)
    (hnp : ¬ passed) : ¬ DealtIn t finals x := by
  rw [newcomer_dealt_in_iff_at_hand_off t h finals cfg hc x hx sat passed ops htr]
  exact fun a => hnp a.2

/-! ## Non-vacuity -/

/-- `C08T.demo` (first hand, `inPosition = false`): seats 0, 2, 3 are dealt in, seats 1 and 4 are not. -/
example : TReachable C08T.demo ∧ C08T.demo.inPosition = false ∧ (C08T.demo.step (.hand [150, 200, 0])).2.cfg.isSome = true :=
  ⟨C08T.demo_reachable, by decide, by decide⟩
example : DealtIn C08T.demo [150, 200, 0] 2 :=
  (dealt_in_iff_playable C08T.demo C08T.demo_reachable [150, 200, 0] _ C08T.demo_hand_cfg 2).mpr (by decide)
example : ¬ DealtIn C08T.demo [150, 200, 0] 4 := fun hd =>
  absurd ((dealt_in_iff_playable C08T.demo C08T.demo_reachable [150, 200, 0] _ C08T.demo_hand_cfg 4).mp hd) (by decide)

/-- `demo` after its first hand (everybody keeps chips; the closing `Next()` gives dealer 2, small blind 3, big blind 0 and
deactivates the empty seat 4, which lies strictly between the dealer and the big blind). -/
def afterHand : Table := (C08T.demo.step (.hand [100, 200, 50])).1
/-- `afterHand`, then player 9 joins seat 4 and sits in. -/
def newcomer : Table := afterHand.run [.join 4 9 100 none, .activate 4]

theorem afterHand_reachable : TReachable afterHand := C08T.demo_reachable.step _
theorem newcomer_reachable : TReachable newcomer := (afterHand_reachable.step _).step _

/-- the seat manager under the table is the seat manager of the arrival history: `Join(4)`, `Seat(4)` from `afterHand.sm` -/
theorem newcomer_sm : newcomer.setupPosition.1.sm = ((afterHand.sm.step (.join 4 9 none)).1.step (.seat ((4 : Nat) : Int))).1 := by
  decide

/-- **Non-vacuity of the composition, end to end**: the hypotheses of `C08A.newcomer_timing_general` hold for the seat
manager under `afterHand` (reachable by `C08T.reachable_invariant`; dealer 2, seat 4 = two places after him, inactive;
`Join` accepted on seat 4; the history `[Seat(4)]` is quiet), its conclusion `Track` feeds
`newcomer_not_dealt_in_before_pass_at_hand_off`, and the game the table then creates (it IS created: three players) does not
contain the newcomer although he has sat in: the button has not passed seat 4. -/
example : (newcomer.step (.hand [])).2.cfg = some [⟨200, true, false, false⟩, ⟨50, false, true, false⟩, ⟨100, false, false, true⟩] ∧
    ¬ DealtIn newcomer [] 4 := by
  have hA : SM.Reachable afterHand.sm := (C08T.reachable_invariant afterHand afterHand_reachable).2.2.1
  have htr := C08A.newcomer_timing_general afterHand.sm hA 2 2 4 ⟨none, false, false⟩ 4 9 none (by decide) (by decide)
    (by decide) (by decide) (by decide) rfl (by decide) [.seat ((4 : Nat) : Int)] ⟨Or.inr (Or.inl rfl), trivial⟩
  have htr' := htr.2.2.2
  rw [← newcomer_sm] at htr'
  refine ⟨by decide, ?_⟩
  refine newcomer_not_dealt_in_before_pass_at_hand_off newcomer newcomer_reachable []
    [⟨200, true, false, false⟩, ⟨50, false, true, false⟩, ⟨100, false, false, true⟩] (by decide) 4 (by decide)
    _ _ [] htr' ?_
  rintro (hf | ⟨hf, _⟩)
  · exact hf
  · cases hf

end Pokerface.C08D

#print axioms Pokerface.C08D.dealt_in_iff_playable
#print axioms Pokerface.C08D.dealt_in_iff_playable_after_next
#print axioms Pokerface.C08D.newcomer_dealt_in_iff
#print axioms Pokerface.C08D.newcomer_not_dealt_in_before_pass
#print axioms Pokerface.C08D.newcomer_dealt_in_iff_at_hand_off
#print axioms Pokerface.C08D.newcomer_not_dealt_in_before_pass_at_hand_off
