import Pokerface.Proofs.EngineResult
import Pokerface.Proofs.FlowStatic
import Pokerface.Generated.Tables
/-
  C01 — Chips are conserved at every point of a hand.

  "At every point of a hand each player's bankroll equals the chips still behind plus the
  chips wagered in the current round plus the chips already moved to the pot, none of the
  three is ever negative, the round pot shown equals the wagers on the table, and whenever
  pots are published they add up to exactly what the players have put in.  When the hand
  closes the per-player changes sum to zero, every final stack equals the starting bankroll
  plus that player's change and is never negative, and nobody loses more than they put in."

  Statements about the model `Game.step` for every reachable state: every configuration
  `start` accepts with non-negative forced bets (any seats, bankrolls, blinds, antes, limit,
  deck, hole-card rule), every deck order, every sequence of operations — accepted or
  refused — with every `Int` amount.
-/
namespace Pokerface.C01
open Pokerface Game

/-- Sentence 1, per player: bankroll = stack + wager + pot, none negative, and the stack is the
    stack at the start of the round minus the round's wager. -/
theorem chip_inv {g : Game} (h : Reachable g) (p : Player) (hp : p ∈ g.players) :
    p.bankroll = p.stack + p.wager + p.pot ∧ 0 ≤ p.stack ∧ 0 ≤ p.wager ∧ 0 ≤ p.pot ∧
    p.stack = p.initial - p.wager :=
  let i := (inv_reachable h).chips0.pinv p hp
  ⟨i.split, i.stack0, i.wager0, i.pot0, i.rebase⟩

/-- Sentence 1: the round pot shown equals the wagers on the table. -/
theorem round_pot {g : Game} (h : Reachable g) : g.roundPot = (g.players.map (·.wager)).sum :=
  (inv_reachable h).chips0.rp

/-- The one-step form, with the amount universally quantified: whatever operation is applied
    to a reachable state — any action, any seat, any amount, accepted or refused — the chip
    invariant holds afterwards (a negative amount such as `Bet(-5)` is the case of DESIGN §7 D1). -/
theorem chip_inv_step {g : Game} (h : Reachable g) (op : Op) (p : Player) (hp : p ∈ (g.step op).1.players) :
    p.bankroll = p.stack + p.wager + p.pot ∧ 0 ≤ p.stack ∧ 0 ≤ p.wager ∧ 0 ≤ p.pot ∧ p.stack ≤ p.bankroll := by
  have i := (inv_step g (inv_reachable h) op).chips0.pinv p hp
  exact ⟨i.split, i.stack0, i.wager0, i.pot0, by have := i.split; have := i.wager0; have := i.pot0; omega⟩

/-- Supporting facts of the same invariant: the wager to match and the minimum raise are never
    negative, and outside the ante collection no wager exceeds the wager to match. -/
theorem table_accounts {g : Game} (h : Reachable g) :
    0 ≤ g.cw ∧ 0 ≤ g.prev ∧ (g.event ≠ .anteRequested → ∀ p ∈ g.players, p.wager ≤ g.cw) :=
  let i := inv_reachable h
  ⟨i.chips0.cw0, i.chips0.prev0, i.wle⟩

/-- Non-vacuity: a reachable state in the middle of a hand with chips in all three accounts. -/
def exCfg : Config :=
  { opts := { ante := 2, blindDealer := 0, blindSB := 5, blindBB := 10, potLimit := false, holeCount := 2, required := 0,
              lvl := fun _ => 1, table := [], deck := (List.range 20).map fun k => { suit := 83, rank := k + 2 } },
    seats := [{ bankroll := 100, dealer := true, sb := false, bb := false },
              { bankroll := 7, dealer := false, sb := true, bb := false },
              { bankroll := 50, dealer := false, sb := false, bb := true }] }

def exOps : List Op := [.ready, .payAnte, .payBlinds, .ready, .act none .raise 30]

example : Reachable ((start exCfg).1.run exOps) :=
  ⟨exCfg, exOps, ⟨⟨by decide, by decide, by decide, by decide⟩⟩, by decide, rfl⟩

example : (((start exCfg).1.run exOps).players.map fun p => (p.stack, p.wager, p.pot)) = [(68, 30, 2), (0, 5, 2), (38, 10, 2)] := by
  decide +kernel

/-- Sentence 1, last clause ("whenever pots are published they add up to exactly what the
    players have put in").  `updatePots` publishes `g.pots` at `AntePaid`, at every
    `RoundClosed` and before settlement.  In every reachable state the pot totals add up to the
    chips in the per-player pot accounts (`potSum` = Σ `pot`), plus — at `RoundClosed`, the
    moment of publication, when the wagers of the round have not yet been swept — the wagers on
    the table (`wagerSum` = Σ `wager`); i.e. at each publication they equal everything put in,
    and in between (while a later round is played) they stay equal to the swept part. -/
theorem pots_total {g : Game} (h : Reachable g) :
    (g.pots.map (·.total)).sum = g.potSum + (if g.event = .roundClosed then g.wagerSum else 0) :=
  pots_total_of (inv_reachable h) (potsOK_reachable h)

/-- The same, spelled out for the two instants at which a driver reads the pots: at a closed
    round they hold every chip the players have put in so far (bankroll minus stack). -/
theorem pots_total_at_roundClosed {g : Game} (h : Reachable g) (he : g.event = .roundClosed) :
    (g.pots.map (·.total)).sum = (g.players.map fun p => p.bankroll - p.stack).sum := by
  rw [pots_total h, if_pos he]
  have hi := (inv_reachable h).chips0.pinv
  have : g.players.map (fun p => p.bankroll - p.stack) = g.players.map (fun p => p.pot + p.wager) :=
    List.map_congr_left (fun p hp => by have := (hi p hp).split; omega)
  rw [this, Game.potSum, Game.wagerSum]
  exact sum_map_add g.players (·.pot) (·.wager)

/-- Supporting fact (what makes C16 applicable to the engine): at `RoundClosed` and at
    `GameClosed` the published pots are exactly `potsOf` of the per-player totals
    `(idx, pot + wager, folded)` of the current players, and those entries are in C16's domain. -/
theorem pots_published {g : Game} (h : Reachable g) (he : g.event = .roundClosed ∨ g.event = .gameClosed) :
    g.pots = potsOf g.entries ∧ C16.Valid g.entries := by
  have hi := inv_reachable h
  refine ⟨?_, entries_valid hi.struct hi.chips0.pinv⟩
  rcases he with he | he
  · exact (potsOK_reachable h).closed he
  · exact (resultGood_reachable h he).fresh

/-- Sentence 2 ("When the hand closes the per-player changes sum to zero, every final stack
    equals the starting bankroll plus that player's change and is never negative, and nobody
    loses more than they put in").  In every reachable state whose event is `GameClosed` there is
    a result; its `changed` column sums to zero; it lists exactly the seats, in seat order; and
    for seat `i` with player record `p`: `finalStack = bankroll + changed`, `0 ≤ finalStack`,
    and `changed ≥ −pot` where `p.pot` is everything the player put in (all wagers are zero at
    that point, see `closed_accounts`).  No assumption on the hand strengths is needed. -/
theorem closed_result {g : Game} (h : Reachable g) (he : g.event = .gameClosed) :
    ∃ r, g.result = some r ∧ (r.players.map (·.changed)).sum = 0 ∧ r.players.length = g.n ∧
      ∀ (i : Nat) (p : Player), g.players[i]? = some p → ∃ pr : PlayerResult, r.players[i]? = some pr ∧ pr.idx = i ∧
        pr.finalStack = p.bankroll + pr.changed ∧ 0 ≤ pr.finalStack ∧ -p.pot ≤ pr.changed := by
  have hi := inv_reachable h
  exact resultGood_spec hi.struct hi.chips0.pinv (resultGood_reachable h he)

/-- At `GameClosed` nothing is left on the table: every wager is zero, so a player's `pot`
    account is everything that player put in (`bankroll − stack`). -/
theorem closed_accounts {g : Game} (h : Reachable g) (he : g.event = .gameClosed) (p : Player) (hp : p ∈ g.players) :
    p.wager = 0 ∧ p.pot = p.bankroll - p.stack := by
  have hw := (resultGood_reachable h he).w0 p hp
  have := ((inv_reachable h).chips0.pinv p hp).split
  exact ⟨hw, by omega⟩

/-- Sentence 2 in the property's own words: when the hand is closed, (1) the changes sum to
    zero; for every seat (2) final stack = starting bankroll + change, (3) the final stack is
    not negative, (4) the loss is at most the chips put in (`bankroll − stack`). -/
theorem hand_closes_balanced {g : Game} (h : Reachable g) (he : g.event = .gameClosed) :
    ∃ r, g.result = some r ∧ (r.players.map (·.changed)).sum = 0 ∧
      ∀ (i : Nat) (p : Player) (pr : PlayerResult), g.players[i]? = some p → r.players[i]? = some pr →
        pr.finalStack = p.bankroll + pr.changed ∧ 0 ≤ pr.finalStack ∧ -(p.bankroll - p.stack) ≤ pr.changed := by
  obtain ⟨r, hr, hz, _, hall⟩ := closed_result h he
  refine ⟨r, hr, hz, ?_⟩
  intro i p pr hp hpr
  obtain ⟨pr', hpr', _, h1, h2, h3⟩ := hall i p hp
  rw [hpr] at hpr'; cases hpr'
  have := (closed_accounts h he p (List.mem_of_getElem? hp)).2
  exact ⟨h1, h2, by omega⟩

/-- The result of a closed hand is C02's showdown function applied to the engine's own players
    (seat, bankroll, chips put in, fold flag, published strength), so every theorem of C02 about
    `C02.settle` speaks about the engine's result (those that need positive strengths under that
    extra hypothesis). -/
theorem closed_result_is_settle {g : Game} (h : Reachable g) (he : g.event = .gameClosed) :
    g.result = some (C02.settle g.seats) :=
  (resultGood_reachable h he).settle

/-- Once closed, nothing changes any more (from C06): the statements above hold for the closed
    hand whatever is called afterwards. -/
theorem closed_is_final {g : Game} (h : Reachable g) (he : g.event = .gameClosed) (op : Op) : (g.step op).1 = g :=
  (closed_refuses g (inv_reachable h) he op).2

/-! ## Non-vacuity: a three-seat hand with two side pots played to `GameClosed` -/

/-- Standard power table; seat 1 (7 chips) is all-in by ante + small blind and holds aces, seat 2
    (50 chips) holds kings, seat 0 (100 chips) holds 7-2. -/
def sideCfg : Config :=
  { opts := { ante := 2, blindDealer := 0, blindSB := 5, blindBB := 10, potLimit := false, holeCount := 2, required := 0,
              lvl := Generated.combinationLevel, table := Generated.powerStandard,
              deck := [⟨67, 2⟩, ⟨68, 7⟩, ⟨83, 14⟩, ⟨72, 14⟩, ⟨83, 13⟩, ⟨72, 13⟩, ⟨67, 3⟩, ⟨68, 9⟩, ⟨67, 5⟩, ⟨72, 11⟩,
                       ⟨68, 3⟩, ⟨67, 12⟩, ⟨68, 4⟩, ⟨83, 8⟩, ⟨83, 2⟩] },
    seats := [{ bankroll := 100, dealer := true, sb := false, bb := false },
              { bankroll := 7, dealer := false, sb := true, bb := false },
              { bankroll := 50, dealer := false, sb := false, bb := true }] }

def sideOps : List Op :=
  [.ready, .payAnte, .payBlinds, .ready, .act none .allin 0, .act none .pass 0, .act none .allin 0,
   .next, .next, .next, .next]

def sideAt (k : Nat) : Game := (start sideCfg).1.run (sideOps.take k)

theorem sideReach (k : Nat) : Reachable (sideAt k) :=
  ⟨sideCfg, sideOps.take k, ⟨⟨by decide, by decide, by decide, by decide⟩⟩, by decide, rfl⟩

/-- The whole hand evaluated once: the closed state as the examples below (and those about the table that
    plays this hand) read it, and the `bankroll` fields after every prefix of the run. -/
theorem side_closed :
    ((start sideCfg).1.run sideOps).event = .gameClosed ∧
    ((start sideCfg).1.run sideOps).pots.map (fun p => (p.level, p.total)) = [(7, 21), (50, 86), (100, 50)] ∧
    ((start sideCfg).1.run sideOps).result.map (fun r => r.players.map fun p => (p.idx, p.finalStack, p.changed))
      = some [(0, 50, -50), (1, 21, 14), (2, 86, 36)] ∧
    ((start sideCfg).1.run sideOps).players.map (fun p => (p.bankroll, p.stack, p.wager, p.pot))
      = [(100, 0, 0, 100), (7, 0, 0, 7), (50, 0, 0, 50)] ∧
    ((List.range 12).all fun k => (sideAt k).players.map (·.bankroll) == [100, 7, 50]) = true := by
  decide +kernel

theorem sideAt_all : sideAt 11 = (start sideCfg).1.run sideOps := rfl

/-- pots published at `AntePaid` (one pot of 6 = three antes), still 6 = Σ pot while the preflop
    round is played with 113 chips of wagers on the table -/
example : ((sideAt 6).event, (sideAt 6).pots.map (fun p => (p.level, p.total)), (sideAt 6).potSum, (sideAt 6).wagerSum)
    = (.roundStarted, [(2, 6)], 6, 113) := by decide +kernel

/-- `RoundClosed` after the two all-ins: three pots 21 + 86 + 50 = 157 = 6 (pot accounts) + 151 (wagers) -/
example : ((sideAt 7).event, (sideAt 7).pots.map (fun p => (p.level, p.total)), (sideAt 7).potSum, (sideAt 7).wagerSum)
    = (.roundClosed, [(7, 21), (50, 86), (100, 50)], 6, 151) := by decide +kernel

/-- the flop closed at once (nobody can act): same pots, everything swept into the pot accounts -/
example : ((sideAt 8).event, (sideAt 8).round, ((sideAt 8).pots.map (·.total)).sum, (sideAt 8).potSum, (sideAt 8).wagerSum)
    = (.roundClosed, .flop, 157, 157, 0) := by decide +kernel

/-- `GameClosed`: seat 1 wins the main pot (+14), seat 2 the first side pot (+36), seat 0 gets the
    uncalled 50 back and loses 50; 14 + 36 − 50 = 0; final stacks 50, 21, 86 -/
example : ((sideAt 11).event, (sideAt 11).pots.map (fun p => (p.level, p.total)),
      (sideAt 11).result.map (fun r => r.players.map fun p => (p.idx, p.finalStack, p.changed)))
    = (.gameClosed, [(7, 21), (50, 86), (100, 50)], some [(0, 50, -50), (1, 21, 14), (2, 86, 36)]) := by
  rw [sideAt_all, side_closed.1, side_closed.2.1, side_closed.2.2.1]

example : (sideAt 11).players.map (fun p => (p.bankroll, p.stack, p.wager, p.pot))
    = [(100, 0, 0, 100), (7, 0, 0, 7), (50, 0, 0, 50)] := side_closed.2.2.2.1

/-- the hypotheses of `closed_result` / `pots_published` hold for that state -/
example : Reachable (sideAt 11) ∧ (sideAt 11).event = .gameClosed := ⟨sideReach 11, side_closed.1⟩
example : Reachable (sideAt 7) ∧ (sideAt 7).event = .roundClosed := ⟨sideReach 7, by decide +kernel⟩

/-! ## The "starting bankroll" is the configured one -/

/-- Makes "starting bankroll" explicit (sentences 1 and 2 speak of "each player's bankroll" / "the
    starting bankroll"): in every state of every run — any operations, accepted or refused, any
    arguments — from a configuration `start` accepts, the table has the configured number of seats
    and the `bankroll` field of seat `i` is the bankroll configured for seat `i`; it never changes
    during the hand.  (`Static`, Proofs/EnginePay.lean: the same holds for the seat index and the
    three positions, `seat_is_configured`.) -/
theorem bankroll_is_configured (c : Config) (wf : WFConfig c) (hs : (start c).2 = none) (ops : List Op) :
    ((start c).1.run ops).players.length = c.seats.length ∧
    ∀ i : Nat, (((start c).1.run ops).players[i]?).map (·.bankroll) = (c.seats[i]?).map (·.bankroll) := by
  constructor
  · have h := congrArg List.length (static_of_config c hs ops)
    simp only [List.length_map] at h; rw [h]; exact config_players_length c
  · intro i
    have h := congrArg (Option.map (fun t : Nat × Bool × Bool × Bool × Int => t.2.2.2.2))
      (seat_static_of_config c hs ops i)
    simpa [Option.map_map, Function.comp_def, Player.static] using h

/-- the same for all static fields of a seat: index, dealer / small-blind / big-blind position, bankroll -/
theorem seat_is_configured (c : Config) (wf : WFConfig c) (hs : (start c).2 = none) (ops : List Op) (i : Nat)
    (p : Player) (hp : ((start c).1.run ops).players[i]? = some p) :
    ∃ s, c.seats[i]? = some s ∧ p.idx = i ∧ p.posDealer = s.dealer ∧ p.posSB = s.sb ∧ p.posBB = s.bb ∧
      p.bankroll = s.bankroll := by
  have h := seat_static_of_config c hs ops i
  rw [hp] at h
  obtain ⟨s, hs', h⟩ := Option.map_eq_some_iff.1 h.symm
  simp only [Player.static, Prod.mk.injEq] at h
  exact ⟨s, hs', h.1.symm, h.2.1.symm, h.2.2.1.symm, h.2.2.2.1.symm, h.2.2.2.2.symm⟩

/-- Sentence 1 with the configured bankroll: at every point of every hand, for every configured seat
    `i` with bankroll `b`, the player at seat `i` has `b = stack + wager + pot`, none of them negative. -/
theorem chip_inv_configured (c : Config) (wf : WFConfig c) (hs : (start c).2 = none) (ops : List Op) (i : Nat)
    (s : SeatCfg) (hseat : c.seats[i]? = some s) :
    ∃ p, ((start c).1.run ops).players[i]? = some p ∧
      s.bankroll = p.stack + p.wager + p.pot ∧ 0 ≤ p.stack ∧ 0 ≤ p.wager ∧ 0 ≤ p.pot := by
  obtain ⟨hlen, hb⟩ := bankroll_is_configured c wf hs ops
  have hi : i < ((start c).1.run ops).players.length := by
    rw [hlen]; exact (List.getElem?_eq_some_iff.mp hseat).1
  refine ⟨((start c).1.run ops).players[i], List.getElem?_eq_getElem hi, ?_⟩
  have hbi := hb i
  rw [List.getElem?_eq_getElem hi, hseat] at hbi
  simp only [Option.map_some, Option.some.injEq] at hbi
  obtain ⟨h1, h2, h3, h4, _⟩ := chip_inv ((⟨c, ops, wf, hs, rfl⟩ : Reachable ((start c).1.run ops))) _ (List.getElem_mem hi)
  exact ⟨by rw [← hbi]; exact h1, h2, h3, h4⟩

/-- Sentence 2 ("every final stack equals the starting bankroll plus that player's change and is never
    negative, and nobody loses more than they put in") restated with the CONFIGURED bankroll: when a run
    from configuration `c` ends in `GameClosed`, there is a result whose changes sum to zero, with one row
    per configured seat, in seat order; for the seat `i` configured with bankroll `b` the row says
    `finalStack = b + changed`, `0 ≤ finalStack`, and the loss is at most what that seat put in
    (`b − stack`, the stack being what the player record still holds), in particular at most `b`. -/
theorem closed_result_configured (c : Config) (wf : WFConfig c) (hs : (start c).2 = none) (ops : List Op)
    (he : ((start c).1.run ops).event = .gameClosed) :
    ∃ r, ((start c).1.run ops).result = some r ∧ (r.players.map (·.changed)).sum = 0 ∧
      r.players.length = c.seats.length ∧
      ∀ (i : Nat) (s : SeatCfg), c.seats[i]? = some s →
        ∃ (p : Player) (pr : PlayerResult), ((start c).1.run ops).players[i]? = some p ∧ r.players[i]? = some pr ∧
          pr.idx = i ∧ pr.finalStack = s.bankroll + pr.changed ∧ 0 ≤ pr.finalStack ∧
          -(s.bankroll - p.stack) ≤ pr.changed ∧ -s.bankroll ≤ pr.changed := by
  have hr := (⟨c, ops, wf, hs, rfl⟩ : Reachable ((start c).1.run ops))
  obtain ⟨r, hres, hz, hlen, hall⟩ := closed_result hr he
  obtain ⟨hn, hb⟩ := bankroll_is_configured c wf hs ops
  refine ⟨r, hres, hz, by rw [hlen, Game.n, hn], ?_⟩
  intro i s hseat
  have hi : i < ((start c).1.run ops).players.length := by
    rw [hn]; exact (List.getElem?_eq_some_iff.mp hseat).1
  have hp := List.getElem?_eq_getElem hi
  obtain ⟨pr, hpr, hidx, h1, h2, h3⟩ := hall i _ hp
  have hbi := hb i
  rw [hp, hseat] at hbi
  simp only [Option.map_some, Option.some.injEq] at hbi
  have hacc := closed_accounts hr he _ (List.getElem_mem hi)
  have hst := (chip_inv hr _ (List.getElem_mem hi)).2.1
  refine ⟨_, pr, hp, hpr, hidx, by rw [← hbi]; exact h1, h2, ?_, ?_⟩ <;> omega

/-- Non-vacuity: the side-pot hand above is such a run; the configured bankrolls 100, 7, 50 are the
    `bankroll` fields at every step, and the closing rows read 50 = 100 − 50, 21 = 7 + 14, 86 = 50 + 36. -/
example : WFConfig sideCfg ∧ (start sideCfg).2 = none ∧ ((start sideCfg).1.run sideOps).event = .gameClosed ∧
    (sideCfg.seats.map (·.bankroll)) = [100, 7, 50] ∧
    ((List.range 12).all fun k => (sideAt k).players.map (·.bankroll) == [100, 7, 50]) = true :=
  ⟨⟨⟨by decide, by decide, by decide, by decide⟩⟩, by decide, side_closed.1, by decide, side_closed.2.2.2.2⟩

end Pokerface.C01
