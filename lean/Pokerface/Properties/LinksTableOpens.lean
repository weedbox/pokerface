/-
  LinksTableOpens — "who acts first" of LinksTable WITHOUT its hypothesis `hopen`.

  `LinksT.table_first_to_act…` inherit from `C04.first_preflop` the hypothesis "the `ReadyForAll` after the forced bets
  actually opens a betting round".  `C05.preflop_opens_iff` (Properties/C05Opens.lean) characterises it; here it is stated
  in the terms of the TABLE: the round opens iff the player on some playable seat has a bankroll (on the sheet of the
  table) that exceeds the ante plus the blind his seat owes (`owedAt`, LinksTable).  Same setting as there:
  `HandOff t t' seats m`.
-/
import Pokerface.Properties.LinksTable
import Pokerface.Properties.C05Opens

namespace Pokerface.LinksT
open Pokerface Table SM Game

/-- the player on seat `s` has a bankroll (on the sheet of the table; 0 for an empty seat) that exceeds the ante plus the
    blind the seat owes -/
def SeatCanMove (t' : Table) (m : Meta) (s : Nat) : Prop := m.ante + owedAt t'.sm m s < bank (t'.playerAt s)

instance (t' : Table) (m : Meta) (s : Nat) : Decidable (SeatCanMove t' m s) := by unfold SeatCanMove; exact inferInstance

theorem canMove_iff {t t' : Table} {seats : List Nat} {m : Meta} (h : HandOff t t' seats m) {s : Nat} {p : TPlayer}
    (hp : t'.players[s]? = some (some p)) :
    C05.CanMove m ⟨p.bankroll, (posOf t'.sm s).1, (posOf t'.sm s).2.1, (posOf t'.sm s).2.2⟩ ↔ SeatCanMove t' m s := by
  obtain ⟨d, s', b, _, _, _, L⟩ := h.indexLayout
  unfold C05.CanMove SeatCanMove C05.owed
  rw [owedAt_eq h.opts L.dealer L.sb L.bb L.dealer_ne_bb L.sb_ne_bb, playerAt_eq_some.mpr hp]
  rfl

/-- **When the first betting round opens, by seat of the seat manager** (C08Table ∘ C13 ∘ C05Opens).  The `ReadyForAll`
    after the forced bets opens the preflop betting round IFF the player on some playable seat has a table bankroll that
    exceeds the ante plus the blind his seat owes.  Seat by seat: the game player `k` (on the playable seat `seats[k]`) has
    chips left after the forced bets iff `SeatCanMove` holds for his seat; and nobody has folded. -/
theorem table_preflop_opens_iff {t t' : Table} {seats : List Nat} {m : Meta} (h : HandOff t t' seats m) :
    (((afterForcedBets ⟨m, t'.gameSeats seats⟩).step .ready).1.event = .roundStarted ↔ ∃ s ∈ seats, SeatCanMove t' m s) ∧
    (∀ (k s : Nat), seats[k]? = some s → ∃ q, (afterForcedBets ⟨m, t'.gameSeats seats⟩).players[k]? = some q ∧
      q.fold = false ∧ 0 ≤ q.stack ∧ (0 < q.stack ↔ SeatCanMove t' m s)) := by
  obtain ⟨hacc, _, _⟩ := table_accepted h
  constructor
  · rw [(C05.preflop_opens_iff hacc).2.2.1]
    constructor
    · rintro ⟨c, hc, hcm⟩
      obtain ⟨k, hk⟩ := List.getElem?_of_mem hc
      have hkl : k < seats.length := by
        rw [← gameSeats_length t' seats]
        exact (List.getElem?_eq_some_iff.mp hk).1
      obtain ⟨_, p, hp, _, hcfg⟩ := h.entry (List.getElem?_eq_getElem hkl)
      cases hk.symm.trans hcfg
      exact ⟨seats[k], List.getElem_mem hkl, (canMove_iff h hp).mp hcm⟩
    · rintro ⟨s, hs, hcm⟩
      obtain ⟨k, hk⟩ := List.getElem?_of_mem hs
      obtain ⟨_, p, hp, _, hcfg⟩ := h.entry hk
      exact ⟨_, List.mem_of_getElem? hcfg, (canMove_iff h hp).mpr hcm⟩
  · intro k s hk
    obtain ⟨p, q, hp, hq, hf, h0, hiff⟩ := h.seatwise (afterForcedBets_n _ hacc.started) (C05.seat_can_move_iff hacc) hk
    exact ⟨q, hq, hf, h0, hiff.trans (canMove_iff h hp)⟩

/-- **Who acts first, general form, without `hopen`.**  When the player on some playable seat has a table bankroll that exceeds the
    ante plus the blind his seat owes, the `ReadyForAll` after the forced bets opens the first betting round, and the player
    asked first is the game player `cwNext n kb` sitting on the FIRST PLAYABLE SEAT CLOCKWISE AFTER THE SEAT MANAGER'S
    BIG-BLIND SEAT (conclusion of `table_first_to_act`). -/
theorem table_first_to_act_open {t t' : Table} {seats : List Nat} {m : Meta} (h : HandOff t t' seats m)
    (hmove : ∃ s ∈ seats, SeatCanMove t' m s) :
    ((afterForcedBets ⟨m, t'.gameSeats seats⟩).step .ready).1.event = .roundStarted ∧
    ∃ b kb x, t'.sm.bb = some b ∧ seats[kb]? = some b ∧
      (kb = if t'.sm.sb = t'.sm.dealer then 1 else 2) ∧
      ((afterForcedBets ⟨m, t'.gameSeats seats⟩).step .ready).1.cur = cwNext seats.length kb ∧
      seats[((afterForcedBets ⟨m, t'.gameSeats seats⟩).step .ready).1.cur]? = some x ∧
      IsNextAfter t'.sm b x ∧
      Reachable ((afterForcedBets ⟨m, t'.gameSeats seats⟩).step .ready).1 :=
  have hopen := (table_preflop_opens_iff h).1.mpr hmove
  ⟨hopen, table_first_to_act h hopen⟩

theorem table_first_to_act_heads_up_open {t t' : Table} {seats : List Nat} {m : Meta} (h : HandOff t t' seats m)
    (h2 : t'.sm.playableCount = 2) (hmove : ∃ s ∈ seats, SeatCanMove t' m s) :
    ((afterForcedBets ⟨m, t'.gameSeats seats⟩).step .ready).1.event = .roundStarted ∧
    ((afterForcedBets ⟨m, t'.gameSeats seats⟩).step .ready).1.cur = 0 ∧ seats[0]? = t'.sm.dealer ∧
    t'.sm.sb = t'.sm.dealer :=
  have hopen := (table_preflop_opens_iff h).1.mpr hmove
  ⟨hopen, table_first_to_act_heads_up h h2 hopen⟩

theorem table_first_to_act_ring_open {t t' : Table} {seats : List Nat} {m : Meta} (h : HandOff t t' seats m)
    (d s : Nat) (hd : t'.sm.dealer = some d) (hs : t'.sm.sb = some s) (hna : IsNextAfter t'.sm d s)
    (hmove : ∃ s ∈ seats, SeatCanMove t' m s) :
    ((afterForcedBets ⟨m, t'.gameSeats seats⟩).step .ready).1.event = .roundStarted ∧
    3 ≤ t'.sm.playableCount ∧
    ((afterForcedBets ⟨m, t'.gameSeats seats⟩).step .ready).1.cur = (if t'.sm.playableCount = 3 then 0 else 3) ∧
    ∃ b x, t'.sm.bb = some b ∧ seats[0]? = some d ∧ seats[1]? = some s ∧ seats[2]? = some b ∧
      seats[((afterForcedBets ⟨m, t'.gameSeats seats⟩).step .ready).1.cur]? = some x ∧ IsNextAfter t'.sm b x ∧
      (t'.sm.playableCount = 3 → x = d) :=
  have hopen := (table_preflop_opens_iff h).1.mpr hmove
  ⟨hopen, table_first_to_act_ring h d s hd hs hna hopen⟩

/-- It is enough that the player on the BIG-BLIND seat can cover ante + big blind with a chip to spare. -/
theorem bb_seat_can_move {t t' : Table} {seats : List Nat} {m : Meta} (h : HandOff t t' seats m)
    (hbb : ∀ b p, t'.sm.bb = some b → t'.players[b]? = some (some p) → m.ante + m.blindBB < p.bankroll) :
    ∃ s ∈ seats, SeatCanMove t' m s := by
  obtain ⟨d, s, b, kb, _, _, L⟩ := h.indexLayout
  obtain ⟨_, p, hp, _, _⟩ := h.entry L.at_kb
  refine ⟨b, List.mem_of_getElem? L.at_kb, ?_⟩
  unfold SeatCanMove
  rw [owedAt_of L.dealer L.sb L.bb, if_pos rfl, playerAt_eq_some.mpr hp]
  exact hbb b p L.bb hp

/-- **The everyday case.**  When every player on a playable seat has a table bankroll that exceeds ante + big blind + dealer
    blind, the first betting round opens and the first to act is the player on the first playable seat clockwise after the
    big-blind seat (game player `cwNext n kb`; heads-up the dealer, in a ring of three the dealer, else game player 3 — see
    `table_first_to_act_heads_up_open`, `table_first_to_act_ring_open`).  (Only the big-blind seat's bankroll matters:
    `bb_seat_can_move`.) -/
theorem table_first_to_act_everyday {t t' : Table} {seats : List Nat} {m : Meta} (h : HandOff t t' seats m)
    (hall : ∀ s ∈ seats, ∀ p, t'.players[s]? = some (some p) → m.ante + m.blindBB + m.blindDealer < p.bankroll) :
    ((afterForcedBets ⟨m, t'.gameSeats seats⟩).step .ready).1.event = .roundStarted ∧
    ∃ b kb x, t'.sm.bb = some b ∧ seats[kb]? = some b ∧
      (kb = if t'.sm.sb = t'.sm.dealer then 1 else 2) ∧
      ((afterForcedBets ⟨m, t'.gameSeats seats⟩).step .ready).1.cur = cwNext seats.length kb ∧
      seats[((afterForcedBets ⟨m, t'.gameSeats seats⟩).step .ready).1.cur]? = some x ∧
      IsNextAfter t'.sm b x ∧
      Reachable ((afterForcedBets ⟨m, t'.gameSeats seats⟩).step .ready).1 := by
  apply table_first_to_act_open h
  apply bb_seat_can_move h
  intro b p hb hp
  obtain ⟨d, s, b', kb, _, _, L⟩ := h.indexLayout
  cases hb.symm.trans L.bb
  have := hall b (List.mem_of_getElem? L.at_kb) p hp
  have := h.opts.bd0
  omega

/-- **The other case, at the table.**  When no player on a playable seat has a table bankroll that exceeds the ante plus the
    blind his seat owes (everybody is all-in from the forced bets), the `ReadyForAll` after the forced bets closes the preflop
    round at once — nobody is asked, nobody is offered anything — with all `playableCount` players still in; flop, turn and
    river are then dealt by `Next` without a betting round and the fourth `Next` closes the hand at showdown, on a full board
    when the deck holds `n·hole + 8` cards (`C05.preflop_closed_without_betting`). -/
theorem table_all_in_from_forced_bets {t t' : Table} {seats : List Nat} {m : Meta} (h : HandOff t t' seats m)
    (hnone : ∀ s ∈ seats, ¬ SeatCanMove t' m s) :
    ((afterForcedBets ⟨m, t'.gameSeats seats⟩).step .ready).1.event = .roundClosed ∧
    (∀ p ∈ ((afterForcedBets ⟨m, t'.gameSeats seats⟩).step .ready).1.players, p.allowed = []) ∧
    ((afterForcedBets ⟨m, t'.gameSeats seats⟩).step .ready).1.aliveCount = t'.sm.playableCount ∧
    (∀ k ≤ 2, (((afterForcedBets ⟨m, t'.gameSeats seats⟩).step .ready).1.run (List.replicate (k + 1) .next)).event = .roundClosed ∧
      (((afterForcedBets ⟨m, t'.gameSeats seats⟩).step .ready).1.run (List.replicate (k + 1) .next)).round.idx = k + 2) ∧
    (((afterForcedBets ⟨m, t'.gameSeats seats⟩).step .ready).1.run [.next, .next, .next, .next]).event = .gameClosed ∧
    (((afterForcedBets ⟨m, t'.gameSeats seats⟩).step .ready).1.run [.next, .next, .next, .next]).aliveCount = t'.sm.playableCount ∧
    (t'.sm.playableCount * m.holeCount + 8 ≤ m.deck.length →
      (((afterForcedBets ⟨m, t'.gameSeats seats⟩).step .ready).1.run [.next, .next, .next, .next]).board.length = 5) := by
  obtain ⟨hacc, _, _⟩ := table_accepted h
  obtain ⟨_, _, _, _, _, _, L⟩ := h.indexLayout
  have hl : (⟨m, t'.gameSeats seats⟩ : Config).seats.length = t'.sm.playableCount := by
    rw [← L.length]
    exact gameSeats_length _ _
  have hno : ¬ ((afterForcedBets ⟨m, t'.gameSeats seats⟩).step .ready).1.event = .roundStarted := by
    intro ho
    obtain ⟨s, hs, hc⟩ := (table_preflop_opens_iff h).1.mp ho
    exact hnone s hs hc
  have hcfg : ∀ s ∈ (⟨m, t'.gameSeats seats⟩ : Config).seats, ¬ C05.CanMove m s := by
    intro s hs hc
    exact hno ((C05.preflop_opens_iff hacc).2.2.1.mpr ⟨s, hs, hc⟩)
  obtain ⟨_, hc, _, hal, _, _, hst, hcl, hal4, hb⟩ := C05.preflop_closed_without_betting hacc hcfg
  obtain ⟨_, hoff, _⟩ := (C05.preflop_opens_iff hacc).2.2.2.1 hcfg
  rw [hl] at hal hal4 hb
  exact ⟨hc, hoff, hal, hst, hcl, hal4, hb⟩

/-! ## Non-vacuity -/

/-- `demo` (players with 100, 200, 50 chips on seats 0, 2, 3; blinds 5 / 10): every playable seat can move -/
example : ∀ s ∈ [0, 2, 3], SeatCanMove C08T.demo.setupPosition.1 demoMeta s := by decide +kernel

/-- `table_first_to_act_open` applies to it: the round opens and the player of seat 0 is asked -/
example : ((afterForcedBets ⟨demoMeta, C08T.demo.setupPosition.1.gameSeats [0, 2, 3]⟩).step .ready).1.event = .roundStarted :=
  (table_first_to_act_open demo_handOff ⟨0, by decide +kernel, by decide +kernel⟩).1

/-- `table_first_to_act_ring_open` on `demo`: seat 2 is the first playable seat after the dealer's seat 0; three playable seats,
    the dealer is asked first -/
example : 3 ≤ C08T.demo.setupPosition.1.sm.playableCount ∧
    ((afterForcedBets ⟨demoMeta, C08T.demo.setupPosition.1.gameSeats [0, 2, 3]⟩).step .ready).1.cur =
      (if C08T.demo.setupPosition.1.sm.playableCount = 3 then 0 else 3) :=
  let r := table_first_to_act_ring_open demo_handOff 0 2 (by decide +kernel) (by decide +kernel) C08T.demo_next_after
    ⟨0, by decide +kernel, by decide +kernel⟩
  ⟨r.2.1, r.2.2.1⟩

/-- the hypothesis of `table_first_to_act_everyday` on `demo`: 0 + 10 + 0 < 100, 200, 50 -/
example : ∀ s ∈ [0, 2, 3], demoMeta.ante + demoMeta.blindBB + demoMeta.blindDealer <
    bank (C08T.demo.setupPosition.1.playerAt s) := by decide +kernel

/-- the same table with an ante of 200 and blinds 5 / 10: everybody is all-in from the ante -/
def allInMeta : Meta := Ex.opts 200 0 5 10

theorem demo_handOff_allIn : HandOff C08T.demo C08T.demo.setupPosition.1 [0, 2, 3] allInMeta :=
  { demo_handOff with opts := Ex.optsOK _ _ _ _ (by decide +kernel), deck := by decide +kernel }

/-- the hypothesis of `table_all_in_from_forced_bets` holds, and (computed on the engine) the round is closed at once, nobody
    is offered anything, and the hand closes on five cards after four `Next` -/
example : (∀ s ∈ [0, 2, 3], ¬ SeatCanMove C08T.demo.setupPosition.1 allInMeta s) ∧
    (let g := ((afterForcedBets ⟨allInMeta, C08T.demo.setupPosition.1.gameSeats [0, 2, 3]⟩).step .ready).1
     g.event = .roundClosed ∧ g.players.map (·.allowed) = [[], [], []] ∧ g.players.map (·.stack) = [0, 0, 0] ∧
     (g.run [.next, .next, .next, .next]).event = .gameClosed ∧ (g.run [.next, .next, .next, .next]).board.length = 5) := by
  decide +kernel

def bigBlinds : Meta := Ex.opts 0 0 60 100

/-- heads-up (`demo2`: 60 chips on the dealer's seat 1, 100 on seat 3) with blinds 60 / 100: both all-in from the blinds;
    with blinds 5 / 10 the round opens and the dealer acts first -/
example : (∀ s ∈ [1, 3], ¬ SeatCanMove C08T.demo2.setupPosition.1 bigBlinds s) ∧
    ((afterForcedBets ⟨bigBlinds, C08T.demo2.setupPosition.1.gameSeats [1, 3]⟩).step .ready).1.event = .roundClosed ∧
    (∃ s ∈ [1, 3], SeatCanMove C08T.demo2.setupPosition.1 demoMeta s) ∧
    ((afterForcedBets ⟨demoMeta, C08T.demo2.setupPosition.1.gameSeats [1, 3]⟩).step .ready).1.event = .roundStarted := by
  decide +kernel

example : ((afterForcedBets ⟨demoMeta, C08T.demo2.setupPosition.1.gameSeats [1, 3]⟩).step .ready).1.cur = 0 :=
  (table_first_to_act_heads_up_open demo2_handOff (by decide +kernel) ⟨1, by decide +kernel, by decide +kernel⟩).2.1

end Pokerface.LinksT

section Axioms
open Pokerface.LinksT
#print axioms table_preflop_opens_iff
#print axioms table_first_to_act_open
#print axioms table_first_to_act_heads_up_open
#print axioms table_first_to_act_ring_open
#print axioms bb_seat_can_move
#print axioms table_first_to_act_everyday
#print axioms table_all_in_from_forced_bets
#print axioms demo_handOff_allIn
end Axioms
