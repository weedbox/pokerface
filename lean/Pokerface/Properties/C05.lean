import Pokerface.Proofs.FlowClose
/-
  C05 — A betting round closes exactly when it should.

  "A betting round is never closed while a non-folded player with chips has put in less than
  the wager to match or has not yet had a turn since that wager last went up, and it always
  closes within one lap of the table after the last wager increase or all-in.  When only one
  non-folded player remains the hand ends at once without dealing further cards; when fewer
  than two players still have chips no further betting round is opened and the remaining
  streets are dealt so that the showdown happens on a full five-card board."

  Statements about the model `Game.step`, for every reachable state (`Reachable`,
  Proofs/EngineReach.lean).  Reading I5 (DESIGN §5): "no further betting round" concerns
  flop/turn/river.
-/
namespace Pokerface.C05
open Pokerface Game

/-! ## One player left -/

/-- Sentence 2, first half ("when only one non-folded player remains the hand ends at once without
    dealing further cards"): after an accepted player action that leaves one non-folded player the
    round is closed, and the `Next` that follows is accepted and closes the hand with the deck
    cursor, the board and the burnt cards unchanged. -/
theorem last_player_ends {g : Game} (h : Reachable g) (seat : Option Nat) (a : Act) (x : Int)
    (hacc : (g.step (.act seat a x)).2 = none) (h1 : (g.step (.act seat a x)).1.aliveCount = 1) :
    let g' := (g.step (.act seat a x)).1
    g'.event = .roundClosed ∧ (g'.step .next).2 = none ∧ (g'.step .next).1.event = .gameClosed ∧
    (g'.step .next).1.deckPos = g'.deckPos ∧ (g'.step .next).1.board = g'.board ∧
    (g'.step .next).1.burned = g'.burned := by
  have hi := inv_reachable h
  have hf := flow_reachable h
  have hf' := flow_step g hi hf (.act seat a x)
  have he : (g.step (.act seat a x)).1.event = .roundClosed := by
    cases seat with
    | none => exact act_alone_closed g hi _ a x hacc h1
    | some i => exact act_alone_closed g hi i a x hacc h1
  obtain ⟨a, b, _, c⟩ := next_closes _ he (hf'.round_closed he) (.inl h1)
  exact ⟨he, a, b, c⟩

/-! ## Fewer than two stacks -/

/-- Sentence 2, second half ("when fewer than two players still have chips no further betting round
    is opened"), stated where a betting round is opened: the `ReadyForAll` that starts a flop, turn
    or river round finds — and leaves — at least two non-folded players with chips.  (During the
    round players may go all-in; preflop betting opens with any number of stacks, reading I5.) -/
theorem no_betting_without_two_stacks {g : Game} (h : Reachable g) (he : g.event = .readyRequested)
    (hr : g.round = .flop ∨ g.round = .turn ∨ g.round = .river) :
    2 ≤ g.movableCount ∧ 2 ≤ (g.step .ready).1.movableCount ∧ (g.step .ready).1.round = g.round := by
  have hf := flow_reachable h
  obtain ⟨hrn, hrp⟩ := Round.after_preflop.mp hr
  have h2 := hf.ready2 he hrn hrp
  obtain ⟨hm, _, hrd⟩ := ready_dealt g he hrn
  exact ⟨h2, by rw [hm]; exact h2, hrd⟩

/-- Sentence 2, second half, where the decision is taken: `Next` on a closed round with at least two players left,
    before the river, deals the next street and asks for readiness (= opens it for betting) exactly
    when two non-folded players still have chips; otherwise that street is closed at once ("the
    remaining streets are dealt"). -/
theorem streets_without_betting {g : Game} (_h : Reachable g) (he : g.event = .roundClosed) (h1 : g.aliveCount ≠ 1)
    (hr : g.round = .preflop ∨ g.round = .flop ∨ g.round = .turn) :
    (g.step .next).2 = none ∧ (g.step .next).1.round.idx = g.round.idx + 1 ∧
    (g.movableCount ≤ 1 → (g.step .next).1.event = .roundClosed) ∧
    (2 ≤ g.movableCount → (g.step .next).1.event = .readyRequested) ∧
    (g.step .next).1.movableCount = g.movableCount ∧ (g.step .next).1.aliveCount = g.aliveCount :=
  next_street g he h1 hr

/-! ## Showdown on a full board -/

/-- Sentence 2, end ("the showdown happens on a full five-card board"): a closed hand with at least
    two non-folded players has five board cards.  `hdeck`: the deck holds at least `n·hole + 8`
    cards (DESIGN §5; a static condition — `n` and the options never change, `wr_run` — without
    which the Go code indexes past the deck). -/
theorem full_board_at_showdown {g : Game} (h : Reachable g)
    (hdeck : g.n * g.opts.holeCount + 8 ≤ g.opts.deck.length)
    (he : g.event = .gameClosed) (h2 : 2 ≤ g.aliveCount) : g.board.length = 5 := by
  have hf := flow_reachable h
  have hc := cardsOK_reachable h hdeck
  rcases hf.closed he with h1 | h1
  · omega
  · rw [hc.board, h1]
    rfl

/-- the board length and the deck cursor at every street (same hypothesis) -/
theorem board_by_street {g : Game} (h : Reachable g) (hdeck : g.n * g.opts.holeCount + 8 ≤ g.opts.deck.length) :
    g.board.length = g.round.boardLen ∧ g.deckPos = g.round.cardsDealt (g.n * g.opts.holeCount) :=
  ⟨(cardsOK_reachable h hdeck).board, (cardsOK_reachable h hdeck).pos⟩

/-! ## Closing neither too early nor too late (ghost history)

The state is extended, in the specification only, with a record of the betting round in
progress kept by the specification's own rules (Proofs/FlowGhost.lean: the docstrings of `Ghost.turn` and
`Ghost.step`; they are the rules of the run-time monitor):
`Ghost.turnSince[i]` — seat `i` has had a turn since the wager to match last went up, or raised
it; `Ghost.quiet` — accepted turns since the last wager increase or all-in.  `Ghost.step` updates
the record along an operation (fresh record when a round opens; `Ghost.turn` on an accepted
action), `Game.runG` runs it alongside the engine, `GReachable g gh` says that `gh` is the record
that goes with the reachable state `g`.  The engine's `acted` flags are not used by these rules. -/

/-- Sentence 1, first half ("a betting round is never closed while a non-folded player with chips has
    put in less than the wager to match or has not yet had a turn since that wager last went up"):
    when an accepted operation in an open betting round closes it and at least two players are left,
    every non-folded seat with chips has exactly the wager to match on the table and has had a turn
    since the wager to match last rose. -/
theorem no_premature_close {g : Game} {gh : Ghost} (h : GReachable g gh) (he : g.event = .roundStarted) (op : Op)
    (hacc : (g.step op).2 = none) (hclosed : (g.step op).1.event ≠ .roundStarted)
    (h2 : 2 ≤ (g.step op).1.aliveCount) :
    ∀ (j : Nat) (p : Player), (g.step op).1.players[j]? = some p → p.fold = false → 0 < p.stack →
      p.wager = (g.step op).1.cw ∧ (gh.step g op).turnSince[j]? = some true := by
  obtain ⟨hr, hG⟩ := greachable_inv h
  have hi := inv_reachable hr
  have hf := flow_reachable hr
  rw [ghost_step_act gh he op hacc]
  obtain ⟨seat, a, x, rfl⟩ := accepted_at_started g he op hacc
  cases seat with
  | none => exact closes_level g gh hi hf he (hG he) _ a x hacc hclosed h2
  | some i => exact closes_level g gh hi hf he (hG he) i a x hacc hclosed h2

/-- Sentence 1, second half ("it always closes within one lap of the table after the last wager
    increase or all-in"): while a betting round is open fewer than `n` turns have passed since the
    last wager increase or all-in … -/
theorem one_lap {g : Game} {gh : Ghost} (h : GReachable g gh) (he : g.event = .roundStarted) : gh.quiet < g.n := by
  obtain ⟨hr, hG⟩ := greachable_inv h
  exact ghost_quiet_lt g gh (inv_reachable hr) (flow_reachable hr) he hG

/-- Sentence 1, second half, seen from the turn: the one that would be the `n`-th quiet turn closes the round. -/
theorem one_lap_closes {g : Game} {gh : Ghost} (h : GReachable g gh) (op : Op)
    (hq : (gh.step g op).quiet = g.n) : (g.step op).1.event ≠ .roundStarted := by
  intro he'
  have h' := greachable_step h op
  have := one_lap h' he'
  have hn : (g.step op).1.n = g.n := (wr_step g op).n
  omega

/-! ## Non-vacuity -/

/-- four seats, 100 chips each except seat 3 (short: 30), blinds 5/10, no ante, dealer at seat 0 -/
def exCfg : Config :=
  { opts := { ante := 0, blindDealer := 0, blindSB := 5, blindBB := 10, potLimit := false, holeCount := 2, required := 0,
              lvl := fun _ => 1, table := [], deck := (List.range 20).map fun k => { suit := 83, rank := k + 2 } },
    seats := [{ bankroll := 100, dealer := true, sb := false, bb := false },
              { bankroll := 100, dealer := false, sb := true, bb := false },
              { bankroll := 100, dealer := false, sb := false, bb := true },
              { bankroll := 30, dealer := false, sb := false, bb := false }] }

theorem exWF : WFConfig exCfg := ⟨⟨by decide, by decide, by decide, by decide⟩⟩

def exRun (ops : List Op) : Game × Ghost := (start exCfg).1.runG (Ghost.fresh 4) ops

theorem exReach (ops : List Op) : GReachable (exRun ops).1 (exRun ops).2 := ⟨exCfg, ops, exWF, by decide +kernel, rfl⟩

/-- preflop: seat 3 (first to act) goes all-in for 30 (a raise), seat 0 calls, seat 1 raises to 60,
    seat 2 folds, seat 3 passes (all-in), seat 0 calls: the round closes when the walk reaches
    seat 1, the last raiser — every seat with chips is level at 60 and has had its turn -/
def exOps : List Op :=
  [.ready, .payBlinds, .ready, .act none .allin 0, .act none .call 0, .act none .raise 60, .act none .fold 0,
   .act none .pass 0, .act none .call 0]

example : (exRun (exOps.take 3)).1.event = .roundStarted ∧ (exRun (exOps.take 3)).1.cur = 3 ∧
    (exRun (exOps.take 3)).2 = ⟨[false, false, false, false], 0⟩ := by decide +kernel
example : (exRun (exOps.take 5)).2 = ⟨[true, false, false, true], 1⟩ := by decide +kernel
example : (exRun (exOps.take 6)).2 = ⟨[false, true, false, false], 0⟩ := by decide +kernel
example : (exRun (exOps.take 8)).1.event = .roundStarted ∧ (exRun (exOps.take 8)).2 = ⟨[false, true, true, true], 2⟩ := by
  decide +kernel
/-- the hypotheses of `no_premature_close` hold for the last action of the example -/
example : (exRun (exOps.take 8)).1.event = .roundStarted ∧
    ((exRun (exOps.take 8)).1.step (.act none .call 0)).2 = none ∧
    ((exRun (exOps.take 8)).1.step (.act none .call 0)).1.event = .roundClosed ∧
    ((exRun (exOps.take 8)).1.step (.act none .call 0)).1.aliveCount = 3 ∧
    (exRun exOps).2 = ⟨[true, true, true, true], 3⟩ := by decide +kernel
/-- `last_player_ends`: three folds leave seat 2 alone -/
example : ((start exCfg).1.run [.ready, .payBlinds, .ready, .act none .fold 0, .act none .fold 0]).aliveCount = 2 ∧
    ((start exCfg).1.run [.ready, .payBlinds, .ready, .act none .fold 0, .act none .fold 0, .act none .fold 0]).aliveCount = 1 ∧
    ((start exCfg).1.run [.ready, .payBlinds, .ready, .act none .fold 0, .act none .fold 0, .act none .fold 0]).event
      = .roundClosed := by decide +kernel
/-- `streets_without_betting` / `full_board_at_showdown`: seats 3 and 0 all-in, the others fold:
    flop, turn and river are dealt without a betting round and the hand closes on five cards -/
def exAllin : List Op :=
  [.ready, .payBlinds, .ready, .act none .allin 0, .act none .allin 0, .act none .fold 0, .act none .fold 0]

/-- `exAllin` and its run-out, evaluated: the preflop round is closed with two players in and no stack left; `Next` deals the
    flop without a betting round; four `Next` close the hand on five cards -/
theorem exAllin_facts : ((start exCfg).1.run exAllin).round = .preflop ∧
    ((start exCfg).1.run exAllin).event = .roundClosed ∧ ((start exCfg).1.run exAllin).movableCount = 0 ∧
    ((start exCfg).1.run exAllin).aliveCount = 2 ∧
    ((start exCfg).1.run (exAllin ++ [.next])).event = .roundClosed ∧
    ((start exCfg).1.run (exAllin ++ [.next])).round = .flop ∧
    ((start exCfg).1.run (exAllin ++ [.next, .next, .next, .next])).event = .gameClosed ∧
    ((start exCfg).1.run (exAllin ++ [.next, .next, .next, .next])).board.length = 5 ∧
    exCfg.seats.length * exCfg.opts.holeCount + 8 ≤ exCfg.opts.deck.length := by decide +kernel

example : ((start exCfg).1.run exAllin).event = .roundClosed ∧ ((start exCfg).1.run exAllin).movableCount = 0 ∧
    ((start exCfg).1.run exAllin).aliveCount = 2 ∧
    ((start exCfg).1.run (exAllin ++ [.next])).event = .roundClosed ∧
    ((start exCfg).1.run (exAllin ++ [.next])).round = .flop ∧
    ((start exCfg).1.run (exAllin ++ [.next, .next, .next, .next])).event = .gameClosed ∧
    ((start exCfg).1.run (exAllin ++ [.next, .next, .next, .next])).board.length = 5 ∧
    exCfg.seats.length * exCfg.opts.holeCount + 8 ≤ exCfg.opts.deck.length := exAllin_facts.2
/-- `no_betting_without_two_stacks`: with everybody calling the flop opens with four stacks -/
example : ((start exCfg).1.run [.ready, .payBlinds, .ready, .act none .call 0, .act none .call 0, .act none .call 0,
      .act none .check 0, .next]).event = .readyRequested ∧
    ((start exCfg).1.run [.ready, .payBlinds, .ready, .act none .call 0, .act none .call 0, .act none .call 0,
      .act none .check 0, .next]).round = .flop ∧
    ((start exCfg).1.run [.ready, .payBlinds, .ready, .act none .call 0, .act none .call 0, .act none .call 0,
      .act none .check 0, .next]).movableCount = 4 := by decide +kernel

/-! ## Rounds closed without any player action

  `no_premature_close` speaks of a round that is closed by a player action (`g.event = .roundStarted`).  A round
  can also be closed with no action at all: by the `ReadyForAll` that would open the preflop round when nobody
  can move (`StartRound`), and by the `Next` that deals a later street when fewer than two players have chips
  (`PrepareRound`).  The theorems below cover these closings, so that sentence 1, first half, holds for EVERY
  transition into `RoundClosed`. -/

/-- Sentence 1, first half ("a betting round is never closed while a non-folded player with chips has put in
    less than the wager to match …"), for the rounds that are closed WITHOUT any action: when an accepted
    operation applied to a reachable state that waits for `ReadyForAll` or stands at a closed round ends in
    `RoundClosed` with at least two players left, every non-folded seat with chips has exactly the wager to
    match on the table.  (The clause "or has not yet had a turn since that wager last went up" is void here: see
    `skip_close_only` — either nobody has chips, or the wagers were just swept and the wager to match is 0, so it
    has not gone up in this round.) -/
theorem no_skip_close {g : Game} (h : Reachable g) (op : Op)
    (he : g.event = .readyRequested ∨ g.event = .roundClosed) (hacc : (g.step op).2 = none)
    (hc : (g.step op).1.event = .roundClosed) (h2 : 2 ≤ (g.step op).1.aliveCount) :
    ∀ p ∈ (g.step op).1.players, p.fold = false → 0 < p.stack → p.wager = (g.step op).1.cw :=
  skip_close_level g (inv_reachable h) (flow_reachable h) (by rcases he with he | he <;> rw [he] <;> simp) op hacc hc h2

/-- The complete list of closings without action, from ANY reachable state that is not an open betting round
    (also `AnteRequested`, `BlindsRequested`, `GameClosed`): an accepted operation that ends in `RoundClosed`
    with two players left is
    (a) the `ReadyForAll` of the preflop round, and then no non-folded seat has a chip (everybody is all-in by
        the forced bets) — game.go `StartRound`; on later streets `ReadyForAll` never closes a round; or
    (b) the `Next` after a closed preflop, flop or turn round that deals the following street while fewer than
        two non-folded players have chips — game.go `PrepareRound`; then all wagers have been swept into the
        pot accounts and the wager to match is 0.
    `PayAnte`, `PayBlinds` and refused operations never end in a newly closed round. -/
theorem skip_close_only {g : Game} (h : Reachable g) (hne : g.event ≠ .roundStarted) (op : Op)
    (hacc : (g.step op).2 = none) (hc : (g.step op).1.event = .roundClosed) (h2 : 2 ≤ (g.step op).1.aliveCount) :
    (op = .ready ∧ g.event = .readyRequested ∧ g.round = .preflop ∧ (g.step op).1.movableCount = 0) ∨
    (op = .next ∧ g.event = .roundClosed ∧ (g.round = .preflop ∨ g.round = .flop ∨ g.round = .turn) ∧
      (g.step op).1.movableCount ≤ 1 ∧ (∀ p ∈ (g.step op).1.players, p.wager = 0) ∧ (g.step op).1.cw = 0) :=
  skip_close_cases g (inv_reachable h) (flow_reachable h) hne op hacc hc h2

/-- Sentence 1, first half, for EVERY transition into `RoundClosed` (`no_premature_close` for closings by a
    player action, `no_skip_close` / `skip_close_only` for the others), without reference to the ghost record:
    whenever an accepted operation on a reachable state ends in `RoundClosed` with at least two players left,
    every non-folded seat with chips has exactly the wager to match on the table. -/
theorem every_close_level {g : Game} (h : Reachable g) (op : Op) (hacc : (g.step op).2 = none)
    (hc : (g.step op).1.event = .roundClosed) (h2 : 2 ≤ (g.step op).1.aliveCount) :
    ∀ p ∈ (g.step op).1.players, p.fold = false → 0 < p.stack → p.wager = (g.step op).1.cw :=
  close_level h op hacc hc h2

/-! ### Non-vacuity of the closings without action -/

/-- heads-up, blinds 5/10, the dealer (small blind) has 5 chips and the big blind 10: both are all-in by the blinds -/
def exShort : Config :=
  { opts := exCfg.opts,
    seats := [{ bankroll := 5, dealer := true, sb := true, bb := false },
              { bankroll := 10, dealer := false, sb := false, bb := true }] }

/-- case (a): `ReadyForAll` closes the preflop round at once; hypotheses of `no_skip_close` -/
example : let g := (start exShort).1.run [.ready, .payBlinds]
    Reachable g ∧ g.event = .readyRequested ∧ g.round = .preflop ∧ (g.step .ready).2 = none ∧
    (g.step .ready).1.event = .roundClosed ∧ (g.step .ready).1.aliveCount = 2 ∧ (g.step .ready).1.movableCount = 0 :=
  ⟨⟨exShort, _, ⟨⟨by decide, by decide, by decide, by decide⟩⟩, by decide +kernel, rfl⟩, by decide +kernel⟩

/-- case (b), one stack left: seat 3 is all-in for 30, seat 0 calls, the blinds fold, seat 3 passes; `Next` deals the flop and
    closes it at once; seat 0 (70 behind, not folded) is level: wager 0 = wager to match 0 -/
def exOneStack : List Op :=
  [.ready, .payBlinds, .ready, .act none .allin 0, .act none .call 0, .act none .fold 0, .act none .fold 0,
   .act none .pass 0]

example : let g := (start exCfg).1.run exOneStack
    Reachable g ∧ g.event = .roundClosed ∧ g.round = .preflop ∧ (g.step .next).2 = none ∧
    (g.step .next).1.event = .roundClosed ∧ (g.step .next).1.round = .flop ∧ (g.step .next).1.aliveCount = 2 ∧
    (g.step .next).1.movableCount = 1 ∧ (g.step .next).1.cw = 0 ∧
    ((g.step .next).1.players.map fun p => (p.fold, p.stack, p.wager)) =
      [(false, 70, 0), (true, 95, 0), (true, 90, 0), (false, 0, 0)] :=
  ⟨⟨exCfg, _, exWF, by decide +kernel, rfl⟩, by decide +kernel⟩

/-- case (b), no stack left: `exAllin` above (two all-ins, two folds) followed by `Next` -/
example : let g := (start exCfg).1.run exAllin
    Reachable g ∧ g.event = .roundClosed ∧ (g.step .next).2 = none ∧ (g.step .next).1.event = .roundClosed ∧
    (g.step .next).1.aliveCount = 2 ∧ (g.step .next).1.movableCount = 0 :=
  ⟨⟨exCfg, _, exWF, by decide +kernel, rfl⟩, by decide +kernel⟩

end Pokerface.C05
