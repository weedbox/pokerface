/-
  C09 with RE-ENTRIES.

  "Across any history of registrations, table syncs with eliminations, and releases, every
   registered player who has not been eliminated is in exactly one place …"

  The Go regulator knows names, not identities: `AddPlayers` accepts any names, in particular the
  name of a player who was eliminated earlier (a re-entry).  The theorems of Properties/C09.lean
  are stated on `ReachableAny` / `AReachable`, where a registered name must never have been
  registered before (`p ∉ env.registered`).  This file states and proves the same clauses on the
  WIDER domains

    `ReachableRe`  (synchronous,  Proofs/RegReentry.lean: `RSys.okRe`)
    `AReachableRe` (asynchronous, Proofs/RegReentry.lean: `ASys.okRe`)

  in which the names of a registration need only be distinct from each other and from the names
  of the players CURRENTLY ALIVE (`p ∉ env.alive`: registered and not eliminated — at a table,
  queued, or on the way back).  Everything else is as in `okAny` / `ASys.ok` (any setting
  `1 ≤ max`, any status at any time, any elimination subset, any released players, late reports).
  `reentry_domain_wider` / `reentry_domain_wider_async`: every history without re-entries is a
  history of the wider domains, so each theorem here implies its namesake in Properties/C09.lean.

  The condition `p ∉ env.alive` cannot be dropped: registering the name of a player who is still
  in the competition puts that name in two places (`alive_name_twice` below: the Go code accepts
  such a call, and then the name IS at two seats; conservation of NAMES is false there, by
  `decide`).  `env.registered` is a ghost list; with re-entries it holds a name once per
  registration.  No theorem of this file mentions it; the two clauses of C19 that count it
  (`no_table_before_min_re`, `no_request_before_min_re`) say in Properties/C19Reentry.lean what
  the count means then.

  How it is proved: the invariant is proved with "the new names are not alive" in the first place
  (`AInv.step_add`, Proofs/RegAsyncEnv.lean); the domains: Proofs/RegReentry.lean.
-/
import Pokerface.Proofs.RegProps

namespace Pokerface.C09
open Pokerface Reg RSys

/-- the domain with re-entries contains the widest domain without: every theorem below implies
    its namesake of Properties/C09.lean -/
theorem reentry_domain_wider {s : RSys} (h : ReachableAny s) : ReachableRe s := h.re

/-- **counts_agree**, with re-entries: at every quiescent point the regulator's player total is
    the number of alive players (a re-entered player counts once: he was discounted when he was
    eliminated), its table count is the number of its table records and of real tables, and its
    sheet `(id, PlayerCount)` is exactly the real sheet `(id, number of members)`. -/
theorem counts_agree_re {s : RSys} (h : ReachableRe s) :
    s.r.playerCount = s.env.alive.length ∧
    s.r.tableCount = s.r.tables.length ∧
    s.r.tables.length = s.env.members.length ∧
    s.r.tables.map (fun t => (t.id, t.count)) = s.env.members.map (fun e => (e.1, (e.2.length : Int))) :=
  (SInv0.of_reachableRe h).counts_agree

/-- **counts_agree**, per table, with re-entries -/
theorem count_of_table_re {s : RSys} (h : ReachableRe s) (t : Nat) :
    (s.r.findTable t).map (fun tb => tb.count) = (s.env.membersOf t).map (fun ms => (ms.length : Int)) :=
  (SInv0.of_reachableRe h).count_of_table t

/-- **conservation**, with re-entries: the alive players are exactly the queue together with all
    table memberships (as multisets), and no name occurs twice — a player who was eliminated and
    came back is there ONCE. -/
theorem conservation_re {s : RSys} (h : ReachableRe s) :
    s.env.alive.Perm (s.r.queue ++ s.env.seated) ∧ (s.r.queue ++ s.env.seated).Nodup ∧ s.env.alive.Nodup :=
  (SInv0.of_reachableRe h).conservation

/-- **exactly one place**, with re-entries: a name is alive iff it is queued or sits at some table;
    never both; never at two tables, never twice in the queue. -/
theorem exactly_one_place_re {s : RSys} (h : ReachableRe s) (p : Nat) :
    (p ∈ s.env.alive ↔ (p ∈ s.r.queue ∨ ∃ e ∈ s.env.members, p ∈ e.2)) ∧
    ¬ (p ∈ s.r.queue ∧ ∃ e ∈ s.env.members, p ∈ e.2) ∧
    s.r.queue.Nodup ∧ s.env.seated.Nodup :=
  (SInv0.of_reachableRe h).exactly_one_place p

/-- **the eliminated are nowhere** (what makes a re-entry harmless): after a valid sync of a known
    table, the eliminated players are not alive, hence (by `exactly_one_place_re` in the successor
    state) neither queued nor at any table — their names are free to be registered again. -/
theorem eliminated_nowhere_re {s : RSys} (h : ReachableRe s) (t : Nat) (elim stay rel keep ch ms : List Nat)
    (hm : s.env.membersOf t = some ms) (hok : s.okRe (.sync t elim stay rel keep ch)) :
    ∀ p ∈ elim, p ∉ (s.step (.sync t elim stay rel keep ch)).env.alive ∧
      p ∉ (s.step (.sync t elim stay rel keep ch)).r.queue ∧
      ∀ e ∈ (s.step (.sync t elim stay rel keep ch)).env.members, p ∉ e.2 := by
  intro p hp
  have h' : ReachableRe (s.step (.sync t elim stay rel keep ch)) := .step _ h hok
  have hna : p ∉ (s.step (.sync t elim stay rel keep ch)).env.alive := by
    simp only [RSys.step, hm]
    split <;> simp [List.mem_filter, hp]
  obtain ⟨hiff, _, _, _⟩ := exactly_one_place_re h' p
  refine ⟨hna, fun hq => hna (hiff.2 (Or.inl hq)), fun e he hpe => hna (hiff.2 (Or.inr ⟨e, he, hpe⟩))⟩

/-- **the instructions can be followed**, with re-entries (as `release_feasible`) -/
theorem release_feasible_re {s : RSys} (h : ReachableRe s) (t : Nat) (ms elim stay : List Nat)
    (hm : s.env.membersOf t = some ms) (hp : ms.Perm (elim ++ stay)) :
    (s.syncAnswer t elim).2.1 = none ∧ 0 ≤ (s.syncAnswer t elim).2.2.1 ∧
    (s.syncAnswer t elim).2.2.1 ≤ ((stay ++ (s.syncAnswer t elim).2.2.2).length : Int) :=
  (SInv0.of_reachableRe h).release_feasible t ms elim stay hm hp

/-- **handout_once**, with re-entries: in every valid operation (a re-entry included), the queue
    before the operation followed by the players entering it is, IN ORDER, the players returned by
    `SyncState`, then the players passed to callbacks, then the queue after the operation; and no
    name occurs twice in that list. -/
theorem handout_once_re {s : RSys} (h : ReachableRe s) (op : EOp) (hok : s.okRe op) :
    s.r.queue ++ s.incoming op = s.returned op ++ handed (s.step op).r.calls ++ (s.step op).r.queue ∧
    (s.returned op ++ handed (s.step op).r.calls ++ (s.step op).r.queue).Nodup :=
  (SInv0.of_reachableRe h).handout_once op hok

/-- in reachable states with re-entries the regulator knows exactly the tables that exist -/
theorem unknown_iff_re {s : RSys} (h : ReachableRe s) (t : Nat) :
    s.env.membersOf t = none ↔ s.r.findTable t = none :=
  (SInv0.of_reachableRe h).unknown_iff t

/-- before the deadline a registration — of new names or of names of eliminated players — is
    accepted, and the registrants become alive -/
theorem registration_accepted_re {s : RSys} (h : ReachableRe s) (ps ch : List Nat) (hok : s.okRe (.add ps ch))
    (hs : s.r.status ≠ .afterRegDeadline) :
    (s.r.addPlayers ps ch).2 = none ∧
    (s.step (.add ps ch)).env.alive = s.env.alive ++ ps := by
  rw [step_add_accepted s ps ch hs, addPlayers_accepted s.r ps ch hs]
  exact ⟨rfl, rfl⟩

/-- **totality, `AddPlayers`, with re-entries**: in every reachable state every batch of distinct
    names none of which is that of a player currently alive — never registered, or registered and
    eliminated since — can be registered, in every phase. -/
theorem registration_possible_re {s : RSys} (h : ReachableRe s) (ps : List Nat) (hnd : ps.Nodup)
    (hfree : ∀ p ∈ ps, p ∉ s.env.alive) : ∃ ch, s.okRe (.add ps ch) :=
  (SInv0.of_reachableRe h).add_total_re ps hnd hfree

/-- totality of the other operations is unchanged (`okRe` = `okAny` on them) -/
theorem status_change_possible_re {s : RSys} (h : ReachableRe s) (st : RStatus) :
    ∃ ch, s.okRe (.status st ch) :=
  (SInv0.of_reachableRe h).status_total st

theorem sync_possible_re {s : RSys} (h : ReachableRe s) (t : Nat) (elim stay : List Nat)
    (hsplit : ∀ ms, s.env.membersOf t = some ms → ms.Perm (elim ++ stay)) :
    ∃ rel keep ch, s.okRe (.sync t elim stay rel keep ch) := by
  obtain ⟨rel, keep, ch, hok⟩ := (SInv0.of_reachableRe h).sync_total t elim stay hsplit
  exact ⟨rel, keep, ch, hok⟩

/-! ### non-vacuity -/

/-- seven registrants at 9/6, start (one table), player 3 is eliminated, and REGISTERS AGAIN under
    the same name: he is dispatched to table 1 (choice `1`). -/
def reentry : List EOp :=
  [.add [1,2,3,4,5,6,7] [], .status .normal [],
   .sync 1 [3] [1,2,4,5,6,7] [] [1,2,4,5,6,7] [], .add [3] [1]]

example : ReachableRe ((RSys.init 9 6).run reentry) :=
  (ReachableRe.init 9 6 (by decide +kernel)).run reentry (by decide +kernel)
/-- the history is outside `ReachableAny`: its last operation is not valid under `okAny` … -/
example : ¬ (RSys.init 9 6).allOkAny reentry := by decide +kernel
/-- … although everything before it is -/
example : (RSys.init 9 6).allOkAny (reentry.take 3) := by decide +kernel
example : ¬ ((RSys.init 9 6).run (reentry.take 3)).okAny (.add [3] [1]) := by decide +kernel
/-- after the elimination player 3 is nowhere … -/
example : ((RSys.init 9 6).run (reentry.take 3)).env.members = [(1, [1,2,4,5,6,7])] ∧
    ((RSys.init 9 6).run (reentry.take 3)).env.alive = [1,2,4,5,6,7] ∧
    ((RSys.init 9 6).run (reentry.take 3)).r.queue = [] ∧
    ((RSys.init 9 6).run (reentry.take 3)).r.playerCount = 6 := by decide +kernel
/-- … and after the re-entry he is at exactly one place, counted once -/
example : ((RSys.init 9 6).run reentry).env.members = [(1, [1,2,4,5,6,7,3])] ∧
    ((RSys.init 9 6).run reentry).env.alive = [1,2,4,5,6,7,3] ∧
    ((RSys.init 9 6).run reentry).r.queue = [] ∧
    ((RSys.init 9 6).run reentry).r.calls = [.assign 1 [3]] ∧
    ((RSys.init 9 6).run reentry).r.playerCount = 7 := by decide +kernel
/-- the ghost list holds his name twice (once per registration) -/
example : ((RSys.init 9 6).run reentry).env.registered = [1,2,3,4,5,6,7,3] := by decide +kernel
/-- `eliminated_nowhere_re`, `handout_once_re`: hypotheses satisfiable on this history -/
example : ((RSys.init 9 6).run (reentry.take 2)).env.membersOf 1 = some [1,2,3,4,5,6,7] := by decide +kernel
example : ((RSys.init 9 6).run (reentry.take 3)).okRe (.add [3] [1]) := by decide +kernel

/-- THE EDGE OF THE DOMAIN: a second registration of player 3 WHILE HE IS ALIVE is not in the
    domain (`okRe` refuses it) … -/
example : ¬ ((RSys.init 9 6).run reentry).okRe (.add [3] [1]) := by decide +kernel
/-- … and rightly so: the model (like the Go code, which does not look at names) carries it out,
    and then the name 3 sits at two seats and is counted twice: conservation of names is FALSE
    after a registration of an alive name. -/
theorem alive_name_twice :
    (((RSys.init 9 6).run reentry).step (.add [3] [1])).env.members = [(1, [1,2,4,5,6,7,3,3])] ∧
    (((RSys.init 9 6).run reentry).step (.add [3] [1])).r.playerCount = 8 ∧
    ¬ (((RSys.init 9 6).run reentry).step (.add [3] [1])).env.seated.Nodup := by decide +kernel

/-! ## asynchronous releases, with re-entries -/

section Async
open ASys

/-- the asynchronous domain with re-entries contains the one without -/
theorem reentry_domain_wider_async {s : ASys} (h : AReachable s) : AReachableRe s := h.re

/-- every synchronous history with re-entries is an asynchronous one with nobody on the way -/
theorem rsys_history_is_async_re {s : RSys} (h : ReachableRe s) : AReachableRe (ASys.ofRSys s) :=
  AReachableRe.ofRSys h

/-- **counts_agree**, asynchronous, with re-entries -/
theorem counts_agree_async_re {s : ASys} (h : AReachableRe s) :
    s.r.playerCount = s.env.alive.length ∧
    s.r.tableCount = s.r.tables.length ∧
    s.r.tables.length = s.env.members.length ∧
    s.r.tables.map (fun t => (t.id, t.count)) = s.env.members.map (fun e => (e.1, (e.2.length : Int))) :=
  (AInv.of_reachableRe h).counts_agree

/-- the regulator's own ledger, asynchronous, with re-entries -/
theorem ledger_async_re {s : ASys} (h : AReachableRe s) :
    s.r.playerCount = s.r.queue.length + ((s.r.tables.map (·.count)).sum) + (s.flying.length : Int) :=
  (AInv.of_reachableRe h).cnt

/-- **conservation**, asynchronous, with re-entries: the alive players are exactly the queue, all
    table memberships and all batches on the way back together, and no name occurs twice. -/
theorem conservation_async_re {s : ASys} (h : AReachableRe s) :
    s.env.alive.Perm (s.r.queue ++ s.env.seated ++ s.flying) ∧
    (s.r.queue ++ s.env.seated ++ s.flying).Nodup ∧ s.env.alive.Nodup :=
  (AInv.of_reachableRe h).conservation

/-- **exactly one place**, asynchronous, with re-entries -/
theorem exactly_one_place_async_re {s : ASys} (h : AReachableRe s) (p : Nat) :
    (p ∈ s.env.alive ↔ (p ∈ s.r.queue ∨ (∃ e ∈ s.env.members, p ∈ e.2) ∨ (∃ e ∈ s.inflight, p ∈ e.2))) ∧
    ¬ (p ∈ s.r.queue ∧ ∃ e ∈ s.env.members, p ∈ e.2) ∧
    ¬ (p ∈ s.r.queue ∧ ∃ e ∈ s.inflight, p ∈ e.2) ∧
    ¬ ((∃ e ∈ s.env.members, p ∈ e.2) ∧ ∃ e ∈ s.inflight, p ∈ e.2) ∧
    s.r.queue.Nodup ∧ s.env.seated.Nodup ∧ s.flying.Nodup :=
  (AInv.of_reachableRe h).exactly_one_place p

/-- **the instructions can be followed**, asynchronous, with re-entries -/
theorem release_feasible_async_re {s : ASys} (h : AReachableRe s) (t : Nat) (ms elim stay : List Nat)
    (hm : s.env.membersOf t = some ms) (hp : ms.Perm (elim ++ stay)) :
    (s.syncAnswer t elim).2.1 = none ∧ 0 ≤ (s.syncAnswer t elim).2.2.1 ∧
    (s.syncAnswer t elim).2.2.1 ≤ ((stay ++ (s.syncAnswer t elim).2.2.2).length : Int) :=
  (AInv.of_reachableRe h).release_feasible t ms elim stay hm hp

/-- **handout_once**, asynchronous, with re-entries -/
theorem handout_once_async_re {s : ASys} (h : AReachableRe s) (op : AOp) (hok : s.okRe op) :
    s.r.queue ++ s.incoming op = s.returned op ++ handed (s.step op).r.calls ++ (s.step op).r.queue ∧
    (s.returned op ++ handed (s.step op).r.calls ++ (s.step op).r.queue).Nodup :=
  (AInv.of_reachableRe h).handout_once op hok

/-- **on the way back**, bookkeeping of one operation, with re-entries -/
theorem on_the_way_async_re {s : ASys} (h : AReachableRe s) (op : AOp) (hok : s.okRe op) :
    ((s.step op).flying ++ ASys.reported op).Perm (s.flying ++ s.departing op) :=
  ((AInv.of_reachableRe h).step_full_re op hok).2.flying

theorem unknown_iff_async_re {s : ASys} (h : AReachableRe s) (t : Nat) :
    s.env.membersOf t = none ↔ s.r.findTable t = none :=
  (AInv.of_reachableRe h).unknown_iff t

/-- totality, asynchronous, with re-entries: every batch of distinct names of players not
    currently alive (not at a table, not queued, not on the way back) can be registered -/
theorem registration_possible_async_re {s : ASys} (h : AReachableRe s) (ps : List Nat) (hnd : ps.Nodup)
    (hfree : ∀ p ∈ ps, p ∉ s.env.alive) : ∃ ch, s.okRe (.add ps ch) :=
  (AInv.of_reachableRe h).add_total_re ps hnd hfree

/-! ### non-vacuity -/

private def rg (n k : Nat) : List Nat := (List.range k).map (· + n)

/-- 27 registrants at 9/6; table 2 loses players 10 … 15; table 1 syncs and is told to release two
    players (1 and 2 leave: on the way back); player 10 REGISTERS AGAIN while they are on the way
    and is dispatched to table 2; then table 1's report arrives. -/
def reentryLate : List AOp :=
  [.add (rg 1 27) [], .status .normal [], .sync 2 [10,11,12,13,14,15] [16,17,18] [] [16,17,18],
   .sync 1 [] (rg 1 9) [1,2] (rg 3 7),
   .add [10] [2],
   .report 1 [1,2] [] [2]]

example : AReachableRe ((ASys.init 9 6).run reentryLate) :=
  (AReachableRe.init 9 6 (by decide +kernel)).run reentryLate (by decide +kernel)
example : ¬ (ASys.init 9 6).allOk reentryLate := by decide +kernel
example : (ASys.init 9 6).allOk (reentryLate.take 4) := by decide +kernel
example : ((ASys.init 9 6).run (reentryLate.take 5)).env.members =
    [(1, [3,4,5,6,7,8,9]), (2, [16,17,18,10]), (3, [19,20,21,22,23,24,25,26,27])] ∧
    ((ASys.init 9 6).run (reentryLate.take 5)).inflight = [(1, [1,2])] := by decide +kernel
example : ((ASys.init 9 6).run reentryLate).env.members =
    [(1, [3,4,5,6,7,8,9]), (2, [16,17,18,10,1,2]), (3, [19,20,21,22,23,24,25,26,27])] ∧
    ((ASys.init 9 6).run reentryLate).inflight = [] ∧
    ((ASys.init 9 6).run reentryLate).r.playerCount = 22 := by decide +kernel
/-- a player ON THE WAY BACK is alive: his name cannot be registered (edge of the domain) -/
example : ¬ ((ASys.init 9 6).run (reentryLate.take 4)).okRe (.add [1] [2]) := by decide +kernel

end Async

end Pokerface.C09
