/-
  C19  No table is ever asked to hold more players than its capacity.

  "The regulator never asks a table to hold more than the configured maximum
   number of players - neither when opening tables for a batch of registrants
   nor when topping tables up later.  It opens no table before the competition
   has started or before the minimum initial number of players has registered,
   and every table opened by that initial allocation gets at least that minimum."

  Setting (DESIGN §5): `RSys` = regulator model × environment of tables that
  follow instructions; `Reachable s` = `s` is obtained from a fresh regulator with
  ANY setting with `1 ≤ max` by ANY finite sequence of valid operations
  (`RSys.ok`: fresh ids on registration, the status never returns to `pending`,
  a syncing table eliminates at most its members, releases exactly what it is
  told to, and the dispatch choices are ones `getAvailableTable` can make;
  these conditions never block a history: `RSys.Reachable.add_total`, `.status_total`,
  `.sync_total`, the first three theorems below).
  The property text restricts the settings to `2 ≤ min ≤ max`; NO theorem below
  needs that: they hold for every `min` (also `min = 0`, `min > max`, where
  `initial_tables_have_min` is true because then no table is ever opened) and
  every `max ≥ 1` (with `max = 0` the Go code divides by zero in `float64`).
  What IS needed is that the status only moves forward: on the wider domain
  `ReachableAny` of C09 (any `SetStatus` at any time) capacity is FALSE, see
  `capacity_fails_after_return_to_pending` at the end (observation O11).
  All theorems are for all settings and all histories; no bound on sizes.
-/
import Pokerface.Proofs.RegProps

namespace Pokerface.RSys
open Reg

/-! ### the validity conditions `RSys.ok` never block a history: the only operation excluded is a
    `SetStatus(Pending)` on a competition that has left `Pending` -/

theorem Reachable.add_total {s : RSys} (h : Reachable s) (ps : List Nat) (hnd : ps.Nodup)
    (hfresh : ∀ p ∈ ps, p ∉ s.env.registered) : ∃ ch, s.ok (.add ps ch) :=
  (SInv0.of_reachable h.any).add_total ps hnd hfresh

theorem Reachable.status_total {s : RSys} (h : Reachable s) (st : RStatus)
    (hfwd : st ≠ .pending ∨ s.r.status = .pending) : ∃ ch, s.ok (.status st ch) := by
  obtain ⟨ch, hch⟩ := (SInv0.of_reachable h.any).status_total st
  exact ⟨ch, hfwd, hch⟩

theorem Reachable.sync_total {s : RSys} (h : Reachable s) (t : Nat) (elim stay : List Nat)
    (hsplit : ∀ ms, s.env.membersOf t = some ms → ms.Perm (elim ++ stay)) :
    ∃ rel keep ch, s.ok (.sync t elim stay rel keep ch) :=
  (SInv0.of_reachable h.any).sync_total t elim stay hsplit

end Pokerface.RSys

namespace Pokerface.C19
open Pokerface Reg RSys

/-- **capacity** (first sentence, at quiescent points): in every reachable state the real
    membership of every table is at most `max`. -/
theorem capacity {s : RSys} (h : Reachable s) :
    ∀ e ∈ s.env.members, e.2.length ≤ s.r.max :=
  fun _ he => (SInv.of_reachable h).capacity he

/-- **capacity, regulator side**: for every table on the regulator's sheet, `PlayerCount` and
    `Required` are non-negative and `PlayerCount + Required ≤ max` — the regulator never has an
    outstanding demand that would overfill a table (the run-time monitor checks this when
    `Required > 0`; it holds unconditionally). -/
theorem count_plus_required_le_max {s : RSys} (h : Reachable s) :
    ∀ tb ∈ s.r.tables, 0 ≤ tb.count ∧ 0 ≤ tb.required ∧ tb.count + tb.required ≤ s.r.max :=
  (SInv.of_reachable h).rinv.wf.bnd

/-- **capacity when opening tables**: every `requestTableFn` callback of every valid operation
    from a reachable state carries at most `max` players. -/
theorem request_le_max {s : RSys} (h : Reachable s) (op : EOp) (hok : s.ok op) :
    ∀ id ps, RCall.requestTable id ps ∈ (s.step op).r.calls → ps.length ≤ s.r.max :=
  ((SInv.of_reachable h).step_full op hok).2.reqmax

/-- **capacity while topping up** (first sentence, at every callback): inside an operation the
    environment applies the callbacks one by one to `baseMembers` (the sheet after the syncing
    table has carried out its eliminations/arrivals/departures).  After EVERY prefix `cs₁` of the
    callbacks of the operation, every table holds at most `max` players. -/
theorem capacity_during {s : RSys} (h : Reachable s) (op : EOp) (hok : s.ok op)
    (cs₁ cs₂ : List RCall) (hcs : (s.step op).r.calls = cs₁ ++ cs₂) :
    ∀ e ∈ Env.applyCalls (s.baseMembers op) cs₁, e.2.length ≤ s.r.max :=
  let ⟨hS, hF⟩ := (SInv.of_reachable h).step_full op hok
  hS.capacity_during hF cs₁ cs₂ hcs

/-- **no_table_before_start** (state form): while the competition is pending there is no table,
    neither on the regulator's sheet nor in reality. -/
theorem no_table_before_start {s : RSys} (h : Reachable s) (hp : s.r.status = .pending) :
    s.r.tables = [] ∧ s.r.tableCount = 0 ∧ s.env.members = [] :=
  (SInv.of_reachable h).no_table_before_start hp

/-- **no_table_before_start** (callback form): an operation after which the competition is still
    pending made no callback at all (no table opened, nobody assigned). -/
theorem no_callback_before_start {s : RSys} (h : Reachable s) (op : EOp) (hok : s.ok op)
    (hp : (s.step op).r.status = .pending) : (s.step op).r.calls = [] :=
  let hS := SInv.of_reachable h
  hS.toSInv0.no_callback_before_start op (okRe_of_okReFwd (hS.okReFwd_of_ok hok)) hp

/-- the status never returns to `pending`: once an operation has left it, it stays left.  (So
    "still pending after the operation" is the same as "the competition has not started".) -/
theorem pending_is_initial {s : RSys} (h : Reachable s) (op : EOp) (hok : s.ok op)
    (hp : (s.step op).r.status = .pending) : s.r.status = .pending :=
  ((SInv.of_reachable h).step_full op hok).2.pending_is_initial (fun _ _ e => by subst e; exact hok.1) hp

/-- **no_table_before_min** (state form): tables exist only if at least `min` players have
    registered so far (`registered` = every id ever accepted by `AddPlayers`). -/
theorem no_table_before_min {s : RSys} (h : Reachable s) (hne : s.env.members ≠ []) :
    s.r.min ≤ s.env.registered.length :=
  (SInv.of_reachable h).no_table_before_min hne

/-- **no_table_before_min** (callback form): an operation that opens a table (`requestTableFn`)
    ends with at least `min` registered players — registrations of that very operation included,
    which is the earliest moment the Go code could know about them. -/
theorem no_request_before_min {s : RSys} (h : Reachable s) (op : EOp) (hok : s.ok op)
    (id : Nat) (ps : List Nat) (hc : RCall.requestTable id ps ∈ (s.step op).r.calls) :
    s.r.min ≤ (s.step op).env.registered.length :=
  let ⟨hS, hF⟩ := (SInv.of_reachable h).step_full op hok
  hS.no_request_before_min hF id ps hc

/-- **initial_tables_have_min**: every table opened by an operation that started with no table
    (`tableCount = 0`, the initial allocation) gets at least `min` players. -/
theorem initial_tables_have_min {s : RSys} (h : Reachable s) (h0 : s.r.tableCount = 0) (op : EOp)
    (hok : s.ok op) (id : Nat) (ps : List Nat) (hc : RCall.requestTable id ps ∈ (s.step op).r.calls) :
    s.r.min ≤ ps.length :=
  (SInv.of_reachable h).initial_min h0 op id ps hc

/-- **initial_tables_have_min**, the remaining corner: the run-time monitor evaluates "no table
    open" again when a sync triggers `ReleasePlayers`.  If the sync just broke the last table
    (`tableCount = 0` after `SyncState`), tables opened by that `ReleasePlayers` also get at least
    `min` players.  (In fact nobody is alive then, so none is opened.) -/
theorem initial_tables_have_min_release {s : RSys} (h : Reachable s) (t : Nat)
    (elim stay rel keep ch : List Nat) (hok : s.ok (.sync t elim stay rel keep ch))
    (h0 : (s.syncAnswer t elim).1.tableCount = 0) (id : Nat) (ps : List Nat)
    (hc : RCall.requestTable id ps ∈ (s.step (.sync t elim stay rel keep ch)).r.calls) :
    s.r.min ≤ ps.length :=
  RSys.initial_min_release s (SInv.of_reachable h).rinv.wf.maxpos t elim stay rel keep ch h0 id ps hc

/-! ### non-vacuity: the witness of defect D5 (max 6, min 5, 13 registrants) and a longer history -/

/-- 13 registrants at 6/5, then start: two tables of six, one player waiting (the defect opened
    a table of seven). -/
def d5 : List EOp := [.add [1,2,3,4,5,6,7,8,9,10,11,12,13] [], .status .normal []]

example : Reachable ((RSys.init 6 5).run d5) := (Reachable.init 6 5 (by decide +kernel)).run d5 (by decide +kernel)
example : ((RSys.init 6 5).run d5).env.members = [(1, [1,2,3,4,5,6]), (2, [7,8,9,10,11,12])] := by decide +kernel
example : ((RSys.init 6 5).run d5).r.queue = [13] := by decide +kernel
/-- the start operation opened tables (hypotheses of `request_le_max`, `initial_tables_have_min`,
    `no_request_before_min` are satisfiable, the conclusions non-trivial) -/
example : ((RSys.init 6 5).run d5).r.calls =
    [.requestTable 1 [1,2,3,4,5,6], .requestTable 2 [7,8,9,10,11,12]] := by decide +kernel
/-- still pending after the registration: `no_callback_before_start` applies -/
example : ((RSys.init 6 5).step (.add [1,2,3,4,5,6,7,8,9,10,11,12,13] [])).r.status = .pending := by decide +kernel

/-- a history with eliminations, a top-up by dispatch (choice `1`), late registrations and a sync
    that hands queue players to a table -/
def longer : List EOp := d5 ++
  [.sync 1 [1,2] [3,4,5,6] [] [3,4,5,6,13] [], .add [14] [1], .sync 2 [7] [8,9,10,11,12] [] [8,9,10,11,12] []]

example : Reachable ((RSys.init 6 5).run longer) :=
  (Reachable.init 6 5 (by decide +kernel)).run longer (by decide +kernel)
example : ((RSys.init 6 5).run longer).env.members =
    [(1, [3,4,5,6,13,14]), (2, [8,9,10,11,12])] := by decide +kernel
/-- the late registrant was handed to table 1 by `assignPlayersFn` (hypotheses of `capacity_during`) -/
example : ((RSys.init 6 5).run (d5 ++ [.sync 1 [1,2] [3,4,5,6] [] [3,4,5,6,13] [], .add [14] [1]])).r.calls =
    [.assign 1 [14]] := by decide +kernel

/-! ### why the domain excludes a return to `pending` (observation O11)

`SetStatus(Pending)` on a running competition is accepted by the Go code but is outside the
regulator alphabet of DESIGN §5 (the status only moves forward); C09 is proved with it
(`ReachableAny`), C19 cannot be: registrations pile up in the queue while a table's `Required`
is outstanding, `SyncState` tops the table up from the queue WITHOUT clearing `Required`, and the
next start dispatches `Required` more players: six players at a table for four. -/
def backToPending : List EOp :=
  [.add [1,2] [], .status .normal [], .status .pending [], .add [3,4] [],
   .sync 1 [] [1,2] [] [1,2,3,4] [], .add [5,6] [], .status .normal [1]]

example : ((RSys.init 4 2).run backToPending).env.members = [(1, [1,2,3,4,5,6])] := by decide +kernel
example : ¬ (RSys.init 4 2).allOk backToPending := by decide +kernel
example : (RSys.init 4 2).allOkAny backToPending := by decide +kernel

/-- **capacity is FALSE once the status may return to `Pending`** (kernel-checked witness, setting
    4/2 which satisfies `2 ≤ min ≤ max`): a state reachable by operations that are valid in every
    respect except that one `SetStatus(Pending)` follows `SetStatus(Normal)`, in which a table holds
    more than `max` players — both in reality and on the regulator's sheet.  The Go code behaves
    the same on this history. -/
theorem capacity_fails_after_return_to_pending :
    ∃ s : RSys, ReachableAny s ∧ 2 ≤ s.r.min ∧ s.r.min ≤ s.r.max ∧
      (∃ e ∈ s.env.members, s.r.max < e.2.length) ∧ (∃ tb ∈ s.r.tables, (s.r.max : Int) < tb.count) :=
  ⟨(RSys.init 4 2).run backToPending,
   (ReachableAny.init 4 2 (by decide +kernel)).run backToPending (by decide +kernel),
   by decide +kernel, by decide +kernel, by decide +kernel, by decide +kernel⟩

/-- what survives on the wide domain: the tables OPENED never exceed `max` (only top-ups can) -/
theorem request_le_max_any {s : RSys} (h : ReachableAny s) (op : EOp) (hok : s.okAny op) :
    ∀ id ps, RCall.requestTable id ps ∈ (s.step op).r.calls → ps.length ≤ s.r.max :=
  ((SInv0.of_reachable h).step_full op hok).2.reqmax

/-! ### non-vacuity outside `2 ≤ min ≤ max` -/

/-- 1/1: every table has one seat -/
example : Reachable ((RSys.init 1 1).run [.status .normal [], .add [1,2,3] []]) :=
  (Reachable.init 1 1 (by decide +kernel)).run _ (by decide +kernel)
example : ((RSys.init 1 1).run [.status .normal [], .add [1,2,3] []]).env.members = [(1, [1]), (2, [2]), (3, [3])] := by
  decide
/-- 3/1: a single registrant gets a table -/
example : ((RSys.init 3 1).run [.status .normal [], .add [1] []]).env.members = [(1, [1])] := by decide +kernel
/-- 2/3 (`min > max`): no table is ever opened, everybody waits -/
example : Reachable ((RSys.init 2 3).run [.add [1,2,3,4,5,6,7] [], .status .normal []]) :=
  (Reachable.init 2 3 (by decide +kernel)).run _ (by decide +kernel)
example : ((RSys.init 2 3).run [.add [1,2,3,4,5,6,7] [], .status .normal []]).env.members = [] := by decide +kernel

end Pokerface.C19
