/-
  C18 — "A seat never holds two players and seat operations never crash"
  (sequential half; the racing-`Join` half is decided at run time by the stress test).

  All statements are about the model `Pokerface.SM` of `seat_manager/seat_manager.go`.
  `SM.Reachable sm` : `sm` is the state after running some operation list (any table size, any seat
  arguments, any recorded join-any choices) from `NewSeatManager(max)`.
  Spec-level notions used below (defined next to their lemmas in `Proofs/SM*.lean`):
  `SM.Free sm i` (seat `i` exists, is empty and not reserved), `SM.FreeActive` (… and active),
  `SM.setSeat sm i s` (replace exactly the record of seat `i`), `SM.joinsOK / SM.leavesOK sm ops`
  (number of successful joins / leaves when `ops` runs from `sm`), `SM.pidAt sm i` (player id at seat `i`),
  `SM.joinPids ops` (pids of the join operations of a history), `SM.NoDoubleBooking`,
  `SM.Disciplined sm ops` (Proofs/SMBook.lean: every join of the history is issued for a player who, at that
  moment, sits nowhere; decidable).
-/
import Pokerface.Proofs.SMBook

namespace Pokerface.C18
open SM

/-- A concrete reachable 4-seat state used by the non-vacuity examples:
seats 0 and 1 are seated players, seat 2 has joined but not sat in, seat 3 is free; one hand was started. -/
def demo : SM :=
  (SM.new 4).run [.join 0 10 none, .seat 0, .join 1 11 none, .seat 1, .next, .join 2 12 none]

theorem demo_reachable : Reachable demo := ⟨4, _, rfl⟩

/-- **C18, last sentence.** No sequence of seat operations makes the seat manager panic: in every reachable
state every operation (any seat argument, any recorded choice) returns something other than `panic`
(`panic` is the model's outcome for a Go slice-bounds / nil-dereference crash).

**Scope (alphabet).** "Seat operations" are the five exported mutators `Join, Seat, Reserve, Leave, Next`
(the constructors of `SMOp`); both the histories (`Reachable`) and the operation `op` range over exactly these.
The read-only accessors and the restore plumbing (`ApplyStates`, `SetDealer`, …) are not in the alphabet.
Observation outside the statement: the exported accessor `GetPlayableSeats()` dereferences `sm.dealer.ID`
(`getPlayableSeats`) and therefore panics with a nil dereference whenever no dealer is set — on a fresh seat
manager and after a refused `Next()` that reset the dealer (`C17.dealer_none_iff` says exactly when).  It is safe at
the property's observation point "after `Next()` returns nil": `C08.positions_playable` gives `dealer = some d`
there.  The accessor is not modelled. -/
theorem no_panic (sm : SM) (h : Reachable sm) (op : SMOp) : (sm.step op).2.1 ≠ some .panic :=
  step_no_panic h.inv op

/-- Same, over whole histories: no step of any run from a fresh seat manager panics.  Alphabet as for `no_panic`:
`ops` and `op` are built from the five mutators `Join, Seat, Reserve, Leave, Next` only (the accessor
`GetPlayableSeats()`, which panics while no dealer is set, is outside). -/
theorem no_panic_run (max : Nat) (ops : List SMOp) (op : SMOp) :
    (((SM.new max).run ops).step op).2.1 ≠ some .panic :=
  no_panic _ ⟨max, ops, rfl⟩ op

/-- Non-vacuity: the D7 history (3 seats: join/seat 0,2; next; join/seat 1; leave 0,2; next) is a reachable
situation in which `renewSeatStatus` would find no big blind; `next` is refused before it gets there. -/
example : (((SM.new 3).run [.join 0 1 none, .seat 0, .join 2 2 none, .seat 2, .next, .join 1 3 none, .seat 1,
    .leave 0, .leave 2]).step .next).2.1 = some .insufficientPlayers := by decide +kernel

/-- Non-vacuity: the D8 call `Leave(99)`. -/
example : ((SM.new 3).step (.leave 99)).2.1 = some .notFoundSeat := by decide +kernel

/-- **"joining an … out-of-range seat is refused"**: seat argument outside `[-1, max)` gives `invalidSeat`
and changes nothing (holds in every state). -/
theorem join_out_of_range (sm : SM) (seat : Int) (pid : Nat) (c : Option Nat)
    (h : seat ≥ (sm.max : Int) ∨ seat < -1) :
    sm.step (.join seat pid c) = (sm, some .invalidSeat, none) := by
  rw [step_join_eq, if_pos h]

/-- **"joining an occupied … seat is refused"**: `notAvailable`, nothing changes, no seat id returned. -/
theorem join_occupied (sm : SM) (i : Nat) (s : Seat) (pid : Nat) (c : Option Nat)
    (hs : sm.seats[i]? = some s) (hocc : s.player.isSome = true) (hi : i < sm.max) :
    sm.step (.join (i : Int) pid c) = (sm, some .notAvailable, none) := by
  rw [step_join_nat sm hi, joinAt_of_occupied hs hocc]

/-- **Joining a specific empty seat succeeds**: the call returns that seat id, the seat now holds the player
and is reserved (its `active` flag is untouched), every other seat and the positions are unchanged
(`setSeat` replaces exactly one list entry). -/
theorem join_empty (sm : SM) (h : Reachable sm) (i : Nat) (s : Seat) (pid : Nat) (c : Option Nat)
    (hs : sm.seats[i]? = some s) (hemp : s.player = none) :
    sm.step (.join (i : Int) pid c) =
      (sm.setSeat i { s with player := some pid, reserved := true }, none, some i) := by
  rw [step_join_nat sm (h.inv.wf.lt_max hs), joinAt_of_empty hs hemp]

/-- **"… or reports that none is available (only when that is true)"**: join-any answers `noAvailableSeat`
exactly when no empty non-reserved seat exists, and then changes nothing. -/
theorem join_any_none_iff (sm : SM) (h : Reachable sm) (pid : Nat) (c : Option Nat) :
    ((sm.step (.join (-1) pid c)).2.1 = some .noAvailableSeat ↔ ∀ i, ¬ Free sm i) ∧
    ((∀ i, ¬ Free sm i) → sm.step (.join (-1) pid c) = (sm, some .noAvailableSeat, none)) := by
  have hw := h.inv.wf
  have hnp := no_pool_iff hw
  rw [step_join_eq, if_neg (by omega), if_neg (by omega)]
  by_cases hp : (sm.availableSeats.1.isEmpty && sm.availableSeats.2.isEmpty) = true
  · rw [if_pos hp]
    exact ⟨⟨fun _ => hnp.mp hp, fun _ => rfl⟩, fun _ => rfl⟩
  · rw [if_neg hp]
    have hno : ¬ ∀ i, ¬ Free sm i := fun h' => hp (hnp.mpr h')
    refine ⟨⟨fun he => ?_, fun h' => absurd h' hno⟩, fun h' => absurd h' hno⟩
    exfalso
    cases c with
    | none => simp at he
    | some c =>
      simp only at he
      split at he
      · -- the unexported `join` answers `panic`, `notAvailable` or nothing
        unfold joinAt at he
        split at he
        · cases he
        · split at he
          · cases he
          · cases he
      · simp at he

/-- **"joining 'any seat' puts the player on some empty non-reserved seat"**, active ones preferred.
When a free seat exists, join-any either rejects the *recorded choice* (`badChoice`: the harness-supplied
choice is not a seat the Go code could have drawn; state unchanged) or seats the player on a seat `i` that
was empty and not reserved, and that was active unless no free active seat existed; exactly that seat
changes (occupied by `pid`, reserved), and `i` is returned. -/
theorem join_any_lands (sm : SM) (h : Reachable sm) (pid : Nat) (c : Option Nat) (hfree : ∃ i, Free sm i) :
    sm.step (.join (-1) pid c) = (sm, some .badChoice, none) ∨
    ∃ i s, sm.seats[i]? = some s ∧ s.player = none ∧ s.reserved = false ∧
      (s.active = true ∨ ∀ j, ¬ FreeActive sm j) ∧
      sm.step (.join (-1) pid c) = (sm.setSeat i { s with player := some pid, reserved := true }, none, some i) := by
  have hw := h.inv.wf
  rw [step_join_any_of_free hw hfree]
  cases c with
  | none =>
    left
    rfl
  | some c =>
    simp only
    split
    · next hc =>
      right
      have hmem := (mem_joinPool hw c).mp (by simpa using hc)
      obtain ⟨⟨s, hs, h1, h2⟩, h3⟩ := hmem
      refine ⟨c, s, hs, h1, h2, ?_, ?_⟩
      · rcases h3 with ⟨s', hs', _, _, ha⟩ | h3
        · rw [hs] at hs'
          cases hs'
          exact Or.inl ha
        · exact Or.inr h3
      · exact joinAt_of_empty hs h1 pid
    · left
      rfl

/-- Every choice the specification allows is accepted: if `c` is free, and active unless no free active seat
exists, then join-any with recorded choice `c` succeeds on `c`.  (So `badChoice` is never forced, and the
model allows at least every seat the Go code can draw.) -/
theorem join_any_accepts (sm : SM) (h : Reachable sm) (pid c : Nat) (hc : Free sm c)
    (hact : FreeActive sm c ∨ ∀ j, ¬ FreeActive sm j) :
    (sm.step (.join (-1) pid (some c))).2 = (none, some c) := by
  have hw := h.inv.wf
  have hmem : sm.joinPool.contains c = true := by
    simpa using (mem_joinPool hw c).mpr ⟨hc, hact⟩
  rw [step_join_any_of_free hw ⟨c, hc⟩]
  simp only [hmem, if_true]
  obtain ⟨s, hs, h1, h2⟩ := hc
  rw [joinAt_of_empty hs h1]

theorem join_any_choice_exists (sm : SM) (hfree : ∃ i, Free sm i) :
    ∃ c, Free sm c ∧ (FreeActive sm c ∨ ∀ j, ¬ FreeActive sm j) := by
  by_cases ha : ∃ j, FreeActive sm j
  · obtain ⟨j, hj⟩ := ha
    exact ⟨j, hj.free, Or.inl hj⟩
  · obtain ⟨i, hi⟩ := hfree
    exact ⟨i, hi, Or.inr (fun j hj => ha ⟨j, hj⟩)⟩

/-- **`join_spec`**: the five join clauses of C18 in one statement (each is one of the theorems above). -/
theorem join_spec (sm : SM) (h : Reachable sm) (pid : Nat) (c : Option Nat) :
    -- out of range: refused, nothing changes
    (∀ seat : Int, (seat ≥ (sm.max : Int) ∨ seat < -1) →
      sm.step (.join seat pid c) = (sm, some .invalidSeat, none)) ∧
    -- occupied: refused, nothing changes
    (∀ (i : Nat) (s : Seat), sm.seats[i]? = some s → s.player.isSome = true →
      sm.step (.join (i : Int) pid c) = (sm, some .notAvailable, none)) ∧
    -- specific empty seat: succeeds, exactly that seat changes
    (∀ (i : Nat) (s : Seat), sm.seats[i]? = some s → s.player = none →
      sm.step (.join (i : Int) pid c) = (sm.setSeat i { s with player := some pid, reserved := true }, none, some i)) ∧
    -- any seat: `noAvailableSeat` exactly when no free seat exists
    ((sm.step (.join (-1) pid c)).2.1 = some .noAvailableSeat ↔ ∀ i, ¬ Free sm i) ∧
    -- any seat, a free seat exists: lands on a free seat, active ones preferred (or the recorded choice is rejected)
    ((∃ i, Free sm i) →
      sm.step (.join (-1) pid c) = (sm, some .badChoice, none) ∨
      ∃ i s, sm.seats[i]? = some s ∧ s.player = none ∧ s.reserved = false ∧
        (s.active = true ∨ ∀ j, ¬ FreeActive sm j) ∧
        sm.step (.join (-1) pid c) = (sm.setSeat i { s with player := some pid, reserved := true }, none, some i)) := by
  refine ⟨fun seat hs => join_out_of_range sm seat pid c hs, ?_, fun i s hs he => join_empty sm h i s pid c hs he,
    (join_any_none_iff sm h pid c).1, join_any_lands sm h pid c⟩
  intro i s hs ho
  exact join_occupied sm i s pid c hs ho (h.inv.wf.lt_max hs)

/-- Non-vacuity for the join theorems on `demo`: seat 0 is occupied, seat 3 is free and active, 7 is out of range. -/
example : demo.step (.join 0 99 none) = (demo, some .notAvailable, none) ∧
    (demo.step (.join 7 99 none)).2.1 = some .invalidSeat ∧
    (demo.step (.join 3 99 none)).2 = (none, some 3) ∧
    (demo.step (.join (-1) 99 (some 3))).2 = (none, some 3) ∧
    (demo.step (.join (-1) 99 (some 2))).2.1 = some .badChoice := by decide +kernel
example : FreeActive demo 3 := ⟨{}, by decide, rfl, rfl, rfl⟩
/-- … and a full table answers `noAvailableSeat`. -/
example : (((SM.new 2).run [.join 0 1 none, .join 1 2 none]).step (.join (-1) 3 (some 0))).2.1
    = some .noAvailableSeat := by decide +kernel

/-- **"a player who has merely joined is held out of play until they sit in"**: after a successful join on seat
`i` the seat is reserved, hence not playable, and it stays not playable through every later operation
sequence that does not contain `Seat(i)` (including `next`, other joins, leaves, reserves …). -/
theorem joined_held_out (sm : SM) (h : Reachable sm) (seat : Int) (pid : Nat) (c : Option Nat) (i : Nat)
    (hok : (sm.step (.join seat pid c)).2 = (none, some i)) :
    (∃ s, (sm.step (.join seat pid c)).1.seats[i]? = some s ∧ s.reserved = true ∧ s.player = some pid) ∧
    ∀ ops : List SMOp, (∀ op ∈ ops, op ≠ .seat (i : Int)) →
      ((sm.step (.join seat pid c)).1.run ops).playable i = false := by
  obtain ⟨s, hs, _, _, hJ⟩ := join_landed hok
  have hseat : (sm.step (.join seat pid c)).1.seats[i]? = some { s with reserved := true, player := some pid } := by
    rw [hJ, setSeat_seats, if_pos rfl, if_pos (List.getElem?_eq_some_iff.mp hs).1]
  refine ⟨⟨_, hseat, rfl, rfl⟩, ?_⟩
  intro ops hops
  have hheld : Held (sm.step (.join seat pid c)).1 i := by
    intro s' hs'
    rw [hseat] at hs'
    cases hs'
    exact Or.inl rfl
  exact (run_held (step_inv h.inv _) hheld ops hops).not_playable

/-- The holding-out ends with `Seat(i)`: on an active seat, sitting in makes the newcomer playable. -/
theorem seated_playable (sm : SM) (i : Nat) (s : Seat) (hs : sm.seats[i]? = some s)
    (hact : s.active = true) (hocc : s.player.isSome = true) (hi : i < sm.max) :
    (sm.step (.seat (i : Int))).2.1 = none ∧ (sm.step (.seat (i : Int))).1.playable i = true := by
  rw [step_seat_nat sm hi]
  refine ⟨rfl, ?_⟩
  simp [playable, modSeat_seats, hs, hact, hocc]

/-- Non-vacuity: in `demo` seat 2 has just joined; it survives a `next` unplayable and becomes playable by `Seat(2)`. -/
example : (demo.run [.next, .reserve 1, .next]).playable 2 = false ∧
    (demo.run [.seat 2]).playable 2 = true := by decide +kernel

/-- **"leaving frees exactly that seat"**, three cases:
unknown seat (outside `[0, max)`) → `notFoundSeat`, nothing changes;
empty seat → `emptySeat`, nothing changes;
occupied seat → success, that seat becomes empty and not reserved (its `active` flag is untouched) and every
other seat and the positions are unchanged. -/
theorem leave_frees (sm : SM) (h : Reachable sm) :
    (∀ id : Int, (id < 0 ∨ id ≥ (sm.max : Int)) → sm.step (.leave id) = (sm, some .notFoundSeat, none)) ∧
    (∀ (i : Nat) (s : Seat), sm.seats[i]? = some s → s.player = none →
      sm.step (.leave (i : Int)) = (sm, some .emptySeat, none)) ∧
    (∀ (i : Nat) (s : Seat), sm.seats[i]? = some s → s.player.isSome = true →
      sm.step (.leave (i : Int)) = (sm.setSeat i { s with player := none, reserved := false }, none, none)) := by
  have hw := h.inv.wf
  refine ⟨?_, ?_, ?_⟩
  · intro id hid
    unfold step
    simp only
    rw [if_pos hid]
  · intro i s hs hp
    rw [step_leave_nat sm (hw.lt_max hs), hs]
    simp [hp]
  · intro i s hs hp
    exact step_leave_ok hw hs hp

/-- Non-vacuity for `leave_frees` on `demo`. -/
example : (demo.step (.leave 9)).2.1 = some .notFoundSeat ∧ (demo.step (.leave 3)).2.1 = some .emptySeat ∧
    (demo.step (.leave 1)).2.1 = none ∧ (demo.step (.leave 1)).1.playerCount = 2 := by decide +kernel

/-- **"the number of seated players always equals successful joins minus leaves"**, for every table size and
every operation list run from a fresh seat manager (`joinsOK`/`leavesOK` count the join/leave operations that
returned no error). Stated additively in `Nat`; the subtraction form follows. -/
theorem count_eq_joins_minus_leaves (max : Nat) (ops : List SMOp) :
    ((SM.new max).run ops).playerCount + leavesOK (SM.new max) ops = joinsOK (SM.new max) ops ∧
    ((SM.new max).run ops).playerCount = joinsOK (SM.new max) ops - leavesOK (SM.new max) ops := by
  have := run_playerCount (inv_new max) ops
  rw [playerCount_new] at this
  omega

/-- The same from any reachable state. -/
theorem count_eq_joins_minus_leaves_from (sm : SM) (h : Reachable sm) (ops : List SMOp) :
    (sm.run ops).playerCount + leavesOK sm ops = sm.playerCount + joinsOK sm ops :=
  run_playerCount h.inv ops

/-- Non-vacuity: a history with a refused join, a refused leave, two successful joins and one successful leave. -/
example : let ops : List SMOp := [.join 0 1 none, .join 0 2 none, .leave 3, .join (-1) 3 (some 2), .next, .leave 0]
    joinsOK (SM.new 4) ops = 2 ∧ leavesOK (SM.new 4) ops = 1 ∧ ((SM.new 4).run ops).playerCount = 1 := by decide +kernel

/-- **"A seat never holds two players and a player is never seated twice"**: a seat holds at most one player
by construction (`Seat.player : Option`, and a join on an occupied seat is refused — `join_occupied`);
and if the player ids used by the join operations of a history are pairwise distinct, then in the final state
no player id sits on two seats. All table sizes, all histories. -/
theorem no_double_booking (max : Nat) (ops : List SMOp) (hd : (joinPids ops).Nodup) :
    NoDoubleBooking ((SM.new max).run ops) :=
  run_noDoubleBooking_disciplined (inv_new max) (noDoubleBooking_new max)
    (disciplined_of_nodup (inv_new max) ops (fresh_new max _) hd)

/-- Non-vacuity: distinct pids, with a leave and a re-join of the vacated seat. -/
example : (joinPids [.join 0 1 none, .join 1 2 none, .leave 0, .join 0 3 none, .next]).Nodup := by decide +kernel
/-- The distinctness hypothesis is needed: the seat manager does not compare player ids. -/
example : ¬ NoDoubleBooking ((SM.new 2).run [.join 0 7 none, .join 1 7 none]) := by
  intro h
  have := h 0 1 7 (by decide) (by decide)
  cases this

/-! ## no double booking, without the "every join uses a new id" restriction -/

/-- **"a player is never seated twice"**, for *disciplined* histories.  `Disciplined sm ops`
(`Proofs/SMBook.lean`): every `join` operation of `ops` — accepted or refused, any seat argument — is issued
for a player id that sits on no seat *of the state in which that operation is carried out*
(`∀ i, pidAt i ≠ some pid`); all other operations are unrestricted.  This is the weakest reasonable discipline (the
seat manager does not compare player ids, see the counter-example after `no_double_booking`), and, unlike the
`(joinPids ops).Nodup` hypothesis of `no_double_booking`, it allows a player to retry after a refused join and to
leave and join again.  From any state satisfying the invariant (`Inv`, in particular any reachable state) in
which no player sits twice, a disciplined history ends in a state in which no player sits twice. -/
theorem no_double_booking_disciplined (sm : SM) (h : Inv sm) (hnd : NoDoubleBooking sm) (ops : List SMOp)
    (hd : Disciplined sm ops) : NoDoubleBooking (sm.run ops) :=
  run_noDoubleBooking_disciplined h hnd hd

/-- The same from the empty table, for every table size; and — since every prefix of a disciplined history is
disciplined — in *every intermediate state* of the history, not only the last. -/
theorem no_double_booking_disciplined_new (max : Nat) (ops : List SMOp) (hd : Disciplined (SM.new max) ops) :
    NoDoubleBooking ((SM.new max).run ops) ∧
    ∀ pre post, ops = pre ++ post → NoDoubleBooking ((SM.new max).run pre) := by
  have h0 := noDoubleBooking_new max
  refine ⟨run_noDoubleBooking_disciplined (inv_new max) h0 hd, ?_⟩
  intro pre post he
  subst he
  exact run_noDoubleBooking_disciplined (inv_new max) h0 hd.prefix

/-- `no_double_booking` is the special case: pairwise distinct join ids make a history disciplined. -/
theorem disciplined_of_distinct_pids (max : Nat) (ops : List SMOp) (hd : (joinPids ops).Nodup) :
    Disciplined (SM.new max) ops :=
  disciplined_of_nodup (inv_new max) ops (fresh_new max _) hd

/-- Non-vacuity: player 2 is refused on the occupied seat 0 and retries on seat 1; player 1 leaves seat 0 and joins
again on seat 2.  The history is disciplined although its join ids `[1, 2, 2, 1]` are not distinct (so
`no_double_booking` does not apply), and both the refusal and the re-join really happen. -/
example : let ops : List SMOp := [.join 0 1 none, .join 0 2 none, .join 1 2 none, .seat 0, .next, .leave 0,
      .join 2 1 none, .next]
    Disciplined (SM.new 3) ops ∧ ¬ (joinPids ops).Nodup ∧
    ((SM.new 3).run [.join 0 1 none]).step (.join 0 2 none) = ((SM.new 3).run [.join 0 1 none], some .notAvailable, none) ∧
    pidAt ((SM.new 3).run ops) 2 = some 1 ∧ pidAt ((SM.new 3).run ops) 1 = some 2 ∧
    pidAt ((SM.new 3).run ops) 0 = none := by decide +kernel
/-- The discipline is needed: the same player joining while seated is not disciplined (and is seated twice). -/
example : ¬ Disciplined (SM.new 2) [.join 0 7 none, .join 1 7 none] := by decide +kernel

end Pokerface.C18
