import Pokerface.Model.Cards
/-!
  C03 — the declarative specification of the poker order.

  Nothing in this file refers to the evaluator (`Model/Eval.lean`) or to the
  generated constants: it is the yardstick the evaluator is measured against in
  `Properties/C03.lean`.  It is a separate file only because the proof files
  (`Proofs/Eval*.lean`) have to import it.

  Everything is a function of the *multiset* of ranks (the ranks are consulted
  through `List.count` only) and of the flush flag, so it does not depend on the
  order of the cards in the hand.
-/
namespace Pokerface.C03

/-- The ranks of a deck, highest first (ace = 14). -/
def ranksDesc : List Nat := [14, 13, 12, 11, 10, 9, 8, 7, 6, 5, 4, 3, 2]

/-- The ranks that occur exactly `k` times in the hand, highest first. -/
def ranksWith (rs : List Nat) (k : Nat) : List Nat :=
  ranksDesc.filter (fun r => rs.count r == k)

/-- The five ranks of the straight whose top card is `t`.  The ace plays low only
    in the five-high straight 5-4-3-2-A. -/
def run (t : Nat) : List Nat :=
  if t = 5 then [5, 4, 3, 2, 14] else [t, t - 1, t - 2, t - 3, t - 4]

/-- `some t` when the hand consists of exactly the ranks of the straight with top
    card `t` (`t` from ace down to five), `none` when it is no straight. -/
def straightTop (rs : List Nat) : Option Nat :=
  [14, 13, 12, 11, 10, 9, 8, 7, 6, 5].find? (fun t => (run t).all (fun r => rs.count r == 1))

/-- Category of a five-card hand from its ranks and whether all suits are equal:
    by the numbers of ranks occurring four, three and two times; without any
    repeated rank, by straight and flush. -/
def specCat (rs : List Nat) (flush : Bool) : Cat :=
  match (ranksWith rs 4).length, (ranksWith rs 3).length, (ranksWith rs 2).length with
  | 1, _, _ => .quads
  | _, 1, 1 => .fullHouse
  | _, 1, _ => .trips
  | _, _, 2 => .twoPair
  | _, _, 1 => .pair
  | _, _, _ =>
    match straightTop rs, flush with
    | some _, true => .straightFlush
    | some _, false => .straight
    | none, true => .flush
    | none, false => .highCard

/-- What decides between two hands of the same category: for straights the top
    card (five for the wheel A-5-4-3-2, which is therefore the lowest); otherwise
    the ranks of the groups, larger groups first, higher rank first among groups
    of equal size. -/
def specTiebreak (rs : List Nat) : List Nat :=
  match straightTop rs with
  | some t => [t]
  | none => ranksWith rs 4 ++ ranksWith rs 3 ++ ranksWith rs 2 ++ ranksWith rs 1

def ranks (h : List Card) : List Nat := h.map (·.rank)

def sameSuit (h : List Card) : Bool := h.all (fun c => h.all (fun d => c.suit == d.suit))

/-- The strength of a hand under the rules of poker: position of its category in
    the ranking table of the variant, then the tiebreak. -/
structure PokerKey where
  catIdx : Nat
  tiebreak : List Nat
deriving DecidableEq, Repr

/-- Lexicographic order: first the category index, then the tiebreak lists, which
    are themselves compared lexicographically (`<` on `List Nat` is Lean's
    lexicographic order `List.Lex`). -/
instance : LT PokerKey :=
  ⟨fun k₁ k₂ => k₁.catIdx < k₂.catIdx ∨ (k₁.catIdx = k₂.catIdx ∧ k₁.tiebreak < k₂.tiebreak)⟩

theorem PokerKey.lt_def (k₁ k₂ : PokerKey) :
    k₁ < k₂ ↔ k₁.catIdx < k₂.catIdx ∨ (k₁.catIdx = k₂.catIdx ∧ k₁.tiebreak < k₂.tiebreak) := Iff.rfl

/-- `pokerKey T h`: `T` is the ranking table of the variant, weakest category first
    (`List.idxOf` is the position of the first occurrence). -/
def pokerKey (T : List Cat) (h : List Card) : PokerKey :=
  { catIdx := T.idxOf (specCat (ranks h) (sameSuit h)), tiebreak := specTiebreak (ranks h) }

/-- The hands the property speaks about, described by what the evaluator can
    see of them: five cards with ranks 2..14, no rank five times, and if all suits
    are equal then no rank twice.  Every five distinct cards of a four-suit deck
    satisfy it (`Pokerface.C03.valid_of_distinct` in `Properties/C03.lean`). -/
structure Valid (h : List Card) : Prop where
  five : h.length = 5
  inRange : ∀ c ∈ h, 2 ≤ c.rank ∧ c.rank ≤ 14
  atMostFour : ∀ r, (ranks h).count r ≤ 4
  flushDistinct : sameSuit h = true → (ranks h).Nodup

/-- The hand consists of the ranks A, 9, 8, 7, 6 (each exactly once).  By the rules
    of short deck this is the lowest straight; the evaluator treats it as no
    straight; the property leaves its class open, so the short-deck theorems
    exclude it by hypothesis. -/
def isA6789 (h : List Card) : Bool := [14, 9, 8, 7, 6].all (fun r => (ranks h).count r == 1)

end Pokerface.C03
