import Pokerface.Proofs.SettleTie
import Pokerface.Properties.C02Spec
/-
  C02 — "Showdown pays the right players the right amounts".

  `settle seats` is the model of the showdown: `potsOf` (pot.go `updatePots`: one `AddContributor`
  per seat, then `GetPots`) followed by `gameResults` (settlement.go `CalculateGameResults`:
  `AddPot` per pot, `AddPlayer` + `UpdateScore` per seat with folded players entering with
  score 0, then `Calculate`).  Every theorem holds for EVERY list of seats with distinct idx,
  contributions ≥ 0 and strengths > 0 for the non-folded players (`Valid`, reading I4):
  any number of seats, any number of all-in levels, folded players at any level, any ties.
  The bankroll column is arbitrary.
-/
namespace Pokerface.C02
open Pokerface

/-- Share of the pot `pr` received by `i`: net amount from that pot (`potNetOf`: the model's own
    `settlePot` run for `i` alone) plus `i`'s stake in it.  `changed_eq_sum_pots` shows that the
    net amounts add up to `changed`. -/
def potShare (pr : PotResult) (i : Nat) : Int := potNetOf pr i + potStake pr i

theorem gameIn {ss : List Seat} (h : Valid ss) : GameIn (entriesOf ss) (rowsOf ss) := by
  refine ⟨?_, ?_, ?_, ?_⟩
  · simpa [entriesOf, List.map_map, Function.comp_def] using h.1
  · intro e he
    obtain ⟨s, hs, rfl⟩ := List.mem_map.1 he
    exact (h.2 s hs).1
  · simp [entriesOf, rowsOf, List.map_map, Function.comp_def]
  · intro r hr hf
    obtain ⟨s, hs, rfl⟩ := List.mem_map.1 hr
    exact (h.2 s hs).2 hf

theorem mem_entries {ss : List Seat} {s : Seat} (hs : s ∈ ss) : (s.idx, s.contrib, s.folded) ∈ entriesOf ss :=
  List.mem_map.2 ⟨s, hs, rfl⟩

theorem mem_rows {ss : List Seat} {s : Seat} (hs : s ∈ ss) : (s.idx, s.bankroll, s.folded, s.score) ∈ rowsOf ss :=
  List.mem_map.2 ⟨s, hs, rfl⟩

theorem gameIn0 {ss : List Seat} (h : Valid ss) : GameIn0 (entriesOf ss) (rowsOf ss) := (gameIn h).toGameIn0

theorem level_of_result {ss : List Seat} {pr : PotResult} (hpr : pr ∈ (settle ss).pots)
    {li : LevelInfo} (hli : li ∈ pr.levels) :
    ∃ l ∈ (llOf (entriesOf ss)).levels, li = toInfo (rowsOf ss) l := by
  have hlv := gameResults_pots_levels (potsOf (entriesOf ss)) (rowsOf ss)
  have : pr.levels ∈ (potsOf (entriesOf ss)).map (fun p => p.levels.map (toInfo (rowsOf ss))) := by
    rw [← hlv]
    exact List.mem_map.2 ⟨pr, hpr, rfl⟩
  exact mem_potsOf_infos this hli

theorem players_listed (ss : List Seat) : (settle ss).players.map (·.idx) = ss.map (·.idx) := by
  unfold settle
  rw [gameResults_players_idx]
  simp [rowsOf, List.map_map, Function.comp_def]

/-- `final_eq`: every player's final stack is the bankroll plus `changed`; the result list is
    exactly one record per seat carrying `changed` and that final stack. -/
theorem final_eq (ss : List Seat) (h : Valid ss) :
    (settle ss).players
      = ss.map (fun s => ({ idx := s.idx, finalStack := s.bankroll + changed ss s.idx,
                            changed := changed ss s.idx } : PlayerResult)) := by
  have hn : ((settle ss).players.map (·.idx)).Nodup := by
    rw [players_listed]
    exact h.1
  -- every record is determined by its `idx`, its stack before the showdown and `chg`
  have e : (settle ss).players = ((settle ss).players.map (fun p => (p.idx, p.finalStack - p.changed))).map
      (fun ib => ({ idx := ib.1, finalStack := ib.2 + chg (settle ss).players ib.1,
                    changed := chg (settle ss).players ib.1 } : PlayerResult)) := by
    rw [List.map_map]
    conv =>
      lhs
      rw [← List.map_id (settle ss).players]
    apply List.map_congr_left
    intro p hp
    simp only [Function.comp, id]
    rw [chg_self _ hn hp]
    cases p
    simp only [PlayerResult.mk.injEq, true_and, and_true]
    omega
  rw [e]
  show ((gameResults (potsOf (entriesOf ss)) (rowsOf ss)).players.map _).map _ = _
  rw [gameResults_players_base (entriesOf ss) (rowsOf ss)]
  simp only [rowsOf, List.map_map, Function.comp_def, changed, settle]

/-- `zero_sum`: the net results add up to zero — chips only move between players. -/
theorem zero_sum (ss : List Seat) (h : Valid ss) : (ss.map (fun s => changed ss s.idx)).sum = 0 := by
  have := gameResults_zero_sum (gameIn0 h)
  have he := final_eq ss h
  unfold settle at he
  rw [he] at this
  simpa [List.map_map, Function.comp_def] using this

/-- `loses_at_most_stake`: nobody loses more than they put in. -/
theorem loses_at_most_stake (ss : List Seat) (h : Valid ss) (s : Seat) (hs : s ∈ ss) :
    -s.contrib ≤ changed ss s.idx :=
  gameResults_lower (gameIn0 h) (mem_entries hs)

/-- "A folded player wins nothing". -/
theorem folded_wins_nothing (ss : List Seat) (h : Valid ss) (s : Seat) (hs : s ∈ ss) (hf : s.folded = true) :
    changed ss s.idx ≤ 0 :=
  gameResults_folded_le (gameIn h) (hf ▸ mem_entries hs)

/-- A folded player loses the whole stake as soon as some
    non-folded player put in at least as much.  (Otherwise the part of the stake that nobody
    still in the hand covered comes back, cf. `excess_returned`.) -/
theorem folded_loses_stake (ss : List Seat) (h : Valid ss) (s : Seat) (hs : s ∈ ss) (hf : s.folded = true)
    (t : Seat) (ht : t ∈ ss) (htf : t.folded = false) (hle : s.contrib ≤ t.contrib) :
    changed ss s.idx = -s.contrib :=
  gameResults_folded_eq (gameIn h) (hf ▸ mem_entries hs) (htf ▸ mem_entries ht) hle

/-- `no_gain_from_unpaid_layer`: "nobody wins from a layer they did not pay into (so a short all-in
    collects at most its own stake from each opponent)": `changed i ≤ Σ_{j≠i} min cⱼ cᵢ`. -/
theorem no_gain_from_unpaid_layer (ss : List Seat) (h : Valid ss) (s : Seat) (hs : s ∈ ss) :
    changed ss s.idx ≤ ((ss.filter (fun t => t.idx != s.idx)).map (fun t => min t.contrib s.contrib)).sum := by
  have := gameResults_upper (gameIn0 h) (mem_entries hs)
  have hr : ((entriesOf ss).filter (fun e => e.1 != s.idx)).map (fun e => min e.2.1 s.contrib)
      = (ss.filter (fun t => t.idx != s.idx)).map (fun t => min t.contrib s.contrib) := by
    simp [entriesOf, List.filter_map, List.map_map, Function.comp_def]
  rw [hr] at this
  exact this

/-- `excess_returned`: "an uncalled excess goes back to its owner": if every other player put in at
    most `m < cᵢ`, player `i` loses at most `m` (with `m = max_{j≠i} cⱼ` this is
    `excess_returned_max`; stated for any such bound `m ≥ 0` so that a lone player is covered too). -/
theorem excess_returned (ss : List Seat) (h : Valid ss) (s : Seat) (hs : s ∈ ss) (m : Int) (hm : 0 ≤ m)
    (hothers : ∀ t ∈ ss, t.idx ≠ s.idx → t.contrib ≤ m) (hlt : m < s.contrib) :
    -m ≤ changed ss s.idx := by
  apply gameResults_excess (gameIn0 h) (mem_entries hs) m hm hlt
  intro e he hne
  obtain ⟨t, ht, rfl⟩ := List.mem_map.1 he
  exact hothers t ht hne

/-- Largest contribution among the players other than `i` (0 when there is none). -/
def othersMax (ss : List Seat) (i : Nat) : Int :=
  ((ss.filter (fun t => t.idx != i)).map (·.contrib)).foldl max 0

/-- `excess_returned` with the largest other contribution as the bound:
    `cᵢ > max_{j≠i} cⱼ → changed i ≥ − max_{j≠i} cⱼ`. -/
theorem excess_returned_max (ss : List Seat) (h : Valid ss) (s : Seat) (hs : s ∈ ss)
    (hlt : othersMax ss s.idx < s.contrib) : -(othersMax ss s.idx) ≤ changed ss s.idx := by
  have hm := le_foldl_max ((ss.filter (fun t => t.idx != s.idx)).map (·.contrib)) 0
  apply excess_returned ss h s hs _ hm.1 _ hlt
  intro t ht hne
  apply hm.2
  apply List.mem_map.2
  exact ⟨t, List.mem_filter.2 ⟨ht, by simpa using hne⟩, rfl⟩

/-- The levels kept in the result are the contribution levels: the contributors of a level are
    the seats that put in at least that much. -/
theorem level_contributors (ss : List Seat) (h : Valid ss) (pr : PotResult) (hpr : pr ∈ (settle ss).pots)
    (li : LevelInfo) (hli : li ∈ pr.levels) (i : Nat) :
    i ∈ li.contributors ↔ ∃ s ∈ ss, s.idx = i ∧ li.level ≤ s.contrib := by
  obtain ⟨l, hl, rfl⟩ := level_of_result hpr hli
  show i ∈ l.contributors ↔ _
  rw [(gameIn0 h).mem_level hl]
  constructor
  · rintro ⟨c, f, he, hle⟩
    obtain ⟨s, hs, hh⟩ := List.mem_map.1 he
    simp only [Prod.mk.injEq] at hh
    exact ⟨s, hs, hh.1, by rwa [hh.2.1]⟩
  · rintro ⟨s, hs, rfl, hle⟩
    exact ⟨_, _, mem_entries hs, hle⟩

theorem Valid.seat_eq {ss : List Seat} (h : Valid ss) {s s' : Seat} (hs' : s' ∈ ss) (hs : s ∈ ss)
    (he : s'.idx = s.idx) : s' = s := eq_of_nodup_map (·.idx) h.1 hs' hs he

theorem seat_mem_level (ss : List Seat) (h : Valid ss) (pr : PotResult) (hpr : pr ∈ (settle ss).pots)
    (li : LevelInfo) (hli : li ∈ pr.levels) {s : Seat} (hs : s ∈ ss) :
    s.idx ∈ li.contributors ↔ li.level ≤ s.contrib := by
  rw [level_contributors ss h pr hpr li hli s.idx]
  constructor
  · rintro ⟨s', hs', he, hle⟩
    rw [← h.seat_eq hs' hs he]
    exact hle
  · intro hle
    exact ⟨s, hs, rfl, hle⟩

/-- `level_winners`: "every layer of the pot goes to the best-ranked hand or hands among the
    non-folded players who paid into that layer": for every level kept in the result that has a
    non-folded contributor, the winner list of the level (rank.go `GetWinners`, the players who are
    credited by `CalculateWinnerRewards`; everybody else of the level is debited its wager by
    `CalculateLoserResults`) is exactly the set of non-folded contributors with the maximal score. -/
theorem level_winners (ss : List Seat) (h : Valid ss) (pr : PotResult) (hpr : pr ∈ (settle ss).pots)
    (li : LevelInfo) (hli : li ∈ pr.levels)
    (hex : ∃ t ∈ ss, t.folded = false ∧ li.level ≤ t.contrib) (i : Nat) :
    i ∈ levelWinners li ↔
      ∃ s ∈ ss, s.idx = i ∧ s.folded = false ∧ li.level ≤ s.contrib ∧
        ∀ t ∈ ss, t.folded = false → li.level ≤ t.contrib → t.score ≤ s.score := by
  have hcon := fun (s : Seat) (hs : s ∈ ss) => seat_mem_level ss h pr hpr li hli hs
  obtain ⟨l, hl, rfl⟩ := level_of_result hpr hli
  have hcon' : ∀ s ∈ ss, s.idx ∈ l.contributors ↔ l.level ≤ s.contrib := hcon
  have hex' : ∃ r ∈ rowsOf ss, r.1 ∈ l.contributors ∧ r.2.2.1 = false := by
    obtain ⟨t, ht, htf, hle⟩ := hex
    exact ⟨_, mem_rows ht, (hcon' t ht).2 hle, htf⟩
  rw [level_winners_rows (gameIn h) hl hex']
  constructor
  · rintro ⟨r, hr, rfl, hc, hf, hmax⟩
    obtain ⟨s, hs, rfl⟩ := List.mem_map.1 hr
    refine ⟨s, hs, rfl, hf, (hcon' s hs).1 hc, ?_⟩
    intro t ht htf hle
    exact hmax _ (mem_rows ht) ((hcon' t ht).2 hle) htf
  · rintro ⟨s, hs, rfl, hf, hle, hmax⟩
    refine ⟨_, mem_rows hs, rfl, (hcon' s hs).2 hle, hf, ?_⟩
    intro r' hr' hc' hf'
    obtain ⟨t, ht, rfl⟩ := List.mem_map.1 hr'
    exact hmax t ht hf' ((hcon' t ht).1 hc')

/-- What a level pays (complement of `level_winners`, for any incoming odd-chip offset of the pot):
    `settleLevel` applies exactly the update list `levelUpdates`, in which a player who is not a
    contributor of the level gets nothing, a contributor who is not a winner is debited the level's
    wager, and each of the `n` winners is credited the `n`-th part of the level's total (rounded
    down, plus at most one odd chip) minus its own wager. -/
theorem level_payout (ss : List Seat) (h : Valid ss) (pr : PotResult) (hpr : pr ∈ (settle ss).pots)
    (li : LevelInfo) (hli : li ∈ pr.levels) (a : Acc) (i : Nat) :
    (settleLevel a li).players = bumpAll a.players (levelUpdates li a.offset) ∧
    (i ∉ li.contributors → net (levelUpdates li a.offset) i = 0) ∧
    (i ∈ li.contributors → i ∉ levelWinners li → net (levelUpdates li a.offset) i = -li.wager) ∧
    (i ∈ levelWinners li →
      Int.tdiv li.total (levelWinners li).length - li.wager ≤ net (levelUpdates li a.offset) i ∧
      net (levelUpdates li a.offset) i ≤ Int.tdiv li.total (levelWinners li).length + 1 - li.wager) := by
  obtain ⟨l, hl, rfl⟩ := level_of_result hpr hli
  exact ⟨settleLevel_players a _, level_payout_rows (gameIn0 h) hl a.offset i⟩

/-- The per-pot net amounts (`potNetOf`, the model's own `settlePot` run for one player) add up to
    `changed`: this is the per-pot decomposition that `tie_fair` speaks about. -/
theorem changed_eq_sum_pots (ss : List Seat) (h : Valid ss) (s : Seat) (hs : s ∈ ss) :
    changed ss s.idx = ((settle ss).pots.map (fun pr => potNetOf pr s.idx)).sum :=
  chg_eq_sum_potNet (gameIn0 h) (mem_entries hs)

/-- `tie_fair`: "Tied winners of the same pot split it equally, their shares differing by at most
    one chip".  `p` is the published pot at position `pre.length`, `pr` the result record at the same
    position; `si`, `sj` are non-folded players eligible for `p` (contribution ≥ its level) holding
    the same strength, which is the best among the non-folded eligible players.  The share of a pot
    is summed over all its levels (`potShare`). -/
theorem tie_fair (ss : List Seat) (h : Valid ss) (pre post : List Pot) (p : Pot)
    (hp : potsOf (entriesOf ss) = pre ++ p :: post)
    (pr : PotResult) (hpr : (settle ss).pots[pre.length]? = some pr)
    (si sj : Seat) (hi : si ∈ ss) (hj : sj ∈ ss)
    (hfi : si.folded = false) (hfj : sj.folded = false)
    (hei : p.level ≤ si.contrib) (hej : p.level ≤ sj.contrib)
    (htie : si.score = sj.score)
    (hbest : ∀ t ∈ ss, t.folded = false → p.level ≤ t.contrib → t.score ≤ si.score) :
    (potShare pr si.idx - potShare pr sj.idx).natAbs ≤ 1 := by
  have g := gameIn h
  have hprl : pr.levels = p.levels.map (toInfo (rowsOf ss)) := by
    obtain ⟨p', hp', e⟩ := getElem?_of_map_eq (gameResults_pots_levels (potsOf (entriesOf ss)) (rowsOf ss)) hpr
    rw [hp, List.getElem?_append_right (Nat.le_refl _), Nat.sub_self, List.getElem?_cons_zero] at hp'
    rw [← e, Option.some.inj hp']
  have hv := (gameIn0 h).entriesValid
  have heli : si.idx ∈ live (llOf (entriesOf ss)) p.level := (C16.mem_live_llOf hv).2 ⟨_, hfi ▸ mem_entries hi, hei⟩
  have helj : sj.idx ∈ live (llOf (entriesOf ss)) p.level := (C16.mem_live_llOf hv).2 ⟨_, hfj ▸ mem_entries hj, hej⟩
  have hmax : ∀ r ∈ rowsOf ss, r.1 ∈ live (llOf (entriesOf ss)) p.level → r.2.2.2 ≤ si.score := by
    intro r hr hl
    obtain ⟨c, hc, hle⟩ := (C16.mem_live_llOf hv).1 hl
    obtain ⟨t, ht, rfl⟩ := List.mem_map.1 hr
    have := (gameIn0 h).entry_unique hc (mem_entries ht)
    exact hbest t ht this.2.symm (this.1 ▸ hle)
  have hstake : potStake pr si.idx = potStake pr sj.idx := by
    unfold potStake
    congr 2
    rw [hprl]
    apply List.filter_congr
    intro li hli
    obtain ⟨l, hl, rfl⟩ := List.mem_map.1 hli
    have h1 := pot_level_mem (gameIn0 h) hp heli l hl
    have h2 := pot_level_mem (gameIn0 h) hp helj l hl
    show l.contributors.contains si.idx = l.contributors.contains sj.idx
    simp [h1, h2]
  have h1 := pot_tie g hp si.score hmax (mem_rows hi) (mem_rows hj) heli helj rfl htie.symm
  have h2 := pot_tie g hp si.score hmax (mem_rows hj) (mem_rows hi) helj heli htie.symm rfl
  unfold potShare
  rw [potNetOf_eq, potNetOf_eq, hprl, hstake]
  simp only at h1 h2
  omega

/-! ### non-vacuity and the D2 witness -/

/-- Three pots (levels 30 / 45+60 merged / 100), a folded stake inside the second pot, a short
    all-in holding the best hand, and a tie between seats 2 and 3 with an odd chip. -/
def sample : List Seat :=
  [ ⟨0, 500, 30, false, 9⟩, ⟨1, 40, 60, false, 3⟩, ⟨2, 0, 100, false, 5⟩, ⟨3, 7, 100, false, 5⟩,
    ⟨4, 55, 45, true, 8⟩ ]

example : Valid sample := by decide

example : (potsOf (entriesOf sample)).map (fun p => (p.level, p.total, p.levels.length)) =
    [(30, 150, 1), (60, 105, 2), (100, 80, 1)] := by decide +kernel

example : sample.map (fun s => changed sample s.idx) = [120, -60, -7, -8, -45] := by decide +kernel

/-- Hypotheses of `tie_fair` are satisfiable: second pot of the sample, seats 2 and 3. -/
example : ∃ pre p post pr, potsOf (entriesOf sample) = pre ++ p :: post ∧
    (settle sample).pots[pre.length]? = some pr ∧ p.level = 60 ∧
    (potShare pr 2, potShare pr 3) = (53, 52) :=
  ⟨[(potsOf (entriesOf sample))[0]!], (potsOf (entriesOf sample))[1]!, [(potsOf (entriesOf sample))[2]!],
    (settle sample).pots[1]!, by decide, by rfl, by decide, by decide⟩

/-- The hypotheses of `folded_loses_stake` are satisfiable (those of `excess_returned`: the next example). -/
example : ∃ s ∈ sample, s.folded = true ∧ ∃ t ∈ sample, t.folded = false ∧ s.contrib ≤ t.contrib :=
  ⟨⟨4, 55, 45, true, 8⟩, by decide, rfl, ⟨1, 40, 60, false, 3⟩, by decide, rfl, by decide⟩

example : changed [⟨0, 10, 100, false, 4⟩, ⟨1, 10, 40, false, 9⟩] 0 = -40 ∧
    othersMax [⟨0, 10, 100, false, 4⟩, ⟨1, 10, 40, false, 9⟩] 0 = 40 := by decide +kernel

/-- The D2 witness (contributions 100,100,25(f),50(f),75(f), the first two tied): one published
    pot made of four levels.  Odd chips are dealt round-robin across the levels of one pot, so the
    shares are 175/175 (each level's odd chip going to its first winner would give 176/174). -/
def d2 : List Seat :=
  [ ⟨0, 1000, 100, false, 5⟩, ⟨1, 1000, 100, false, 5⟩, ⟨2, 1000, 25, true, 7⟩, ⟨3, 1000, 50, true, 7⟩,
    ⟨4, 1000, 75, true, 7⟩ ]

example : Valid d2 := by decide

theorem d2_one_pot : (potsOf (entriesOf d2)).map (fun p => (p.level, p.total, p.levels.length)) = [(100, 350, 4)] := by
  decide +kernel

theorem d2_shares : (settle d2).pots.map (fun pr => (potShare pr 0, potShare pr 1)) = [(175, 175)] := by
  decide +kernel

theorem d2_changed : d2.map (fun s => changed d2 s.idx) = [75, 75, -25, -50, -75] := by decide +kernel

/-- The levels of the result pot `pr`, each paired with the odd-chip offset (pot.go `oddChipOffset`)
    with which `CalculatePot` reaches it: 0 at the first level of the pot, then threaded by
    `nextOffset` (`withOffsets`, Proofs/SettleLevel.lean).  `settleLevel` applies to the level `lo.1`
    exactly the update list `levelUpdates lo.1 lo.2` (`level_payout`, first clause). -/
def potLevels (pr : PotResult) : List (LevelInfo × Int) := withOffsets 0 pr.levels

theorem level_facts {ss : List Seat} (h : Valid ss) {pr : PotResult} (hpr : pr ∈ (settle ss).pots) :
    ∀ li ∈ pr.levels, LevelFacts li := by
  intro li hli
  obtain ⟨l, hl, rfl⟩ := level_of_result hpr hli
  exact (gameIn0 h).facts hl

/-- **Per-level conservation** ("chips only move between players", inside every single layer):
    for every level `li` kept in the result and every incoming odd-chip offset `o ≥ 0` (the offsets
    that occur are ≥ 0: `changed_by_levels`), (1) the level's total is `|contributors| · wager` —
    every contributor put exactly the level's wager into it —, hence (2) the deltas of the update
    list `levelUpdates li o` that `settleLevel` applies (winners: share − wager, the others:
    − wager) add up to zero, and (3) so do the net amounts of the level's contributors. -/
theorem level_zero_sum (ss : List Seat) (h : Valid ss) (pr : PotResult) (hpr : pr ∈ (settle ss).pots)
    (li : LevelInfo) (hli : li ∈ pr.levels) (o : Int) (ho : 0 ≤ o) :
    li.total = (li.contributors.length : Int) * li.wager ∧
    ((levelUpdates li o).map (·.2)).sum = 0 ∧
    (li.contributors.map (fun i => net (levelUpdates li o) i)).sum = 0 := by
  have f := level_facts h hpr li hli
  exact ⟨f.total, levelUpdates_sum f o ho, level_net_sum_zero f o ho⟩

/-- **`changed`, level by level** — the link between `level_winners` (stated on the rank groups of
    a level) and the observable `Result.Players[].Changed`: `changed` is the sum, over the pots of the
    result and the levels of each pot (with the pot's odd-chip offset at that level), of the seat's net
    amount in that level; for each of these levels the statement says what that amount is and, when
    some non-folded player paid into the level, exactly when the seat is one of its winners.
    (Composes `changed_eq_sum_pots`, `potNetOf_eq`, `level_payout`, `level_contributors`,
    `level_winners`.) -/
theorem changed_by_levels (ss : List Seat) (h : Valid ss) (s : Seat) (hs : s ∈ ss) :
    changed ss s.idx =
      ((settle ss).pots.map fun pr =>
        ((potLevels pr).map fun lo => net (levelUpdates lo.1 lo.2) s.idx).sum).sum ∧
    ∀ pr ∈ (settle ss).pots, ∀ lo ∈ potLevels pr,
      lo.1 ∈ pr.levels ∧ 0 ≤ lo.2 ∧
      (s.idx ∈ lo.1.contributors ↔ lo.1.level ≤ s.contrib) ∧
      (s.idx ∉ lo.1.contributors → net (levelUpdates lo.1 lo.2) s.idx = 0) ∧
      (s.idx ∈ lo.1.contributors → s.idx ∉ levelWinners lo.1 →
        net (levelUpdates lo.1 lo.2) s.idx = -lo.1.wager) ∧
      (s.idx ∈ levelWinners lo.1 →
        Int.tdiv lo.1.total (levelWinners lo.1).length - lo.1.wager ≤ net (levelUpdates lo.1 lo.2) s.idx ∧
        net (levelUpdates lo.1 lo.2) s.idx ≤ Int.tdiv lo.1.total (levelWinners lo.1).length + 1 - lo.1.wager) ∧
      ((∃ t ∈ ss, t.folded = false ∧ lo.1.level ≤ t.contrib) →
        (s.idx ∈ levelWinners lo.1 ↔
          s.folded = false ∧ lo.1.level ≤ s.contrib ∧
            ∀ t ∈ ss, t.folded = false → lo.1.level ≤ t.contrib → t.score ≤ s.score)) := by
  refine ⟨?_, ?_⟩
  · rw [changed_eq_sum_pots ss h s hs]
    congr 1
    apply List.map_congr_left
    intro pr _
    rw [potNetOf_eq, net_potUpdates_withOffsets]
    rfl
  · intro pr hpr lo hlo
    have hli : lo.1 ∈ pr.levels := withOffsets_mem_fst hlo
    have ho : 0 ≤ lo.2 := withOffsets_nonneg pr.levels (level_facts h hpr) 0 (Int.le_refl _) lo hlo
    have hpay := (level_payout ss h pr hpr lo.1 hli { players := [], winners := [], offset := lo.2 } s.idx).2
    have hcon := seat_mem_level ss h pr hpr lo.1 hli hs
    refine ⟨hli, ho, hcon, hpay.1, hpay.2.1, hpay.2.2, ?_⟩
    intro hex
    rw [level_winners ss h pr hpr lo.1 hli hex s.idx]
    constructor
    · rintro ⟨s', hs', he, hf, hle, hmax⟩
      rw [← h.seat_eq hs' hs he]
      exact ⟨hf, hle, hmax⟩
    · rintro ⟨hf, hle, hmax⟩
      exact ⟨s, hs, rfl, hf, hle, hmax⟩

/-- Non-vacuity of `level_zero_sum` / `changed_by_levels` on the sample: the second pot has two
    levels (45 and 60); the level at 45 holds 4·15 = 60 chips, the level at 60 holds 3·15 = 45 chips
    and its odd chip goes to seat 2; seats 2 and 3 tie for both.
    Entries: (level, wager, total, contributors). -/
example : (settle sample).pots.map (fun pr => (potLevels pr).map fun lo =>
      (lo.1.level, lo.1.wager, lo.1.total, lo.1.contributors)) =
    [[(30, 30, 150, [0, 1, 2, 3, 4])], [(45, 15, 60, [1, 2, 3, 4]), (60, 15, 45, [1, 2, 3])], [(100, 40, 80, [2, 3])]] := by
  decide +kernel

/-- The incoming offset and the winners of each level of the sample. -/
example : (settle sample).pots.map (fun pr => (potLevels pr).map fun lo => (lo.2, levelWinners lo.1)) =
    [[(0, [0])], [(0, [2, 3]), (0, [2, 3])], [(0, [2, 3])]] := by decide +kernel

/-- The update lists of the levels of the sample (each adds up to zero). -/
example : (settle sample).pots.map (fun pr => (potLevels pr).map fun lo => levelUpdates lo.1 lo.2) =
    [[[(0, 120), (2, -30), (3, -30), (1, -30), (4, -30)]],
     [[(2, 15), (3, 15), (1, -15), (4, -15)], [(2, 8), (3, 7), (1, -15)]],
     [[(2, 0), (3, 0)]]] := by decide +kernel

/-- The decomposition of `changed` for seat 2 of the sample: −30 + (15 + 8) + 0 = −7. -/
example : (settle sample).pots.map (fun pr => (potLevels pr).map fun lo => net (levelUpdates lo.1 lo.2) 2) =
    [[-30], [15, 8], [0]] ∧ changed sample 2 = -7 := by decide +kernel

/-- the hypotheses of `changed_by_levels` / `level_zero_sum` hold for the sample and its seat 2 / its pots -/
example := changed_by_levels sample (by decide) ⟨2, 0, 100, false, 5⟩ (by decide)
example : ∀ pr ∈ (settle sample).pots, ∀ li ∈ pr.levels, ((levelUpdates li 0).map (·.2)).sum = 0 :=
  fun pr hpr li hli => (level_zero_sum sample (by decide) pr hpr li hli 0 (by decide)).2.1

/-- A level all of whose contributors folded (seat 0's excess over everybody still in the hand): the
    hypothesis of the last clause of `changed_by_levels` fails there; the folded contributor is the
    "winner" of that level and gets its wager back (net 0). -/
example : (settle [⟨0, 10, 100, true, 4⟩, ⟨1, 10, 40, false, 9⟩, ⟨2, 10, 40, false, 3⟩]).pots.map
      (fun pr => (potLevels pr).map fun lo => (lo.1.level, levelWinners lo.1, net (levelUpdates lo.1 lo.2) 0)) =
    [[(40, [1], -40)], [(100, [0], 0)]] := by decide +kernel

end Pokerface.C02

section Axioms
open Pokerface.C02
#print axioms level_zero_sum
#print axioms changed_by_levels
end Axioms

