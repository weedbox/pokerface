import Pokerface.Proofs.FlowC06
/-
  C06 — A hand always tells its driver what comes next and always finishes.

  "A hand starts only with at least two players with positive bankrolls, a dealer and a
  deck; once started it always indicates the single thing it is waiting for (everyone ready,
  antes, blinds, an action from the player to act, or moving on to the next street), that
  step always succeeds, and the streets run strictly preflop, flop, turn, river.  Whatever
  the players choose, the hand reaches its closed state with a settlement result after a
  bounded number of steps, and from then on accepts nothing."

  All statements are about the model (`start`, `Game.step`, Model/Game.lean) and hold for
  every reachable state: `Reachable g` (Proofs/EngineReach.lean) = any sequence of
  operations, accepted or refused, with any arguments, from any successfully started
  configuration whose forced bets are not negative (`WFConfig`).
-/
namespace Pokerface.C06
open Pokerface Game

/-! ## Start -/

/-- Sentence 1 ("a hand starts only with at least two players with positive bankrolls, a dealer
    and a deck"): `Start()` succeeds exactly when its four preconditions hold.  No hypothesis
    on the configuration. -/
theorem start_iff (c : Config) :
    (start c).2 = none ↔
      2 ≤ c.seats.length ∧ (∃ s ∈ c.seats, s.dealer = true) ∧ (∀ s ∈ c.seats, 0 < s.bankroll) ∧ c.opts.deck ≠ [] := by
  rw [start_err]
  by_cases h1 : c.seats.length < 2
  · rw [if_pos h1]
    exact ⟨nofun, fun h => absurd h.1 (by omega)⟩
  rw [if_neg h1]
  by_cases h2 : ¬ ∃ s ∈ c.seats, s.dealer = true
  · rw [if_pos h2]
    exact ⟨nofun, fun h => absurd h.2.1 h2⟩
  rw [if_neg h2]
  have h2 := Classical.not_not.mp h2
  by_cases h3 : ∃ s ∈ c.seats, s.bankroll ≤ 0
  · rw [if_pos h3]
    obtain ⟨s, hs, hle⟩ := h3
    exact ⟨nofun, fun h => absurd (h.2.2.1 s hs) (by omega)⟩
  rw [if_neg h3]
  have h3' : ∀ s ∈ c.seats, 0 < s.bankroll := fun s hs => Int.not_le.mp (fun hle => h3 ⟨s, hs, hle⟩)
  by_cases h4 : c.opts.deck = []
  · rw [if_pos h4]
    exact ⟨nofun, fun h => absurd h4 h.2.2.2⟩
  · rw [if_neg h4]
    exact ⟨fun _ => ⟨by omega, h2, h3', h4⟩, fun _ => rfl⟩

/-- The error `Start()` returns, guard by guard in the order of game.go `Start`:
    too few players; no dealer; a bankroll that is not positive; no deck. -/
theorem start_error (c : Config) :
    (c.seats.length < 2 → (start c).2 = some .insufficientPlayers) ∧
    (2 ≤ c.seats.length → (¬ ∃ s ∈ c.seats, s.dealer = true) → (start c).2 = some .noDealer) ∧
    (2 ≤ c.seats.length → (∃ s ∈ c.seats, s.dealer = true) → (∃ s ∈ c.seats, s.bankroll ≤ 0) →
      (start c).2 = some .notEnoughBankroll) ∧
    (2 ≤ c.seats.length → (∃ s ∈ c.seats, s.dealer = true) → (∀ s ∈ c.seats, 0 < s.bankroll) → c.opts.deck = [] →
      (start c).2 = some .noDeck) := by
  rw [start_err]
  refine ⟨fun h => by rw [if_pos h], fun h1 h2 => by rw [if_neg (by omega), if_pos h2],
    fun h1 h2 h3 => by rw [if_neg (by omega), if_neg (fun h => h h2), if_pos h3], fun h1 h2 h3 h4 => ?_⟩
  have h3' : ¬ ∃ s ∈ c.seats, s.bankroll ≤ 0 := by
    rintro ⟨s, hs, hle⟩
    have := h3 s hs
    omega
  rw [if_neg (by omega), if_neg (fun h => h h2), if_neg h3', if_pos h4]

/-! ## Wait points -/

/-- Sentence 2, first half ("it always indicates the single thing it is waiting for"): between
    operations the event is one of the six wait points. -/
theorem wait_points {g : Game} (h : Reachable g) :
    g.event = .readyRequested ∨ g.event = .anteRequested ∨ g.event = .blindsRequested ∨
    g.event = .roundStarted ∨ g.event = .roundClosed ∨ g.event = .gameClosed := by
  have := (inv_reachable h).post.wait
  revert this
  cases g.event <;> simp [Ev.isWait]

/-! ## The expected step succeeds -/

/-- Sentence 2, second half ("that step always succeeds"), one clause per wait point:
    * ReadyRequested: `ReadyForAll` succeeds;
    * AnteRequested: `PayAnte` succeeds (no seat has a wager, every seat is visited once);
    * BlindsRequested: `PayBlinds` succeeds;
    * RoundClosed: `Next` succeeds;
    * RoundStarted: the seat to act exists and is offered at least one action; every offered
      `Pass/Fold/Check/Call/Allin` succeeds (whatever amount argument is passed along), an offered
      `Bet x` succeeds for every `x ≥ 0`, an offered `Raise x` for every `x` above the wager to
      match — addressed to the table (`none`) or to the seat itself (`some g.cur`). -/
theorem expected_step_succeeds {g : Game} (h : Reachable g) :
    (g.event = .readyRequested → (g.step .ready).2 = none) ∧
    (g.event = .anteRequested → (g.step .payAnte).2 = none) ∧
    (g.event = .blindsRequested → (g.step .payBlinds).2 = none) ∧
    (g.event = .roundClosed → (g.step .next).2 = none) ∧
    (g.event = .roundStarted → ∃ p, g.players[g.cur]? = some p ∧ p.allowed ≠ [] ∧
      ∀ (seat : Option Nat), (seat = none ∨ seat = some g.cur) → ∀ (a : Act) (x : Int), a ∈ p.allowed →
        ((a = .pass ∨ a = .fold ∨ a = .check ∨ a = .call ∨ a = .allin) → (g.step (.act seat a x)).2 = none) ∧
        (a = .bet → 0 ≤ x → (g.step (.act seat a x)).2 = none) ∧
        (a = .raise → g.cw < x → (g.step (.act seat a x)).2 = none)) := by
  refine ⟨fun he => by rw [step_ready he], payAnte_ok g (flow_reachable h), fun he => by rw [step_payBlinds he],
    fun he => ?_, fun he => ?_⟩
  · by_cases hr : g.round = .none
    · rw [step_next_idle he hr]
    · rw [step_next he hr]
  · obtain ⟨p, hp⟩ := exists_cur h
    have ht : AtTurn g p := ⟨h, he, hp⟩
    refine ⟨p, hp, ?_, fun seat hseat a x ha => ?_⟩
    · rw [ht.allowed_eq]
      rcases avail_free g p with h1 | h1 <;> exact List.ne_nil_of_mem h1
    · rw [step_byCur hseat]
      rw [ht.allowed_eq] at ha
      have hal := ht.allows_of ha
      refine ⟨fun hfree => ?_, ?_, ?_⟩
      · rcases hfree with rfl | rfl | rfl | rfl | rfl <;> exact act_accepted_of_allows x hal nofun nofun
      · rintro rfl hx
        exact act_bet_accepted_of_allows hal hx
      · rintro rfl hx
        rw [act_raise_dispatch ht ha hx]
        split <;> rfl

/-- Every refused operation leaves the state exactly as it was (`payAnte` included: it never
    fails while the hand waits for the antes). -/
theorem refused_no_effect {g : Game} (h : Reachable g) (op : Op) (hr : (g.step op).2 ≠ none) : (g.step op).1 = g :=
  refused_same g (flow_reachable h) op hr

/-! ## Streets in order -/

/-- index of a street: none < preflop < flop < turn < river -/
def roundIdx : Round → Nat := Round.idx

/-- Sentence 2, end ("the streets run strictly preflop, flop, turn, river"): an operation
    leaves the street alone or moves it one step forward … -/
theorem streets_in_order {g : Game} (h : Reachable g) (op : Op) :
    (g.step op).1.round = g.round ∨ roundIdx (g.step op).1.round = roundIdx g.round + 1 := by
  rcases round_step g (inv_reachable h) (flow_reachable h) op with h1 | ⟨_, _, h2, h3⟩ | ⟨_, h2, h3⟩ | ⟨_, _, h3⟩
  · exact Or.inl h1
  · right
    rw [h3, h2]
    rfl
  · right
    rw [h3, h2]
    rfl
  · exact Or.inr h3

/-- Sentence 2, end: the street moves only in `ReadyForAll` (into preflop when there is no ante), `PayAnte` (into
    preflop) and `Next` on a closed round; never in a player action, never in `PayBlinds`. -/
theorem street_moves_only {g : Game} (h : Reachable g) (op : Op) (hne : (g.step op).1.round ≠ g.round) :
    (op = .ready ∧ g.opts.ante = 0 ∧ g.round = .none ∧ (g.step op).1.round = .preflop) ∨
    (op = .payAnte ∧ g.round = .none ∧ (g.step op).1.round = .preflop) ∨
    (op = .next ∧ g.event = .roundClosed) := by
  rcases round_step g (inv_reachable h) (flow_reachable h) op with h1 | h1 | h1 | ⟨h1, h2, _⟩
  · exact absurd h1 hne
  · exact Or.inl h1
  · exact Or.inr (Or.inl h1)
  · exact Or.inr (Or.inr ⟨h1, h2⟩)

/-! ## Closed is final -/

/-- Sentence 3, end ("with a settlement result … and from then on accepts nothing"): in the closed
    state the result is present, and every operation of the alphabet is refused and changes nothing. -/
theorem closed_final {g : Game} (h : Reachable g) (he : g.event = .gameClosed) :
    g.result ≠ none ∧ ∀ op, (g.step op).2 ≠ none ∧ (g.step op).1 = g :=
  ⟨(flow_reachable h).result_closed he, closed_refuses g (inv_reachable h) he⟩

/-- the settlement result is present exactly in the closed state -/
theorem result_iff_closed {g : Game} (h : Reachable g) : g.result.isSome = true ↔ g.event = .gameClosed :=
  (flow_reachable h).res

/-! ## Termination -/

/-- the measure: `n · Σ stacks + phase` (see Proofs/FlowMeasure.lean: the phase counts the streets
    left, the position inside the street and, in an open betting round, the seats that have not acted) -/
def measure (g : Game) : Int := g.mu

/-- Sentence 3: every accepted operation strictly decreases the (non-negative) measure. -/
theorem measure_decreases {g : Game} (h : Reachable g) (op : Op) (hacc : (g.step op).2 = none) :
    0 ≤ measure (g.step op).1 ∧ measure (g.step op).1 < measure g :=
  ⟨mu_nonneg (inv_step g (inv_reachable h) op), mu_step g (inv_reachable h) (flow_reachable h) op hacc⟩

/-- number of accepted operations of a run (specification-level copy of `Game.accepted`) -/
def acceptedCount (g : Game) (ops : List Op) : Nat := g.accepted ops

/-- the bound asserted by the run-time monitor: `n · (Σ bankrolls + 4) + 16` -/
def bound (c : Config) : Nat := c.seats.length * ((c.seats.map SeatCfg.bankroll).sum.toNat + 4) + 16

/-- the bound the measure gives: `n · Σ bankrolls + 4·n + 12` -/
def sharpBound (c : Config) : Nat := c.seats.length * (c.seats.map SeatCfg.bankroll).sum.toNat + 4 * c.seats.length + 12

theorem bankrolls_nonneg (c : Config) (hs : (start c).2 = none) : 0 ≤ (c.seats.map SeatCfg.bankroll).sum :=
  sum_map_nonneg_int _ _ fun s h => Int.le_of_lt (((start_iff c).mp hs).2.2.1 s h)

/-- Sentence 3 ("after a bounded number of steps"): in ANY sequence of operations run from a
    started hand — accepted or refused, any arguments — at most `n · Σ bankrolls + 4·n + 12`
    are accepted. -/
theorem terminates_sharp (c : Config) (wf : WFConfig c) (hs : (start c).2 = none) (ops : List Op) :
    acceptedCount (start c).1 ops ≤ sharpBound c := by
  have hi := inv_start c wf hs
  have hf := flow_start c hs
  have h1 := accepted_le_mu ops _ hi hf
  have h2 := mu_nonneg (inv_run _ hi ops)
  have h3 : (start c).1.mu = (c.seats.length : Int) * (c.seats.map SeatCfg.bankroll).sum
      + 4 * ((c.seats.length : Int) + 2) + 4 := start_mu c hs
  have h4 := bankrolls_nonneg c hs
  unfold acceptedCount sharpBound
  have h5 : (((c.seats.map SeatCfg.bankroll).sum.toNat : Nat) : Int) = (c.seats.map SeatCfg.bankroll).sum :=
    Int.toNat_of_nonneg h4
  have h6 : ((c.seats.length * (c.seats.map SeatCfg.bankroll).sum.toNat : Nat) : Int)
      = (c.seats.length : Int) * (c.seats.map SeatCfg.bankroll).sum := by
    rw [Int.natCast_mul, h5]
  omega

/-- Sentence 3: at most the bound the monitor asserts, `n · (Σ bankrolls + 4) + 16`. -/
theorem terminates (c : Config) (wf : WFConfig c) (hs : (start c).2 = none) (ops : List Op) :
    acceptedCount (start c).1 ops ≤ bound c := by
  have := terminates_sharp c wf hs ops
  unfold sharpBound at this
  unfold bound
  rw [Nat.mul_add]
  omega

/-- a run in which every operation is accepted is no longer than the bound: there is no infinite
    play -/
theorem no_infinite_play (c : Config) (wf : WFConfig c) (hs : (start c).2 = none) (ops : List Op)
    (hall : acceptedCount (start c).1 ops = ops.length) : ops.length ≤ bound c := by
  rw [← hall]
  exact terminates c wf hs ops

/-- Sentence 3: the hand is never stuck: as long as it is not closed some operation is accepted
    (so that the closed state IS reached, within the bound, by any driver that keeps going). -/
theorem progress {g : Game} (h : Reachable g) (hne : g.event ≠ .gameClosed) : ∃ op, (g.step op).2 = none := by
  obtain ⟨h1, h2, h3, h4, h5⟩ := expected_step_succeeds h
  rcases wait_points h with he | he | he | he | he | he
  · exact ⟨_, h1 he⟩
  · exact ⟨_, h2 he⟩
  · exact ⟨_, h3 he⟩
  · obtain ⟨p, hp, hne', hall⟩ := h5 he
    have hoff := (AtTurn.mk h he hp).allowed_eq
    rcases avail_free g p with hm | hm
    · exact ⟨.act none .pass 0, ((hall none (Or.inl rfl) .pass 0 (by rw [hoff]; exact hm)).1 (Or.inl rfl))⟩
    · exact ⟨.act none .allin 0, ((hall none (Or.inl rfl) .allin 0 (by rw [hoff]; exact hm)).1
        (Or.inr (Or.inr (Or.inr (Or.inr rfl)))))⟩
  · exact ⟨_, h4 he⟩
  · exact absurd he hne

/-! ## Non-vacuity -/

/-- three seats with 100 chips each, ante 2, blinds 5/10, dealer at seat 0 -/
def exCfg : Config :=
  { opts := { ante := 2, blindDealer := 0, blindSB := 5, blindBB := 10, potLimit := false, holeCount := 2, required := 0,
              lvl := fun _ => 1, table := [], deck := (List.range 20).map fun k => { suit := 83, rank := k + 2 } },
    seats := [{ bankroll := 100, dealer := true, sb := false, bb := false },
              { bankroll := 100, dealer := false, sb := true, bb := false },
              { bankroll := 100, dealer := false, sb := false, bb := true }] }

theorem exWF : WFConfig exCfg := ⟨⟨by decide, by decide, by decide, by decide⟩⟩

/-- `start_iff`: both sides hold for `exCfg`; each guard fails for a variant -/
example : (start exCfg).2 = none := by decide +kernel
example : (start { exCfg with seats := exCfg.seats.take 1 }).2 = some .insufficientPlayers := by decide +kernel
example : (start { exCfg with seats := exCfg.seats.drop 1 }).2 = some .noDealer := by decide +kernel
example : (start { exCfg with seats := exCfg.seats ++ [{ bankroll := 0, dealer := false, sb := false, bb := false }] }).2
    = some .notEnoughBankroll := by decide +kernel
example : (start { exCfg with opts := { exCfg.opts with deck := [] } }).2 = some .noDeck := by decide +kernel

/-- a whole hand: ready, antes, blinds, ready, seat 0 raises to 30, seat 1 folds, seat 2 folds, next -/
def exOps : List Op :=
  [.ready, .payAnte, .payBlinds, .ready, .act none .raise 30, .act none .fold 0, .act (some 2) .fold 0, .next]

def exAt (k : Nat) : Game := (start exCfg).1.run (exOps.take k)

theorem exReach (k : Nat) : Reachable (exAt k) := ⟨exCfg, exOps.take k, exWF, by decide +kernel, rfl⟩

/-- every wait point occurs, each expected step is accepted, the streets move none → preflop in
    `payAnte` only, and the hand closes with a result -/
example : (exAt 0).event = .readyRequested ∧ (exAt 1).event = .anteRequested ∧ (exAt 2).event = .blindsRequested ∧
    (exAt 3).event = .readyRequested ∧ (exAt 4).event = .roundStarted ∧ (exAt 5).event = .roundStarted ∧
    (exAt 7).event = .roundClosed ∧ (exAt 8).event = .gameClosed := by decide +kernel
example : (exAt 1).round = .none ∧ (exAt 2).round = .preflop ∧ (exAt 8).round = .preflop := by decide +kernel
example : (exAt 4).cur = 0 ∧ ((exAt 4).players[0]?.map (·.allowed)) = some [.allin, .fold, .call, .raise] := by decide +kernel
example : (exAt 8).result.isSome = true := by decide +kernel
example : acceptedCount (start exCfg).1 exOps = 8 ∧ exOps.length = 8 ∧ bound exCfg = 928 ∧ sharpBound exCfg = 924 := by decide +kernel
/-- refused operations do not count: out of turn, wrong phase, closed hand -/
example : acceptedCount (start exCfg).1 ([.next, .act (some 1) .fold 0] ++ exOps ++ [.ready, .next, .act none .pass 0]) = 8 := by
  decide +kernel
/-- the measure along the example hand -/
example : (List.range 9).map (fun k => measure (exAt k)) = [924, 923, 904, 857, 856, 765, 764, 763, 747] := by decide +kernel

end Pokerface.C06
