import Pokerface.Properties.Links
import Pokerface.Proofs.ShowdownPlayReach
/-
  C02 — "Showdown pays the right players the right amounts": real play, and layers paid by folded seats only.

  (1) DIRECT VECTORS.  A layer paid ONLY by folded players (possible only for vectors that no
      played hand produces) is refunded: every player's net amount over that level is 0
      (`folded_only_level_refunded`).  With `C02.level_winners` this characterises EVERY layer of
      EVERY valid vector (`every_level`).

  (2) REAL PLAY.  `C02.level_winners` ("every layer goes to the best hand among the non-folded
      players who paid into it") carries the hypothesis `hex` — the layer has a non-folded
      contributor —, and `C02.folded_loses_stake` the hypothesis `hle` — some non-folded player put
      in at least as much as the folded one.  Both are discharged here for every hand that is
      actually PLAYED, by an engine invariant (`nonfolded_covers_all`, proved in
      Proofs/ShowdownPlay*.lean over all `Reachable` states): some NON-FOLDED player's
      `pot + wager` is ≥ every player's `pot + wager`.  (Fold is offered only below the wager to
      match, whose holder cannot fold; the seats with chips are level at every round close.)
      The Links theorems are restated without those hypotheses (`showdown_*_play`).
-/
namespace Pokerface.C02P
open Pokerface Pokerface.Game Pokerface.Links Generated

/-! ## (1) direct vectors: every layer -/

theorem level_has_contributor (ss : List C02.Seat) (h : C02.Valid ss) (pr : PotResult)
    (hpr : pr ∈ (C02.settle ss).pots) (li : LevelInfo) (hli : li ∈ pr.levels) :
    ∃ s ∈ ss, li.level ≤ s.contrib := by
  obtain ⟨l, hl, rfl⟩ := C02.level_of_result hpr hli
  obtain ⟨M, _, ⟨r, hr, hc, _⟩, _⟩ := (C02.gameIn0 h).mem_levelWinners hl
  obtain ⟨s, hs, _, hle⟩ := (C02.level_contributors ss h pr hpr _ hli r.1).1 hc
  exact ⟨s, hs, hle⟩

/-- **The folded-only layer is refunded** (complement of `C02.level_winners`, whose hypothesis
    `hex` fails here): if NO non-folded seat put in as much as the level `li`, then the update
    list that `settleLevel` applies to that level (`C02.level_payout`, for any incoming odd-chip
    offset `o`) gives every player the net amount 0 — the folded contributors are the "winners"
    of the level and each gets exactly its own wager back. -/
theorem folded_only_level_refunded (ss : List C02.Seat) (h : C02.Valid ss) (pr : PotResult)
    (hpr : pr ∈ (C02.settle ss).pots) (li : LevelInfo) (hli : li ∈ pr.levels)
    (hno : ¬ ∃ t ∈ ss, t.folded = false ∧ li.level ≤ t.contrib) (o : Int) (i : Nat) :
    net (levelUpdates li o) i = 0 := by
  obtain ⟨l, hl, rfl⟩ := C02.level_of_result hpr hli
  apply (C02.gameIn0 h).net_all_equal hl o 0
  intro r hr hc
  obtain ⟨s, hs, rfl⟩ := List.mem_map.1 hr
  have hle' := (C02.seat_mem_level ss h pr hpr _ hli hs).1 hc
  have hf : s.folded = true := by
    cases hfo : s.folded with
    | true => rfl
    | false => exact absurd ⟨s, hs, hfo, hle'⟩ hno
  simp [eff, hf]

/-- **Every layer of every valid vector**: for each level `li` kept in the result, EITHER some
    non-folded seat paid into it, and then its winners are exactly the best-ranked non-folded
    seats that paid into it (`C02.level_winners`; what each seat nets: `C02.level_payout`), OR
    only folded seats paid into it, and then everybody's net amount over the level is 0. -/
theorem every_level (ss : List C02.Seat) (h : C02.Valid ss) (pr : PotResult)
    (hpr : pr ∈ (C02.settle ss).pots) (li : LevelInfo) (hli : li ∈ pr.levels) (o : Int) (i : Nat) :
    ((∃ t ∈ ss, t.folded = false ∧ li.level ≤ t.contrib) ∧
      (i ∈ levelWinners li ↔
        ∃ s ∈ ss, s.idx = i ∧ s.folded = false ∧ li.level ≤ s.contrib ∧
          ∀ t ∈ ss, t.folded = false → li.level ≤ t.contrib → t.score ≤ s.score)) ∨
    ((∀ t ∈ ss, li.level ≤ t.contrib → t.folded = true) ∧ net (levelUpdates li o) i = 0) := by
  by_cases hex : ∃ t ∈ ss, t.folded = false ∧ li.level ≤ t.contrib
  · exact Or.inl ⟨hex, C02.level_winners ss h pr hpr li hli hex i⟩
  · refine Or.inr ⟨?_, folded_only_level_refunded ss h pr hpr li hli hex o i⟩
    intro t ht hle
    cases hf : t.folded with
    | true => rfl
    | false => exact absurd ⟨t, ht, hf, hle⟩ hex

/-- A vector whose upper layers are paid by folded seats only: 50 not folded, 100 folded, 200 folded. -/
def foldedTop : List C02.Seat := [⟨0, 1000, 50, false, 5⟩, ⟨1, 1000, 100, true, 7⟩, ⟨2, 1000, 200, true, 9⟩]

example : C02.Valid foldedTop := by decide

/-- changes +100 / −50 / −50: the layers 50..100 and 100..200, paid by folded seats only, go back -/
example : foldedTop.map (fun s => C02.changed foldedTop s.idx) = [100, -50, -50] := by decide +kernel

/-- The hypotheses of `folded_only_level_refunded` are met by the levels 100 and 200 of that vector
    (no non-folded seat put in that much), those of `C02.level_winners` by the level 50. -/
example : (C02.settle foldedTop).pots.map (fun pr => pr.levels.map fun li =>
      (li.level, decide (∃ t ∈ foldedTop, t.folded = false ∧ li.level ≤ t.contrib), levelWinners li,
        [net (levelUpdates li 0) 0, net (levelUpdates li 0) 1, net (levelUpdates li 0) 2])) =
    [[(50, true, [0], [100, -50, -50])], [(100, false, [1, 2], [0, 0, 0]), (200, false, [2], [0, 0, 0])]] := by
  decide +kernel

/-- If some non-folded seat put in at least as much as every seat, then every level kept in the
    result has a non-folded contributor: the hypothesis `hex` of `C02.level_winners` holds for ALL
    levels. -/
theorem level_covered_of_cover (ss : List C02.Seat) (h : C02.Valid ss)
    (hcov : ∃ t ∈ ss, t.folded = false ∧ ∀ s ∈ ss, s.contrib ≤ t.contrib)
    (pr : PotResult) (hpr : pr ∈ (C02.settle ss).pots) (li : LevelInfo) (hli : li ∈ pr.levels) :
    ∃ t ∈ ss, t.folded = false ∧ li.level ≤ t.contrib := by
  obtain ⟨t, ht, htf, hmax⟩ := hcov
  obtain ⟨s, hs, hle⟩ := level_has_contributor ss h pr hpr li hli
  exact ⟨t, ht, htf, Int.le_trans hle (hmax s hs)⟩

example : ∃ t ∈ C02.sample, t.folded = false ∧ ∀ s ∈ C02.sample, s.contrib ≤ t.contrib :=
  ⟨⟨2, 0, 100, false, 5⟩, by decide, rfl, by decide⟩

/-! ## (2) real play: the engine invariant -/

/-- **Engine invariant** (every reachable state — any configuration the engine accepts with
    non-negative forced bets, any history of operations, accepted or refused): some NON-FOLDED
    player has put in (`pot + wager`) at least as much as every player of the hand. -/
theorem nonfolded_covers_all {g : Game} (h : Reachable g) :
    ∃ q ∈ g.players, q.fold = false ∧ ∀ p ∈ g.players, p.pot + p.wager ≤ q.pot + q.wager :=
  covered_reachable h

/-- Some non-folded player has put in at least as much as any given FOLDED player (the hypothesis `hle` of `C02.folded_loses_stake` /
    `Links.showdown_folded_loses_stake`). -/
theorem folded_is_covered {g : Game} (h : Reachable g) (p : Player) (hp : p ∈ g.players) (_hf : p.fold = true) :
    ∃ q ∈ g.players, q.fold = false ∧ p.pot + p.wager ≤ q.pot + q.wager := by
  obtain ⟨q, hq, hqf, hmax⟩ := covered_reachable h
  exact ⟨q, hq, hqf, hmax p hp⟩

/-- The same for the seat vector `g.seats` that `C01.closed_result_is_settle` feeds to the settlement. -/
theorem seats_covered {g : Game} (h : Reachable g) :
    ∃ t ∈ g.seats, t.folded = false ∧ ∀ s ∈ g.seats, s.contrib ≤ t.contrib := by
  obtain ⟨q, hq, hqf, hmax⟩ := covered_reachable h
  refine ⟨seatOf q, mem_seats hq, hqf, ?_⟩
  intro s hs
  obtain ⟨p, hp, rfl⟩ := List.mem_map.mp hs
  exact hmax p hp

/-- `hex` for real play: every level of the settlement of a reachable state's seats has a
    non-folded contributor. -/
theorem hex_play {g : Game} (hR : Reachable g) (hv : C02.Valid g.seats) (pr : PotResult)
    (hpr : pr ∈ (C02.settle g.seats).pots) (li : LevelInfo) (hli : li ∈ pr.levels) :
    ∃ t ∈ g.seats, t.folded = false ∧ li.level ≤ t.contrib :=
  level_covered_of_cover _ hv (seats_covered hR) pr hpr li hli

/-- `C02.level_winners` for real play, WITHOUT `hex`: "every layer of the pot goes to the
    best-ranked hand or hands among the non-folded players who paid into that layer", for every
    level of the settlement of the seats of any reachable state. -/
theorem level_winners_play {g : Game} (hR : Reachable g) (hv : C02.Valid g.seats) (pr : PotResult)
    (hpr : pr ∈ (C02.settle g.seats).pots) (li : LevelInfo) (hli : li ∈ pr.levels) (i : Nat) :
    i ∈ levelWinners li ↔
      ∃ s ∈ g.seats, s.idx = i ∧ s.folded = false ∧ li.level ≤ s.contrib ∧
        ∀ t ∈ g.seats, t.folded = false → li.level ≤ t.contrib → t.score ≤ s.score :=
  C02.level_winners _ hv pr hpr li hli (hex_play hR hv pr hpr li hli) i

/-- `C02.folded_loses_stake` for real play, WITHOUT `hle`: a folded player loses exactly what it
    put in. -/
theorem folded_loses_stake_play {g : Game} (hR : Reachable g) (hv : C02.Valid g.seats)
    (p : Player) (hp : p ∈ g.players) (hf : p.fold = true) :
    C02.changed g.seats p.idx = -(p.pot + p.wager) := by
  obtain ⟨q, hq, hqf, hmax⟩ := covered_reachable hR
  exact C02.folded_loses_stake _ hv (seatOf p) (mem_seats hp) hf (seatOf q) (mem_seats hq) hqf (hmax p hp)

/-! ## (2) the Links theorems without `hex` / `hle` -/

/-- Every level kept in the RESULT of a closed hand has a non-folded contributor (`hex` of
    `Links.showdown_winners_of` / `showdown_winners_by_poker(_shortDeck)`, discharged). -/
theorem showdown_hex {T : List Cat} (hT : ShippedTable T) {cfg : Config} (hc : PokerConfig T cfg)
    (h1 : 1 ≤ cfg.opts.holeCount) (ops : List Op) (he : ((start cfg).1.run ops).event = .gameClosed)
    (r : Result) (hr : ((start cfg).1.run ops).result = some r) (pr : PotResult) (hpr : pr ∈ r.pots)
    (li : LevelInfo) (hli : li ∈ pr.levels) :
    ∃ t ∈ ((start cfg).1.run ops).players, t.fold = false ∧ li.level ≤ t.pot + t.wager := by
  obtain rfl := result_eq_settle (hc.reach ops) he hr
  obtain ⟨t, ht, htf, hle⟩ := hex_play (hc.reach ops) (showdown_valid hT hc h1 ops he) pr hpr li hli
  obtain ⟨p, hp, rfl⟩ := List.mem_map.mp ht
  exact ⟨p, hp, htf, hle⟩

/-- `Links.showdown_winners_of` without `hex`. -/
theorem showdown_winners_of_play {T : List Cat} (hT : ShippedTable T) {cfg : Config} (hc : PokerConfig T cfg)
    (h5 : FiveCardRule cfg.opts) (ops : List Op)
    (he : ((start cfg).1.run ops).event = .gameClosed) (h2 : 2 ≤ ((start cfg).1.run ops).aliveCount)
    (hord : ∀ p ∈ ((start cfg).1.run ops).players, ∀ q ∈ ((start cfg).1.run ops).players, ∀ c d,
      p.comb = some c → q.comb = some d →
      ((seatOf q).score ≤ (seatOf p).score ↔ ¬ C03.pokerKey T c.cards < C03.pokerKey T d.cards))
    (r : Result) (hr : ((start cfg).1.run ops).result = some r) (pr : PotResult) (hpr : pr ∈ r.pots)
    (li : LevelInfo) (hli : li ∈ pr.levels) (i : Nat) :
    i ∈ levelWinners li ↔
      ∃ p ∈ ((start cfg).1.run ops).players, ∃ c, p.comb = some c ∧ p.idx = i ∧ p.fold = false ∧
        li.level ≤ p.pot + p.wager ∧
        ∀ q ∈ ((start cfg).1.run ops).players, ∀ d, q.comb = some d → q.fold = false →
          li.level ≤ q.pot + q.wager → ¬ C03.pokerKey T c.cards < C03.pokerKey T d.cards :=
  showdown_winners_of hT hc h5 ops he h2 hord r hr pr hpr li hli
    (showdown_hex hT hc (holeCount_of_rule h5) ops he r hr pr hpr li hli) i

/-- Standard table: "every layer of the pot goes to the
    best-ranked hand or hands among the non-folded players who paid into that layer", with
    "best-ranked" read by the rules of poker, for EVERY level of the result of EVERY played hand that
    ends in a showdown with at least two live players — no hypothesis on the level. -/
theorem showdown_winners_by_poker_play {cfg : Config} (hc : PokerConfig powerStandard cfg)
    (h5 : FiveCardRule cfg.opts) (ops : List Op)
    (he : ((start cfg).1.run ops).event = .gameClosed) (h2 : 2 ≤ ((start cfg).1.run ops).aliveCount)
    (r : Result) (hr : ((start cfg).1.run ops).result = some r) (pr : PotResult) (hpr : pr ∈ r.pots)
    (li : LevelInfo) (hli : li ∈ pr.levels) (i : Nat) :
    i ∈ levelWinners li ↔
      ∃ p ∈ ((start cfg).1.run ops).players, ∃ c, p.comb = some c ∧ p.idx = i ∧ p.fold = false ∧
        li.level ≤ p.pot + p.wager ∧
        ∀ q ∈ ((start cfg).1.run ops).players, ∀ d, q.comb = some d → q.fold = false →
          li.level ≤ q.pot + q.wager →
          ¬ C03.pokerKey powerStandard c.cards < C03.pokerKey powerStandard d.cards :=
  showdown_winners_by_poker hc h5 ops he h2 r hr pr hpr li hli
    (showdown_hex (Or.inl rfl) hc (holeCount_of_rule h5) ops he r hr pr hpr li hli) i

/-- The same for the short-deck table (C03's
    exclusion of A-9-8-7-6 stays, as in `Links.showdown_winners_by_poker_shortDeck`). -/
theorem showdown_winners_by_poker_shortDeck_play {cfg : Config} (hc : PokerConfig powerShortDeck cfg)
    (h5 : FiveCardRule cfg.opts) (ops : List Op)
    (he : ((start cfg).1.run ops).event = .gameClosed) (h2 : 2 ≤ ((start cfg).1.run ops).aliveCount)
    (hx : ∀ p ∈ ((start cfg).1.run ops).players, ∀ c, p.comb = some c → C03.isA6789 c.cards = false)
    (r : Result) (hr : ((start cfg).1.run ops).result = some r) (pr : PotResult) (hpr : pr ∈ r.pots)
    (li : LevelInfo) (hli : li ∈ pr.levels) (i : Nat) :
    i ∈ levelWinners li ↔
      ∃ p ∈ ((start cfg).1.run ops).players, ∃ c, p.comb = some c ∧ p.idx = i ∧ p.fold = false ∧
        li.level ≤ p.pot + p.wager ∧
        ∀ q ∈ ((start cfg).1.run ops).players, ∀ d, q.comb = some d → q.fold = false →
          li.level ≤ q.pot + q.wager →
          ¬ C03.pokerKey powerShortDeck c.cards < C03.pokerKey powerShortDeck d.cards :=
  showdown_winners_by_poker_shortDeck hc h5 ops he h2 hx r hr pr hpr li hli
    (showdown_hex (Or.inr rfl) hc (holeCount_of_rule h5) ops he r hr pr hpr li hli) i

/-- In every closed hand, a folded player loses EXACTLY what
    it put in — `Links.showdown_folded_loses_stake` without the covering player `q` and `hle`. -/
theorem showdown_folded_loses_stake_play {T : List Cat} (hT : ShippedTable T) {cfg : Config}
    (hc : PokerConfig T cfg) (h1 : 1 ≤ cfg.opts.holeCount) (ops : List Op)
    (he : ((start cfg).1.run ops).event = .gameClosed)
    (p : Player) (hp : p ∈ ((start cfg).1.run ops).players) (hf : p.fold = true) :
    C02.changed ((start cfg).1.run ops).seats p.idx = -(p.pot + p.wager) :=
  folded_loses_stake_play (hc.reach ops) (showdown_valid hT hc h1 ops he) p hp hf

/-! ## non-vacuity on the played hand of Links (three seats, one fold, a tie) -/

open Links.Examples in
/-- the seats of the example hand of Links at its end: what each has put in, who folded, and what the
    folded seat 1 loses -/
theorem gEnd_stakes :
    gEnd.players.map (fun p => (p.idx, p.fold, p.pot + p.wager)) = [(0, false, 10), (1, true, 5), (2, false, 10)] ∧
    C02.changed gEnd.seats 1 = -5 := by
  rw [gEnd_eq]
  decide +kernel

open Links.Examples in
/-- the hypotheses of `showdown_winners_by_poker_play` hold for the example hand of Links, for every
    level of its result (levels 5 and 10, winners seats 0 and 2: see Links) -/
example (r : Result) (hr : gEnd.result = some r) (pr : PotResult) (hpr : pr ∈ r.pots)
    (li : LevelInfo) (hli : li ∈ pr.levels) (i : Nat) :=
  showdown_winners_by_poker_play exPC exRule exOps gEnd_facts.1 (Nat.le_of_eq gEnd_facts.2.2.2.1.symm)
    r hr pr hpr li hli i

open Links.Examples in
/-- The hypotheses of `showdown_folded_loses_stake_play` hold for the folded seat 1 of that hand, which loses its 5 chips. -/
example : (∃ p ∈ gEnd.players, p.idx = 1 ∧ p.fold = true ∧ p.pot + p.wager = 5) ∧
    C02.changed gEnd.seats 1 = -5 := by
  have : ((1 : Nat), true, (5 : Int)) ∈ gEnd.players.map (fun p => (p.idx, p.fold, p.pot + p.wager)) := by
    rw [gEnd_stakes.1]
    decide
  obtain ⟨p, hp, e⟩ := List.mem_map.1 this
  simp only [Prod.mk.injEq] at e
  exact ⟨⟨p, hp, e.1, e.2.1, e.2.2⟩, gEnd_stakes.2⟩

open Links.Examples in
example (p : Player) (hp : p ∈ gEnd.players) (hf : p.fold = true) :=
  showdown_folded_loses_stake_play (Or.inl rfl) exPC (by decide) exOps gEnd_facts.1 p hp hf

open Links.Examples in
/-- the invariant on that hand: seat 0 (not folded, 10 chips in) covers everybody -/
example : gEnd.players.map (fun p => (p.fold, p.pot + p.wager)) = [(false, 10), (true, 5), (false, 10)] := by
  have := congrArg (List.map (fun x : Nat × Bool × Int => x.2)) gEnd_stakes.1
  rwa [List.map_map] at this

end Pokerface.C02P

section Axioms
open Pokerface.C02P
#print axioms nonfolded_covers_all
#print axioms folded_only_level_refunded
#print axioms every_level
#print axioms level_winners_play
#print axioms folded_loses_stake_play
#print axioms showdown_winners_by_poker_play
#print axioms showdown_winners_by_poker_shortDeck_play
#print axioms showdown_folded_loses_stake_play
end Axioms
