import Pokerface.Properties.C12
import Pokerface.Proofs.BetsExamples
/-
  C12PotLimit — the pot-limit half of C12 "Raise sizes obey the minimum-raise rule and amounts cannot corrupt chips".

  The quantifier of C12 ranges over no-limit AND pot-limit tables (`opts.potLimit`), but every exactness theorem of
  `Properties/C12.lean` (`raise_exact`, `raise_exact_spec`, `raise_exact_unconditional`) carries the hypothesis
  `g.opts.potLimit = false`.  Here: what `Raise(x)` by the player to act does on a pot-limit table, in EVERY case
  (player.go `Raise`: `if PotLimit && raised > CurrentWager + PreviousRaiseSize { raised = CurrentWager + PreviousRaiseSize … }`),
  and the exact condition under which the refusal branch of `raise_exact_unconditional` is taken.

  Setting as in C12: `AtTurn g p` (reachable state, open betting round, `p` the player at the seat to act), `ByCur g seat`
  (the request is addressed to the seat to act), `x` any integer.  `g.cw` = wager to match, `g.prev` = recorded minimum
  raise, `p.initial` = the player's stack at the start of the round (reading I6).
-/
namespace Pokerface.C12P
open Pokerface Game

/-- **(a) Pot-limit, within the cap.**  First sentence of C12 on a pot-limit table: a raise request to a level `x`
    below the round-start stack that lifts the wager to match by at least the previous bet or raise (`g.prev ≤ x − g.cw`) and by
    at most the cap `g.cw + g.prev` is carried out exactly: accepted; `x` is the new wager to match and the raiser's wager;
    the raiser is the last raiser; the increment `x − g.cw` is the new minimum raise; only the raiser's stack paid.
    (Stated for every table on which the cap is respected or absent: `potLimit = false ∨ x − cw ≤ cw + prev`; with
    `potLimit = false` this is `C12.raise_exact`.) -/
theorem raise_exact_within_cap {g : Game} {p : Player} (h : AtTurn g p)
    (hr : Act.raise ∈ p.allowed) {seat : Option Nat} (hs : ByCur g seat) {x : Int}
    (hcap : g.opts.potLimit = false ∨ x - g.cw ≤ g.cw + g.prev)
    (hx1 : g.cw < x) (hx2 : x < p.initial) (hx3 : x - g.cw ≥ g.prev) :
    (g.step (.act seat .raise x)).2 = none ∧
    (g.step (.act seat .raise x)).1.cw = x ∧
    (g.step (.act seat .raise x)).1.raiser = g.cur ∧
    (g.step (.act seat .raise x)).1.prev = x - g.cw ∧
    ∃ q, (g.step (.act seat .raise x)).1.players[g.cur]? = some q ∧ q.wager = x ∧
      q.stack = p.initial - x ∧ q.pot = p.pot ∧ q.bankroll = p.bankroll :=
  raise_within_cap h hr hs hcap hx1 hx2 hx3

/-- (a) with the table named pot-limit: `potLimit = true`, `g.prev ≤ x − g.cw ≤ g.cw + g.prev`, `x < p.initial`. -/
theorem raise_exact_potlimit {g : Game} {p : Player} (h : AtTurn g p) (_hpl : g.opts.potLimit = true)
    (hr : Act.raise ∈ p.allowed) {seat : Option Nat} (hs : ByCur g seat) {x : Int}
    (hx1 : g.cw < x) (hx2 : x < p.initial) (hx3 : g.prev ≤ x - g.cw) (hx4 : x - g.cw ≤ g.cw + g.prev) :
    (g.step (.act seat .raise x)).2 = none ∧
    (g.step (.act seat .raise x)).1.cw = x ∧
    (g.step (.act seat .raise x)).1.raiser = g.cur ∧
    (g.step (.act seat .raise x)).1.prev = x - g.cw ∧
    ∃ q, (g.step (.act seat .raise x)).1.players[g.cur]? = some q ∧ q.wager = x ∧
      q.stack = p.initial - x ∧ q.pot = p.pot ∧ q.bankroll = p.bankroll :=
  raise_exact_within_cap h hr hs (Or.inr hx4) hx1 hx2 hx3

/-- **(b) Pot-limit, above the cap.**  On a pot-limit table a raise request to a level `x` below the round-start stack
    that would lift the wager to match by MORE than `g.cw + g.prev` is accepted and carried out as a raise BY
    `g.cw + g.prev`: the new wager to match and the raiser's wager are `2·g.cw + g.prev` (not `x`), the raiser is the last
    raiser, the new minimum raise is `g.cw + g.prev`, and only the raiser's stack paid (`p.initial − (2·g.cw + g.prev)`
    left).  Never an undersized raise: the increment `g.cw + g.prev` is at least `g.prev`. -/
theorem raise_capped_potlimit {g : Game} {p : Player} (h : AtTurn g p) (hpl : g.opts.potLimit = true)
    (hr : Act.raise ∈ p.allowed) {seat : Option Nat} (hs : ByCur g seat) {x : Int}
    (hx2 : x < p.initial) (hcap : x - g.cw > g.cw + g.prev) :
    (g.step (.act seat .raise x)).2 = none ∧
    (g.step (.act seat .raise x)).1.cw = 2 * g.cw + g.prev ∧
    (g.step (.act seat .raise x)).1.raiser = g.cur ∧
    (g.step (.act seat .raise x)).1.prev = g.cw + g.prev ∧
    g.prev ≤ (g.step (.act seat .raise x)).1.prev ∧ g.cw < (g.step (.act seat .raise x)).1.cw ∧
    (g.step (.act seat .raise x)).1.cw < x ∧
    ∃ q, (g.step (.act seat .raise x)).1.players[g.cur]? = some q ∧ q.wager = 2 * g.cw + g.prev ∧
      q.stack = p.initial - (2 * g.cw + g.prev) ∧ q.pot = p.pot ∧ q.bankroll = p.bankroll := by
  rw [h.allowed_eq] at hr
  have hcw := raise_offered_cw_pos h hr
  have hp0 := h.chips.prev0
  have hx1 : g.cw < x := by omega
  rw [step_byCur hs, act_raise_dispatch h hr hx1]
  have : ¬ (x ≥ p.initial ∨ x - g.cw < g.prev) := by omega
  rw [if_neg this]
  obtain ⟨q, hq, e1, e2, e3, e4, e5, e6, e7⟩ := doRaise_effect_capped h.seat h.pinv hpl hcap (by omega) hx2
  refine ⟨rfl, e2, e4, e3, ?_, ?_, ?_, q, hq, e1, e5, e6, e7⟩
  · show g.prev ≤ (g.doRaise g.cur p x).prev
    rw [e3]
    omega
  · show g.cw < (g.doRaise g.cur p x).cw
    rw [e2]
    omega
  · show (g.doRaise g.cur p x).cw < x
    rw [e2]
    omega

/-- **(c) Pot-limit, undersized request** (`C12.raise_undersized` holds for every table; restated with `potLimit = true`):
    a request that would lift the wager to match by less than the previous bet or raise is carried out as an all-in. -/
theorem raise_undersized_potlimit {g : Game} {p : Player} (h : AtTurn g p) (_hpl : g.opts.potLimit = true)
    (hr : Act.raise ∈ p.allowed) {seat : Option Nat} (hs : ByCur g seat) {x : Int}
    (hx1 : g.cw < x) (hx3 : x - g.cw < g.prev) :
    (g.step (.act seat .raise x)).2 = none ∧
    ∃ q, (g.step (.act seat .raise x)).1.players[g.cur]? = some q ∧ q.stack = 0 ∧ q.wager = p.initial :=
  C12.raise_undersized h hr hs hx1 hx3

/-- **(d) Pot-limit, request at or above the round-start stack**: carried out as an all-in — whatever the cap (the test
    `x ≥ p.initial` of player.go `Raise` comes before the cap). -/
theorem raise_over_stack_potlimit {g : Game} {p : Player} (h : AtTurn g p) (_hpl : g.opts.potLimit = true)
    (hr : Act.raise ∈ p.allowed) {seat : Option Nat} (hs : ByCur g seat) {x : Int}
    (hx1 : g.cw < x) (hx2 : p.initial ≤ x) :
    (g.step (.act seat .raise x)).2 = none ∧
    ∃ q, (g.step (.act seat .raise x)).1.players[g.cur]? = some q ∧ q.stack = 0 ∧ q.wager = p.initial :=
  C12.raise_over_stack h hr hs hx1 hx2

/-- The right-hand side of `C12.raise_offered_iff`: the two situations of `GetAvailableActions` in which raise is
    offered to a player who has not folded and has chips. -/
def RaiseSituation (g : Game) (p : Player) : Prop :=
  (p.wager < g.cw ∧ p.initial > g.cw + g.prev) ∨ (p.wager = g.cw ∧ p.initial ≥ g.miniBet ∧ g.cw ≠ 0)

/-- raise is offered exactly to a non-folded player with chips in a `RaiseSituation` (`C12.raise_offered_iff` together
    with `C12.raise_not_offered_passive`, no side hypothesis left) -/
theorem raise_offered_iff_situation {g : Game} {p : Player} (h : AtTurn g p) :
    Act.raise ∈ p.allowed ↔ (p.fold = false ∧ p.stack ≠ 0 ∧ RaiseSituation g p) := by
  constructor
  · intro hr
    have hm : p.fold = false ∧ p.stack ≠ 0 := by
      have hr' := hr
      rw [h.allowed_eq] at hr'
      exact avail_movable_of_mem hr' (by simp)
    exact ⟨hm.1, hm.2, (C12.raise_offered_iff h hm.1 hm.2).mp hr⟩
  · rintro ⟨hf, hs, hsit⟩
    exact (C12.raise_offered_iff h hf hs).mpr hsit

/-- **`raise_refusal_exact`.**  For a request above the wager to match addressed to the seat to act (`g.cw < x`; any
    table, no-limit or pot-limit, any size of the lift), `Raise(x)` is refused EXACTLY when the right-hand side of
    `C12.raise_offered_iff` fails (or the player has folded / has no chips): then the error is `ErrInvalidAction` and the
    state is returned as it was; in the other case it is accepted.  In particular the refusal branch of
    `C12.raise_exact_unconditional` is taken iff `¬ (p.fold = false ∧ p.stack ≠ 0 ∧ RaiseSituation g p)`. -/
theorem raise_refusal_exact {g : Game} {p : Player} (h : AtTurn g p) {seat : Option Nat} (hs : ByCur g seat) {x : Int}
    (hx1 : g.cw < x) :
    (g.step (.act seat .raise x) = (g, some .invalidAction) ↔ ¬ (p.fold = false ∧ p.stack ≠ 0 ∧ RaiseSituation g p)) ∧
    ((g.step (.act seat .raise x)).2 = none ↔ (p.fold = false ∧ p.stack ≠ 0 ∧ RaiseSituation g p)) := by
  rw [← raise_offered_iff_situation h]
  by_cases hr : Act.raise ∈ p.allowed
  · have hacc : (g.step (.act seat .raise x)).2 = none := by
      have hr' := hr
      rw [h.allowed_eq] at hr'
      rw [step_byCur hs, act_raise_dispatch h hr' hx1]
      split <;> rfl
    refine ⟨⟨fun e => ?_, fun n => absurd hr n⟩, ⟨fun _ => hr, fun _ => hacc⟩⟩
    rw [e] at hacc
    cases hacc
  · have e := C12.raise_not_offered_refused h hr seat x
    refine ⟨⟨fun _ => hr, fun _ => e⟩, ⟨fun hacc => ?_, fun c => absurd c hr⟩⟩
    rw [e] at hacc
    cases hacc

/-- `raise_refusal_exact` attached to `C12.raise_exact_unconditional` (no-limit, `cw < x < p.initial`, `x − cw ≥ prev`):
    carried out exactly iff the player has not folded, has chips and is in a `RaiseSituation`; refused without effect
    iff not. -/
theorem raise_exact_unconditional_iff {g : Game} {p : Player} (h : AtTurn g p) (hnl : g.opts.potLimit = false)
    {seat : Option Nat} (hs : ByCur g seat) {x : Int} (hx1 : g.cw < x) (hx2 : x < p.initial) (hx3 : x - g.cw ≥ g.prev) :
    ((p.fold = false ∧ p.stack ≠ 0 ∧ RaiseSituation g p) →
      (g.step (.act seat .raise x)).2 = none ∧ (g.step (.act seat .raise x)).1.cw = x ∧
      (g.step (.act seat .raise x)).1.raiser = g.cur ∧ (g.step (.act seat .raise x)).1.prev = x - g.cw ∧
      ∃ q, (g.step (.act seat .raise x)).1.players[g.cur]? = some q ∧ q.wager = x ∧
        q.stack = p.initial - x ∧ q.pot = p.pot ∧ q.bankroll = p.bankroll) ∧
    (¬ (p.fold = false ∧ p.stack ≠ 0 ∧ RaiseSituation g p) →
      g.step (.act seat .raise x) = (g, some .invalidAction)) := by
  constructor
  · intro hsit
    exact C12.raise_exact h hnl ((raise_offered_iff_situation h).mpr hsit) hs hx1 hx2 hx3
  · intro hn
    exact (raise_refusal_exact h hs hx1).1.mpr hn

/-- **Pot-limit, every case at once** (the pot-limit counterpart of `C12.raise_exact_unconditional`, all sizes): on a
    pot-limit table, for the player to act and ANY level `x` above the wager to match, `Raise(x)` is
    * refused with `ErrInvalidAction`, state untouched — exactly when raise is not offered;
    * otherwise accepted, and carried out
      - as an all-in (stack 0, the whole round-start stack wagered) when `x ≥ p.initial` or the lift is below the
        minimum raise;
      - exactly (`cw' = x`, `prev' = x − cw`) when `prev ≤ x − cw ≤ cw + prev` and `x < p.initial`;
      - as a raise by `cw + prev` (`cw' = 2·cw + prev`, `prev' = cw + prev`) when `x − cw > cw + prev` and `x < p.initial`.
    Nothing else can happen. -/
theorem raise_potlimit_cases {g : Game} {p : Player} (h : AtTurn g p) (hpl : g.opts.potLimit = true)
    {seat : Option Nat} (hs : ByCur g seat) {x : Int} (hx1 : g.cw < x) :
    (Act.raise ∉ p.allowed ∧ g.step (.act seat .raise x) = (g, some .invalidAction)) ∨
    (Act.raise ∈ p.allowed ∧ (g.step (.act seat .raise x)).2 = none ∧
      (((p.initial ≤ x ∨ x - g.cw < g.prev) ∧
          ∃ q, (g.step (.act seat .raise x)).1.players[g.cur]? = some q ∧ q.stack = 0 ∧ q.wager = p.initial) ∨
       ((x < p.initial ∧ g.prev ≤ x - g.cw ∧ x - g.cw ≤ g.cw + g.prev) ∧
          (g.step (.act seat .raise x)).1.cw = x ∧ (g.step (.act seat .raise x)).1.prev = x - g.cw ∧
          (g.step (.act seat .raise x)).1.raiser = g.cur ∧
          ∃ q, (g.step (.act seat .raise x)).1.players[g.cur]? = some q ∧ q.wager = x ∧ q.stack = p.initial - x) ∨
       ((x < p.initial ∧ x - g.cw > g.cw + g.prev) ∧
          (g.step (.act seat .raise x)).1.cw = 2 * g.cw + g.prev ∧
          (g.step (.act seat .raise x)).1.prev = g.cw + g.prev ∧
          (g.step (.act seat .raise x)).1.raiser = g.cur ∧
          ∃ q, (g.step (.act seat .raise x)).1.players[g.cur]? = some q ∧ q.wager = 2 * g.cw + g.prev ∧
            q.stack = p.initial - (2 * g.cw + g.prev)))) := by
  by_cases hr : Act.raise ∈ p.allowed
  · right
    have hp0 := h.chips.prev0
    have hcw0 := h.chips.cw0
    by_cases c1 : p.initial ≤ x
    · obtain ⟨a, q, hq, b, c⟩ := C12.raise_over_stack h hr hs hx1 c1
      exact ⟨hr, a, Or.inl ⟨Or.inl c1, q, hq, b, c⟩⟩
    · by_cases c2 : x - g.cw < g.prev
      · obtain ⟨a, q, hq, b, c⟩ := C12.raise_undersized h hr hs hx1 c2
        exact ⟨hr, a, Or.inl ⟨Or.inr c2, q, hq, b, c⟩⟩
      · by_cases c3 : x - g.cw ≤ g.cw + g.prev
        · obtain ⟨a, e1, e2, e3, q, hq, w, s, _⟩ :=
            raise_exact_potlimit h hpl hr hs hx1 (by omega) (by omega) c3
          exact ⟨hr, a, Or.inr (Or.inl ⟨⟨by omega, by omega, c3⟩, e1, e3, e2, q, hq, w, s⟩)⟩
        · obtain ⟨a, e1, e2, e3, _, _, _, q, hq, w, s, _⟩ :=
            raise_capped_potlimit h hpl hr hs (x := x) (by omega) (by omega)
          exact ⟨hr, a, Or.inr (Or.inr ⟨⟨by omega, by omega⟩, e1, e3, e2, q, hq, w, s⟩)⟩
  · exact Or.inl ⟨hr, C12.raise_not_offered_refused h hr seat x⟩

/-! ### Non-vacuity

  `Ex.gpl` (Proofs/BetsExamples.lean): the history of `Ex.g4` on a POT-LIMIT table — blinds 5/10, three stacks of 1000,
  flop, seat 1 bets 30; seat 2 (990 behind) faces 30 with the minimum raise at 30: the cap is a raise by 60, to 90. -/

example : AtTurn Ex.gpl (Ex.gpl.players[2]) ∧ Ex.gpl.opts.potLimit = true ∧ Act.raise ∈ (Ex.gpl.players[2]).allowed ∧
    ByCur Ex.gpl none ∧ Ex.gpl.cur = 2 ∧ Ex.gpl.cw = 30 ∧ Ex.gpl.prev = 30 ∧ (Ex.gpl.players[2]).initial = 990 :=
  ⟨⟨Ex.reach_gpl, by decide, rfl⟩, by decide, by decide, Or.inl rfl, by decide, by decide, by decide, by decide⟩

/-- (a) within the cap: `Raise(60)` (the minimum), `Raise(75)`, `Raise(90)` (the cap) are carried out exactly -/
example : ([60, 75, 90].map fun x : Int =>
      let r := Ex.gpl.step (.act none .raise x)
      (r.2, (r.1.cw, r.1.prev), r.1.raiser, r.1.players[2]?.map fun q => (q.stack, q.wager))) =
    [(none, (60, 30), 2, some (930, 60)), (none, (75, 45), 2, some (915, 75)), (none, (90, 60), 2, some (900, 90))] := by
  decide

/-- (b) above the cap: `Raise(91)`, `Raise(500)`, `Raise(989)` are all carried out as the raise by 60 to 90 -/
example : ([91, 500, 989].map fun x : Int =>
      let r := Ex.gpl.step (.act none .raise x)
      (r.2, (r.1.cw, r.1.prev), r.1.raiser, r.1.players[2]?.map fun q => (q.stack, q.wager))) =
    [(none, (90, 60), 2, some (900, 90)), (none, (90, 60), 2, some (900, 90)), (none, (90, 60), 2, some (900, 90))] := by
  decide

/-- (c), (d) undersized (`Raise(45)`) and at/over the stack (`Raise(990)`, `Raise(5000)`): all-in for 990, cap or no cap -/
example : ([45, 990, 5000].map fun x : Int =>
      let r := Ex.gpl.step (.act none .raise x)
      (r.2, r.1.players[2]?.map fun q => (q.stack, q.wager))) =
    [(none, some (0, 990)), (none, some (0, 990)), (none, some (0, 990))] := by decide

/-- `raise_refusal_exact`, refusal side: `C12.exNotOffered` (the big blind seat, 50 chips, level with the wager to match
    10, minimum bet 100): not folded, has chips, but in no `RaiseSituation`; `Raise(30)` is refused. -/
example : AtTurn C12.exNotOffered (C12.exNotOffered.players[2]) ∧ ByCur C12.exNotOffered none ∧
    (C12.exNotOffered.players[2]).fold = false ∧ (C12.exNotOffered.players[2]).stack ≠ 0 ∧
    ¬ RaiseSituation C12.exNotOffered (C12.exNotOffered.players[2]) ∧
    (C12.exNotOffered.step (.act none .raise 30)).2 = some .invalidAction :=
  ⟨⟨C12.exNotOffered_reach, by decide, rfl⟩, Or.inl rfl, by decide, by decide, by unfold RaiseSituation; decide, by decide⟩

/-- `raise_refusal_exact`, acceptance side: `Ex.g4` and `Ex.gpl`, seat 2 is behind (0 < 30) and holds 990 > 30 + 30 -/
example : RaiseSituation Ex.g4 (Ex.g4.players[2]) ∧ RaiseSituation Ex.gpl (Ex.gpl.players[2]) ∧
    (Ex.g4.players[2]).fold = false ∧ (Ex.g4.players[2]).stack ≠ 0 ∧
    (Ex.g4.step (.act none .raise 100)).2 = none := by
  refine ⟨?_, ?_, by decide, by decide, by decide⟩ <;> unfold RaiseSituation <;> decide

end Pokerface.C12P

section Axioms
open Pokerface.C12P
#print axioms raise_exact_within_cap
#print axioms raise_exact_potlimit
#print axioms raise_capped_potlimit
#print axioms raise_undersized_potlimit
#print axioms raise_over_stack_potlimit
#print axioms raise_offered_iff_situation
#print axioms raise_refusal_exact
#print axioms raise_exact_unconditional_iff
#print axioms raise_potlimit_cases
end Axioms
