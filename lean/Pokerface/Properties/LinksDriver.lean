import Pokerface.Properties.C06Driver
import Pokerface.Properties.LinksTable
import Pokerface.Properties.LinksTableOpens
/-
  Composition across components: `table.Table` (seat manager, hand-off: C08Table / LinksTable) ∘ `table.game`
  (the driver of a hand: C06Driver) ∘ the engine.

  `C06D.driver_can_finish` needs a `BlindsOK` configuration (`C06D.blinds_group_empty_stalls` is what happens
  otherwise); `LinksT.table_game_starts` says what an UNDISTURBED hand-off (`HandOff`: a fresh `setupPosition` of a
  table satisfying the table invariant, funded playable seats, well-formed options) hands to `Start()`.  Here the two
  are joined: every such hand-off gives the driver a `BlindsOK` configuration, so the hand can always be finished
  through the wrappers, and everything the driver ever holds is an engine state of THAT configuration.
-/
namespace Pokerface.LinksD
open Pokerface Table SM Game Drv

/-- **The configuration of an undisturbed hand-off is fit for the driver** (C08Table ∘ C06Driver): it is well-formed,
    `Start()` accepts it, and it is `BlindsOK` — whatever the blinds, a seat that owes one is in the game whenever the
    engine will request blinds.  (`C06D.blindsOK_of_positions` with the layout of the hand-off, `HandOff.has_blind_seats`.) -/
theorem table_config_blindsOK {t t' : Table} {seats : List Nat} {m : Meta} (h : HandOff t t' seats m) :
    WFConfig ⟨m, t'.gameSeats seats⟩ ∧ (start ⟨m, t'.gameSeats seats⟩).2 = none ∧
    C06D.BlindsOK ⟨m, t'.gameSeats seats⟩ := by
  obtain ⟨hacc, _, _⟩ := LinksT.table_accepted h
  obtain ⟨hs, hb⟩ := h.has_blind_seats
  exact ⟨hacc.wf, hacc.started, C06D.blindsOK_of_positions _ hacc.wf hacc.started hs hb⟩

/-- **C06 "a hand always … finishes", for a hand started by the table** (C08Table ∘ C06Driver).  For every undisturbed
    hand-off of the table: `Start()` accepts the game; after ANY sequence `cs` of wrapper calls (`Ready, Pay, Pass, Fold,
    Check, Call, Allin, Bet, Raise`, any player index, any amount, accepted or refused)
    * if the driver is not closed, somebody can make a call that is accepted and makes progress (the held state changes
      or the pending ready group waits for one participant less), and
    * some continuation `cs'` of wrapper calls closes the hand (`g.isClosed`).
    The stall of `C06D.blinds_group_empty_stalls` / `C06D.stall_through_table` needs a DISTURBED hand-off. -/
theorem table_hand_can_finish {t t' : Table} {seats : List Nat} {m : Meta} (h : HandOff t t' seats m) :
    (start ⟨m, t'.gameSeats seats⟩).2 = none ∧ C06D.BlindsOK ⟨m, t'.gameSeats seats⟩ ∧
    ∀ cs : List Call,
      ((runD (startD (start ⟨m, t'.gameSeats seats⟩).1) cs).closed = false →
        ∃ k, (call (runD (startD (start ⟨m, t'.gameSeats seats⟩).1) cs) k).2 = none ∧
          ((runD (startD (start ⟨m, t'.gameSeats seats⟩).1) cs).updates <
              (call (runD (startD (start ⟨m, t'.gameSeats seats⟩).1) cs) k).1.updates ∨
           pending (call (runD (startD (start ⟨m, t'.gameSeats seats⟩).1) cs) k).1 <
              pending (runD (startD (start ⟨m, t'.gameSeats seats⟩).1) cs))) ∧
      ∃ cs', (runD (startD (start ⟨m, t'.gameSeats seats⟩).1) (cs ++ cs')).closed = true := by
  obtain ⟨wf, hs, ok⟩ := table_config_blindsOK h
  exact ⟨hs, ok, fun cs => ⟨C06D.no_stall_of_config _ wf hs ok cs, C06D.driver_can_finish _ wf hs ok cs⟩⟩

/-- The states of a hand the table started are `C06D.DReach` states, so the theorems of C06Driver about `DReach` states
    (`C06D.held_closed_final`, `C06D.wrapper_acts_for_caller`, …) apply to them. -/
theorem table_hand_dreach {t t' : Table} {seats : List Nat} {m : Meta} (h : HandOff t t' seats m) (cs : List Call) :
    C06D.DReach (runD (startD (start ⟨m, t'.gameSeats seats⟩).1) cs) := by
  obtain ⟨wf, hs, _⟩ := table_config_blindsOK h
  exact ⟨_, cs, wf, hs, rfl⟩

/-- **Refinement, for a hand started by the table** (C08Table ∘ C06Driver `driver_refines_engine` ∘ `table_game_starts`).
    Whatever wrapper calls `cs` are made on a hand the table started, the state the driver holds is — up to the "pay"
    marks in `AllowedActions`, and exactly outside `AnteRequested` / `BlindsRequested` — the serialisation of an
    engine state `(start c).1.run ops` with all `ops` accepted, `Reachable`, within C06's bound, where `c` is THE
    configuration of the hand-off: options `m`, and player `k` is the player sitting on the `k`-th playable seat
    clockwise from the dealer (`seats[k]`), with the bankroll the table's sheet shows for him and the positions the seat
    manager gives his seat.  So every engine theorem (C01 … C14) holds of what a table-driven hand holds, with the
    table's own players and chips. -/
theorem table_hand_refines_engine {t t' : Table} {seats : List Nat} {m : Meta} (h : HandOff t t' seats m)
    (cs : List Call) :
    (∃ ops : List Op, C06D.AllAccepted (start ⟨m, t'.gameSeats seats⟩).1 ops ∧
      Reachable ((start ⟨m, t'.gameSeats seats⟩).1.run ops) ∧
      clr (runD (startD (start ⟨m, t'.gameSeats seats⟩).1) cs).gs = clr ((start ⟨m, t'.gameSeats seats⟩).1.run ops).hop ∧
      (((start ⟨m, t'.gameSeats seats⟩).1.run ops).event ≠ .anteRequested →
        ((start ⟨m, t'.gameSeats seats⟩).1.run ops).event ≠ .blindsRequested →
        (runD (startD (start ⟨m, t'.gameSeats seats⟩).1) cs).gs = ((start ⟨m, t'.gameSeats seats⟩).1.run ops).hop) ∧
      ops.length ≤ C06.bound ⟨m, t'.gameSeats seats⟩) ∧
    (start ⟨m, t'.gameSeats seats⟩).1.players.length = t'.sm.playableCount ∧ t'.sm.dealer = seats[0]? ∧
    ∀ (k s : Nat), seats[k]? = some s → ∃ p q, t'.players[s]? = some (some p) ∧
      (start ⟨m, t'.gameSeats seats⟩).1.players[k]? = some q ∧ q.idx = k ∧
      q.bankroll = p.bankroll ∧ q.stack = p.bankroll ∧ q.wager = 0 ∧ q.pot = 0 ∧
      (q.posDealer, q.posSB, q.posBB) = posOf t'.sm s := by
  obtain ⟨wf, hs, _⟩ := table_config_blindsOK h
  obtain ⟨_, hl, _, _, _, _, hd, hpl⟩ := LinksT.table_game_starts h
  exact ⟨C06D.driver_refines_engine _ wf hs cs, hl, hd, hpl⟩

/-- The driver `d` holds the opening of the first betting round of configuration `c`: event, round, player to act and
    all players (stacks, wagers, allowed actions, …) of the held state are those of the engine state after the forced
    bets and the `ReadyForAll` that opens the round.  (Decidable; implied by `d.gs = (…).hop`, `holdsOpening_of_eq`.
    The held state is a `Game` with a function field, so the equality itself cannot be checked by evaluation.) -/
def HoldsOpening (d : D) (c : Config) : Prop :=
  d.gs.event = ((afterForcedBets c).step .ready).1.event ∧ d.gs.round = ((afterForcedBets c).step .ready).1.round ∧
  d.gs.cur = ((afterForcedBets c).step .ready).1.cur ∧ d.gs.players = ((afterForcedBets c).step .ready).1.players

instance (d : D) (c : Config) : Decidable (HoldsOpening d c) := by
  unfold HoldsOpening
  exact inferInstance

theorem holdsOpening_of_eq {d : D} {c : Config} (h : d.gs = ((afterForcedBets c).step .ready).1.hop) :
    HoldsOpening d c :=
  eq_hop_fields h

theorem acts_for_opener {d : D} {c : Config} (hd : C06D.DReach d) (hheld : HoldsOpening d c)
    (hopen : ((afterForcedBets c).step .ready).1.event = .roundStarted) (i : Nat) (a : Act) (x : Int)
    (h1 : ¬ d.gs.players.length ≤ i) (h2 : hasAction d i a = true) :
    call d (.act i a x) = callBackend d (.act none a x) ∧ i = ((afterForcedBets c).step .ready).1.cur := by
  have hev : d.gs.event = .roundStarted := hheld.1.trans hopen
  have hnp : ¬(a = .pay ∧ (d.gs.event = .anteRequested ∨ d.gs.event = .blindsRequested)) := by
    simp [hev]
  obtain ⟨hc, hi, _⟩ := C06D.wrapper_acts_for_caller hd i a x h1 h2 hnp
  exact ⟨hc, hi.trans hheld.2.2.1⟩

/-- **C04 "only the player to act can act", first action of a table-started hand** (C08Table ∘ C04 ∘ C06Driver
    `wrapper_acts_for_caller`).  Let the driver of a hand the table started hold the state after the forced bets and the
    `ReadyForAll` that opens the first betting round (`hheld`: `HoldsOpening`, in particular when the held state IS the
    serialisation of that engine state; `hopen`: the round does open).  Then every wrapper call `Pass/Fold/Check/Call/
    Allin/Bet/Raise/Pay(i, …)` that passes the wrapper's checks (`i` is a player, `HasAction(i, a)`) — i.e. every call
    that reaches the backend — comes from game player `i = cwNext n kb`, the player sitting on the first playable seat
    clockwise after the seat manager's big-blind seat `b` (`LinksT.table_first_to_act`), and the backend operation "for
    the current player" is performed for him. -/
theorem table_first_to_act_wrapper {t t' : Table} {seats : List Nat} {m : Meta} (h : HandOff t t' seats m)
    (cs : List Call)
    (hopen : ((afterForcedBets ⟨m, t'.gameSeats seats⟩).step .ready).1.event = .roundStarted)
    (hheld : HoldsOpening (runD (startD (start ⟨m, t'.gameSeats seats⟩).1) cs) ⟨m, t'.gameSeats seats⟩)
    (i : Nat) (a : Act) (x : Int)
    (h1 : ¬ (runD (startD (start ⟨m, t'.gameSeats seats⟩).1) cs).gs.players.length ≤ i)
    (h2 : hasAction (runD (startD (start ⟨m, t'.gameSeats seats⟩).1) cs) i a = true) :
    call (runD (startD (start ⟨m, t'.gameSeats seats⟩).1) cs) (.act i a x) =
      callBackend (runD (startD (start ⟨m, t'.gameSeats seats⟩).1) cs) (.act none a x) ∧
    ∃ b kb s, t'.sm.bb = some b ∧ seats[kb]? = some b ∧ (kb = if t'.sm.sb = t'.sm.dealer then 1 else 2) ∧
      i = cwNext seats.length kb ∧ seats[i]? = some s ∧ IsNextAfter t'.sm b s := by
  obtain ⟨hc, hi⟩ := acts_for_opener (table_hand_dreach h cs) hheld hopen i a x h1 h2
  obtain ⟨b, kb, s, hbb, hkb, hkbe, hcur, hx, hnx, _⟩ := LinksT.table_first_to_act h hopen
  subst hi
  exact ⟨hc, b, kb, s, hbb, hkb, hkbe, hcur, hx, hnx⟩

/-- the same with the hypothesis `hopen` replaced by "some playable seat can still move after the forced bets"
    (`LinksT.table_first_to_act_open`) -/
theorem table_first_to_act_wrapper_open {t t' : Table} {seats : List Nat} {m : Meta} (h : HandOff t t' seats m)
    (cs : List Call) (hmove : ∃ s ∈ seats, LinksT.SeatCanMove t' m s)
    (hheld : HoldsOpening (runD (startD (start ⟨m, t'.gameSeats seats⟩).1) cs) ⟨m, t'.gameSeats seats⟩)
    (i : Nat) (a : Act) (x : Int)
    (h1 : ¬ (runD (startD (start ⟨m, t'.gameSeats seats⟩).1) cs).gs.players.length ≤ i)
    (h2 : hasAction (runD (startD (start ⟨m, t'.gameSeats seats⟩).1) cs) i a = true) :
    call (runD (startD (start ⟨m, t'.gameSeats seats⟩).1) cs) (.act i a x) =
      callBackend (runD (startD (start ⟨m, t'.gameSeats seats⟩).1) cs) (.act none a x) ∧
    ∃ b kb s, t'.sm.bb = some b ∧ seats[kb]? = some b ∧ (kb = if t'.sm.sb = t'.sm.dealer then 1 else 2) ∧
      i = cwNext seats.length kb ∧ seats[i]? = some s ∧ IsNextAfter t'.sm b s :=
  table_first_to_act_wrapper h cs (LinksT.table_first_to_act_open h hmove).1 hheld i a x h1 h2

/-! ## Non-vacuity -/

section Examples
open Pokerface.LinksT

/-- `C08T.demo` (5 seats; players with 100, 200, 50 chips on seats 0, 2, 3; blinds 5/10) is an undisturbed hand-off
    (`LinksT.demo_handOff`); so is the heads-up `C08T.demo2`. -/
example : C06D.BlindsOK ⟨demoMeta, C08T.demo.setupPosition.1.gameSeats [0, 2, 3]⟩ ∧
    C06D.BlindsOK ⟨demoMeta, C08T.demo2.setupPosition.1.gameSeats [1, 3]⟩ :=
  ⟨(table_config_blindsOK demo_handOff).2.2, (table_config_blindsOK demo2_handOff).2.2⟩

/-- the hand of `demo` through the wrappers: everybody `Ready`; the blinds (game players 1 and 2, seats 2 and 3) `Pay`;
    everybody `Ready` -/
def demoCalls : List Call := [.ready 0, .ready 1, .ready 2, .act 1 .pay 0, .act 2 .pay 0, .ready 0, .ready 1, .ready 2]

def demoD : D := runD (startD (start ⟨demoMeta, C08T.demo.setupPosition.1.gameSeats [0, 2, 3]⟩).1) demoCalls

/-- the hypotheses of `table_first_to_act_wrapper` hold for it: the held state is the state after the forced bets and
    the opening `ReadyForAll`; the betting round is open; game player 0 (seat 0, the dealer, first playable seat after
    the big-blind seat 3) has the action "call" — and player 1 has not: -/
theorem demoD_facts :
    HoldsOpening demoD ⟨demoMeta, C08T.demo.setupPosition.1.gameSeats [0, 2, 3]⟩ ∧
    ((afterForcedBets ⟨demoMeta, C08T.demo.setupPosition.1.gameSeats [0, 2, 3]⟩).step .ready).1.event = .roundStarted ∧
    demoD.gs.players.length = 3 ∧ hasAction demoD 0 .call = true ∧ hasAction demoD 1 .call = false ∧
    hasAction demoD 2 .fold = false := by
  decide +kernel

example : ∃ b kb s, C08T.demo.setupPosition.1.sm.bb = some b ∧ [0, 2, 3][kb]? = some b ∧
    (kb = if C08T.demo.setupPosition.1.sm.sb = C08T.demo.setupPosition.1.sm.dealer then 1 else 2) ∧
    0 = cwNext [0, 2, 3].length kb ∧ [0, 2, 3][0]? = some s ∧ IsNextAfter C08T.demo.setupPosition.1.sm b s := by
  have h1 : ¬ demoD.gs.players.length ≤ 0 := by
    rw [demoD_facts.2.2.1]
    omega
  exact (table_first_to_act_wrapper demo_handOff demoCalls demoD_facts.2.1 demoD_facts.1 0 .call 0 h1
    demoD_facts.2.2.2.1).2

/-- From `demoD` the hand closes: the dealer and the small blind fold (`table_hand_can_finish` promises some
    continuation from EVERY state; this is one from `demoD`) -/
example : (runD demoD [.act 0 .fold 0, .act 1 .fold 0]).closed = true := by decide +kernel

end Examples

end Pokerface.LinksD

section Axioms
open Pokerface.LinksD
#print axioms table_config_blindsOK
#print axioms table_hand_can_finish
#print axioms table_hand_dreach
#print axioms table_hand_refines_engine
#print axioms table_first_to_act_wrapper
#print axioms table_first_to_act_wrapper_open
#print axioms demoD_facts
end Axioms
