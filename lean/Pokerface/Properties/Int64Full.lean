import Pokerface.Properties.Int64Exact
import Pokerface.Proofs.Int64Table
/-
  Int64Full — the table fields `cw` (CurrentWager) and `prev`
  (PreviousRaiseSize) are bounded on every reachable state, hence `no_overflow` without side hypotheses.
-/
namespace Pokerface.I64
open Pokerface Game

/-- Part 1, table fields (C01 / C12): on every reachable state, for every `M` not below the chips in the hand
    (`total g`, the sum of the bankrolls), the big blind and the dealer blind: `0 ≤ cw ≤ M`, `0 ≤ prev ≤ M`.
    (`cw` is only ever set to a wager or a round-start stack; `prev` to a wager, a difference of those, or the blind.) -/
theorem table_fields_bounded : table_fields_bounded_full := by
  intro g h M hT hbb hbd
  have hi := inv_reachable h
  have hb := bd_reachable h hT hbb hbd
  exact ⟨hi.chips0.cw0, hb.cw, hi.chips0.prev0, hb.prev⟩

/-- `table_fields_bounded` at the least admissible `M`: the wager to match and the recorded raise size never
    exceed the largest of the chips in the hand, the big blind and the dealer blind -/
theorem table_fields_le_max {g : Game} (h : Reachable g) :
    g.cw ≤ max (total g) (max g.opts.blindBB g.opts.blindDealer) ∧
    g.prev ≤ max (total g) (max g.opts.blindBB g.opts.blindDealer) := by
  have := table_fields_bounded h (M := max (total g) (max g.opts.blindBB g.opts.blindDealer))
    (by omega) (by omega) (by omega)
  exact ⟨this.2.1, this.2.2.2⟩

/-- Part 3 (C12 "every amount argument a caller can pass", trusted-base sentence "no int64 overflow"): on every
    reachable state with fewer than 2^62 chips in the hand and ante / blinds below 2^62, for every seat, every action
    and EVERY int64 amount `x`, every value player.go computes (`intermediates`) is an int64. -/
theorem no_overflow : no_overflow_full := no_overflow_of_table_fields table_fields_bounded

/-- Non-vacuity: the example state of `Int64Exact` meets all hypotheses; `prev` is the big blind there. -/
example : Reachable Ex.g1 ∧ total Ex.g1 < 2^62 ∧ Ex.g1.opts.blindBB < 2^62 ∧ Ex.g1.cw = 10 ∧ Ex.g1.prev = 10 ∧
    ∀ v ∈ intermediates Ex.g1 0 .raise (2^63 - 1), Fits v :=
  ⟨Ex.reach_g1, by decide, by decide, by decide, by decide,
   no_overflow Ex.reach_g1 (by decide) (by decide) (by decide) (by decide) (by decide) 0 .raise _ (by unfold Fits; omega)⟩

/-- the blind terms of the bound are needed for `prev`: big blind 10^6 configured, stacks of 1000 — after the blinds the
    recorded raise size is the configured big blind, above every bankroll and above the chips in the hand -/
example : let g := (start (Ex.cfg (Ex.opts 0 0 5 1000000) 1000 1000 1000)).1.run [.ready, .payBlinds]
    g.prev = 1000000 ∧ total g = 3000 ∧ g.cw = 1000 := by decide

end Pokerface.I64
