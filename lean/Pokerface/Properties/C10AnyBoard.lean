import Pokerface.Properties.Links
import Pokerface.Properties.C14
import Pokerface.Properties.C05
/-
  C10 "the reported hand is the player's best hand" — for EVERY non-empty board.

  `Links.reported_hand_is_poker_best(_shortDeck)` carry the hypothesis `3 ≤ board.length`.  The property speaks of
  "whenever community cards are on the board".  Here the hypothesis is `board ≠ []`: in a reachable state the board
  has 0, 3, 4 or 5 cards (`board_length_cases`, from `C14.counts`), so "not empty" and "at least three" are the same
  thing (`board_ne_nil_iff`), and a closed hand with two live players has five (`C05.full_board_at_showdown`).
-/
namespace Pokerface.C10B
open Pokerface Pokerface.Game Generated Pokerface.Links

/-- C14 "the board grows to exactly three, four and five cards", as a fact about EVERY state of EVERY hand of a poker
    configuration: the board has 0, 3, 4 or 5 cards — never 1 or 2 (and never more than 5). -/
theorem board_length_cases {T : List Cat} {cfg : Config} (hc : PokerConfig T cfg) (ops : List Op) :
    let g := (start cfg).1.run ops
    g.board.length = 0 ∨ g.board.length = 3 ∨ g.board.length = 4 ∨ g.board.length = 5 := by
  intro g
  have h := (C14.counts (hc.reachC ops)).2.1
  show ((start cfg).1.run ops).board.length = 0 ∨ _
  rw [h]
  cases ((start cfg).1.run ops).round <;> simp

/-- "community cards are on the board" is "the flop has been dealt": a non-empty board has at least three cards -/
theorem board_ne_nil_iff {T : List Cat} {cfg : Config} (hc : PokerConfig T cfg) (ops : List Op) :
    let g := (start cfg).1.run ops
    g.board ≠ [] ↔ 3 ≤ g.board.length := by
  intro g
  have h := board_length_cases hc ops
  constructor
  · intro hne
    have : g.board.length ≠ 0 := fun h0 => hne (List.length_eq_zero_iff.mp h0)
    rcases h with h | h | h | h
    · exact absurd h this
    all_goals (show 3 ≤ ((start cfg).1.run ops).board.length; omega)
  · intro h3 h0
    rw [h0] at h3
    simp at h3

/-- The board is non-empty exactly from the flop round on. -/
theorem board_ne_nil_iff_round {T : List Cat} {cfg : Config} (hc : PokerConfig T cfg) (ops : List Op) :
    let g := (start cfg).1.run ops
    g.board ≠ [] ↔ (g.round = .flop ∨ g.round = .turn ∨ g.round = .river) := by
  intro g
  have h := (C14.counts (hc.reachC ops)).2.1
  rw [ne_eq, ← List.length_eq_zero_iff]
  show ¬ ((start cfg).1.run ops).board.length = 0 ↔ _
  rw [h]
  show _ ↔ (((start cfg).1.run ops).round = .flop ∨ _)
  cases ((start cfg).1.run ops).round <;> simp

/-- **C10, "whenever community cards are on the board, the published hand is the best hand by the rules of poker"**
    (standard ranking table): `Links.reported_hand_is_poker_best` with `board ≠ []` in place of `3 ≤ board.length`.
    For every `PokerConfig` with the standard table and every history: whenever the board is not empty, every seat has
    a published combination whose cards are (up to order) an admissible selection of its hole cards and the board,
    and no admissible five-card selection beats it in the poker order. -/
theorem reported_hand_is_poker_best_any_board {cfg : Config} (hc : PokerConfig powerStandard cfg) (ops : List Op) :
    let g := (start cfg).1.run ops
    g.board ≠ [] →
    ∀ p ∈ g.players, ∃ c, p.comb = some c ∧
      (∃ sel, Admissible g.board p.hole cfg.opts.required sel ∧ c.cards.Perm sel) ∧
      ∀ s, Admissible g.board p.hole cfg.opts.required s → s.length = 5 →
        C03.Valid c.cards ∧ C03.Valid s ∧
        c.cat = some (C03.specCat (C03.ranks c.cards) (C03.sameSuit c.cards)) ∧
        ¬ C03.pokerKey powerStandard c.cards < C03.pokerKey powerStandard s := by
  intro g hne
  exact reported_hand_is_poker_best hc ops ((board_ne_nil_iff hc ops).mp hne)

/-- the same for the short-deck table (C03's exclusion of A-9-8-7-6 kept) -/
theorem reported_hand_is_poker_best_any_board_shortDeck {cfg : Config} (hc : PokerConfig powerShortDeck cfg)
    (ops : List Op) :
    let g := (start cfg).1.run ops
    g.board ≠ [] →
    ∀ p ∈ g.players, ∃ c, p.comb = some c ∧
      (∃ sel, Admissible g.board p.hole cfg.opts.required sel ∧ c.cards.Perm sel) ∧
      ∀ s, Admissible g.board p.hole cfg.opts.required s → s.length = 5 →
        C03.Valid c.cards ∧ C03.Valid s ∧
        c.cat = some (C03.specCat (C03.ranks c.cards) (C03.sameSuit c.cards)) ∧
        (C03.isA6789 c.cards = false → C03.isA6789 s = false →
          ¬ C03.pokerKey powerShortDeck c.cards < C03.pokerKey powerShortDeck s) := by
  intro g hne
  exact reported_hand_is_poker_best_shortDeck hc ops ((board_ne_nil_iff hc ops).mp hne)

/-- Under a five-card rule (hold'em, Omaha-like) the clause `s.length = 5` is no restriction on a non-empty board
    either (`Links.five_cards_from_flop`). -/
theorem five_cards_any_board {T : List Cat} {cfg : Config} (hc : PokerConfig T cfg) (h5 : FiveCardRule cfg.opts)
    (ops : List Op) :
    let g := (start cfg).1.run ops
    g.board ≠ [] → ∀ p ∈ g.players, ∀ s, Admissible g.board p.hole cfg.opts.required s → s.length = 5 :=
  fun hne => Links.five_cards_from_flop hc h5 ops ((board_ne_nil_iff hc ops).mp hne)

/-- C05 joined: at a showdown between live hands (closed, two or more not folded) the board is not empty, so the
    theorems above apply to every hand that is compared. -/
theorem board_ne_nil_at_showdown {T : List Cat} {cfg : Config} (hc : PokerConfig T cfg) (ops : List Op) :
    let g := (start cfg).1.run ops
    g.event = .gameClosed → 2 ≤ g.aliveCount → g.board ≠ [] := by
  intro g he h2 h0
  have := C05.full_board_at_showdown (hc.reachC ops).reachable (cinv_reachable (hc.reachC ops)).core.long he h2
  rw [h0] at this
  simp at this

/-! ## Non-vacuity -/

section Examples
open Pokerface.Links.Examples

/-- the hand `Links.gEnd` (river, full board): hypothesis `board ≠ []` holds -/
example : gEnd.board ≠ [] := by
  rw [gEnd_facts.2.2.1]
  decide

example : ∀ p ∈ gEnd.players, ∃ c, p.comb = some c ∧
    (∃ sel, Admissible gEnd.board p.hole 0 sel ∧ c.cards.Perm sel) ∧
    ∀ s, Admissible gEnd.board p.hole 0 s → s.length = 5 →
      C03.Valid c.cards ∧ C03.Valid s ∧ c.cat = some (C03.specCat (C03.ranks c.cards) (C03.sameSuit c.cards)) ∧
      ¬ C03.pokerKey powerStandard c.cards < C03.pokerKey powerStandard s :=
  reported_hand_is_poker_best_any_board exPC exOps (by show gEnd.board ≠ []; rw [gEnd_facts.2.2.1]; decide)

/-- short deck, on the flop (three cards) -/
example : ((start sdCfg).1.run sdToFlop).board ≠ [] := by
  rw [sdFlop_facts.1]
  decide

/-- the case distinction is not vacuous: 0 before the flop, 3 on the flop, 5 on the river -/
example : ((start sdCfg).1.run (sdToFlop.take 3)).board.length = 0 ∧ ((start sdCfg).1.run sdToFlop).board.length = 3 ∧
    gEnd.board.length = 5 := by
  refine ⟨by decide +kernel, by rw [sdFlop_facts.1]; decide, by rw [gEnd_facts.2.2.1]; decide⟩

end Examples

end Pokerface.C10B

section Axioms
open Pokerface.C10B
#print axioms board_length_cases
#print axioms board_ne_nil_iff
#print axioms board_ne_nil_iff_round
#print axioms reported_hand_is_poker_best_any_board
#print axioms reported_hand_is_poker_best_any_board_shortDeck
#print axioms five_cards_any_board
#print axioms board_ne_nil_at_showdown
end Axioms
