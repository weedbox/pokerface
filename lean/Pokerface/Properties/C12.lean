import Pokerface.Proofs.BetsMono
import Pokerface.Proofs.BetsExamples
import Pokerface.Proofs.RaiseGhost
import Pokerface.Proofs.EnginePots
/-
  C12 — Raise sizes obey the minimum-raise rule and amounts cannot corrupt chips.
  Setting as in C11 (`AtTurn g p`); `x` is the amount argument of `Raise(x)` / `Bet(x)`,
  any integer.
-/
namespace Pokerface.C12
open Pokerface Game

/-- Last sentence: "no amount argument whatsoever - zero, negative, tiny or larger than the stack -
    can make a wager, stack or pot negative or lift a stack above the player's bankroll."
    For EVERY reachable state and EVERY operation of the alphabet (in particular every action `a`, by
    the seat to act or by any explicitly named seat, with every integer amount `x`), accepted or refused,
    the state afterwards satisfies the whole chip invariant: per player stack, wager and pot are not
    negative, bankroll = stack + wager + pot (hence stack ≤ bankroll), stack = round-start stack − wager;
    the round pot is the sum of the wagers (hence not negative); wager to match and minimum raise are
    not negative. -/
theorem amounts_safe {g : Game} (h : Reachable g) (op : Op) :
    (∀ q ∈ (g.step op).1.players,
      0 ≤ q.stack ∧ 0 ≤ q.wager ∧ 0 ≤ q.pot ∧ q.stack ≤ q.bankroll ∧
      q.bankroll = q.stack + q.wager + q.pot ∧ q.stack = q.initial - q.wager) ∧
    (g.step op).1.roundPot = (g.step op).1.wagerSum ∧ 0 ≤ (g.step op).1.roundPot ∧
    0 ≤ (g.step op).1.cw ∧ 0 ≤ (g.step op).1.prev := by
  have hi := inv_step g (inv_reachable h) op
  have ok := hi.chips0
  refine ⟨?_, ok.rp, ?_, ok.cw0, ok.prev0⟩
  · intro q hq
    have hq := ok.pinv q hq
    have hsplit := hq.split
    have hstack0 := hq.stack0
    have hwager0 := hq.wager0
    have hpot0 := hq.pot0
    have hrebase := hq.rebase
    omega
  · rw [ok.rp]
    apply sum_nonneg_int
    intro x hx
    obtain ⟨q, hq, rfl⟩ := List.mem_map.mp hx
    exact (ok.pinv q hq).wager0

/-- `amounts_safe` with the amount argument spelled out: any action, any seat designation, any integer. -/
theorem amounts_safe_act {g : Game} (h : Reachable g) (seat : Option Nat) (a : Act) (x : Int) :
    ∀ q ∈ (g.step (.act seat a x)).1.players,
      0 ≤ q.stack ∧ 0 ≤ q.wager ∧ 0 ≤ q.pot ∧ q.stack ≤ q.bankroll :=
  fun q hq => let ⟨a, b, c, d, _⟩ := (amounts_safe h (.act seat a x)).1 q hq; ⟨a, b, c, d⟩

/-- "a request below the current wager is refused": `Raise(x)` with `x = 0` or `x` below the wager to
    match returns an error and leaves the state untouched — in every state whatsoever and for every
    seat designation (`ErrIllegalRaise` when raise is offered, `ErrInvalidAction` otherwise). -/
theorem raise_below_refused (g : Game) (seat : Option Nat) (x : Int) (hx : x = 0 ∨ x < g.cw) :
    (g.step (.act seat .raise x)).2 ≠ none ∧ (g.step (.act seat .raise x)).1 = g := by
  rw [g.step_act]
  cases hal : g.allows (seat.getD g.cur) .raise with
  | false =>
    rw [act_disallowed _ _ _ _ hal]
    exact ⟨nofun, rfl⟩
  | true =>
    rw [act_allowed x hal]
    dsimp only
    rw [if_pos hx]
    exact ⟨nofun, rfl⟩

/-- First sentence, first half: "In no-limit play a raise request to a level below the player's stack
    [reading I6: below the stack at the start of the round, `p.initial`] that lifts the wager to match by at
    least the size of the previous bet or raise of the round (the big blind before any) is carried out
    exactly - that level becomes the wager to match, the raiser the last raiser and the increment the new
    minimum".  Hypotheses: decision point of `p` (`AtTurn`), no-limit, raise is offered, the request is
    addressed to the seat to act, `cw < x < p.initial`, `x − cw ≥ prev`.  Conclusion: accepted; the new wager
    to match is `x`; the last raiser is the acting seat; the new minimum raise is `x − cw`; the raiser's wager
    is `x` (and only their stack paid for it). -/
theorem raise_exact {g : Game} {p : Player} (h : AtTurn g p) (hnl : g.opts.potLimit = false)
    (hr : Act.raise ∈ p.allowed) {seat : Option Nat} (hs : ByCur g seat) {x : Int}
    (hx1 : g.cw < x) (hx2 : x < p.initial) (hx3 : x - g.cw ≥ g.prev) :
    (g.step (.act seat .raise x)).2 = none ∧
    (g.step (.act seat .raise x)).1.cw = x ∧
    (g.step (.act seat .raise x)).1.raiser = g.cur ∧
    (g.step (.act seat .raise x)).1.prev = x - g.cw ∧
    ∃ q, (g.step (.act seat .raise x)).1.players[g.cur]? = some q ∧ q.wager = x ∧
      q.stack = p.initial - x ∧ q.pot = p.pot ∧ q.bankroll = p.bankroll :=
  raise_within_cap h hr hs (Or.inl hnl) hx1 hx2 hx3

/-- First sentence, second half: "a request that would lift it by less is never carried out as an
    undersized raise (the player is put all-in or refused)".  The model (as the Go code) always takes the
    first alternative: the request is accepted and carried out as `Allin` — stack 0, the whole round-start
    stack wagered.  Holds for no-limit and pot-limit alike. -/
theorem raise_undersized {g : Game} {p : Player} (h : AtTurn g p)
    (hr : Act.raise ∈ p.allowed) {seat : Option Nat} (hs : ByCur g seat) {x : Int}
    (hx1 : g.cw < x) (hx3 : x - g.cw < g.prev) :
    (g.step (.act seat .raise x)).2 = none ∧
    ∃ q, (g.step (.act seat .raise x)).1.players[g.cur]? = some q ∧ q.stack = 0 ∧ q.wager = p.initial := by
  have ⟨a, _, b⟩ := raise_as_allin h hr hs hx1 (Or.inr hx3)
  exact ⟨a, b⟩

/-- The same statement in the disjunctive wording of the property (all-in, or refused without effect). -/
theorem raise_undersized' {g : Game} {p : Player} (h : AtTurn g p)
    (hr : Act.raise ∈ p.allowed) {seat : Option Nat} (hs : ByCur g seat) {x : Int}
    (hx1 : g.cw < x) (hx3 : x - g.cw < g.prev) :
    (∃ q, (g.step (.act seat .raise x)).1.players[g.cur]? = some q ∧ q.stack = 0 ∧ q.wager = p.initial) ∨
    ((g.step (.act seat .raise x)).2 ≠ none ∧ (g.step (.act seat .raise x)).1 = g) :=
  Or.inl (raise_undersized h hr hs hx1 hx3).2

/-- Companion (reading I6): a request at or above the round-start stack is carried out as all-in too. -/
theorem raise_over_stack {g : Game} {p : Player} (h : AtTurn g p)
    (hr : Act.raise ∈ p.allowed) {seat : Option Nat} (hs : ByCur g seat) {x : Int}
    (hx1 : g.cw < x) (hx2 : p.initial ≤ x) :
    (g.step (.act seat .raise x)).2 = none ∧
    ∃ q, (g.step (.act seat .raise x)).1.players[g.cur]? = some q ∧ q.stack = 0 ∧ q.wager = p.initial := by
  have ⟨a, _, b⟩ := raise_as_allin h hr hs hx1 (Or.inl hx2)
  exact ⟨a, b⟩

/-- "The wager to match never goes down within a round": no operation other than `Next()` and `PayAnte()`
    ever lowers it — in every state, for every action, seat designation and amount. -/
theorem cw_monotone (g : Game) (op : Op) (h1 : op ≠ .next) (h2 : op ≠ .payAnte) : g.cw ≤ (g.step op).1.cw := by
  refine g.step_cases op (motive := fun r => g.cw ≤ r.1.cw) (fun _ => Int.le_refl _) ?_ ?_ ?_ ?_ ?_ ?_
  · intro _ _
    exact Int.le_of_eq ((wr_resetAllAllowed g).trans (wr_readiness _)).cw.symm
  · intro h _ _
    exact absurd h h2
  · intro _ _
    show g.cw ≤ (Game.blindsPaid _).cw
    rw [(wr_blindsPaid _).cw]
    exact foldl_payBlind_cw_mono _ g
  · intro h _ _
    exact absurd h h1
  · intro h _ _
    exact absurd h h1
  · intro seat a x _
    exact act_cw_mono g _ a x

/-- The two exceptions are not "within a round": `Next()` either does nothing or sets the wager to match
    to 0 while it changes the street or closes the hand; `PayAnte()` either leaves it alone or opens the
    preflop round with it at 0. -/
theorem cw_reset_only_between_rounds (g : Game) :
    ((g.step .next).1 = g ∨ ((g.step .next).1.cw = 0 ∧
       ((g.step .next).1.round ≠ g.round ∨ (g.step .next).1.event = .gameClosed))) ∧
    ((g.step .payAnte).1.cw = g.cw ∨ ((g.step .payAnte).1.cw = 0 ∧ (g.step .payAnte).1.round = .preflop)) :=
  ⟨next_cw g, (payAnte_cw g).imp_right And.right⟩

/-- "The wager to match never goes down within a round", for all histories: in every reachable state, EVERY
    operation (any action, seat, amount; accepted or refused) that leaves the hand in the same round and does not
    close the hand leaves the wager to match at least as high as it was.  (`Next()` resets it only when it moves to
    another street or closes the hand; `PayAnte()` only when it opens the preflop round from "no round yet".) -/
theorem cw_monotone_within_round {g : Game} (h : Reachable g) (op : Op)
    (hround : (g.step op).1.round = g.round) (hopen : (g.step op).1.event ≠ .gameClosed) :
    g.cw ≤ (g.step op).1.cw := by
  by_cases h1 : op = .next
  · subst h1
    rcases next_cw g with h2 | ⟨_, h3 | h3⟩
    · show g.cw ≤ g.next.1.cw
      rw [h2]
      exact Int.le_refl _
    · exact absurd hround h3
    · exact absurd h3 hopen
  · by_cases h2 : op = .payAnte
    · subst h2
      rcases payAnte_cw g with h3 | ⟨he, _, hr⟩
      · show g.cw ≤ g.payAnte.1.cw
        rw [h3]
        exact Int.le_refl _
      · have := ((flow_reachable h).ante he).2
        have hr' : g.payAnte.1.round = g.round := hround
        rw [hr, this] at hr'
        cases hr'
    · exact cw_monotone g op h1 h2

/-! Non-vacuity. `Ex.g4`: flop, seat 2 faces a bet of 30 (minimum raise 30) with 990 behind. -/
example : AtTurn Ex.g4 (Ex.g4.players[2]) ∧ Ex.g4.opts.potLimit = false ∧ Act.raise ∈ (Ex.g4.players[2]).allowed ∧
    Ex.g4.cw = 30 ∧ Ex.g4.prev = 30 ∧ (Ex.g4.players[2]).initial = 990 :=
  ⟨⟨Ex.reach_g4, by decide, rfl⟩, by decide, by decide, by decide, by decide, by decide⟩
/-- exact minimum raise to 60, an undersized request to 45, a request below the wager to match -/
example : (Ex.g4.step (.act none .raise 60)).1.cw = 60 ∧ (Ex.g4.step (.act none .raise 60)).1.prev = 30 ∧
    ((Ex.g4.step (.act none .raise 45)).1.players[2]?.map (·.stack)) = some 0 ∧
    (Ex.g4.step (.act none .raise 20)).2 = some .illegalRaise := by decide
/-- within a round: the raise keeps the flop open; `Next()` after the round closes moves on and resets -/
example : (Ex.g4.step (.act none .raise 60)).1.round = Ex.g4.round ∧
    (Ex.g4.step (.act none .raise 60)).1.event ≠ .gameClosed ∧ Ex.g4.cw = 30 := by decide
/-- amounts: a negative bet is refused, a huge one is an all-in -/
example : (Ex.g2.step (.act none .bet (-5))).2 = some .invalidAction ∧
    ((Ex.g2.step (.act none .bet 1000000)).1.players[1]?.map (fun q => (q.stack, q.wager))) = some (0, 990) := by decide

/-! ## An oversized `Bet` must not inflate the recorded minimum raise

  `raise_exact` / `raise_undersized` are stated with `g.prev`, the RECORDED `PreviousRaiseSize`.  The property
  text speaks of "the size of the previous bet or raise of the round".  The two differ after `Bet(x)` with `x`
  above the bettor's stack: the bettor is all-in for the stack; player.go `Bet` records `PreviousRaiseSize :=` the
  bettor's wager, not `x` (defect D11 of DESIGN §7 is the code that recorded `x`).  A natural consequence of "prev is
  the size of the last bet or raise": from the flop on the recorded minimum raise never exceeds the wager to match. -/

/-- the full reading, on the flop: the recorded minimum raise is at most the wager to match (every later street:
    `prev_le_cw_postflop`) -/
def prev_is_actual_size_full : Prop :=
  ∀ g, Reachable g → g.event = .roundStarted → g.round = .flop → g.prev ≤ g.cw

/-- dealer 3,000,000, small blind 1000, big blind 5000; blinds 5/10 -/
def exOversized : Config := Ex.cfg (Ex.opts 0 0 5 10) 3000000 1000 5000
/-- flop after call, call, check; seat 1 (stack 990) does `Bet(1000000)` -/
def exOversizedBet : Game :=
  (start exOversized).1.run [.ready, .payBlinds, .ready, .act none .call 0, .act none .call 0, .act none .check 0,
    .next, .ready, .act none .bet 1000000]

/-- The history that separates the two readings (DESIGN §7 D11): the 990 stack does `Bet(1000000)`.  The
    recorded minimum raise is the 990 actually put in, the next seat is offered a raise, and
    `Raise(1980)` — a raise by exactly the size of the bet — is carried out exactly.  (A test on one
    history; the general statement is `prev_is_actual_size_full`.) -/
example : exOversizedBet.cw = 990 ∧ exOversizedBet.prev = 990 ∧ exOversizedBet.cur = 2 ∧
    (exOversizedBet.players[2]?.map (·.allowed)) = some [.allin, .fold, .call, .raise] ∧
    (exOversizedBet.step (.act none .raise 1980)).2 = none ∧
    ((exOversizedBet.run [.act none .raise 1980]).cw = 1980) ∧
    ((exOversizedBet.run [.act none .raise 1980]).prev = 990) ∧
    (((exOversizedBet.run [.act none .raise 1980]).players[2]?.map (fun q => (q.stack, q.wager)))
      = some (3010, 1980)) := by decide

/-! ## The recorded minimum raise IS "the size of the previous bet or raise of the round"

  `raise_exact` / `raise_undersized` above speak of `g.prev`, the engine's own record.  The specification's quantity
  is kept here by a GHOST (`Proofs/RaiseGhost.lean`): `RGhost.lastRaise`, updated along the run by the
  specification's rules only (`RGhost.step`, `lastRaiseTurn`), never by looking at `prev`:
   * when `ReadyForAll` opens a betting round: the big blind (the dealer blind when there is no big blind) preflop,
     0 on later streets;
   * after an accepted action in an open round, with `d` the rise of the wager to match (rule `.i8`, reading I8):
     a `Bet` sets it to `d`; a `Raise(x)`, `x` above the wager to match, or an `Allin` sets it to `d` when `d > 0`
     and `d` is at least the record, and leaves it otherwise (short all-in); `Call`, `Raise(x)` with `x` equal to
     the wager to match (carried out as a call, including the completion of a short big blind), `Fold`, `Check`,
     `Pass` leave it.
  `LReachable .i8 g gh`: `(g, gh)` is the state and the record after some history from an accepted configuration. -/

/-- The link: in every open betting round of every history the engine's `PreviousRaiseSize` equals the
    specification's record. -/
theorem recorded_is_last_raise {g : Game} {gh : RGhost} (h : LReachable .i8 g gh) (he : g.event = .roundStarted) :
    g.prev = gh.lastRaise := prev_is_last_raise h he

/-- `raise_exact` in terms of the specification's quantity: a raise request to a level `x` below the round-start
    stack that lifts the wager to match by at least `lastRaise` — the size of the previous bet or raise of the round,
    the big blind before any — is carried out exactly; the increment is the new recorded minimum AND the new value of
    the specification's record. -/
theorem raise_exact_spec {g : Game} {gh : RGhost} {p : Player} (hG : LReachable .i8 g gh)
    (hev : g.event = .roundStarted) (hp : g.players[g.cur]? = some p) (hnl : g.opts.potLimit = false)
    (hr : Act.raise ∈ p.allowed) {seat : Option Nat} (hs : ByCur g seat) {x : Int}
    (hx1 : g.cw < x) (hx2 : x < p.initial) (hx3 : x - g.cw ≥ gh.lastRaise) :
    (g.step (.act seat .raise x)).2 = none ∧
    (g.step (.act seat .raise x)).1.cw = x ∧
    (g.step (.act seat .raise x)).1.raiser = g.cur ∧
    (g.step (.act seat .raise x)).1.prev = x - g.cw ∧
    (gh.step .i8 g (.act seat .raise x)).lastRaise = x - g.cw ∧
    ∃ q, (g.step (.act seat .raise x)).1.players[g.cur]? = some q ∧ q.wager = x ∧
      q.stack = p.initial - x ∧ q.pot = p.pot ∧ q.bankroll = p.bankroll := by
  have hL := prev_is_last_raise hG hev
  obtain ⟨e1, e2, e3, e4, e5⟩ :=
    raise_exact (g := g) (p := p) ⟨lreachable_reachable hG, hev, hp⟩ hnl hr hs hx1 hx2 (by rw [hL]; exact hx3)
  refine ⟨e1, e2, e3, e4, ?_, e5⟩
  rw [rghost_step_act hev e1, e2]
  have hn : ¬ asCall .raise x g.cw := by simp [asCall]; omega
  have h1 : 0 < x - g.cw := by omega
  simp only [lastRaiseTurn, reduceCtorEq, if_false]
  rw [if_pos ⟨hn, h1, hx3⟩]

/-- `raise_undersized` in terms of the specification's quantity: a request that would lift the wager to match by
    less than `lastRaise` is never carried out as an undersized raise: the player is put all-in. -/
theorem raise_undersized_spec {g : Game} {gh : RGhost} {p : Player} (hG : LReachable .i8 g gh)
    (hev : g.event = .roundStarted) (hp : g.players[g.cur]? = some p)
    (hr : Act.raise ∈ p.allowed) {seat : Option Nat} (hs : ByCur g seat) {x : Int}
    (hx1 : g.cw < x) (hx3 : x - g.cw < gh.lastRaise) :
    (g.step (.act seat .raise x)).2 = none ∧
    ∃ q, (g.step (.act seat .raise x)).1.players[g.cur]? = some q ∧ q.stack = 0 ∧ q.wager = p.initial := by
  have hL := prev_is_last_raise hG hev
  exact raise_undersized (g := g) (p := p) ⟨lreachable_reachable hG, hev, hp⟩ hr hs hx1 (by rw [hL]; exact hx3)

/-- From the flop on the recorded minimum raise never exceeds the wager to match (on the flop, the turn and the
    river), in every open betting round of every history: it is 0 until somebody bets, and then the size of a bet
    or raise that is part of the wager to match.  (False of the code with defect D11.) -/
theorem prev_le_cw_postflop {g : Game} (h : Reachable g) (he : g.event = .roundStarted) (hr : g.round ≠ .preflop) :
    g.prev ≤ g.cw := prev_le_cw_of_reachable h he hr

theorem prev_is_actual_size_full_holds : prev_is_actual_size_full :=
  fun _ h he hr => prev_le_cw_postflop h he (by rw [hr]; simp)

/-- blinds 5/10; the big blind has 100 -/
def exGhost : Config := Ex.cfg (Ex.opts 0 0 5 10) 1000 1000 100
/-- preflop call, call, check; flop: seat 1 bets 30, seat 2 calls, seat 0 raises to 80 (by 50), seat 1 calls,
    seat 2 is all-in for 90 (a rise of 10, short of 50), seat 0 calls -/
def exGhostOps : List Op :=
  [.ready, .payBlinds, .ready, .act none .call 0, .act none .call 0, .act none .check 0, .next, .ready,
   .act none .bet 30, .act none .call 0, .act none .raise 80, .act none .call 0, .act none .allin 0, .act none .call 0]

theorem exGhost_reach (k : Nat) : LReachable .i8 ((start exGhost).1.runL .i8 ⟨0⟩ (exGhostOps.take k)).1
    ((start exGhost).1.runL .i8 ⟨0⟩ (exGhostOps.take k)).2 :=
  ⟨exGhost, exGhostOps.take k, ⟨Ex.optsOK _ _ _ _ (by decide)⟩, by decide, rfl⟩

/-- the record and the recorded minimum raise along that history: 10 preflop (the big blind before any), 0 when
    the flop opens, 30 after the bet, 50 after the raise, still 50 after the short all-in and the calls -/
example : (([3, 6, 8, 9, 10, 11, 12, 13, 14].map fun k =>
      let r := (start exGhost).1.runL .i8 ⟨0⟩ (exGhostOps.take k); (r.1.cw, r.1.prev, r.2.lastRaise)) =
    [(10, 10, 10), (10, 10, 10), (0, 0, 0), (30, 30, 30), (30, 30, 30), (80, 50, 50), (80, 50, 50), (90, 50, 50),
     (90, 50, 50)]) ∧
    ((start exGhost).1.runL .i8 ⟨0⟩ exGhostOps).1.event = .roundStarted ∧
    ((start exGhost).1.runL .i8 ⟨0⟩ exGhostOps).1.round = .flop := by decide

/-- hypotheses of `raise_exact_spec` / `raise_undersized_spec` at the end of that history: seat 1 (910 behind, 80 in)
    faces 90 with the record at 50; raise is offered; `Raise(140)` lifts by exactly 50 and is carried out exactly,
    `Raise(120)` lifts by 30 < 50 and puts seat 1 all-in -/
example : let r := (start exGhost).1.runL .i8 ⟨0⟩ exGhostOps
    r.1.cur = 1 ∧ (r.1.players[1]?.map fun q => (q.initial, q.allowed)) = some (990, [.allin, .fold, .call, .raise]) ∧
    r.1.opts.potLimit = false ∧ r.1.cw = 90 ∧ r.2.lastRaise = 50 ∧
    (r.1.step (.act none .raise 140)).1.cw = 140 ∧ (r.1.step (.act none .raise 140)).1.prev = 50 ∧
    (r.2.step .i8 r.1 (.act none .raise 140)).lastRaise = 50 ∧
    ((r.1.step (.act none .raise 120)).1.players[1]?.map fun q => (q.stack, q.wager)) = some (0, 990) := by decide

/-- short big blind (`Ex.c3`: the big blind has 6 chips): the round opens with 6 to match and the record at the
    big blind 10; the dealer's `Call` — and `Raise(6)`, carried out as a call — completes to 10 and is no raise: the
    record stays 10 (reading I8) -/
example :
    (let r := (start Ex.c3).1.runL .i8 ⟨0⟩ [.ready, .payBlinds, .ready]; (r.1.cw, r.1.prev, r.2.lastRaise)) = (6, 10, 10) ∧
    (let r := (start Ex.c3).1.runL .i8 ⟨0⟩ [.ready, .payBlinds, .ready, .act none .call 0];
      (r.1.cw, r.1.prev, r.2.lastRaise)) = (10, 10, 10) ∧
    (let r := (start Ex.c3).1.runL .i8 ⟨0⟩ [.ready, .payBlinds, .ready, .act none .raise 6];
      (r.1.cw, r.1.prev, r.2.lastRaise)) = (10, 10, 10) := by decide

/-! ## The rule `.monitor` differs from the engine on a dead blind

  The rule `.monitor` lets ANY non-call action that lifts the wager to match from 0 set the record (`cw = 0 ∨ d ≥ L`).
  When the preflop round is opened with nothing to match although the big blind is positive — no seat owing a blind
  has a chip left after the ante, or no seat holds the position — an `Allin` for less than the big blind lifts the
  wager to match from 0 by less than the big blind: the engine keeps the big blind as the minimum raise (`Allin` only
  records a rise of at least the recorded size), the record of `.monitor` drops to the size of the all-in.  By reading
  I8 to the letter ("a raise/all-in that lifts the wager to match by at least the previous such size", "the big blind
  before any") the engine is right, and the disjunct `cw = 0` is the mismatch: the rule `.i8` (`Bet`: record := d;
  other non-calls: d > 0 ∧ d ≥ record), which is the one the run-time monitor runs
  (`harness/cmd/trace/engine_monitors.go`), matches the engine on ALL histories (`recorded_is_last_raise`), and the
  two rules agree on every history that never opens the preflop round on a dead blind (`monitor_rule_agrees`). -/

/-- heads-up, big blind 10 but no seat holds the big-blind position; seat 1 has 5 chips -/
def exDead : Config := { opts := Ex.opts 0 0 0 10, seats := [⟨100, true, false, false⟩, ⟨5, false, false, false⟩] }
/-- the usual layout (dealer, small blind, big blind, one more seat) with an ante of 5 that eats both blind stacks;
    the last seat is left with 7 -/
def exDeadAnte : Config :=
  { opts := Ex.opts 5 0 5 10,
    seats := [⟨1000, true, false, false⟩, ⟨5, false, true, false⟩, ⟨5, false, false, true⟩, ⟨12, false, false, false⟩] }

/-- The smallest counter-history to "`prev` = the record of `.monitor`" (4 operations: `ReadyForAll`, `PayBlinds`,
    `ReadyForAll`, `Allin` by the 5-chip seat): the round is open, 5 to match, the engine's minimum raise is still the
    big blind 10, the record of `.monitor` is 5, the record of rule `.i8` is 10.  The history passes through a dead
    blind, so `prev_is_last_raise_monitor` does not apply. -/
theorem monitor_rule_counterexample :
    (start exDead).2 = none ∧
    (let r := (start exDead).1.runL .monitor ⟨0⟩ [.ready, .payBlinds, .ready, .act none .allin 0]
     r.1.event = .roundStarted ∧ r.1.cw = 5 ∧ r.1.prev = 10 ∧ r.2.lastRaise = 5) ∧
    ((start exDead).1.runL .i8 ⟨0⟩ [.ready, .payBlinds, .ready, .act none .allin 0]).2.lastRaise = 10 ∧
    ((start exDead).1.run [.ready, .payBlinds]).deadBlind := by decide

/-- The same with the usual layout and an ante; and what a monitor running `.monitor` would then report as a violation
    of `raise_exact` although the engine follows reading I8: `Raise(14)` by the dealer lifts the 7 to match by 7 — at
    least the record 7 of `.monitor`, less than the engine's (and rule `.i8`'s) 10 — and is carried out as an all-in. -/
theorem monitor_rule_counterexample_ante :
    (start exDeadAnte).2 = none ∧
    (let r := (start exDeadAnte).1.runL .monitor ⟨0⟩ [.ready, .payAnte, .payBlinds, .ready, .act none .allin 0]
     r.1.event = .roundStarted ∧ r.1.cw = 7 ∧ r.1.prev = 10 ∧ r.2.lastRaise = 7 ∧ r.1.cur = 0 ∧
     (r.1.players[0]?.map fun q => (q.initial, q.allowed)) = some (995, [.allin, .fold, .call, .raise]) ∧
     ((r.1.step (.act none .raise 14)).1.players[0]?.map fun q => (q.stack, q.wager)) = some (0, 995)) ∧
    ((start exDeadAnte).1.runL .i8 ⟨0⟩ [.ready, .payAnte, .payBlinds, .ready, .act none .allin 0]).2.lastRaise = 10 := by
  decide

/-- Outside that corner the rule `.monitor` is the rule of I8: along every history that never opens the preflop round
    on a dead blind the two records coincide step by step, hence the record of `.monitor` equals `PreviousRaiseSize`
    in every open betting round. -/
theorem monitor_rule_agrees (c : Config) (wf : WFConfig c) (hs : (start c).2 = none) (ops : List Op)
    (hnd : NoDeadBlind (start c).1 ops) :
    (start c).1.runL .monitor ⟨0⟩ ops = (start c).1.runL .i8 ⟨0⟩ ops ∧
    (((start c).1.runL .monitor ⟨0⟩ ops).1.event = .roundStarted →
      ((start c).1.runL .monitor ⟨0⟩ ops).1.prev = ((start c).1.runL .monitor ⟨0⟩ ops).2.lastRaise) :=
  ⟨monitor_eq_i8_start c wf hs ops hnd, prev_is_last_raise_monitor c wf hs ops hnd⟩

/-- non-vacuity: the flop history above never meets a dead blind -/
example : NoDeadBlind (start exGhost).1 exGhostOps := by decide

/-! ### `Bet(0)` is accepted and erases the big blind as minimum raise (dead blind only)

  Under rule `.i8` every accepted `Bet` is a bet, also `Bet(0)` (the engine accepts it whenever bet is offered: it
  moves no chip, marks the seat as having acted, and records 0 as the minimum raise).  After the flop that changes
  nothing (the record is 0 as long as nothing is to match, `prev_le_cw_postflop`).  On a dead blind it replaces the
  big blind by 0: below, after `Bet(0)` an all-in for 7 becomes the minimum raise and `Raise(14)` — a raise by 7 with a
  big blind of 10 and no bet of positive size before the all-in — is carried out as a raise, whereas WITHOUT the
  `Bet(0)` the very same request is turned into an all-in (minimum raise still 10).  If one reads "a bet" as a bet
  of positive size, the first outcome contradicts "a request that would lift it by less [than the big blind before
  any] is never carried out as an undersized raise"; under reading I8 to the letter both outcomes conform. -/
def exBetZero : Config :=
  { opts := Ex.opts 5 0 5 10,
    seats := [⟨12, true, false, false⟩, ⟨5, false, true, false⟩, ⟨5, false, false, true⟩, ⟨1000, false, false, false⟩] }

example :
    (let r := (start exBetZero).1.runL .i8 ⟨0⟩ [.ready, .payAnte, .payBlinds, .ready, .act none .bet 0]
     (r.1.event, r.1.cw, r.1.prev, r.2.lastRaise) = (.roundStarted, 0, 0, 0)) ∧
    (let r := (start exBetZero).1.runL .i8 ⟨0⟩ [.ready, .payAnte, .payBlinds, .ready, .act none .bet 0, .act none .allin 0,
        .act none .pass 0, .act none .pass 0, .act none .raise 14]
     (r.1.cw, r.1.prev, r.2.lastRaise, r.1.players[3]?.map fun q => (q.stack, q.wager)) = (14, 7, 7, some (981, 14))) ∧
    (let r := (start exBetZero).1.runL .i8 ⟨0⟩ [.ready, .payAnte, .payBlinds, .ready, .act none .allin 0,
        .act none .pass 0, .act none .pass 0, .act none .raise 14]
     (r.1.cw, r.1.prev, r.2.lastRaise, r.1.players[3]?.map fun q => (q.stack, q.wager)) = (995, 995, 995, some (0, 995))) := by
  decide

/-! ## Unconditional forms of the raise clauses

  `raise_exact`, `raise_undersized` and `raise_over_stack` carry the hypothesis `hr : Act.raise ∈ p.allowed`.  The
  property text has no such hypothesis, and the numeric hypotheses do not imply it (`exNotOffered` below: the
  minimum bet is the dealer blind 100, the big blind seat holds 50 and is offered all-in and check only).  The
  theorems below say exactly when raise is offered, and what `Raise(x)` does in EVERY case. -/

/-- When raise is offered: for a player to act who has not folded and has chips, raise is in the offered
    list exactly when a wager stands that the player is behind and holds more than wager-to-match + minimum raise,
    or a wager stands that the player is level with and the player holds at least the minimum bet (the exact
    branch conditions of `GetAvailableActions`). -/
theorem raise_offered_iff {g : Game} {p : Player} (h : AtTurn g p) (hf : p.fold = false) (hs : p.stack ≠ 0) :
    Act.raise ∈ p.allowed ↔
      (p.wager < g.cw ∧ p.initial > g.cw + g.prev) ∨ (p.wager = g.cw ∧ p.initial ≥ g.miniBet ∧ g.cw ≠ 0) :=
  (h.mem_allowed hf hs).2.2

/-- A folded or all-in seat is never offered raise. -/
theorem raise_not_offered_passive {g : Game} {p : Player} (h : AtTurn g p) (hp : p.fold = true ∨ p.stack = 0) :
    Act.raise ∉ p.allowed := by
  rw [h.allowed_eq, avail_pass_only g p hp]
  simp

/-- When raise is NOT offered to the player to act, `Raise(x)` is refused with `ErrInvalidAction` and the state
    is returned exactly as it was — for every amount `x` and every seat designation. -/
theorem raise_not_offered_refused {g : Game} {p : Player} (h : AtTurn g p) (hr : Act.raise ∉ p.allowed)
    (seat : Option Nat) (x : Int) : g.step (.act seat .raise x) = (g, some .invalidAction) :=
  step_not_offered h hr seat x

/-- `Raise(x)` addressed to any seat other than the one to act is refused likewise (C04). -/
theorem raise_other_seat_refused {g : Game} (h : Reachable g) {seat : Option Nat} (hs : ¬ ByCur g seat) (x : Int) :
    g.step (.act seat .raise x) = (g, some .invalidAction) :=
  step_other_seat (inv_reachable h) hs .raise x

/-- First sentence, first half, WITHOUT assuming that raise is offered: in no-limit play, at any decision point,
    a raise request by the player to act to a level `x` with `cw < x < p.initial` and `x − cw ≥ prev` is either
    carried out exactly (accepted; `x` is the new wager to match and the raiser's wager, the raiser is the last
    raiser, `x − cw` the new minimum) — this is the case exactly when raise is offered (`raise_offered_iff`) — or,
    when raise is not offered, refused with `ErrInvalidAction` leaving the state untouched.  Nothing else can
    happen. -/
theorem raise_exact_unconditional {g : Game} {p : Player} (h : AtTurn g p) (hnl : g.opts.potLimit = false)
    {seat : Option Nat} (hs : ByCur g seat) {x : Int} (hx1 : g.cw < x) (hx2 : x < p.initial) (hx3 : x - g.cw ≥ g.prev) :
    (Act.raise ∈ p.allowed ∧
      (g.step (.act seat .raise x)).2 = none ∧ (g.step (.act seat .raise x)).1.cw = x ∧
      (g.step (.act seat .raise x)).1.raiser = g.cur ∧ (g.step (.act seat .raise x)).1.prev = x - g.cw ∧
      ∃ q, (g.step (.act seat .raise x)).1.players[g.cur]? = some q ∧ q.wager = x ∧
        q.stack = p.initial - x ∧ q.pot = p.pot ∧ q.bankroll = p.bankroll) ∨
    (Act.raise ∉ p.allowed ∧ g.step (.act seat .raise x) = (g, some .invalidAction)) := by
  by_cases hr : Act.raise ∈ p.allowed
  · exact Or.inl ⟨hr, raise_exact h hnl hr hs hx1 hx2 hx3⟩
  · exact Or.inr ⟨hr, raise_not_offered_refused h hr seat x⟩

/-- First sentence, second half, WITHOUT assuming that raise is offered and for EVERY seat designation: at any
    decision point, for any level `x` above the wager to match that would lift it by less than the previous bet or
    raise (`cw < x`, `x − cw < prev`), `Raise(x)` is either refused with the state returned exactly as it was, or
    accepted and carried out as an all-in of the player to act (stack 0, the whole round-start stack wagered, the
    wager to match becoming that amount if it is larger) — never as an undersized raise.  The second alternative
    occurs exactly when the request is addressed to the seat to act and raise is offered. -/
theorem raise_undersized_unconditional {g : Game} {p : Player} (h : AtTurn g p) (seat : Option Nat) {x : Int}
    (hx1 : g.cw < x) (hx3 : x - g.cw < g.prev) :
    (g.step (.act seat .raise x) = (g, some .invalidAction) ∧ ¬ (ByCur g seat ∧ Act.raise ∈ p.allowed)) ∨
    ((ByCur g seat ∧ Act.raise ∈ p.allowed) ∧ (g.step (.act seat .raise x)).2 = none ∧
      (g.step (.act seat .raise x)).1.cw = (if p.initial > g.cw then p.initial else g.cw) ∧
      ∃ q, (g.step (.act seat .raise x)).1.players[g.cur]? = some q ∧ q.stack = 0 ∧ q.wager = p.initial) := by
  by_cases hs : ByCur g seat
  · by_cases hr : Act.raise ∈ p.allowed
    · right
      exact ⟨⟨hs, hr⟩, raise_as_allin h hr hs hx1 (Or.inr hx3)⟩
    · exact Or.inl ⟨raise_not_offered_refused h hr seat x, fun c => hr c.2⟩
  · exact Or.inl ⟨raise_other_seat_refused h.reach hs x, fun c => hs c.1⟩

/-- the same in the property's own words: put all-in, or refused — in every case -/
theorem raise_undersized_never {g : Game} {p : Player} (h : AtTurn g p) (seat : Option Nat) {x : Int}
    (hx1 : g.cw < x) (hx3 : x - g.cw < g.prev) :
    (∃ q, (g.step (.act seat .raise x)).1.players[g.cur]? = some q ∧ q.stack = 0 ∧ q.wager = p.initial) ∨
    ((g.step (.act seat .raise x)).2 ≠ none ∧ (g.step (.act seat .raise x)).1 = g) := by
  rcases raise_undersized_unconditional h seat hx1 hx3 with ⟨e, _⟩ | ⟨_, _, _, hq⟩
  · exact Or.inr (by rw [e]; exact ⟨by simp, rfl⟩)
  · exact Or.inl hq

/-- The boundary `x = cw` (neither "below the current wager" nor a lift): `Raise(cw)` by the player to act is
    carried out EXACTLY as `Call` — same resulting state, same (absent) error — when both raise and call are
    offered, i.e. when the player is behind the wager to match and holds more than wager-to-match + minimum raise;
    in every other case (raise not offered; or raise offered to a player who is level with the wager to match,
    who is not offered call) it is refused with `ErrInvalidAction` and the state is returned as it was.
    (`effect_call` of C11 then says what the call does.)  -/
theorem raise_to_current {g : Game} {p : Player} (h : AtTurn g p) {seat : Option Nat} (hs : ByCur g seat) :
    (Act.raise ∈ p.allowed ∧ Act.call ∈ p.allowed →
      ∀ y : Int, g.step (.act seat .raise g.cw) = g.step (.act seat .call y) ∧ (g.step (.act seat .call y)).2 = none) ∧
    (¬ (Act.raise ∈ p.allowed ∧ Act.call ∈ p.allowed) →
      g.step (.act seat .raise g.cw) = (g, some .invalidAction)) := by
  constructor
  · rintro ⟨hr, hc⟩ y
    rw [h.allowed_eq] at hr hc
    rw [step_byCur hs, step_byCur hs]
    exact ⟨act_raise_cw_eq_call h hr hc y, act_accepted_of_allows y (h.allows_of hc) (by simp) (by simp)⟩
  · intro hn
    by_cases hr : Act.raise ∈ p.allowed
    · have hc : Act.call ∉ p.allowed := fun hc => hn ⟨hr, hc⟩
      rw [h.allowed_eq] at hr hc
      rw [step_byCur hs]
      exact act_raise_cw_no_call h hr hc
    · exact raise_not_offered_refused h hr seat g.cw

/-- when both are offered (companion to `raise_to_current`): exactly the first raise situation -/
theorem raise_and_call_offered_iff {g : Game} {p : Player} (h : AtTurn g p) (hf : p.fold = false) (hs : p.stack ≠ 0) :
    (Act.raise ∈ p.allowed ∧ Act.call ∈ p.allowed) ↔ (p.wager < g.cw ∧ p.initial > g.cw + g.prev) := by
  obtain ⟨mc, _, mr⟩ := h.mem_allowed hf hs
  have hprev := h.chips.prev0
  rw [mc, mr]
  constructor
  · rintro ⟨(a | ⟨a, _, _⟩), b, _⟩
    · exact a
    · omega
  · rintro ⟨a, b⟩
    exact ⟨Or.inl ⟨a, b⟩, a, by omega⟩

/-- Last sentence, "… can make a wager, stack or POT negative": after EVERY operation on every reachable state —
    any action by any seat with any integer amount, accepted or refused — every published pot (`Status.Pots`) has a
    non-negative total.  (The pots are only rewritten by `updatePots`, from per-player totals `pot + wager ≥ 0`;
    C16 `pot_total`.) -/
theorem pots_nonneg {g : Game} (h : Reachable g) (op : Op) : ∀ pt ∈ (g.step op).1.pots, 0 ≤ pt.total :=
  pn_reachable (h.step op)

/-- `pots_nonneg` with the amount spelled out, together with the per-player pot accounts (`amounts_safe`) -/
theorem pots_nonneg_act {g : Game} (h : Reachable g) (seat : Option Nat) (a : Act) (x : Int) :
    (∀ pt ∈ (g.step (.act seat a x)).1.pots, 0 ≤ pt.total) ∧ (∀ q ∈ (g.step (.act seat a x)).1.players, 0 ≤ q.pot) :=
  ⟨pots_nonneg h _, fun q hq => (amounts_safe_act h seat a x q hq).2.2.1⟩

/-- A witness: dealer blind 100 > big blind 10, so the minimum bet is 100; the dealer (8 chips) is all-in
    on the blind, the small blind calls, the big blind seat (50 chips, 10 posted) is level with the wager to match and
    holds less than the minimum bet: it is offered all-in and check only. -/
def exNotOffered : Game :=
  (start (Ex.cfg (Ex.opts 0 100 5 10) 8 1000 50)).1.run [.ready, .payBlinds, .ready, .act none .pass 0, .act none .call 0]

theorem exNotOffered_reach : Reachable exNotOffered := reachable_run ⟨Ex.optsOK _ _ _ _ (by decide)⟩ (by decide) _

/-- The numeric hypotheses of `raise_exact` hold for `Raise(30)` (`10 < 30 < 50`, `30 − 10 ≥ 10`, no-limit) but raise
    is not offered: the request is refused with `ErrInvalidAction` and nothing changes (`raise_exact_unconditional`,
    second alternative).  `Raise(15)` — an undersized request — is refused likewise (`raise_undersized_unconditional`,
    first alternative). -/
example : AtTurn exNotOffered (exNotOffered.players[2]) ∧ exNotOffered.opts.potLimit = false ∧
    (exNotOffered.cw, exNotOffered.prev, exNotOffered.miniBet, (exNotOffered.players[2]).initial,
      (exNotOffered.players[2]).wager) = (10, 10, 100, 50, 10) ∧
    (exNotOffered.players[2]).allowed = [.allin, .check] ∧
    exNotOffered.step (.act none .raise 30) = (exNotOffered, some .invalidAction) ∧
    exNotOffered.step (.act none .raise 15) = (exNotOffered, some .invalidAction) :=
  ⟨⟨exNotOffered_reach, by decide, rfl⟩, by decide, by decide, by decide,
   raise_not_offered_refused ⟨exNotOffered_reach, by decide, rfl⟩ (by decide) none 30,
   raise_not_offered_refused ⟨exNotOffered_reach, by decide, rfl⟩ (by decide) none 15⟩

/-- `raise_to_current` at `Ex.g4` (seat 2 faces a bet of 30, both raise and call offered): `Raise(30)` is the call;
    at the big blind's option (`Ex.g1` after two calls: raise offered, call not) `Raise(10)` is refused. -/
example : Act.raise ∈ (Ex.g4.players[2]).allowed ∧ Act.call ∈ (Ex.g4.players[2]).allowed ∧ Ex.g4.cw = 30 ∧
    (Ex.g4.step (.act none .raise 30)).2 = none ∧
    ((Ex.g4.step (.act none .raise 30)).1.players[2]?.map fun q => (q.stack, q.wager)) = some (960, 30) ∧
    (Ex.g4.step (.act none .raise 30)).1.prev = 30 := by decide
example : let g := Ex.g1.run [.act none .call 0, .act none .call 0]
    AtTurn g (g.players[2]) ∧ Act.raise ∈ (g.players[2]).allowed ∧ Act.call ∉ (g.players[2]).allowed ∧ g.cw = 10 ∧
    (g.step (.act none .raise 10)).2 = some .invalidAction :=
  ⟨⟨Ex.reach_g1.run _, by decide, rfl⟩, by decide, by decide, by decide, by decide⟩

/-- `pots_nonneg`: while the flop round of `exGhost` is played the pot of the preflop round (30) stays published —
    also after a refused `Bet(-7)` —, and when the round closes (call, pass of the all-in seat) one pot of 300 is -/
example : (((start exGhost).1.run exGhostOps).pots.map (·.total)) = [30] ∧
    (((start exGhost).1.run (exGhostOps ++ [.act none .bet (-7)])).pots.map (·.total)) = [30] ∧
    (((start exGhost).1.run (exGhostOps ++ [.act none .call 0, .act none .pass 0])).pots.map (·.total)) = [300] ∧
    ((start exGhost).1.run (exGhostOps ++ [.act none .call 0, .act none .pass 0])).event = .roundClosed := by decide

end Pokerface.C12
