/-
  C20 on the ASYNCHRONOUS system: rebalancing with LATE release reports.

  "With no new registrations and no eliminations, repeatedly syncing every table
   and carrying out the moves the regulator asks for reaches, within a small
   bounded number of sweeps, a state in which no table is asked to release,
   receive or break.  A table that is told to break hands back all of its
   players, and each of them is queued for another table."

  `Properties/C20.lean` proves this for `RSys`, where a table's `SyncState` and the `ReleasePlayers`
  report it triggers are ONE step.  Here the system is `ASys` (Model/RegulatorAsync.lean): a sync
  only calls `SyncState`; the players the table is told to release leave it and are "on the way
  back" (`inflight`); `ReleasePlayers` is a separate operation `report` that may come at ANY later
  time (after syncs of other tables and of the same table, after the table was broken) and in
  several parts; a report of nobody is possible at any time for any table id.

  Domain: `AReachable` (any setting `1 ≤ max`, any `min`, statuses in any order) for the second
  sentence; `AReachableFwd` (the statuses only move forward, reading I13) where the synchronous
  proofs need it too.  Nothing asks for "report before the next operation".

  What is proved (all settings, all reachable states, all choices):
    second sentence  `break_returns_all_async`, `reported_are_requeued_async`,
                     `broken_table_players_requeued_async` - in full;
    direction        `moves_are_directed_async`, `dispatch_is_directed_async`,
                     `table_count_monotone_async`, `table_count_monotone_async_run`;
    fixed point      `ASettled`, `settled_iff_async`, `settled_persists_async`,
                     `settled_report_of_nobody`, and the witness `settled_report_of_nobody_moves`;
    first sentence   see the section "the liveness sentence" at the end of the file.

  Names.  The statements speak in the property's words, the proofs in their own; each pair is one
  notion, the first defined as the second: `potential_async` is `ASys.potentialA`, `late_cost`
  is `ASys.lateCostSum` (per operation `ASys.lateCost`, which has no second name); from C20.lean
  `small_bound s` is `Reg.smallBound s.r` and `potential s` is `Reg.phi s.r`.  `small_bound` is
  about an `RSys`, so a bound for an `ASys` is written `Reg.smallBound s.r`.  `tableGap r`,
  `|T − R|`, is what `Reg.mu1 r` (`Reg.mu1_eq`) and `dTR r + dRT r` come to.
-/
import Pokerface.Properties.C20
import Pokerface.Proofs.RegAsyncSettlePhi

namespace Pokerface.C20
open Pokerface Reg ASys

/-! ## second sentence: a broken table hands back everybody, each is queued for another table -/

/-- **break_returns_all**, asynchronous, the sync half (WIDEST domain).  Let a valid sync of an
    existing table `t` (members `≈ elim ++ stay`) from a reachable state - with any players still
    on the way back, from `t` itself or from other tables - break the table.  Then
    * the regulator tells the table to release exactly its whole remaining membership (`|stay|`)
      and gives it nobody; the departing players are all of `stay`, nobody is kept;
    * afterwards table `t` exists neither in reality nor on the regulator's sheet;
    * ALL of them are now on the way back from `t` (`departing` = `rel`; the batch joins whoever was
      on the way already), and the sync itself made no callback and queued nobody: the regulator
      hears of them again only through `ReleasePlayers` (`reported_are_requeued_async`). -/
theorem break_returns_all_async {s : ASys} (h : AReachable s) (t : Nat) (elim stay rel keep ms : List Nat)
    (hm : s.env.membersOf t = some ms) (hok : s.ok (.sync t elim stay rel keep))
    (hb : s.broken t elim = true) :
    ((s.syncAnswer t elim).2.2.1 = stay.length ∧ (s.syncAnswer t elim).2.2.2 = [] ∧
      rel.Perm stay ∧ keep = []) ∧
    (t ∉ (s.step (.sync t elim stay rel keep)).env.members.map (·.1) ∧
      (s.step (.sync t elim stay rel keep)).r.findTable t = none ∧
      (s.step (.sync t elim stay rel keep)).env.membersOf t = none) ∧
    (s.departing (.sync t elim stay rel keep) = rel ∧
      (s.step (.sync t elim stay rel keep)).flyingOf t = s.flyingOf t ++ rel ∧
      (s.step (.sync t elim stay rel keep)).flying = s.flying ++ rel ∧
      (s.step (.sync t elim stay rel keep)).r.calls = [] ∧
      (s.step (.sync t elim stay rel keep)).r.queue = s.r.queue) :=
  break_returns_all_async_inv (AInv.of_reachable h) t elim stay rel keep ms hm hok hb

/-- **each of them is queued for another table**, asynchronous (WIDEST domain): EVERY valid release
    report `ReleasePlayers(t, ps)` - at any time, for all or part of the players on the way back
    from `t`, whether `t` still exists or not -
    * names players on the way back from `t`, who all enter the waiting queue in this operation
      (`reported` = `incoming` = `ps`), and `rest` is exactly who stays on the way from `t`;
    * obeys the C09 ledger: queue before ++ `ps` = handed out by the callbacks of this operation
      ++ queue after, in order;
    * so every reported player is, after the operation, in the waiting queue or was handed to a
      table by a callback of this very operation - and then sits at that table; if `t` does not
      exist (it was broken), that table is ANOTHER table: the id of a broken table is never used
      again. -/
theorem reported_are_requeued_async {s : ASys} (h : AReachable s) (t : Nat) (ps rest ch : List Nat)
    (hok : s.ok (.report t ps rest ch)) :
    (ASys.reported (.report t ps rest ch) = ps ∧ s.incoming (.report t ps rest ch) = ps ∧
      (s.flyingOf t).Perm (ps ++ rest) ∧ ((s.step (.report t ps rest ch)).flyingOf t).Perm rest) ∧
    s.r.queue ++ ps = handed (s.step (.report t ps rest ch)).r.calls ++ (s.step (.report t ps rest ch)).r.queue ∧
    (∀ p ∈ ps,
      (p ∈ (s.step (.report t ps rest ch)).r.queue ∨ p ∈ handed (s.step (.report t ps rest ch)).r.calls) ∧
      (p ∈ (s.step (.report t ps rest ch)).r.queue ∨
        ∃ e ∈ (s.step (.report t ps rest ch)).env.members, p ∈ e.2 ∧ (s.env.membersOf t = none → e.1 ≠ t))) :=
  reported_are_requeued_async_inv (AInv.of_reachable h) (IdsIssued.of_reachable h) t ps rest ch hok

/-- **break_returns_all**, asynchronous, the whole sentence along a history.  A valid sync breaks
    table `t`; ANY valid script `ops` follows (registrations, status changes, syncs of other
    tables, reports of other tables and partial reports of `t`); then a report of `t` arrives.
    Every player it names enters the waiting queue or is handed to a table in that operation, and
    that table is another table: `t` no longer exists and never exists again. -/
theorem broken_table_players_requeued_async {s : ASys} (h : AReachable s) (t : Nat)
    (elim stay rel keep ms : List Nat) (hm : s.env.membersOf t = some ms)
    (hok : s.ok (.sync t elim stay rel keep)) (hb : s.broken t elim = true)
    (ops : List AOp) (hops : (s.step (.sync t elim stay rel keep)).allOk ops)
    (ps rest ch : List Nat) (hokr : ((s.step (.sync t elim stay rel keep)).run ops).ok (.report t ps rest ch)) :
    ((s.step (.sync t elim stay rel keep)).run ops).env.membersOf t = none ∧
    ∀ p ∈ ps,
      (p ∈ (((s.step (.sync t elim stay rel keep)).run ops).step (.report t ps rest ch)).r.queue ∨
        p ∈ handed (((s.step (.sync t elim stay rel keep)).run ops).step (.report t ps rest ch)).r.calls) ∧
      (p ∈ (((s.step (.sync t elim stay rel keep)).run ops).step (.report t ps rest ch)).r.queue ∨
        ∃ e ∈ (((s.step (.sync t elim stay rel keep)).run ops).step (.report t ps rest ch)).env.members,
          e.1 ≠ t ∧ p ∈ e.2) := by
  have hS := AInv.of_reachable h
  exact broken_table_players_requeued_inv hS (IdsIssued.of_reachable h) t elim stay rel keep ms hm (hS.okRe_of_ok hok) hb
    ops ((hS.step_full _ hok).1.allOkRe_of_allOk hops) ps rest ch hokr

theorem moves_are_directed_async_inv {s : ASys} (hS : AInv s) (t : Nat) (ms elim stay : List Nat)
    (hm : s.env.membersOf t = some ms) (hp : ms.Perm (elim ++ stay)) :
    (s.broken t elim = false → 0 < (s.syncAnswer t elim).2.2.1 →
        (s.env.alive.length : Int) - elim.length <
          stay.length * ceilDiv ((s.env.alive.length : Int) - elim.length) s.r.max ∧
        ((s.env.alive.length : Int) - elim.length) / ceilDiv ((s.env.alive.length : Int) - elim.length) s.r.max ≤
          stay.length - (s.syncAnswer t elim).2.2.1) ∧
    ((s.syncAnswer t elim).2.2.2 ≠ [] →
        stay.length * ceilDiv ((s.env.alive.length : Int) - elim.length) s.r.max <
          (s.env.alive.length : Int) - elim.length ∧
        (stay.length : Int) + ((s.syncAnswer t elim).2.2.2.length : Int) ≤
          ((s.env.alive.length : Int) - elim.length) / ceilDiv ((s.env.alive.length : Int) - elim.length) s.r.max ∧
        (s.syncAnswer t elim).2.2.1 = 0) := by
  obtain ⟨r1, relc, nw, t0, ⟨hft, hc0, hans, _, _, _⟩⟩ := hS.sync_known t elim stay ms hm hp
  have hlen := hp.length_eq
  rw [List.length_append] at hlen
  have hd := syncState_directed s.r t elim.length t0 hft
  have hsa : s.r.syncState t elim.length = s.syncAnswer t elim := rfl
  rw [hsa, hS.pc] at hd
  have hcount : t0.count - (elim.length : Int) = stay.length := by omega
  rw [hcount] at hd
  refine ⟨fun hnb hpos => hd.1 ?_ hpos, hd.2⟩
  intro hnone
  have : s.broken t elim = true := by
    simp only [broken, hnone]
    rfl
  rw [this] at hnb
  cases hnb

/-- **moves_are_directed**, asynchronous (WIDEST domain), in REAL quantities.  A table `t` with
    members `≈ elim ++ stay` syncs while any number of players are on the way back.  The water
    level the regulator uses is computed from ALL players alive after the eliminations - seated,
    queued or on the way back: `N = |alive| − |elim|`, `R = ⌈N / max⌉` tables needed.
    * if the table is not broken and told to release `k > 0` players, it is strictly above the
      water level (`N < |stay|·R`) and stays at or above its floor (`⌊N/R⌋ ≤ |stay| − k`);
    * if it receives players from the queue, it is strictly below the water level, ends at or below
      the floor (`|stay| + |new| ≤ ⌊N/R⌋`), and is told to release nobody. -/
theorem moves_are_directed_async {s : ASys} (h : AReachable s) (t : Nat) (ms elim stay : List Nat)
    (hm : s.env.membersOf t = some ms) (hp : ms.Perm (elim ++ stay)) :
    (s.broken t elim = false → 0 < (s.syncAnswer t elim).2.2.1 →
        (s.env.alive.length : Int) - elim.length <
          stay.length * ceilDiv ((s.env.alive.length : Int) - elim.length) s.r.max ∧
        ((s.env.alive.length : Int) - elim.length) / ceilDiv ((s.env.alive.length : Int) - elim.length) s.r.max ≤
          stay.length - (s.syncAnswer t elim).2.2.1) ∧
    ((s.syncAnswer t elim).2.2.2 ≠ [] →
        stay.length * ceilDiv ((s.env.alive.length : Int) - elim.length) s.r.max <
          (s.env.alive.length : Int) - elim.length ∧
        (stay.length : Int) + ((s.syncAnswer t elim).2.2.2.length : Int) ≤
          ((s.env.alive.length : Int) - elim.length) / ceilDiv ((s.env.alive.length : Int) - elim.length) s.r.max ∧
        (s.syncAnswer t elim).2.2.1 = 0) :=
  moves_are_directed_async_inv (AInv.of_reachable h) t ms elim stay hm hp

/-- **dispatch_is_directed**, asynchronous.  (1) A sync makes NO callback in the asynchronous
    system (WIDEST domain): players are sent to tables only by the queue-draining operations
    (`AddPlayers`, `SetStatus`, and `ReleasePlayers` whenever it arrives).  (2) There, every
    `assignPlayersFn` callback is made by `dispatchPlayer`, which picks a table with
    `Required > 0` and hands it a prefix of the candidates no longer than that `Required` - the
    regulator-level statement of `dispatch_is_directed`, which holds for ANY regulator state and so
    whoever is on the way. -/
theorem dispatch_is_directed_async :
    (∀ {s : ASys}, AReachable s → ∀ (t : Nat) (elim stay rel keep : List Nat),
      s.ok (.sync t elim stay rel keep) → (s.step (.sync t elim stay rel keep)).r.calls = []) ∧
    (∀ {r r' : Reg} {cands rest : List Nat}, r.dispatchPlayer cands = some (rest, r') → r'.badChoice = false →
      ∃ tb ∈ r.tables, 0 < tb.required ∧ ∃ picked, r'.calls = r.calls ++ [RCall.assign tb.id picked] ∧
        (picked.length : Int) ≤ tb.required ∧ cands = picked ++ rest) := by
  exact ⟨fun _ t elim stay rel keep _ => (ASys.sync_quiet _ t elim stay rel keep).1,
    fun h hb => dispatchPlayer_directed h hb⟩

/-- distance between the number of tables and the number needed, `|T − R|`: the first component
    `Reg.mu1` of the lexicographic measure and `dTR + dRT` of the potential, under a name of the
    property -/
def tableGap (r : Reg) : Nat := (r.tableCount - r.requiredTables).natAbs

/-- **table_count_monotone**, asynchronous (ANY state with `max > 0`; no validity needed).
    * an elimination-free sync, whoever is on the way: the number of tables needed `R` does not
      change; the number of tables `T` stays or drops by one, and drops only if `R < T` (a break);
    * a report, at any time, for anybody: `R` does not change, `T` never drops and never rises
      above `max T R` (tables are opened only while `T < R`).
    Late reports decouple the two halves of `table_count_monotone`; each half holds on its own. -/
theorem table_count_monotone_async (s : ASys) (hmax : 0 < s.r.max) :
    (∀ (t : Nat) (stay rel keep : List Nat),
      (s.step (.sync t [] stay rel keep)).r.requiredTables = s.r.requiredTables ∧
      (s.step (.sync t [] stay rel keep)).r.max = s.r.max ∧
      ((s.step (.sync t [] stay rel keep)).r.tableCount = s.r.tableCount ∨
        ((s.step (.sync t [] stay rel keep)).r.tableCount = s.r.tableCount - 1 ∧
          s.r.requiredTables < s.r.tableCount))) ∧
    (∀ (t : Nat) (ps rest ch : List Nat),
      (s.step (.report t ps rest ch)).r.requiredTables = s.r.requiredTables ∧
      (s.step (.report t ps rest ch)).r.max = s.r.max ∧
      s.r.tableCount ≤ (s.step (.report t ps rest ch)).r.tableCount ∧
      ((s.step (.report t ps rest ch)).r.tableCount = s.r.tableCount ∨
        (s.step (.report t ps rest ch)).r.tableCount ≤ s.r.requiredTables)) := by
  constructor
  · intro t stay rel keep
    rw [step_sync_r]
    obtain ⟨h1, h2⟩ := syncState_zero_tc s.r t
    exact ⟨h1.req, h1.max, h2⟩
  · intro t ps rest ch
    obtain ⟨h1, h2, h3⟩ := releasePlayers_tc s.r ps ch hmax
    exact ⟨h1.req, h1.max, h2, h3⟩

/-- hence along ANY script of elimination-free syncs and reports - in any order, valid or not - the
    number of tables needed never changes and `|T − R|` never increases -/
theorem table_count_monotone_async_run : ∀ (ops : List AOp) (s : ASys), 0 < s.r.max →
    (∀ op ∈ ops, quietOp op = true) →
    (s.run ops).r.requiredTables = s.r.requiredTables ∧ (s.run ops).r.max = s.r.max ∧
    tableGap (s.run ops).r ≤ tableGap s.r := by
  intro ops
  induction ops with
  | nil =>
    intro s _ _
    exact ⟨rfl, rfl, Nat.le_refl _⟩
  | cons op ops ih =>
    intro s hmax hq
    have hqo := hq op (List.mem_cons_self ..)
    have hstep : (s.step op).r.requiredTables = s.r.requiredTables ∧ (s.step op).r.max = s.r.max ∧
        tableGap (s.step op).r ≤ tableGap s.r := by
      obtain ⟨hs, hr⟩ := table_count_monotone_async s hmax
      rcases quietOp_cases hqo with ⟨t, stay, rel, keep, rfl⟩ | ⟨t, ps, rest, ch, rfl⟩
      · obtain ⟨a, b, c⟩ := hs t stay rel keep
        refine ⟨a, b, ?_⟩
        unfold tableGap
        rw [a]
        omega
      · obtain ⟨a, b, c, d⟩ := hr t ps rest ch
        refine ⟨a, b, ?_⟩
        unfold tableGap
        rw [a]
        omega
    obtain ⟨a, b, c⟩ := hstep
    obtain ⟨a', b', c'⟩ := ih (s.step op) (by rw [b]; exact hmax) (fun o ho => hq o (List.mem_cons_of_mem _ ho))
    exact ⟨a'.trans a, b'.trans b, Nat.le_trans c' c⟩

/-- settled, asynchronously: nobody is on the way back, and no table is asked to release, receive
    or break (the synchronous `Settled` of the state with the empty `inflight` forgotten) -/
def ASettled (s : ASys) : Prop := s.inflight = [] ∧ Settled s.toRSys

/-- `ASettled` says exactly: nobody is on the way and no elimination-free sync asks for anything
    (`ASys.asks`: release count ≠ 0, or new players, or the table is broken). -/
theorem settled_iff_async (s : ASys) :
    ASettled s ↔ s.inflight = [] ∧ ∀ t stay rel keep, s.asks (.sync t [] stay rel keep) = false := by
  unfold ASettled
  rw [settled_iff]
  constructor
  · rintro ⟨h1, h2⟩
    exact ⟨h1, fun t stay rel keep => h2 t stay rel keep []⟩
  · rintro ⟨h1, h2⟩
    exact ⟨h1, fun t stay rel keep _ => h2 t stay rel keep⟩

theorem settled_persists_async_inv {s : ASys} (hF : AInvF s) (hs : ASettled s)
    (t : Nat) (stay rel keep : List Nat) (hok : s.okFwd (.sync t [] stay rel keep)) :
    s.asks (.sync t [] stay rel keep) = false ∧
    s.departing (.sync t [] stay rel keep) = [] ∧ ASettled (s.step (.sync t [] stay rel keep)) := by
  have hna := ((settled_iff_async s).1 hs).2 t stay rel keep
  obtain ⟨hfr, hids, hdep, hinf⟩ := noask_step hF.a t stay rel keep hok hna
  exact ⟨hna, hdep, hinf.trans hs.1,
    settled_of_frame (s := s.toRSys) (s' := (s.step (.sync t [] stay rel keep)).toRSys) hfr hids hs.2⟩

/-- **settled_persists**, asynchronous, syncs: from a settled state every valid elimination-free
    sync of any table asks for nothing - so nobody leaves, nobody gets on the way - and leaves a
    settled state. -/
theorem settled_persists_async {s : ASys} (h : AReachableFwd s) (hs : ASettled s)
    (t : Nat) (stay rel keep : List Nat) (hok : s.okFwd (.sync t [] stay rel keep)) :
    s.asks (.sync t [] stay rel keep) = false ∧
    s.departing (.sync t [] stay rel keep) = [] ∧ ASettled (s.step (.sync t [] stay rel keep)) :=
  settled_persists_async_inv (AInvF.of_reachable h) hs t stay rel keep hok

/-- **settled_persists**, asynchronous, reports: in a settled state nobody is on the way, so the only
    valid report is a report of NOBODY (`ReleasePlayers(t, [])`, any table id).  If moreover nothing
    is queued it changes nothing but the scratch fields of the model (`calls`, `choices`,
    `badChoice`), and the state stays settled.  With a non-empty queue this is FALSE:
    `settled_report_of_nobody_moves`. -/
theorem settled_report_of_nobody {s : ASys} (hs : ASettled s) (t : Nat) (ps rest ch : List Nat)
    (hok : s.ok (.report t ps rest ch)) :
    ps = [] ∧ rest = [] ∧
    (s.r.queue = [] →
      s.step (.report t ps rest ch) = { r := s.r.beginOp ch, env := s.env, inflight := [] } ∧
      ASettled (s.step (.report t ps rest ch))) := by
  obtain ⟨hp0, hr0, hstep⟩ := report_of_nobody hs.1 t ps rest ch hok
  refine ⟨hp0, hr0, fun hq0 => ⟨hstep hq0, ?_⟩⟩
  rw [hstep hq0]
  exact ⟨rfl, hs.2⟩

/-! ## the liveness sentence with late reports

  `ASys.potentialA s = Reg.phi s.r + [somebody is on the way back]`, with `Reg.phi` the potential
  of the synchronous small bound (`2·psi + D + [queue ≠ ∅]`, Proofs/RegSweepDefs.lean).

  PROVED, for every state of the forward-only domain and WHOEVER is on the way:
    * `sync_never_raises_potential_async`  - an elimination-free sync never raises the potential
      and lowers it when it asks its table to release, receive or break;
    * `report_raises_potential_by_late_cost_async` - a report raises it by at most its `lateCost`:
      by nothing, unless it arrives in a CALM state (exactly the tables needed, every table
      covered by its `Required`) carrying more players than the outstanding `Required`s can take -
      then `updateTableRequirements` hands out fresh `Required`s and the potential may rise by up to
      `2·tables` - or leaves players queued while others are still on the way (`+1`);
    * `rebalancing_settles_async_partial` - hence along EVERY valid script of elimination-free syncs
      and reports (any interleaving, reports arbitrarily late and in parts) the number of asking
      syncs is at most `potentialA s + lateCostSum`, and `potentialA s ≤ small_bound + 1`;
    * `quiet_round_settled_async`, `rebalancing_reaches_settled_async_partial` - a round that
      starts with nobody on the way, covers every table and asks for nothing starts in a settled
      state; among more than `potentialA s + lateCostSum` rounds there is one.
  NOT PROVED: `rebalancing_settles_async_full` - that the late costs can be dropped, i.e. that at
  most `small_bound s + 1` syncs ask for anything, however late the reports.  `Reg.phi` is NOT
  monotone across a report that arrives in a calm state (`potential_rises_at_report`, kernel-checked
  and replayed on the Go code, in a run WITHOUT eliminations from a state with nobody on the way):
  the synchronous proof pays the fresh `Required`s of that report with the slack the preceding
  BREAK left (`psi1 + 2 ≤ psi`) and never looks at the state between the break and its report;
  with late reports any number of syncs may happen there.
  Evidence that the full claim is true (outside the kernel, `tools/c20a/Explore.lean.txt`): an
  exhaustive search of ALL interleavings of elimination-free syncs and reports (reports in parts
  included) from 4·10⁴ reachable states with nobody on the way (max 2..7, up to 30 players) found
  no run with more asking syncs than `Reg.phi` of its start, no sync that raised the potential,
  and the potential rising ONLY at reports of players of BROKEN tables.  A potential that banks
  the slack of a break until the report of its players arrives would close the gap.  Cashing the
  calm bonus later does not do it: only when the queue and the players on the way fit into the
  outstanding `Required`s fails at a sync that lowers a stale `Required`; only when they fit into
  the deficits, at a partial report; only when nobody is on the way, at a release in a calm state
  (runs in the same exploration). -/

def potential_async (s : ASys) : Nat := ASys.potentialA s

/-- what the reports of a script may add to the potential: `ASys.lateCostSum`, the sum of the
    `ASys.lateCost` of its operations -/
def late_cost (s : ASys) (ops : List AOp) : Nat := ASys.lateCostSum s ops

/-- **syncs never raise the potential, whoever is on the way** (forward-only domain): every valid
    elimination-free sync keeps `potential_async` from rising and lowers it by at least one when
    it asks its table to release, receive or break. -/
theorem sync_never_raises_potential_async {s : ASys} (h : AReachableFwd s) (t : Nat)
    (stay rel keep : List Nat) (hok : s.okFwd (.sync t [] stay rel keep)) :
    potential_async (s.step (.sync t [] stay rel keep)) ≤ potential_async s ∧
    (s.asks (.sync t [] stay rel keep) = true →
      potential_async (s.step (.sync t [] stay rel keep)) + 1 ≤ potential_async s) :=
  sync_step_phi (AInvF.of_reachable h) t stay rel keep (ok_of_okFwd hok)

/-- **a report raises the potential by at most its late cost**, and the late cost is `0` unless the
    report `overflows` (calm state, `|queue| + |ps| >` the sum of the outstanding `Required`s:
    cost `2·tables`) or `strands` players (the queue was empty, is not afterwards, and somebody is
    still on the way: cost `1`). -/
theorem report_raises_potential_by_late_cost_async {s : ASys} (h : AReachableFwd s) (t : Nat)
    (ps rest ch : List Nat) (hok : s.okFwd (.report t ps rest ch)) :
    potential_async (s.step (.report t ps rest ch)) ≤ potential_async s + ASys.lateCost s (.report t ps rest ch) ∧
    ASys.lateCost s (.report t ps rest ch) =
      (if ASys.overflows s ps then 2 * s.r.tables.length else 0) +
        (if ASys.strands s (.report t ps rest ch) then 1 else 0) :=
  ⟨report_step_phi (AInvF.of_reachable h) t ps rest ch (ok_of_okFwd hok), rfl⟩

/-- the potential is at most the synchronous small bound of its regulator (`Reg.smallBound s.r`)
    plus one -/
theorem potential_async_le {s : ASys} (h : AReachableFwd s) :
    potential_async s ≤ Reg.smallBound s.r + 1 := potentialA_le (AInvF.of_reachable h)

/-- the FULL claim (open): from every reachable state, along every valid script of elimination-free
    syncs and reports, at most `small_bound + 1` syncs ask for anything - however late and in
    however many parts the reports arrive. -/
def rebalancing_settles_async_full : Prop :=
  ∀ s : ASys, AReachableFwd s → ∀ ops : List AOp,
    (∀ op ∈ ops, quietOp op = true) → s.allOkFwd ops → s.askCount ops ≤ Reg.smallBound s.r + 1

theorem settles_async_partial_inv {s : ASys} (hF : AInvF s) (ops : List AOp)
    (hq : ∀ op ∈ ops, quietOp op = true) (hok : s.allOkFwd ops) :
    s.askCount ops ≤ potential_async s + late_cost s ops ∧
    s.askCount ops ≤ Reg.smallBound s.r + 1 + late_cost s ops := by
  have h1 := askCount_le_phiA ops s hF hq hok
  have h2 := potentialA_le hF
  unfold potential_async late_cost at *
  exact ⟨by omega, by omega⟩

/-- **rebalancing_settles with late reports, partial**.  From every state of the forward-only domain
    - with anybody on the way -, along EVERY valid script of elimination-free syncs and reports:
    any order of tables, a table may sync again before its report, reports at any later time and
    in parts, any choice of who leaves, any dispatch choices.  The number of syncs that ask their
    table to release, receive or break is at most the potential at the start plus the late costs
    of the reports of the script; the potential is at most `small_bound + 1`.  What is missing
    for `rebalancing_settles_async_full` is a bound on `late_cost` that does not depend on the
    script. -/
theorem rebalancing_settles_async_partial {s : ASys} (h : AReachableFwd s) (ops : List AOp)
    (hq : ∀ op ∈ ops, quietOp op = true) (hok : s.allOkFwd ops) :
    s.askCount ops ≤ potential_async s + late_cost s ops ∧
    s.askCount ops ≤ Reg.smallBound s.r + 1 + late_cost s ops :=
  settles_async_partial_inv (AInvF.of_reachable h) ops hq hok

/-- the full claim holds for every script whose reports cost nothing: no report arrives in a calm
    state with more players than the outstanding `Required`s can take, none strands players -/
theorem rebalancing_settles_async_costless {s : ASys} (h : AReachableFwd s) (ops : List AOp)
    (hq : ∀ op ∈ ops, quietOp op = true) (hok : s.allOkFwd ops) (h0 : late_cost s ops = 0) :
    s.askCount ops ≤ Reg.smallBound s.r + 1 := by
  have := (rebalancing_settles_async_partial h ops hq hok).2
  omega

theorem quiet_round_settled_async_inv {s : ASys} (hF : AInvF s) (hf : s.inflight = []) (ops : List AOp)
    (hq : ∀ op ∈ ops, quietOp op = true) (hok : s.allOkFwd ops) (h0 : s.askCount ops = 0)
    (hrep : s.r.queue = [] ∨ ∀ t ps rest ch, AOp.report t ps rest ch ∈ ops → ps ≠ [])
    (hcover : ∀ t ms, s.env.membersOf t = some ms → ∃ stay rel keep, AOp.sync t [] stay rel keep ∈ ops) :
    ASettled s := by
  refine ⟨hf, (settled_iff_answer0 s.toRSys).2 fun t ht => ?_⟩
  obtain ⟨ms, hm⟩ := Option.isSome_iff_exists.1 ht
  exact noask_script_answers_async ops s hF hf hq hok h0 hrep t (hcover t ms hm) ht

/-- a whole round that starts with nobody on the way, syncs every existing table at least once,
    asks nobody anything and contains no spurious report (every report names somebody - or nothing
    is queued) starts, and by `settled_persists_async` ends, in a settled state -/
theorem quiet_round_settled_async {s : ASys} (h : AReachableFwd s) (hf : s.inflight = []) (ops : List AOp)
    (hq : ∀ op ∈ ops, quietOp op = true) (hok : s.allOkFwd ops) (h0 : s.askCount ops = 0)
    (hrep : s.r.queue = [] ∨ ∀ t ps rest ch, AOp.report t ps rest ch ∈ ops → ps ≠ [])
    (hcover : ∀ t ms, s.env.membersOf t = some ms → ∃ stay rel keep, AOp.sync t [] stay rel keep ∈ ops) :
    ASettled s :=
  quiet_round_settled_async_inv (AInvF.of_reachable h) hf ops hq hok h0 hrep hcover

theorem reaches_settled_async_inv {s : ASys} (hF : AInvF s) (rounds : List (List AOp))
    (hq : ∀ sw ∈ rounds, ∀ op ∈ sw, quietOp op = true) (hok : s.allOkFwd rounds.flatten)
    (hcover : ∀ pre sw post, rounds = pre ++ sw :: post → ∀ t ms,
      (s.run pre.flatten).env.membersOf t = some ms → ∃ stay rel keep, AOp.sync t [] stay rel keep ∈ sw)
    (hfair : ∀ pre sw post, rounds = pre ++ sw :: post → (s.run pre.flatten).inflight = [])
    (hrep : ∀ sw ∈ rounds, ∀ t ps rest ch, AOp.report t ps rest ch ∈ sw → ps ≠ [])
    (hlen : potential_async s + late_cost s rounds.flatten < rounds.length) :
    ∃ pre sw post, rounds = pre ++ sw :: post ∧ ASettled (s.run pre.flatten) := by
  have hb := (settles_async_partial_inv hF rounds.flatten (List.forall_mem_flatten.2 hq) hok).1
  obtain ⟨pre, sw, post, he, h0, hok1, hok2⟩ :=
    exists_zero_block run_append (fun _ => rfl) askCount_append allOkFwd_append (fun _ => trivial) rounds s hok
      (by omega)
  have hsw : sw ∈ rounds := by
    rw [he]
    simp
  exact ⟨pre, sw, post, he, quiet_round_settled_async_inv (hF.run hok1) (hfair pre sw post he) sw
    (fun op hop => hq sw hsw op hop) hok2 h0 (Or.inr (hrep sw hsw)) (hcover pre sw post he)⟩

/-- **rebalancing reaches a settled state, partial**: take any valid sequence of rounds from a state
    of the forward-only domain; each round is a list of elimination-free syncs and reports that
    syncs every table existing at its start (any order, a table possibly several times) and by its
    end has delivered every report (fairness: every round STARTS with nobody on the way; inside a
    round the reports may come at any point after their sync, also after the table's next sync, and
    in parts); no report of nobody is made.  If there are more rounds than the potential at the
    start plus the late costs of the whole run, one of the rounds starts in a settled state. -/
theorem rebalancing_reaches_settled_async_partial {s : ASys} (h : AReachableFwd s) (rounds : List (List AOp))
    (hq : ∀ sw ∈ rounds, ∀ op ∈ sw, quietOp op = true) (hok : s.allOkFwd rounds.flatten)
    (hcover : ∀ pre sw post, rounds = pre ++ sw :: post → ∀ t ms,
      (s.run pre.flatten).env.membersOf t = some ms → ∃ stay rel keep, AOp.sync t [] stay rel keep ∈ sw)
    (hfair : ∀ pre sw post, rounds = pre ++ sw :: post → (s.run pre.flatten).inflight = [])
    (hrep : ∀ sw ∈ rounds, ∀ t ps rest ch, AOp.report t ps rest ch ∈ sw → ps ≠ [])
    (hlen : potential_async s + late_cost s rounds.flatten < rounds.length) :
    ∃ pre sw post, rounds = pre ++ sw :: post ∧ ASettled (s.run pre.flatten) :=
  reaches_settled_async_inv (AInvF.of_reachable h) rounds hq hok hcover hfair hrep hlen

/-- the synchronous discipline "report at once" seen from the asynchronous system.  For a
    synchronous history (`RSys.Reachable s`) and a valid elimination-free synchronous script, the
    states before and after are states of the asynchronous forward-only domain (the asynchronous
    script that follows every sync AT ONCE by the report of everybody it released reaches them,
    `C09.sync_then_report_eq_rsys_step`), and at most `small_bound s` syncs of the SYNCHRONOUS script
    ask for anything (`rebalancing_settles_small_syncs`).  The count is that of `RSys.askCount`; the
    asking syncs of the asynchronous script are not counted here. -/
theorem rebalancing_settles_prompt_async {s : RSys} (h : RSys.Reachable s) (ops : List EOp)
    (hq : ∀ op ∈ ops, RSys.quietOp op = true) (hok : s.allOk ops) :
    AReachableFwd (ASys.ofRSys s) ∧ AReachableFwd (ASys.ofRSys (s.run ops)) ∧ s.askCount ops ≤ small_bound s :=
  ⟨AReachableFwd.ofRSys h, AReachableFwd.ofRSys (h.run ops hok), rebalancing_settles_small_syncs h ops hq hok⟩

/-! ## non-vacuity and witnesses: histories with LATE reports -/

/-- a decidable test for `ASettled`: nobody on the way, and every existing table is asked nothing -/
theorem asettled_of_check {s : ASys} (hf : s.inflight = [])
    (hc : ∀ e ∈ s.env.members, answer0 s.r e.1 = (0, [], false)) : ASettled s :=
  ⟨hf, (settled_iff_answer0 s.toRSys).2 fun t ht =>
    have ⟨ms, hm⟩ := Option.isSome_iff_exists.1 ht
    hc (t, ms) (Env.mem_members_of_membersOf hm)⟩

private def rg (n k : Nat) : List Nat := (List.range k).map (· + n)

/-- `brk` (9/6): twelve registrants, two tables of six; four eliminations at table 1 leave 8 players,
    one table suffices: table 1 is BROKEN, players 5 and 6 are on the way back.  Table 2 syncs
    before their report (it is below the level now and is promised two players); only then
    `ReleasePlayers(1, [5, 6])` arrives, for a table that no longer exists: both are handed to
    table 2. -/
def brk : List AOp :=
  [.add (rg 1 12) [], .status .normal [],
   .sync 1 [1,2,3,4] [5,6] [5,6] [],
   .sync 2 [] (rg 7 6) [] (rg 7 6),
   .report 1 [5,6] [] [2]]

example : AReachableFwd ((ASys.init 9 6).run brk) :=
  (AReachableFwd.init 9 6 (by decide +kernel)).run brk (by decide +kernel)
/-- hypotheses of `break_returns_all_async` -/
example : ((ASys.init 9 6).run (brk.take 2)).env.membersOf 1 = some [1,2,3,4,5,6] := by decide +kernel
example : ((ASys.init 9 6).run (brk.take 2)).broken 1 [1,2,3,4] = true := by decide +kernel
example : ((ASys.init 9 6).run (brk.take 3)).inflight = [(1, [5,6])] := by decide +kernel
example : ((ASys.init 9 6).run (brk.take 3)).env.members = [(2, rg 7 6)] := by decide +kernel
/-- the sync of the other table in between: it is asked nothing, but now waits for two players -/
example : ((ASys.init 9 6).run (brk.take 4)).r.tables = [{ id := 2, required := 2, count := 6 }] := by decide +kernel
/-- the late report (hypotheses of `reported_are_requeued_async`,
    `broken_table_players_requeued_async` with `ops` = the sync of table 2) -/
example : ((ASys.init 9 6).run (brk.take 4)).env.membersOf 1 = none := by decide +kernel
example : ((ASys.init 9 6).run brk).r.calls = [.assign 2 [5, 6]] := by decide +kernel
example : ((ASys.init 9 6).run brk).env.members = [(2, [7,8,9,10,11,12,5,6])] := by decide +kernel

/-- `lateRun` (9/6): 27 registrants, tables of nine; six eliminations at table 1 (3/9/9, level 7).
    Table 2 is told to release two (10, 11 leave), table 3 - with two players already on the way -
    is told to release two as well (19, 20 leave); table 1 syncs (nothing in the queue yet);
    table 3's report arrives; table 2 syncs AGAIN before its own report; table 2's report arrives.
    7/7/7, settled. -/
def lateRun : List AOp :=
  [.add (rg 1 27) [], .status .normal [], .sync 1 [1,2,3,4,5,6] [7,8,9] [] [7,8,9],
   .sync 2 [] (rg 10 9) [10,11] (rg 12 7),
   .sync 3 [] (rg 19 9) [19,20] (rg 21 7),
   .sync 1 [] [7,8,9] [] [7,8,9],
   .report 3 [19,20] [] [1],
   .sync 2 [] (rg 12 7) [] (rg 12 7),
   .report 2 [10,11] [] [1]]

example : AReachableFwd ((ASys.init 9 6).run lateRun) :=
  (AReachableFwd.init 9 6 (by decide +kernel)).run lateRun (by decide +kernel)
/-- `moves_are_directed_async`, first half, with players on the way: table 3 (nine players, level 7,
    21 alive of whom two sit nowhere) is told to release two -/
example : ((ASys.init 9 6).run (lateRun.take 4)).inflight = [(2, [10,11])] := by decide +kernel
example : (((ASys.init 9 6).run (lateRun.take 4)).syncAnswer 3 []).2.2.1 = 2 := by decide +kernel
example : ((ASys.init 9 6).run (lateRun.take 4)).env.alive.length = 21 := by decide +kernel
/-- the rebalancing phase `lateRun.drop 3` (hypotheses of `rebalancing_settles_async_partial`): two
    syncs ask, the potential is 9 at its start, the reports cost nothing; the potential along the
    run: 9, 6, 2, 2, 2, 2, 0 -/
example : ∀ op ∈ lateRun.drop 3, quietOp op = true := by decide +kernel
example : ((ASys.init 9 6).run (lateRun.take 3)).allOkFwd (lateRun.drop 3) := by decide +kernel
example : ((ASys.init 9 6).run (lateRun.take 3)).askCount (lateRun.drop 3) = 2 := by decide +kernel
example : potential_async ((ASys.init 9 6).run (lateRun.take 3)) = 9 := by decide +kernel
example : late_cost ((ASys.init 9 6).run (lateRun.take 3)) (lateRun.drop 3) = 0 := by decide +kernel
example : (List.range 7).map (fun i => potential_async ((ASys.init 9 6).run (lateRun.take (3 + i)))) =
    [9, 6, 2, 2, 2, 2, 0] := by decide +kernel
/-- the end of the run is settled (hypotheses of `settled_persists_async`, `settled_report_of_nobody`) -/
example : ((ASys.init 9 6).run lateRun).env.members =
    [(1, [7,8,9,19,20,10,11]), (2, rg 12 7), (3, rg 21 7)] := by decide +kernel
example : ASettled ((ASys.init 9 6).run lateRun) := asettled_of_check (by decide +kernel) (by decide +kernel)
example : ((ASys.init 9 6).run lateRun).okFwd (.sync 2 [] (rg 12 7) [] (rg 12 7)) := by decide +kernel
example : ((ASys.init 9 6).run lateRun).r.queue = [] := by decide +kernel
/-- a round with nobody on the way at its start, covering all three tables, asking nothing
    (hypotheses of `quiet_round_settled_async`) -/
example : ((ASys.init 9 6).run lateRun).askCount
    [.sync 1 [] [7,8,9,19,20,10,11] [] [7,8,9,19,20,10,11], .sync 2 [] (rg 12 7) [] (rg 12 7),
     .sync 3 [] (rg 21 7) [] (rg 21 7)] = 0 := by decide +kernel
/-- `table_count_monotone_async_run`: the break of `brk` is the only change of the table count -/
example : tableGap ((ASys.init 9 6).run (brk.take 2)).r = 0 ∧
    ((ASys.init 9 6).run (brk.take 2)).r.max = 9 := by decide +kernel

/-- **settled_report_of_nobody_moves** (witness): "a report of nobody changes nothing in a settled
    state" is FALSE when players are queued.  At max 2, min 1: seven registrants, start (tables
    1/2/2/2), two more registrants: 8 opens table 5, 9 stays queued although table 1 has a free seat
    (`allocateTables` opens a table for one player and stops; `updateTableRequirements` did not run
    because a table was missing).  The state is settled - no table is asked anything - with 9 in the
    queue.  A spurious `ReleasePlayers(0, [])` then drains the queue: 9 is handed to table 1.
    Go level: `AddPlayers(1..7); SetStatus(Normal); AddPlayers(8,9); ReleasePlayers("0", nil)`. -/
def emptyRun : List AOp := [.add (rg 1 7) [], .status .normal [], .add [8,9] []]

theorem settled_report_of_nobody_moves :
    AReachableFwd ((ASys.init 2 1).run emptyRun) ∧ ASettled ((ASys.init 2 1).run emptyRun) ∧
    ((ASys.init 2 1).run emptyRun).r.queue = [9] ∧
    ((ASys.init 2 1).run emptyRun).okFwd (.report 0 [] [] [1]) ∧
    (((ASys.init 2 1).run emptyRun).step (.report 0 [] [] [1])).r.calls = [.assign 1 [9]] ∧
    (((ASys.init 2 1).run emptyRun).step (.report 0 [] [] [1])).r.queue = [] :=
  ⟨(AReachableFwd.init 2 1 (by decide +kernel)).run emptyRun (by decide +kernel),
   asettled_of_check (by decide +kernel) (by decide +kernel), by decide +kernel⟩

/-- **potential_rises_at_report** (witness): the potential is NOT monotone across a report.
    At max 5, min 1: 17 registrants (tables 4/4/4/5); table 3 loses all four players, table 4 loses
    two; 18, 19 register and go to table 3.  Now 13 players sit 4/4/2/3 at four tables, three would
    do, nobody is on the way, nothing is queued (potential 12).  The rebalancing phase, no
    eliminations: table 4 syncs and is BROKEN - 15, 16, 17 are on the way back, the potential falls to
    2: three tables 4/4/2 with `Required` 0/0/2 are exactly the tables needed and each is covered, a
    calm state - and then their report arrives, AT ONCE: three players for two outstanding seats,
    `updateTableRequirements` hands out fresh `Required`s, the potential RISES to 6 (`lateCost = 6`).
    The synchronous proof never looks at the state between the break and its report; with late
    reports any number of syncs may happen there.  One sync asked; `1 ≤ 12`: the count of asking
    syncs is nowhere near violated.
    Go level: `AddPlayers(1..17); SetStatus(Normal); SyncState(3, out=4); SyncState(4, out=2);
    AddPlayers(18,19); SyncState(4, 0) -> break, release 3; ReleasePlayers(4, [15 16 17])`. -/
def riseRun : List AOp :=
  [.add (rg 1 17) [], .status .normal [], .sync 3 [9,10,11,12] [] [] [],
   .sync 4 [13,14] [15,16,17] [] [15,16,17], .add [18,19] [3],
   .sync 4 [] [15,16,17] [15,16,17] [], .report 4 [15,16,17] [] [3,1]]

theorem potential_rises_at_report :
    AReachableFwd ((ASys.init 5 1).run (riseRun.take 5)) ∧
    ((ASys.init 5 1).run (riseRun.take 5)).inflight = [] ∧
    ((ASys.init 5 1).run (riseRun.take 5)).r.queue = [] ∧
    (∀ op ∈ riseRun.drop 5, quietOp op = true) ∧
    ((ASys.init 5 1).run (riseRun.take 5)).allOkFwd (riseRun.drop 5) ∧
    potential_async ((ASys.init 5 1).run (riseRun.take 5)) = 12 ∧
    potential_async ((ASys.init 5 1).run (riseRun.take 6)) = 2 ∧
    potential_async ((ASys.init 5 1).run (riseRun.take 7)) = 6 ∧
    ASys.overflows ((ASys.init 5 1).run (riseRun.take 6)) [15,16,17] ∧
    late_cost ((ASys.init 5 1).run (riseRun.take 5)) (riseRun.drop 5) = 6 ∧
    ((ASys.init 5 1).run (riseRun.take 5)).askCount (riseRun.drop 5) = 1 :=
  ⟨(AReachableFwd.init 5 1 (by decide +kernel)).run (riseRun.take 5) (by decide +kernel),
   by decide +kernel⟩

example : ((ASys.init 5 1).run (riseRun.take 6)).r.tables =
    [{ id := 1, required := 0, count := 4 }, { id := 2, required := 0, count := 4 },
     { id := 3, required := 2, count := 2 }] := by decide +kernel
example : ((ASys.init 5 1).run riseRun).r.tables =
    [{ id := 1, required := 0, count := 5 }, { id := 2, required := 1, count := 4 },
     { id := 3, required := 1, count := 4 }] := by decide +kernel

end Pokerface.C20
