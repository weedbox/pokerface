import Pokerface.Proofs.EngineHop
import Pokerface.Proofs.EngineReach
import Pokerface.Proofs.GeneratedLogicHop
/-
  C07 — A hand can be resumed from its serialized state at any wait point.

  "At every point where the engine waits for input its JSON state is complete: a game
   rebuilt from that JSON — which is what the stateless table backend does for every single
   call — reacts to all subsequent operations exactly like the original in-memory game, up to
   timestamps, and the backend never modifies the state handed to it.  Equivalently, the same
   deck and the same operations always lead to the same state."

  Rendering.  `Game.hop` (Model/Game.lean) is what survives `json.Marshal`/`json.Unmarshal`
  of the Go `GameState` followed by `NewGameFromState`: every field except the pots' `levels`
  (Go `Levels []*Level json:"-"`).  The cached dealer/sb/bb player objects of the Go `game`
  struct are recomputed by `LoadState`/`addPlayer`; the model has no cache (`dealerIdx` is a
  function of the players), so nothing else is lost.  "Up to timestamps": `GameID`,
  `CreatedAt`, `UpdatedAt` are not part of the model (never read by the engine).
  The Go `settlement.Result` stored in the state has unexported internals as well (the levels
  and rank groups of each pot result); the model keeps them inside `Game.result`, so a second,
  coarser serialisation `Game.json` (Proofs/EngineHop.lean) drops those too; every theorem is
  given for both (`hop_…` as the task states them, `json_…` for the state exactly as the JSON
  carries it).  The observation of a game is its serialisation; two games with
  `a.json = b.json` print the same JSON.

  All theorems below hold for EVERY state `g` (in particular every reachable state and every
  wait point: between two operations the engine is at a wait point by construction of `step`),
  every operation, every argument — no reachability or well-formedness hypothesis is needed,
  because no function of the event chain reads `pots[·].levels` except `calculateGameResults`,
  which only runs in `gameCompleted`, right after `updatePots` has rebuilt the pots — levels
  included — from the players.

  NOT expressible here: the aliasing half, "the backend never modifies the state handed to
  it".  A pure functional model has no pointers, hence no way to say that `*GameState` given
  to `NativeBackend.X` is not written through.  That half is decided at run time by the K2
  harness: a byte comparison of the marshalled argument before and after every backend call
  on every generated history (DESIGN §6 C07, §4 table row "pointer aliasing").  What the source text of the backend
  does with its argument is tied separately: `GeneratedLogic.hopBackend…_eq` (Proofs/GeneratedLogicHop.lean, which
  this file imports for `backendCall_generated`) state for ALL interpretations of `cloneState` that every method works
  on a clone of its argument and returns a clone.
-/
namespace Pokerface.C07
open Pokerface Game

/-! ## Specification-level notions (the two renderings `Game.hop` / `Game.json`: see the head of the file) -/

/-- a rebuild function applied (flag `true`: a process restart / backend hop happens here) or not
    (flag `false`: the same in-memory game goes on) -/
def hopIf (r : Game → Game) (b : Bool) (g : Game) : Game := if b then r g else g

/-- The error answers of the operations of an in-memory run (`Game.run` gives the state). -/
def errs : Game → List Op → List (Option Err)
  | _, [] => []
  | g, op :: ops => (g.step op).2 :: errs (g.step op).1 ops

/-- Run a history in which, before each operation, the game may (flag `true`) or may not
    (flag `false`) have been serialised and rebuilt (by `r` = `Game.hop` or `Game.json`): the final game. -/
def runHops (r : Game → Game) : Game → List (Bool × Op) → Game
  | g, [] => g
  | g, (b, op) :: rest => runHops r ((hopIf r b g).step op).1 rest

/-- The error answers along a history with hops. -/
def errsHops (r : Game → Game) : Game → List (Bool × Op) → List (Option Err)
  | _, [] => []
  | g, (b, op) :: rest => ((hopIf r b g).step op).2 :: errsHops r ((hopIf r b g).step op).1 rest

/-- One operation on an in-memory game as a driver sees it: the new game, or the error. -/
def memCall (g : Game) (op : Op) : Except Err Game :=
  match g.step op with
  | (g', none) => .ok g'
  | (_, some e) => .error e

/-- table/native_backend.go, every method: `cloneState` of the argument (a JSON round trip),
    `NewGameFromState`, ONE operation, and on success `cloneState(g.GetState())` (a second JSON
    round trip); on error `nil, err`. -/
def backendCall (s : Game) (op : Op) : Except Err Game :=
  match s.json.step op with
  | (g', none) => .ok g'.json
  | (_, some e) => .error e

/-- K1 (regenerated logic, group "Hop"): `backendCall` is the model `Hop.backendModel` which
    `GeneratedLogic.hopBackend_model` proves equal to EVERY method of table/native_backend.go as translated from the
    source on this run (clone in → `NewGameFromState` → the one operation of the same name → clone out, error passed
    through); `GeneratedLogic.hopBackend…_eq` state the same for all interpretations of `cloneState` (aliasing included). -/
theorem backendCall_generated (s : Game) (op : Op) : backendCall s op = GeneratedLogic.Hop.backendModel s op := rfl

/-- a driver threading the state through the stateless backend, stopping at the first error -/
def backendRun (s : Game) (ops : List Op) : Except Err Game := ops.foldlM backendCall s

/-- the same driver holding one in-memory game -/
def memRun (g : Game) (ops : List Op) : Except Err Game := ops.foldlM memCall g

/-- the serialisable part of a pot -/
def potPublic (p : Pot) : Int × Int × Int × List (Nat × Int) := (p.level, p.wager, p.total, p.contributors)

/-- **"a game rebuilt from that JSON reacts to [an operation] exactly like the original
    in-memory game"**.  For every state `g` (no hypothesis: in particular at every wait point of
    every reachable history of every configuration), every operation `op` with every argument:
    the rebuilt game `g.hop` and the original `g` answer with the same error value, and the two
    resulting states have the same serialisation (they agree on every field, `result`
    included, except possibly `pots[·].levels`). -/
theorem hop_step (g : Game) (op : Op) :
    ((g.hop).step op).1.hop = (g.step op).1.hop ∧ ((g.hop).step op).2 = (g.step op).2 :=
  sameR_step (same_hop_left g) op

/-- The same with the internals of the settlement result dropped too (the state exactly as the
    JSON has it): same answer, same JSON afterwards. -/
theorem json_step (g : Game) (op : Op) :
    ((g.json).step op).1.json = (g.step op).1.json ∧ ((g.json).step op).2 = (g.step op).2 :=
  sameR_step (same_json_left g) op

/-- The same, for any two in-memory games with the same serialisation (e.g. the game on the
    node that crashed and the game rebuilt on another node). -/
theorem same_step {a b : Game} (h : a.hop = b.hop) (op : Op) :
    (a.step op).1.hop = (b.step op).1.hop ∧ (a.step op).2 = (b.step op).2 :=
  sameR_step (σ := id) h op

theorem same_json_step {a b : Game} (h : a.json = b.json) (op : Op) :
    (a.step op).1.json = (b.step op).1.json ∧ (a.step op).2 = (b.step op).2 :=
  sameR_step (σ := Option.map stripResult) h op

/-- The settlement result — the one published value that is computed FROM the levels — is
    literally the same in the rebuilt game as in the original (it is not touched by `hop`). -/
theorem hop_step_result (g : Game) (op : Op) : ((g.hop).step op).1.result = (g.step op).1.result :=
  (sameR_step (same_hop_left g) op).1.result

/-- general form of `hop_run`/`json_run`: `r` rebuilds a game with the same serialisation -/
theorem run_same {σ : Option Result → Option Result} (r : Game → Game) (hr : ∀ g : Game, Same σ (r g) g) :
    ∀ (hs : List (Bool × Op)) (a b : Game), Same σ a b →
      Same σ (runHops r a hs) (b.run (hs.map (·.2))) ∧ errsHops r a hs = errs b (hs.map (·.2))
  | [], _, _, h => ⟨h, rfl⟩
  | (f, op) :: rest, a, b, h => by
    have h' : Same σ (hopIf r f a) b := by
      cases f
      · exact h
      · exact (hr a).trans h
    obtain ⟨h1, h2⟩ := sameR_step h' op
    obtain ⟨i1, i2⟩ := run_same r hr rest _ _ h1
    refine ⟨i1, ?_⟩
    simp only [errsHops, errs, List.map_cons, h2, i2]

/-- **"reacts to ALL subsequent operations exactly like the original … a process restart or a
    backend hop may happen between any two operations"**.  For every state `g` and every
    history `hs` of operations, each flagged with whether a serialise-and-rebuild happens just
    before it (so: hops at ANY subset of the cut points, including all of them — the stateless
    backend — and none): the final state has the same serialisation as that of the plain
    in-memory run, and the error answers are the same, operation by operation. -/
theorem hop_run (g : Game) (hs : List (Bool × Op)) :
    (runHops Game.hop g hs).hop = (g.run (hs.map (·.2))).hop ∧ errsHops Game.hop g hs = errs g (hs.map (·.2)) :=
  run_same (σ := id) Game.hop same_hop_left hs g g (Same.refl g)

/-- `hop_run` for the state exactly as the JSON has it. -/
theorem json_run (g : Game) (hs : List (Bool × Op)) :
    (runHops Game.json g hs).json = (g.run (hs.map (·.2))).json ∧ errsHops Game.json g hs = errs g (hs.map (·.2)) :=
  run_same Game.json same_json_left hs g g (Same.refl g)

/-- `hop_run` with a hop before every single operation (what `table.NativeBackend` does). -/
theorem hop_run_all (g : Game) (ops : List Op) :
    (runHops Game.hop g (ops.map fun op => (true, op))).hop = (g.run ops).hop ∧
    errsHops Game.hop g (ops.map fun op => (true, op)) = errs g ops := by
  have := hop_run g (ops.map fun op => (true, op))
  simpa [List.map_map, Function.comp_def] using this

theorem json_run_all (g : Game) (ops : List Op) :
    (runHops Game.json g (ops.map fun op => (true, op))).json = (g.run ops).json ∧
    errsHops Game.json g (ops.map fun op => (true, op)) = errs g ops := by
  have := json_run g (ops.map fun op => (true, op))
  simpa [List.map_map, Function.comp_def] using this

/-- **"which is what the stateless table backend does for every single call"**: one backend
    call on the serialised state of ANY in-memory game `g` answers exactly as `g` itself does —
    the same error, or the serialisation of the same new state. -/
theorem backend_call (g : Game) (op : Op) :
    backendCall g.json op = (memCall g op).map Game.json := by
  obtain ⟨h1, h2⟩ := sameR_step ((same_json_left g.json).trans (same_json_left g)) op
  unfold backendCall memCall
  revert h1 h2
  generalize g.json.json.step op = x
  generalize g.step op = y
  obtain ⟨x1, x2⟩ := x
  obtain ⟨y1, y2⟩ := y
  intro h1 h2
  simp only at h1 h2
  subst h2
  cases x2 with
  | none =>
    simp only [Except.map]
    exact congrArg Except.ok h1
  | some e => rfl

/-- A driver that threads the state through the stateless backend (a JSON hop before and after
    every single operation) observes exactly what a driver holding one in-memory game observes:
    the same first error if there is one, otherwise the serialisation of the same final state. -/
theorem backend_run (g : Game) (ops : List Op) :
    backendRun g.json ops = (memRun g ops).map Game.json := by
  induction ops generalizing g with
  | nil => rfl
  | cons op rest ih =>
    unfold backendRun memRun at ih ⊢
    rw [List.foldlM_cons, List.foldlM_cons, backend_call]
    cases memCall g op with
    | error e => rfl
    | ok g' => exact ih g'

/-- `hop_step` under the hypothesis the property's sentence speaks of, a reachable state (every state between two
    operations is a wait point); the hypothesis is not needed. -/
theorem resume_equiv {g : Game} (_h : Reachable g) (op : Op) :
    ((g.hop).step op).1.hop = (g.step op).1.hop ∧ ((g.hop).step op).2 = (g.step op).2 :=
  hop_step g op

/-- Serialising twice is serialising once. -/
theorem hop_idempotent (g : Game) : g.hop.hop = g.hop := hop_hop g

theorem json_idempotent (g : Game) : g.json.json = g.json := json_json g

/-- the JSON state is a function of the `hop` state (it only forgets more) -/
theorem json_of_hop (g : Game) : g.hop.json = g.json := by
  have := hop_hop g
  cases g
  simp only [Game.json, Game.ser, Game.hop, Game.mk.injEq] at this ⊢
  simp [this]

/-- **"its JSON state is complete"**, the static half: the hop changes nothing but
    `pots[k].levels` — every other field of the state, every pot's `level`, `wager`, `total`
    and `contributors`, and the number of pots are the same. -/
theorem hop_public (g : Game) :
    g.hop.opts = g.opts ∧ g.hop.players = g.players ∧ g.hop.miniBet = g.miniBet ∧ g.hop.round = g.round ∧
    g.hop.burned = g.burned ∧ g.hop.board = g.board ∧ g.hop.prev = g.prev ∧ g.hop.deckPos = g.deckPos ∧
    g.hop.roundPot = g.roundPot ∧ g.hop.cw = g.cw ∧ g.hop.raiser = g.raiser ∧ g.hop.cur = g.cur ∧
    g.hop.event = g.event ∧ g.hop.result = g.result ∧
    g.hop.pots.map potPublic = g.pots.map potPublic ∧ g.hop.pots.length = g.pots.length ∧
    ∀ p ∈ g.hop.pots, p.levels = [] := by
  refine ⟨rfl, rfl, rfl, rfl, rfl, rfl, rfl, rfl, rfl, rfl, rfl, rfl, rfl, rfl, ?_, ?_, ?_⟩
  · simp [Game.hop, List.map_map, Function.comp_def, potPublic]
  · simp [Game.hop]
  · intro p hp
    simp only [Game.hop, List.mem_map] at hp
    obtain ⟨q, _, rfl⟩ := hp
    rfl

/-- Conversely to `hop_public`: two states that agree on all of that have the same serialisation. -/
theorem same_of_public {a b : Game}
    (h : a.opts = b.opts ∧ a.players = b.players ∧ a.miniBet = b.miniBet ∧ a.round = b.round ∧
      a.burned = b.burned ∧ a.board = b.board ∧ a.prev = b.prev ∧ a.deckPos = b.deckPos ∧
      a.roundPot = b.roundPot ∧ a.cw = b.cw ∧ a.raiser = b.raiser ∧ a.cur = b.cur ∧
      a.event = b.event ∧ a.result = b.result ∧ a.pots.map potPublic = b.pots.map potPublic) :
    a.hop = b.hop := by
  obtain ⟨h1, h2, h3, h4, h5, h6, h7, h8, h9, h10, h11, h12, h13, h14, h15⟩ := h
  cases a
  cases b
  simp only at h1 h2 h3 h4 h5 h6 h7 h8 h9 h10 h11 h12 h13 h14 h15
  subst h1 h2 h3 h4 h5 h6 h7 h8 h9 h10 h11 h12 h13 h14
  simp only [Game.hop, Game.mk.injEq, true_and, and_true]
  rename_i pa pb
  have := congrArg (List.map fun (t : Int × Int × Int × List (Nat × Int)) =>
    ({ level := t.1, wager := t.2.1, total := t.2.2.1, contributors := t.2.2.2, levels := [] } : Pot)) h15
  simpa [List.map_map, Function.comp_def, potPublic] using this

/-- **"Equivalently, the same deck and the same operations always lead to the same state."**
    In the model the engine is a function: `start` and `step` take the configuration — which
    includes the deck AS IT IS AFTER the shuffle of `Initialize` — and the operations as their
    only inputs.  Wall-clock time (`CreatedAt`/`UpdatedAt`), the uuid (`GameID`) and the random
    shuffle are the only other inputs of the Go code; the first two are never read by the engine
    (not modelled, masked in the differential run), the third is made an input here.  So the
    statement is true by construction of the model (and the differential validation of the
    model against the Go code is what transfers it); it is stated for the record, together with
    its non-trivial form: also through any pattern of serialise-and-rebuild hops. -/
theorem deterministic (c c' : Config) (ops ops' : List Op) (hc : c = c') (ho : ops = ops') :
    (start c).1.run ops = (start c').1.run ops' ∧ (start c).2 = (start c').2 ∧
    errs (start c).1 ops = errs (start c').1 ops' := by
  subst hc ho
  exact ⟨rfl, rfl, rfl⟩

/-- Determinism through the serialisation: the same configuration (deck included) and the same
    operations lead to the same serialised state and the same answers, whatever the pattern of
    restarts (`fs`, `fs'` say before which operations a hop happens in either execution). -/
theorem deterministic_hops (c : Config) (ops : List Op) (fs fs' : List Bool)
    (hl : fs.length = ops.length) (hl' : fs'.length = ops.length) :
    (runHops Game.json (start c).1 (fs.zip ops)).json = (runHops Game.json (start c).1 (fs'.zip ops)).json ∧
    errsHops Game.json (start c).1 (fs.zip ops) = errsHops Game.json (start c).1 (fs'.zip ops) := by
  have h1 := json_run (start c).1 (fs.zip ops)
  have h2 := json_run (start c).1 (fs'.zip ops)
  have e1 : (fs.zip ops).map (·.2) = ops := by
    rw [List.map_snd_zip]
    omega
  have e2 : (fs'.zip ops).map (·.2) = ops := by
    rw [List.map_snd_zip]
    omega
  rw [e1] at h1
  rw [e2] at h2
  exact ⟨h1.1.trans h2.1.symm, h1.2.trans h2.2.symm⟩

/-! ## Answers and state of a run, piece by piece -/

/-- state and answers of a run in one pass -/
def runE : Game → List Op → Game × List (Option Err)
  | g, [] => (g, [])
  | g, op :: ops => ((runE (g.step op).1 ops).1, (g.step op).2 :: (runE (g.step op).1 ops).2)

theorem runE_eq : ∀ (g : Game) (ops : List Op), runE g ops = (g.run ops, errs g ops)
  | _, [] => rfl
  | g, op :: ops => by
    rw [runE, runE_eq (g.step op).1 ops]
    rfl

theorem errs_append : ∀ (g : Game) (a b : List Op), errs g (a ++ b) = errs g a ++ errs (g.run a) b
  | _, [], _ => rfl
  | g, op :: a, b => by
    rw [List.cons_append, errs, errs, errs_append (g.step op).1 a b]
    rfl

/-- a driver holding the game in memory ends with the state of the run when nothing was refused -/
theorem memRun_of_errs : ∀ (g : Game) (ops : List Op), (∀ e ∈ errs g ops, e = none) → memRun g ops = .ok (g.run ops)
  | _, [], _ => rfl
  | g, op :: ops, h => by
    have h1 : (g.step op).2 = none := h _ List.mem_cons_self
    have h2 := memRun_of_errs (g.step op).1 ops (fun e he => h e (List.mem_cons_of_mem _ he))
    have hc : memCall g op = .ok (g.step op).1 := by
      unfold memCall
      generalize g.step op = r at h1
      obtain ⟨g', e⟩ := r
      cases h1
      rfl
    unfold memRun at h2 ⊢
    rw [List.foldlM_cons, hc]
    exact h2

theorem memRun_append (g : Game) (a b : List Op) : memRun g (a ++ b) = memRun g a >>= fun g' => memRun g' b := by
  unfold memRun
  rw [List.foldlM_append]

/-! ## Non-vacuity: a complete three-handed hand with side pots, a refused action, hops -/

section Examples

/-- 52 cards in a fixed (post-shuffle) order -/
def deck52 : List Card := suitCodes.flatMap fun s => (List.range 13).map fun r => { suit := s, rank := r + 2 }

/-- stacks 100 / 200 / 300 on dealer / small blind / big blind, ante 1, blinds 5/10, no-limit -/
def cfg : Config :=
  { opts := { ante := 1, blindDealer := 0, blindSB := 5, blindBB := 10, potLimit := false, holeCount := 2, required := 0,
              lvl := Cat.toNat, table := Cat.all, deck := deck52 },
    seats := [⟨100, true, false, false⟩, ⟨200, false, true, false⟩, ⟨300, false, false, true⟩] }

def g0 : Game := (start cfg).1

/-- a whole hand: the dealer goes all-in preflop and is called twice (main pot), betting goes on
    between the other two on flop and river (side pot, two levels), seat 2 tries a `pass` that is
    refused, folds; showdown; one more `next` after the hand is closed (refused) -/
def ops : List Op :=
  [.ready, .payAnte, .payBlinds, .ready, .act none .allin 0, .act none .call 0, .act none .call 0, .act none .pass 0, .next,
   .ready, .act none .bet 20, .act none .raise 60, .act none .pass 0, .act none .call 0, .next,
   .ready, .act none .check 0, .act none .check 0, .act none .pass 0, .next,
   .ready, .act none .check 0, .act none .bet 30, .act none .pass 0, .act none .allin 0, .act none .pass 0,
   .act none .fold 0, .next, .next]

/-- the expected answers: everything accepted except operations 25 and 28 -/
def answers : List (Option Err) :=
  (List.replicate 25 none) ++ [some .invalidAction, none, none, some .notClosedRound]

/-- hop before every third operation (a node restart now and then) -/
def flags : List Bool := (List.range 29).map fun k => k % 3 == 0

/-- the state at the river, round closed, just before the settlement -/
def gRiver : Game := g0.run (ops.take 27)

/-- the combination every seat holds on the river: the king-high spade flush of the board with its own kicker `k` -/
def flushK (k power : Nat) : Option Comb :=
  some { cat := some .flush, cards := [⟨83, 13⟩, ⟨83, 11⟩, ⟨83, 10⟩, ⟨83, 9⟩, ⟨83, k⟩], power := power }

/-- the hand of `ops` after its first 25 operations, written out: river, seats 0 and 1 all-in, seat 2 (190 in) is asked -/
def g25 : Game :=
  { opts := cfg.opts
    players := [
      { idx := 0, posDealer := true, posSB := false, posBB := false, bankroll := 100, initial := 0, stack := 0, pot := 100,
        hole := [⟨83, 2⟩, ⟨83, 3⟩], comb := flushK 3 335398 },
      { idx := 1, posDealer := false, posSB := true, posBB := false, bankroll := 200, initial := 40, stack := 0, pot := 160,
        wager := 40, hole := [⟨83, 4⟩, ⟨83, 5⟩], comb := flushK 5 335400 },
      { idx := 2, posDealer := false, posSB := false, posBB := true, bankroll := 300, initial := 140, stack := 110, pot := 160,
        wager := 30, allowed := [.allin, .fold, .call, .raise], hole := [⟨83, 6⟩, ⟨83, 7⟩], comb := flushK 7 335402 }]
    miniBet := 10
    pots := [⟨100, 100, 300, [(0, 100), (1, 100), (2, 100)], [⟨100, 100, 300, [0, 1, 2]⟩]⟩,
             ⟨160, 60, 120, [(1, 60), (2, 60)], [⟨160, 60, 120, [1, 2]⟩]⟩]
    round := .river
    burned := [⟨83, 8⟩, ⟨83, 12⟩, ⟨83, 14⟩]
    board := [⟨83, 9⟩, ⟨83, 10⟩, ⟨83, 11⟩, ⟨83, 13⟩, ⟨72, 2⟩]
    prev := 30
    deckPos := 14
    roundPot := 70
    cw := 40
    raiser := 2
    cur := 2
    event := .roundStarted }

theorem cfg_started : (start cfg).2 = none := by decide +kernel

/-- The hand is evaluated here, in one pass for answers and state (`runE`): nothing is refused in the first 25 operations,
    and they lead to `g25`.  Everything below that speaks of a later point of the hand goes on from `g25`. -/
theorem run25 : errs g0 (ops.take 25) = List.replicate 25 none ∧ g0.run (ops.take 25) = g25 := by
  have h : (runE g0 (ops.take 25)).2 = List.replicate 25 none ∧ (runE g0 (ops.take 25)).1.SameFields g25 := by
    decide +kernel
  simp only [runE_eq] at h
  have ho : (g0.run (ops.take 25)).opts = g25.opts := by
    rw [(wr_run g0 _).opts, g0, (start_ok cfg cfg_started).2.2]
    rfl
  exact ⟨h.1, Game.ext_fields ho h.2⟩

theorem run_from25 (k : Nat) : g0.run (ops.take (25 + k)) = g25.run ((ops.drop 25).take k) := by
  rw [← run25.2, ← run_append, ← List.take_add]

theorem gRiver_eq : gRiver = g25.run ((ops.drop 25).take 2) := run_from25 2

/-- The in-memory run is what the comment on `ops` says: accepted/refused as listed, the hand ends at
    `GameClosed` with a result.  The first 25 operations by `run25`, the last four evaluated on `g25`. -/
theorem hand_run : (start cfg).2 = none ∧ ops.length = 29 ∧ errs g0 ops = answers ∧
    (g0.run ops).event = .gameClosed ∧ (g0.run ops).result.isSome = true := by
  have e : ops = ops.take 25 ++ ops.drop 25 := (List.take_append_drop 25 ops).symm
  have hr : g0.run ops = g25.run (ops.drop 25) := by
    rw [← run25.2, ← run_append, ← e]
  refine ⟨cfg_started, by decide, ?_, ?_⟩
  · rw [e, errs_append, run25.1, run25.2]
    decide +kernel
  · rw [hr]
    decide +kernel

example : (start cfg).2 = none ∧ ops.length = 29 ∧ errs g0 ops = answers ∧
    (g0.run ops).event = .gameClosed ∧ (g0.run ops).result.isSome = true := hand_run

/-- `hop_step` is about something: at `gRiver` (event `RoundClosed`) there are two pots with 1
    and 2 levels, the hop erases them (so `gRiver.hop ≠ gRiver`), `next` is accepted by both
    games, both settle, with the same result, which is not the empty one. -/
example : gRiver.event = .roundClosed ∧ gRiver.pots.map (·.levels.length) = [1, 2] ∧
    gRiver.hop.pots.map (·.levels.length) = [0, 0] ∧ gRiver.hop.pots ≠ gRiver.pots ∧
    (gRiver.hop.step .next).2 = none ∧ (gRiver.step .next).2 = none ∧
    (gRiver.hop.step .next).1.event = .gameClosed ∧
    (gRiver.hop.step .next).1.result = (gRiver.step .next).1.result ∧
    (gRiver.hop.step .next).1.pots = (gRiver.step .next).1.pots ∧
    ((gRiver.step .next).1.result.map fun r => r.players.map (·.changed)) = some [-100, 290, -190] := by
  rw [gRiver_eq]
  decide +kernel

/-- Why it is true, and that it is not true for free: the settlement function itself DOES read the
    levels — applied to the rebuilt game without `updatePots` first it yields another result
    (nobody is paid).  The engine never does that: `gameCompleted` runs `updatePots` first. -/
example : gRiver.hop.calculateGameResults.result ≠ gRiver.calculateGameResults.result ∧
    (gRiver.hop.calculateGameResults.result.map fun r => r.players.map (·.changed)) = some [0, 0, 0] := by
  rw [gRiver_eq]
  decide +kernel

/-- `resume_equiv`'s hypothesis is satisfiable: `gRiver` is a reachable state. -/
example : Reachable gRiver :=
  ⟨cfg, ops.take 27, ⟨⟨by decide, by decide, by decide, by decide⟩⟩, cfg_started, rfl⟩

/-- `hop_run` on the whole hand with a hop before every third operation: same answers (two
    refusals included), the hand is closed with the same result and the same pots. -/
example : errsHops Game.json g0 (flags.zip ops) = answers ∧ (runHops Game.json g0 (flags.zip ops)).event = .gameClosed ∧
    (runHops Game.json g0 (flags.zip ops)).json.result = (g0.run ops).json.result ∧
    (runHops Game.json g0 (flags.zip ops)).json.pots = (g0.run ops).json.pots ∧
    errsHops Game.hop g0 (flags.zip ops) = answers ∧
    (runHops Game.hop g0 (flags.zip ops)).result = (g0.run ops).result := by
  -- Everything follows from `json_run`/`hop_run` and the in-memory run `hand_run`.  (Deciding the last
  -- equation is slow to check: the derived `DecidableEq` of `Comb` and `RankGroup` makes the kernel
  -- compare the two unevaluated runs up to definitional equality.)
  have hops : (flags.zip ops).map (·.2) = ops := by decide
  have hj := json_run g0 (flags.zip ops)
  have hh := hop_run g0 (flags.zip ops)
  rw [hops] at hj hh
  obtain ⟨_, _, herr, hev, _⟩ := hand_run
  have jev : ∀ g : Game, g.json.event = g.event := fun _ => rfl
  have hres : ∀ g : Game, g.hop.result = g.result := fun _ => rfl
  refine ⟨hj.2.trans herr, ?_, congrArg Game.result hj.1, congrArg Game.pots hj.1, hh.2.trans herr, ?_⟩
  · rw [← jev, hj.1, jev]
    exact hev
  · rw [← hres, hh.1, hres]

/-- `backend_run`: the first 25 operations all succeed through the stateless backend (a state comes
    back); with the 26th the driver gets the error of the refused `pass`. -/
example : (memRun g0 (ops.take 25)).toBool = true ∧ (backendRun g0.json (ops.take 25)).toBool = true ∧
    (match backendRun g0.json (ops.take 26) with
      | .error e => decide (e = Err.invalidAction) | .ok _ => false) = true ∧
    (match memRun g0 (ops.take 26) with
      | .error e => decide (e = Err.invalidAction) | .ok _ => false) = true := by
  -- the in-memory driver holds `g25` after 25 calls (nothing was refused: `run25`), the 26th call is evaluated on it;
  -- the backend halves follow by `backend_run`
  have hnone : ∀ e ∈ errs g0 (ops.take 25), e = none := by
    rw [run25.1]
    exact fun e he => List.eq_of_mem_replicate he
  have h25 : memRun g0 (ops.take 25) = .ok g25 := by
    rw [memRun_of_errs _ _ hnone, run25.2]
  have h26 : memRun g0 (ops.take 26) = memRun g25 ((ops.drop 25).take 1) := by
    rw [show ops.take 26 = ops.take 25 ++ (ops.drop 25).take 1 from List.take_add (i := 25) (j := 1), memRun_append, h25]
    rfl
  rw [backend_run, backend_run, h25, h26]
  decide +kernel

/-- `hop_public`/`hop_idempotent`: the hop is not the identity (see above) but is a projection. -/
example : gRiver.hop.hop.pots = gRiver.hop.pots ∧ gRiver.hop.pots.map potPublic = gRiver.pots.map potPublic := by
  obtain ⟨_, _, _, _, _, _, _, _, _, _, _, _, _, _, hpub, _⟩ := hop_public gRiver
  exact ⟨congrArg Game.pots (hop_idempotent gRiver), hpub⟩

/-- `json_step` is about something more than `hop_step`: after the settlement the result has
    internals (levels with rank groups) which the JSON drops, so `.json ≠ .hop` there; the closed
    game, rebuilt from its JSON, refuses a further `next` exactly like the original. -/
example : (g0.run (ops.take 28)).event = .gameClosed ∧
    (g0.run (ops.take 28)).json.result ≠ (g0.run (ops.take 28)).hop.result ∧
    ((g0.run (ops.take 28)).json.step .next).2 = some .notClosedRound ∧
    ((g0.run (ops.take 28)).step .next).2 = some .notClosedRound := by
  rw [run_from25 3]
  decide +kernel

end Examples

end Pokerface.C07
