/-
  C20 with RE-ENTRIES (see Properties/C09Reentry.lean for the setting).

  The theorems of Properties/C20.lean that speak about reachable states are restated, with the same
  statements and the suffix `_re`, on the domains with re-entries of Proofs/RegReentry.lean:
  `ReachableRe` where the original has `ReachableAny`
  (`break_returns_all_any_re`), `ReachableReFwd` where the original has `Reachable` (everything
  else: the convergence argument needs the forward-only status condition).  The regulator-level
  theorems of C20 (`stable_is_fixed`, `moves_are_directed`, `dispatch_is_directed`,
  `table_count_monotone`) hold for ANY regulator state and need no transfer; the definitions
  `Settled`, `settle_bound`, `small_bound`, `potential`, `askingSweeps` are those of C20.

  The scripts of the convergence theorems consist of elimination-free syncs only; on a sync
  `okReFwd`, `okRe`, `ok` and `okAny` are the same condition by definition, so `s.ok (.sync …)`
  and `s.allOk ops` are kept as they are in the originals (`allOkReFwd_of_allOk` converts).  What is
  new is the START state: any state of a history with re-entries.
-/
import Pokerface.Properties.C20Async

namespace Pokerface.C20
open Pokerface Reg RSys

theorem break_returns_all_any_re {s : RSys} (h : ReachableRe s) (t : Nat) (elim stay rel keep ch ms : List Nat)
    (hm : s.env.membersOf t = some ms) (hok : s.okAny (.sync t elim stay rel keep ch))
    (hb : s.broken t elim = true) :
    ((s.syncAnswer t elim).2.2.1 = stay.length ∧ (s.syncAnswer t elim).2.2.2 = [] ∧
      rel.Perm stay ∧ keep = []) ∧
    (t ∉ (s.step (.sync t elim stay rel keep ch)).env.members.map (·.1) ∧
      (s.step (.sync t elim stay rel keep ch)).r.findTable t = none) ∧
    (∀ p ∈ rel,
      (p ∈ (s.step (.sync t elim stay rel keep ch)).r.queue ∨
        p ∈ handed (s.step (.sync t elim stay rel keep ch)).r.calls) ∧
      (p ∈ (s.step (.sync t elim stay rel keep ch)).r.queue ∨
        ∃ e ∈ (s.step (.sync t elim stay rel keep ch)).env.members, e.1 ≠ t ∧ p ∈ e.2)) :=
  break_returns_all_inv (SInv0.of_reachableRe h) t elim stay rel keep ch ms hm hok hb

theorem break_returns_all_re {s : RSys} (h : ReachableReFwd s) (t : Nat) (elim stay rel keep ch ms : List Nat)
    (hm : s.env.membersOf t = some ms) (hok : s.ok (.sync t elim stay rel keep ch))
    (hb : s.broken t elim = true) :
    ((s.syncAnswer t elim).2.2.1 = stay.length ∧ (s.syncAnswer t elim).2.2.2 = [] ∧
      rel.Perm stay ∧ keep = []) ∧
    (t ∉ (s.step (.sync t elim stay rel keep ch)).env.members.map (·.1) ∧
      (s.step (.sync t elim stay rel keep ch)).r.findTable t = none) ∧
    (∀ p ∈ rel,
      (p ∈ (s.step (.sync t elim stay rel keep ch)).r.queue ∨
        p ∈ handed (s.step (.sync t elim stay rel keep ch)).r.calls) ∧
      (p ∈ (s.step (.sync t elim stay rel keep ch)).r.queue ∨
        ∃ e ∈ (s.step (.sync t elim stay rel keep ch)).env.members, e.1 ≠ t ∧ p ∈ e.2)) :=
  break_returns_all_any_re h.re t elim stay rel keep ch ms hm hok hb

theorem stable_is_fixed_reachable_re {s : RSys} (h : ReachableReFwd s) (hq : s.r.queue = [])
    (hT : s.r.tableCount = s.r.requiredTables)
    (hfl : ∀ tb ∈ s.r.tables, s.r.playerCount / s.r.requiredTables ≤ tb.count)
    (t : Nat) (ms : List Nat) (hm : s.env.membersOf t = some ms) :
    s.syncAnswer t [] = (s.r.beginOp [], none, 0, []) ∧ s.broken t [] = false :=
  stable_is_fixed_inv (SInv.of_reachableReFwd h) hq hT hfl t ms hm

def rebalancing_settles_re : Prop :=
  ∀ s : RSys, ReachableReFwd s → ∃ B : Nat, ∀ ops : List EOp,
    (∀ op ∈ ops, quietOp op = true) → s.allOk ops → s.askCount ops ≤ B

theorem rebalancing_settles_bound_re {s : RSys} (h : ReachableReFwd s) (ops : List EOp)
    (hq : ∀ op ∈ ops, quietOp op = true) (hok : s.allOk ops) : s.askCount ops ≤ settle_bound s :=
  settle_bound_inv (SInv.of_reachableReFwd h) ops hq hok

theorem rebalancing_settles_holds_re : rebalancing_settles_re :=
  fun s h => ⟨settle_bound s, fun ops hq hok => rebalancing_settles_bound_re h ops hq hok⟩

theorem balanced_is_settled_re {s : RSys} (h : ReachableReFwd s) (hq : s.r.queue = [])
    (hT : s.r.tableCount = s.r.requiredTables)
    (hfl : ∀ tb ∈ s.r.tables, s.r.playerCount / s.r.requiredTables ≤ tb.count) : Settled s := by
  intro t ms hm
  obtain ⟨h1, h2⟩ := stable_is_fixed_reachable_re h hq hT hfl t ms hm
  rw [h1]
  exact ⟨rfl, rfl, h2⟩

theorem settled_persists_re {s : RSys} (h : ReachableReFwd s) (hs : Settled s) (op : EOp)
    (hq : quietOp op = true) (hok : s.ok op) : s.asks op = false ∧ Settled (s.step op) :=
  settled_persists_inv (SInv.of_reachableReFwd h) hs op hq hok

theorem quiet_sweep_settled_re {s : RSys} (h : ReachableReFwd s) (ops : List EOp)
    (hq : ∀ op ∈ ops, quietOp op = true) (hok : s.allOk ops) (h0 : s.askCount ops = 0)
    (hcover : ∀ t ms, s.env.membersOf t = some ms → ∃ stay rel keep ch, EOp.sync t [] stay rel keep ch ∈ ops) :
    Settled s :=
  quiet_sweep_settled_inv (SInv.of_reachableReFwd h) ops hq hok h0 hcover

theorem rebalancing_reaches_settled_re {s : RSys} (h : ReachableReFwd s) (sweeps : List (List EOp))
    (hq : ∀ sw ∈ sweeps, ∀ op ∈ sw, quietOp op = true) (hok : s.allOk sweeps.flatten)
    (hcover : ∀ pre sw post, sweeps = pre ++ sw :: post → ∀ t ms,
      (s.run pre.flatten).env.membersOf t = some ms → ∃ stay rel keep ch, EOp.sync t [] stay rel keep ch ∈ sw)
    (hlen : settle_bound s < sweeps.length) :
    ∃ pre sw post, sweeps = pre ++ sw :: post ∧ Settled (s.run pre.flatten) :=
  reaches_settled_of_bound (SInv.of_reachableReFwd h) sweeps hq hok hcover (settle_bound s)
    (rebalancing_settles_bound_re h sweeps.flatten (List.forall_mem_flatten.2 hq) hok) hlen

theorem potential_le_small_bound_re {s : RSys} (h : ReachableReFwd s) : potential s ≤ small_bound s :=
  potential_le_small_bound_inv (SInv.of_reachableReFwd h)

theorem rebalancing_settles_small_syncs_re {s : RSys} (h : ReachableReFwd s) (ops : List EOp)
    (hq : ∀ op ∈ ops, quietOp op = true) (hok : s.allOk ops) : s.askCount ops ≤ small_bound s :=
  small_syncs_inv (SInv.of_reachableReFwd h) ops hq hok

theorem rebalancing_settles_small_re {s : RSys} (h : ReachableReFwd s) (sweeps : List (List EOp))
    (hq : ∀ sw ∈ sweeps, ∀ op ∈ sw, quietOp op = true) (hok : s.allOk sweeps.flatten) :
    askingSweeps s sweeps ≤ small_bound s :=
  Nat.le_trans (askingSweeps_le sweeps s) (rebalancing_settles_small_syncs_re h _ (List.forall_mem_flatten.2 hq) hok)

theorem rebalancing_settles_small_balanced_re {s : RSys} (h : ReachableReFwd s) (hT : s.r.tableCount = s.r.requiredTables)
    (sweeps : List (List EOp)) (hq : ∀ sw ∈ sweeps, ∀ op ∈ sw, quietOp op = true)
    (hok : s.allOk sweeps.flatten) :
    askingSweeps s sweeps ≤ 2 * s.r.max + 5 * s.r.tables.length + 1 := by
  rw [← small_bound_balanced s hT]
  exact rebalancing_settles_small_re h sweeps hq hok

theorem rebalancing_settles_potential_re {s : RSys} (h : ReachableReFwd s) (sweeps : List (List EOp))
    (hq : ∀ sw ∈ sweeps, ∀ op ∈ sw, quietOp op = true) (hok : s.allOk sweeps.flatten) :
    askingSweeps s sweeps ≤ potential s :=
  Nat.le_trans (askingSweeps_le sweeps s)
    (askCount_le_phi _ s (SInv.of_reachableReFwd h) (List.forall_mem_flatten.2 hq) hok)

theorem rebalancing_reaches_settled_small_re {s : RSys} (h : ReachableReFwd s) (sweeps : List (List EOp))
    (hq : ∀ sw ∈ sweeps, ∀ op ∈ sw, quietOp op = true) (hok : s.allOk sweeps.flatten)
    (hcover : ∀ pre sw post, sweeps = pre ++ sw :: post → ∀ t ms,
      (s.run pre.flatten).env.membersOf t = some ms → ∃ stay rel keep ch, EOp.sync t [] stay rel keep ch ∈ sw)
    (hlen : small_bound s < sweeps.length) :
    ∃ pre sw post, sweeps = pre ++ sw :: post ∧ Settled (s.run pre.flatten) :=
  reaches_settled_of_bound (SInv.of_reachableReFwd h) sweeps hq hok hcover (small_bound s)
    (rebalancing_settles_small_syncs_re h sweeps.flatten (List.forall_mem_flatten.2 hq) hok) hlen

/-! ### non-vacuity -/

/-- 27 registrants at 9/6 (three tables of nine); players 1 … 6 of table 1 are eliminated; player 1
    REGISTERS AGAIN and is seated at table 1 (4 players; 22 alive, water level 7⅓). -/
def startRe : List EOp :=
  [.add ((List.range 27).map (· + 1)) [], .status .normal [],
   .sync 1 [1,2,3,4,5,6] [7,8,9] [] [7,8,9] [], .add [1] [1]]

/-- the rebalancing sweep after it: table 2 releases two, table 3 one, all to table 1 -/
def sweepRe : List EOp :=
  [.sync 2 [] [10,11,12,13,14,15,16,17,18] [10,11] [12,13,14,15,16,17,18] [1],
   .sync 3 [] [19,20,21,22,23,24,25,26,27] [19] [20,21,22,23,24,25,26,27] [1],
   .sync 1 [] [7,8,9,1,10,11,19] [] [7,8,9,1,10,11,19] []]

example : ReachableReFwd ((RSys.init 9 6).run startRe) :=
  (ReachableReFwd.init 9 6 (by decide +kernel)).run startRe (by decide +kernel)
/-- not a history of `Reachable`: a name registers twice -/
example : ¬ (RSys.init 9 6).allOk startRe := by decide +kernel
example : ((RSys.init 9 6).run startRe).env.members =
    [(1, [7,8,9,1]), (2, [10,11,12,13,14,15,16,17,18]), (3, [19,20,21,22,23,24,25,26,27])] := by decide +kernel
example : ∀ op ∈ sweepRe, quietOp op = true := by decide +kernel
example : ((RSys.init 9 6).run startRe).allOk sweepRe := by decide +kernel
example : ((RSys.init 9 6).run startRe).askCount sweepRe = 2 := by decide +kernel
example : small_bound ((RSys.init 9 6).run startRe) = 34 ∧ potential ((RSys.init 9 6).run startRe) = 11 := by
  decide +kernel
example : (((RSys.init 9 6).run startRe).run sweepRe).env.members =
    [(1, [7,8,9,1,10,11,19]), (2, [12,13,14,15,16,17,18]), (3, [20,21,22,23,24,25,26,27])] := by decide +kernel
/-- afterwards nobody is asked anything: a second sweep asks nothing -/
example : (((RSys.init 9 6).run startRe).run sweepRe).askCount
    [.sync 1 [] [7,8,9,1,10,11,19] [] [7,8,9,1,10,11,19] [], .sync 2 [] [12,13,14,15,16,17,18] [] [12,13,14,15,16,17,18] [],
     .sync 3 [] [20,21,22,23,24,25,26,27] [] [20,21,22,23,24,25,26,27] []] = 0 := by decide +kernel

end Pokerface.C20

/-! ## asynchronous releases, with re-entries

The theorems of Properties/C20Async.lean on `AReachableRe` (where the original has `AReachable`) and
`AReachableReFwd` (where it has `AReachableFwd`); the scripts are elimination-free syncs and reports,
on which `okReFwd` = `okFwd` and `okRe` = `ok` by definition, so `s.ok …`, `s.okFwd …`, `s.allOkFwd ops`
are kept as in the originals.  In `broken_table_players_requeued_async_re` the script between the
breaking sync and the report is any script valid WITH RE-ENTRIES (`allOkRe`); it and
`reported_are_requeued_async_re` rest on `IdsIssued`, "a broken table's id is never used again".
The liveness claim stays PARTIAL exactly as in C20Async
(`rebalancing_settles_async_full_re` is open). -/

namespace Pokerface.C20
open Pokerface Reg ASys

theorem break_returns_all_async_re {s : ASys} (h : AReachableRe s) (t : Nat) (elim stay rel keep ms : List Nat)
    (hm : s.env.membersOf t = some ms) (hok : s.ok (.sync t elim stay rel keep))
    (hb : s.broken t elim = true) :
    ((s.syncAnswer t elim).2.2.1 = stay.length ∧ (s.syncAnswer t elim).2.2.2 = [] ∧
      rel.Perm stay ∧ keep = []) ∧
    (t ∉ (s.step (.sync t elim stay rel keep)).env.members.map (·.1) ∧
      (s.step (.sync t elim stay rel keep)).r.findTable t = none ∧
      (s.step (.sync t elim stay rel keep)).env.membersOf t = none) ∧
    (s.departing (.sync t elim stay rel keep) = rel ∧
      (s.step (.sync t elim stay rel keep)).flyingOf t = s.flyingOf t ++ rel ∧
      (s.step (.sync t elim stay rel keep)).flying = s.flying ++ rel ∧
      (s.step (.sync t elim stay rel keep)).r.calls = [] ∧
      (s.step (.sync t elim stay rel keep)).r.queue = s.r.queue) :=
  break_returns_all_async_inv (AInv.of_reachableRe h) t elim stay rel keep ms hm hok hb

theorem reported_are_requeued_async_re {s : ASys} (h : AReachableRe s) (t : Nat) (ps rest ch : List Nat)
    (hok : s.ok (.report t ps rest ch)) :
    (ASys.reported (.report t ps rest ch) = ps ∧ s.incoming (.report t ps rest ch) = ps ∧
      (s.flyingOf t).Perm (ps ++ rest) ∧ ((s.step (.report t ps rest ch)).flyingOf t).Perm rest) ∧
    s.r.queue ++ ps = handed (s.step (.report t ps rest ch)).r.calls ++ (s.step (.report t ps rest ch)).r.queue ∧
    (∀ p ∈ ps,
      (p ∈ (s.step (.report t ps rest ch)).r.queue ∨ p ∈ handed (s.step (.report t ps rest ch)).r.calls) ∧
      (p ∈ (s.step (.report t ps rest ch)).r.queue ∨
        ∃ e ∈ (s.step (.report t ps rest ch)).env.members, p ∈ e.2 ∧ (s.env.membersOf t = none → e.1 ≠ t))) :=
  reported_are_requeued_async_inv (AInv.of_reachableRe h) (IdsIssued.of_reachableRe h) t ps rest ch hok

theorem broken_table_players_requeued_async_re {s : ASys} (h : AReachableRe s) (t : Nat)
    (elim stay rel keep ms : List Nat) (hm : s.env.membersOf t = some ms)
    (hok : s.ok (.sync t elim stay rel keep)) (hb : s.broken t elim = true)
    (ops : List AOp) (hops : (s.step (.sync t elim stay rel keep)).allOkRe ops)
    (ps rest ch : List Nat) (hokr : ((s.step (.sync t elim stay rel keep)).run ops).ok (.report t ps rest ch)) :
    ((s.step (.sync t elim stay rel keep)).run ops).env.membersOf t = none ∧
    ∀ p ∈ ps,
      (p ∈ (((s.step (.sync t elim stay rel keep)).run ops).step (.report t ps rest ch)).r.queue ∨
        p ∈ handed (((s.step (.sync t elim stay rel keep)).run ops).step (.report t ps rest ch)).r.calls) ∧
      (p ∈ (((s.step (.sync t elim stay rel keep)).run ops).step (.report t ps rest ch)).r.queue ∨
        ∃ e ∈ (((s.step (.sync t elim stay rel keep)).run ops).step (.report t ps rest ch)).env.members,
          e.1 ≠ t ∧ p ∈ e.2) := by
  exact broken_table_players_requeued_inv (AInv.of_reachableRe h) (IdsIssued.of_reachableRe h) t elim stay rel keep ms hm hok hb
    ops hops ps rest ch hokr

theorem moves_are_directed_async_re {s : ASys} (h : AReachableRe s) (t : Nat) (ms elim stay : List Nat)
    (hm : s.env.membersOf t = some ms) (hp : ms.Perm (elim ++ stay)) :
    (s.broken t elim = false → 0 < (s.syncAnswer t elim).2.2.1 →
        (s.env.alive.length : Int) - elim.length <
          stay.length * ceilDiv ((s.env.alive.length : Int) - elim.length) s.r.max ∧
        ((s.env.alive.length : Int) - elim.length) / ceilDiv ((s.env.alive.length : Int) - elim.length) s.r.max ≤
          stay.length - (s.syncAnswer t elim).2.2.1) ∧
    ((s.syncAnswer t elim).2.2.2 ≠ [] →
        stay.length * ceilDiv ((s.env.alive.length : Int) - elim.length) s.r.max <
          (s.env.alive.length : Int) - elim.length ∧
        (stay.length : Int) + ((s.syncAnswer t elim).2.2.2.length : Int) ≤
          ((s.env.alive.length : Int) - elim.length) / ceilDiv ((s.env.alive.length : Int) - elim.length) s.r.max ∧
        (s.syncAnswer t elim).2.2.1 = 0) :=
  moves_are_directed_async_inv (AInv.of_reachableRe h) t ms elim stay hm hp

theorem dispatch_is_directed_async_re :
    (∀ {s : ASys}, AReachableRe s → ∀ (t : Nat) (elim stay rel keep : List Nat),
      s.ok (.sync t elim stay rel keep) → (s.step (.sync t elim stay rel keep)).r.calls = []) ∧
    (∀ {r r' : Reg} {cands rest : List Nat}, r.dispatchPlayer cands = some (rest, r') → r'.badChoice = false →
      ∃ tb ∈ r.tables, 0 < tb.required ∧ ∃ picked, r'.calls = r.calls ++ [RCall.assign tb.id picked] ∧
        (picked.length : Int) ≤ tb.required ∧ cands = picked ++ rest) :=
  ⟨fun _ t elim stay rel keep _ => (ASys.sync_quiet _ t elim stay rel keep).1,
    fun h hb => dispatchPlayer_directed h hb⟩

theorem settled_persists_async_re {s : ASys} (h : AReachableReFwd s) (hs : ASettled s)
    (t : Nat) (stay rel keep : List Nat) (hok : s.okFwd (.sync t [] stay rel keep)) :
    s.asks (.sync t [] stay rel keep) = false ∧
    s.departing (.sync t [] stay rel keep) = [] ∧ ASettled (s.step (.sync t [] stay rel keep)) :=
  settled_persists_async_inv (AInvF.of_reachableReFwd h) hs t stay rel keep hok

theorem sync_never_raises_potential_async_re {s : ASys} (h : AReachableReFwd s) (t : Nat)
    (stay rel keep : List Nat) (hok : s.okFwd (.sync t [] stay rel keep)) :
    potential_async (s.step (.sync t [] stay rel keep)) ≤ potential_async s ∧
    (s.asks (.sync t [] stay rel keep) = true →
      potential_async (s.step (.sync t [] stay rel keep)) + 1 ≤ potential_async s) :=
  sync_step_phi (AInvF.of_reachableReFwd h) t stay rel keep (ok_of_okFwd hok)

theorem report_raises_potential_by_late_cost_async_re {s : ASys} (h : AReachableReFwd s) (t : Nat)
    (ps rest ch : List Nat) (hok : s.okFwd (.report t ps rest ch)) :
    potential_async (s.step (.report t ps rest ch)) ≤ potential_async s + ASys.lateCost s (.report t ps rest ch) ∧
    ASys.lateCost s (.report t ps rest ch) =
      (if ASys.overflows s ps then 2 * s.r.tables.length else 0) +
        (if ASys.strands s (.report t ps rest ch) then 1 else 0) :=
  ⟨report_step_phi (AInvF.of_reachableReFwd h) t ps rest ch (ok_of_okFwd hok), rfl⟩

theorem potential_async_le_re {s : ASys} (h : AReachableReFwd s) :
    potential_async s ≤ Reg.smallBound s.r + 1 := potentialA_le (AInvF.of_reachableReFwd h)

def rebalancing_settles_async_full_re : Prop :=
  ∀ s : ASys, AReachableReFwd s → ∀ ops : List AOp,
    (∀ op ∈ ops, quietOp op = true) → s.allOkFwd ops → s.askCount ops ≤ Reg.smallBound s.r + 1

theorem rebalancing_settles_async_partial_re {s : ASys} (h : AReachableReFwd s) (ops : List AOp)
    (hq : ∀ op ∈ ops, quietOp op = true) (hok : s.allOkFwd ops) :
    s.askCount ops ≤ potential_async s + late_cost s ops ∧
    s.askCount ops ≤ Reg.smallBound s.r + 1 + late_cost s ops :=
  settles_async_partial_inv (AInvF.of_reachableReFwd h) ops hq hok

theorem rebalancing_settles_async_costless_re {s : ASys} (h : AReachableReFwd s) (ops : List AOp)
    (hq : ∀ op ∈ ops, quietOp op = true) (hok : s.allOkFwd ops) (h0 : late_cost s ops = 0) :
    s.askCount ops ≤ Reg.smallBound s.r + 1 := by
  have := (rebalancing_settles_async_partial_re h ops hq hok).2
  omega

theorem quiet_round_settled_async_re {s : ASys} (h : AReachableReFwd s) (hf : s.inflight = []) (ops : List AOp)
    (hq : ∀ op ∈ ops, quietOp op = true) (hok : s.allOkFwd ops) (h0 : s.askCount ops = 0)
    (hrep : s.r.queue = [] ∨ ∀ t ps rest ch, AOp.report t ps rest ch ∈ ops → ps ≠ [])
    (hcover : ∀ t ms, s.env.membersOf t = some ms → ∃ stay rel keep, AOp.sync t [] stay rel keep ∈ ops) :
    ASettled s :=
  quiet_round_settled_async_inv (AInvF.of_reachableReFwd h) hf ops hq hok h0 hrep hcover

theorem rebalancing_reaches_settled_async_partial_re {s : ASys} (h : AReachableReFwd s) (rounds : List (List AOp))
    (hq : ∀ sw ∈ rounds, ∀ op ∈ sw, quietOp op = true) (hok : s.allOkFwd rounds.flatten)
    (hcover : ∀ pre sw post, rounds = pre ++ sw :: post → ∀ t ms,
      (s.run pre.flatten).env.membersOf t = some ms → ∃ stay rel keep, AOp.sync t [] stay rel keep ∈ sw)
    (hfair : ∀ pre sw post, rounds = pre ++ sw :: post → (s.run pre.flatten).inflight = [])
    (hrep : ∀ sw ∈ rounds, ∀ t ps rest ch, AOp.report t ps rest ch ∈ sw → ps ≠ [])
    (hlen : potential_async s + late_cost s rounds.flatten < rounds.length) :
    ∃ pre sw post, rounds = pre ++ sw :: post ∧ ASettled (s.run pre.flatten) :=
  reaches_settled_async_inv (AInvF.of_reachableReFwd h) rounds hq hok hcover hfair hrep hlen

theorem rebalancing_settles_prompt_async_re {s : RSys} (h : RSys.ReachableReFwd s) (ops : List EOp)
    (hq : ∀ op ∈ ops, RSys.quietOp op = true) (hok : s.allOk ops) :
    AReachableReFwd (ASys.ofRSys s) ∧ AReachableReFwd (ASys.ofRSys (s.run ops)) ∧
      s.askCount ops ≤ small_bound s :=
  ⟨AReachableReFwd.ofRSys h,
   AReachableReFwd.ofRSys (h.run ops (RSys.allOkReFwd_of_allOk _ _ (RSys.SInv.of_reachableReFwd h) hok)),
   rebalancing_settles_small_syncs_re h ops hq hok⟩

/-! ### non-vacuity, asynchronous -/

private def rgRe (n k : Nat) : List Nat := (List.range k).map (· + n)

/-- 27 registrants at 9/6; table 2 loses 10 … 15; table 1 is told to release two (1, 2 leave: on
    the way back); player 10 REGISTERS AGAIN meanwhile and is seated at table 2; then a quiet
    script: the late report of table 1 and a sync of table 3. -/
def lateStartRe : List AOp :=
  [.add (rgRe 1 27) [], .status .normal [], .sync 2 [10,11,12,13,14,15] [16,17,18] [] [16,17,18],
   .sync 1 [] (rgRe 1 9) [1,2] (rgRe 3 7), .add [10] [2]]

example : AReachableReFwd ((ASys.init 9 6).run lateStartRe) :=
  (AReachableReFwd.init 9 6 (by decide +kernel)).run lateStartRe (by decide +kernel)
example : ¬ (ASys.init 9 6).allOkFwd lateStartRe := by decide +kernel
example : ((ASys.init 9 6).run lateStartRe).inflight = [(1, [1,2])] ∧
    ((ASys.init 9 6).run lateStartRe).env.members =
      [(1, [3,4,5,6,7,8,9]), (2, [16,17,18,10]), (3, rgRe 19 9)] := by decide +kernel
example : ((ASys.init 9 6).run lateStartRe).allOkFwd [.report 1 [1,2] [] [2]] ∧
    (∀ op ∈ [AOp.report 1 [1,2] [] [2]], quietOp op = true) := by decide +kernel

private def rg2 (n k : Nat) : List Nat := (List.range k).map (· + n)

/-- twelve registrants at 9/6, two tables of six; four eliminations at table 1 break it (5, 6 are
    on the way back); player 1 REGISTERS AGAIN meanwhile and is seated at table 2; then the late
    report of the broken table arrives: 5 and 6 go to table 2. -/
def brkRe : List AOp :=
  [.add (rg2 1 12) [], .status .normal [], .sync 1 [1,2,3,4] [5,6] [5,6] [],
   .add [1] [2], .report 1 [5,6] [] [2]]

example : AReachableRe ((ASys.init 9 6).run (brkRe.take 2)) :=
  (AReachableRe.init 9 6 (by decide +kernel)).run _ (by decide +kernel)
example : ((ASys.init 9 6).run (brkRe.take 2)).env.membersOf 1 = some [1,2,3,4,5,6] ∧
    ((ASys.init 9 6).run (brkRe.take 2)).okRe (.sync 1 [1,2,3,4] [5,6] [5,6] []) ∧
    ((ASys.init 9 6).run (brkRe.take 2)).broken 1 [1,2,3,4] = true := by decide +kernel
/-- the script in between is valid with re-entries only -/
example : ((ASys.init 9 6).run (brkRe.take 3)).allOkRe [.add [1] [2]] ∧
    ¬ ((ASys.init 9 6).run (brkRe.take 3)).allOk [.add [1] [2]] := by decide +kernel
example : ((ASys.init 9 6).run (brkRe.take 4)).ok (.report 1 [5,6] [] [2]) := by decide +kernel
example : ((ASys.init 9 6).run brkRe).env.members = [(2, [7,8,9,10,11,12,1,5,6])] ∧
    ((ASys.init 9 6).run brkRe).r.calls = [.assign 2 [5, 6]] ∧
    ((ASys.init 9 6).run brkRe).inflight = [] := by decide +kernel

end Pokerface.C20
